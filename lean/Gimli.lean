-- GENERATED by tools/gen_registry.py — root of the `Gimli` library: every module
import Gimli.Audit
import Gimli.Drv.All
import Gimli.Drv.C01
import Gimli.Drv.C02
import Gimli.Drv.C03
import Gimli.Drv.C04
import Gimli.Drv.C05
import Gimli.Drv.C06
import Gimli.Drv.C07
import Gimli.Drv.C08
import Gimli.Drv.C09
import Gimli.Drv.C10
import Gimli.Drv.C11
import Gimli.Drv.C12
import Gimli.Drv.C12Cfi
import Gimli.Drv.C12Line
import Gimli.Drv.C12Lists
import Gimli.Drv.C12Unit
import Gimli.Drv.C13
import Gimli.Drv.C14
import Gimli.Drv.C15
import Gimli.Drv.C16
import Gimli.Drv.C17
import Gimli.Drv.C18
import Gimli.Drv.C19
import Gimli.Drv.C20
import Gimli.Drv.Util
import Gimli.Lemmas.Abbrev
import Gimli.Lemmas.Aranges
import Gimli.Lemmas.Attr
import Gimli.Lemmas.AttrRoundtrip
import Gimli.Lemmas.AttrSkip
import Gimli.Lemmas.CStr
import Gimli.Lemmas.Capacity
import Gimli.Lemmas.Cfi
import Gimli.Lemmas.CfiEntryEncoded
import Gimli.Lemmas.CfiEntryTotal
import Gimli.Lemmas.CfiHdr
import Gimli.Lemmas.CfiLookup
import Gimli.Lemmas.CfiPointer
import Gimli.Lemmas.Collect
import Gimli.Lemmas.ConvFrame
import Gimli.Lemmas.ConvLineRows
import Gimli.Lemmas.ConvLineSim
import Gimli.Lemmas.ConvLists
import Gimli.Lemmas.ConvOp
import Gimli.Lemmas.ConvOpDecoded
import Gimli.Lemmas.ConvUnit
import Gimli.Lemmas.Die
import Gimli.Lemmas.DieForest
import Gimli.Lemmas.DieSibling
import Gimli.Lemmas.DieTree
import Gimli.Lemmas.Eval
import Gimli.Lemmas.EvalRun
import Gimli.Lemmas.Exact
import Gimli.Lemmas.ExecInv
import Gimli.Lemmas.Filter
import Gimli.Lemmas.FilterGraph
import Gimli.Lemmas.FixedCells
import Gimli.Lemmas.Index
import Gimli.Lemmas.InsertFull
import Gimli.Lemmas.Ints
import Gimli.Lemmas.IterWrap
import Gimli.Lemmas.Leb
import Gimli.Lemmas.LebU16
import Gimli.Lemmas.Line
import Gimli.Lemmas.LineDecode
import Gimli.Lemmas.LineEncode
import Gimli.Lemmas.LineHeader
import Gimli.Lemmas.LineHeaderRt
import Gimli.Lemmas.LineHeaderV5
import Gimli.Lemmas.LineRun
import Gimli.Lemmas.Lists
import Gimli.Lemmas.Lists.Raw
import Gimli.Lemmas.Macros
import Gimli.Lemmas.Names
import Gimli.Lemmas.NamesEntries
import Gimli.Lemmas.OpDecode
import Gimli.Lemmas.OpOk
import Gimli.Lemmas.OpSuffix
import Gimli.Lemmas.Out
import Gimli.Lemmas.Overwrite
import Gimli.Lemmas.Package
import Gimli.Lemmas.Pub
import Gimli.Lemmas.ReaderEnsures
import Gimli.Lemmas.ReaderKinds
import Gimli.Lemmas.ReaderNoPanic
import Gimli.Lemmas.ReaderSim
import Gimli.Lemmas.ReaderViews
import Gimli.Lemmas.Reads
import Gimli.Lemmas.RelocPatch
import Gimli.Lemmas.RelocRead
import Gimli.Lemmas.RelocReadSim
import Gimli.Lemmas.RelocWrite
import Gimli.Lemmas.Rules
import Gimli.Lemmas.RunLimit
import Gimli.Lemmas.Sim
import Gimli.Lemmas.SimRun
import Gimli.Lemmas.StackInv
import Gimli.Lemmas.TwosComp
import Gimli.Lemmas.UnitHeader
import Gimli.Lemmas.Unwind
import Gimli.Lemmas.UnwindSpec
import Gimli.Lemmas.Value
import Gimli.Lemmas.ValueSim
import Gimli.Lemmas.ValueWf
import Gimli.Lemmas.WCfi
import Gimli.Lemmas.WCfiHeader
import Gimli.Lemmas.WCfiTable
import Gimli.Lemmas.WLine
import Gimli.Lemmas.WLineHeader
import Gimli.Lemmas.WLineHeaderV5
import Gimli.Lemmas.WLists
import Gimli.Lemmas.WLists.Expr
import Gimli.Lemmas.WLists.Table
import Gimli.Lemmas.WOp
import Gimli.Lemmas.WOpDecode
import Gimli.Lemmas.WOpEval
import Gimli.Lemmas.WOpExpr
import Gimli.Lemmas.WOpRun
import Gimli.Lemmas.WUnit
import Gimli.Lemmas.WUnit.Decode
import Gimli.Lemmas.WUnit.Holes
import Gimli.Lemmas.WUnit.Layout
import Gimli.Lemmas.WUnit.Size
import Gimli.Lemmas.WUnit.Tables
import Gimli.Model.Abbrev
import Gimli.Model.Aranges
import Gimli.Model.Attr
import Gimli.Model.Bases
import Gimli.Model.Cfi
import Gimli.Model.CfiEntry
import Gimli.Model.ConvCfi
import Gimli.Model.ConvFrame
import Gimli.Model.ConvLine
import Gimli.Model.ConvLineRows
import Gimli.Model.ConvLists
import Gimli.Model.ConvOp
import Gimli.Model.ConvUnit
import Gimli.Model.Die
import Gimli.Model.Eval
import Gimli.Model.Filter
import Gimli.Model.Index
import Gimli.Model.Indexed
import Gimli.Model.Ints
import Gimli.Model.Leb
import Gimli.Model.Line
import Gimli.Model.Lists
import Gimli.Model.Loader
import Gimli.Model.Macros
import Gimli.Model.Names
import Gimli.Model.Op
import Gimli.Model.Pub
import Gimli.Model.Reader
import Gimli.Model.Reloc
import Gimli.Model.Reuse
import Gimli.Model.ReuseUnwind
import Gimli.Model.Unwind
import Gimli.Model.Utf8
import Gimli.Model.Value
import Gimli.Model.WCfi
import Gimli.Model.WLine
import Gimli.Model.WLists
import Gimli.Model.WOp
import Gimli.Model.WOpLayout
import Gimli.Model.WUnit
import Gimli.Prim.Basic
import Gimli.Prim.Err
import Gimli.Prim.Iter
import Gimli.Props.C01
import Gimli.Props.C01Entries
import Gimli.Props.C02
import Gimli.Props.C03
import Gimli.Props.C03Tables
import Gimli.Props.C04
import Gimli.Props.C05
import Gimli.Props.C06
import Gimli.Props.C07
import Gimli.Props.C08
import Gimli.Props.C09
import Gimli.Props.C10
import Gimli.Props.C11
import Gimli.Props.C12
import Gimli.Props.C12Cfi
import Gimli.Props.C12Compose
import Gimli.Props.C12Expr
import Gimli.Props.C12Line
import Gimli.Props.C12LineRows
import Gimli.Props.C12Lists
import Gimli.Props.C12Unit
import Gimli.Props.C12Vtable
import Gimli.Props.C13
import Gimli.Props.C14
import Gimli.Props.C15
import Gimli.Props.C16
import Gimli.Props.C17
import Gimli.Props.C17Bases
import Gimli.Props.C17Total
import Gimli.Props.C18
import Gimli.Props.C19
import Gimli.Props.C20
import Gimli.Spec.AbbrevTable
import Gimli.Spec.Attr
import Gimli.Spec.BuiltEval
import Gimli.Spec.Cfi
import Gimli.Spec.ConvOp
import Gimli.Spec.ConvUnit
import Gimli.Spec.Expr
import Gimli.Spec.Forest
import Gimli.Spec.Frame
import Gimli.Spec.Index
import Gimli.Spec.Leb
import Gimli.Spec.Line
import Gimli.Spec.LineHeader
import Gimli.Spec.Lists
import Gimli.Spec.Machine
import Gimli.Spec.OpTable
import Gimli.Spec.Reach
import Gimli.Spec.Unit
import Gimli.Spec.Unwind
import Gimli.Spec.WCfi
import Gimli.Spec.WLists
import Gimli.Spec.WUnit
import Gimli.Tables.AttrSize
import Gimli.Tables.EhPe
import Gimli.Tables.FilterTags
