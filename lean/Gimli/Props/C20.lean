import Gimli.Model.ReuseUnwind
/-!
# C20 — reused contexts, buffers, iterators and caches behave like fresh ones
-/
namespace Gimli.Props.C20
open Gimli Gimli.Reuse

variable {α Row Rule Fde Res ρ : Type}

/-! ## ArrayVec: stale storage is unobservable -/

/-- after `clear`, whatever was stored before, the vector observes as empty -/
theorem avec_clear_observe (v : AVec α) : v.clear.observe = [] := rfl

/-- pushing onto two vectors with the same live contents gives the same observation and the same
success/failure, whatever their unused slots contain -/
theorem avec_push_observe (cap : Nat) (v w : AVec α) (x : α) (h : v.observe = w.observe) :
    (AVec.tryPush cap v x).map AVec.observe = (AVec.tryPush cap w x).map AVec.observe := by
  simp only [AVec.observe] at h
  unfold AVec.tryPush
  rw [h]
  split <;> simp [AVec.observe]

theorem avec_pop_observe (v w : AVec α) (h : v.observe = w.observe) :
    v.pop.map (fun p => (p.1, p.2.observe)) = w.pop.map (fun p => (p.1, p.2.observe)) := by
  simp only [AVec.observe] at h
  unfold AVec.pop
  rw [h]
  split <;> simp [AVec.observe]

/-- inserting into two vectors with the same live contents gives the same observation and the same
success/failure, whatever their unused slots contain — in particular nothing from beyond the live
length can become observable (`save_initial_rules` on a context whose upper slots still hold rows
of an earlier evaluation) -/
theorem avec_insert_observe (cap : Nat) (v w : AVec α) (i : Nat) (x : α) (h : v.observe = w.observe) :
    (AVec.tryInsert cap v i x).map AVec.observe = (AVec.tryInsert cap w i x).map AVec.observe := by
  simp only [AVec.observe] at h
  unfold AVec.tryInsert
  rw [h]
  split <;> simp [AVec.observe]

/-- and the inserted vector observes as the live elements with `x` at position `i` -/
theorem avec_insert_spec (cap : Nat) (v : AVec α) (i : Nat) (x : α) (v' : AVec α)
    (h : AVec.tryInsert cap v i x = some v') :
    v'.observe = v.observe.take i ++ x :: v.observe.drop i := by
  unfold AVec.tryInsert at h
  split at h
  · simp only [Option.some.injEq] at h; subst h; rfl
  · simp at h

/-! ## UnwindContext -/

/-- **reset = fresh**, for EVERY context state — whatever rows, initial rule and flag an earlier
(successful, failed mid-CIE, failed mid-FDE, overflowed) evaluation left behind -/
theorem reset_is_fresh (dflt : Row) (c : Ctx Row Rule) :
    (Ctx.reset dflt c).observe = (Ctx.fresh dflt : Ctx Row Rule).observe := rfl

/-- one evaluation on any context gives what a fresh context gives -/
theorem eval_reused_eq_fresh (E : Evaluator Row Rule Fde Res) (c : Ctx Row Rule) (f : Fde) :
    (E.eval c f).1 = (E.eval (Ctx.fresh E.dflt) f).1 :=
  E.respects _ _ f rfl

/-- **histories**: evaluating any sequence of FDEs on one reused context yields, step by step,
exactly what evaluating each FDE on its own fresh context yields -/
theorem history_reused_eq_fresh (E : Evaluator Row Rule Fde Res) (fs : List Fde) :
    ∀ c : Ctx Row Rule, E.history c fs = fs.map (fun f => (E.eval (Ctx.fresh E.dflt) f).1) := by
  induction fs with
  | nil => intro c; rfl
  | cons f fs ih =>
    intro c
    simp only [Evaluator.history, List.map_cons]
    rw [ih, eval_reused_eq_fresh E c f]

/-! ## the unwind machine of C06 on a reused context -/

open Gimli.ReuseUnwind in
/-- `unwind` (Model/Unwind.lean, the function C06's theorems and correspondence run are about) is
`unwindOn` started on the context its own `reset` creates -/
theorem unwind_eq_unwindOn (x : FdeIn) (h : x.cfg.R.hasRoom 0 = true) :
    Unwind.unwind x.cfg x.cie x.cieTail x.fde x.fdeTail x.initial x.len
      = unwindOn x { stack := [{}], initialRule := none, isInitialized := false } := by
  simp [Unwind.unwind, unwindOn, Unwind.initializeCtx, Unwind.reset, h]

open Gimli.ReuseUnwind in
/-- **a reused `UnwindContext` unwinds like C06's fresh one**: for EVERY context — whatever rows,
initial rule, flag and unused storage contents earlier evaluations (successful, failed in the CIE,
failed in the FDE, stack overflowed) left behind — every FDE, CIE, configuration and capacity
(≥ 1), evaluating on that context yields exactly the rows and the outcome that `Unwind.unwind`
yields; so every theorem of Props/C06.lean about `unwind` holds on reused contexts. -/
theorem unwind_reused_eq_fresh (c : Reuse.Ctx Unwind.Row IRule) (x : FdeIn) (h : x.cfg.R.hasRoom 0 = true) :
    (evaluator.eval c x).1 = Unwind.unwind x.cfg x.cie x.cieTail x.fde x.fdeTail x.initial x.len := by
  rw [unwind_eq_unwindOn x h]
  rfl

open Gimli.ReuseUnwind in
/-- histories of FDEs on one context, with C06's machine -/
theorem unwind_history_reused_eq_fresh (fs : List FdeIn) (c : Reuse.Ctx Unwind.Row IRule)
    (h : ∀ x ∈ fs, x.cfg.R.hasRoom 0 = true) :
    evaluator.history c fs
      = fs.map (fun x => Unwind.unwind x.cfg x.cie x.cieTail x.fde x.fdeTail x.initial x.len) := by
  rw [history_reused_eq_fresh]
  exact List.map_congr_left fun x hx => unwind_reused_eq_fresh _ x (h x hx)

/-! ## abbreviation cache -/

/-- a cache all of whose entries hold what parsing returns is transparent -/
theorem get_of_entries_parsed (parse : Nat → ρ) (c : Cache ρ) (h : ∀ e, e ∈ c.entries → e.2 = parse e.1)
    (o : Nat) : Cache.get parse c o = parse o := by
  rw [Cache.get, Cache.lookup]
  cases hf : c.entries.find? (fun e => e.1 == o) with
  | none => rfl
  | some e =>
    have he : (e.1 == o) = true := List.find?_some (p := fun e : Nat × ρ => e.1 == o) hf
    rw [Option.map_some, h e (List.mem_of_find?_eq_some hf), beq_iff_eq.1 he]

/-- **cache transparency**: under either population strategy, for any list of unit abbreviation
offsets (shared or not, valid or not — `parse` returns a `Result`, errors are values), and
whatever the cache held before, `get` returns exactly what parsing returns -/
theorem cache_transparent (parse : Nat → ρ) (s : Strategy) (unitOffsets : List Nat) (old : Cache ρ)
    (o : Nat) : Cache.get parse (Cache.populate parse s unitOffsets old) o = parse o := by
  refine get_of_entries_parsed parse _ (fun e he => ?_) o
  obtain ⟨_, _, rfl⟩ := List.mem_map.1 he
  rfl

/-- the empty cache (no strategy) parses -/
theorem cache_empty (parse : Nat → ρ) (o : Nat) : Cache.get parse ⟨[]⟩ o = parse o := rfl

/-! non-vacuity -/
example : dupOffsets [0, 15, 0, 23, 15, 7] = [0, 15] := by decide
example : (AVec.tryPush 2 (⟨[1], [9, 9]⟩ : AVec Nat) 5).map AVec.observe =
    (AVec.tryPush 2 (⟨[1], []⟩ : AVec Nat) 5).map AVec.observe := by decide

end Gimli.Props.C20
