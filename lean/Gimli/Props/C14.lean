import Gimli.Lemmas.WCfiHeader
/-!
# C14 — Written frame tables read back with the same CIEs, FDEs and unwind rows

Helper lemmas: `Gimli/Lemmas/{WCfi,WCfiTable,WCfiHeader}.lean`.

* **Model** (`Gimli/Model/WCfi.lean`, tied to `src/write/cfi.rs` and
  `Writer::write_eh_pointer(_data)` by the byte-exact correspondence run):
  `CallFrameInstruction::write`, `write_advance_loc`, `factored_code_delta`,
  `factored_data_offset`, `write_nop`, `CommonInformationEntry::write`,
  `FrameDescriptionEntry::{add_instruction, write}`, `FrameTable::{add_cie, add_fde, write}`.
* **Reader side**: C06's Model of `CallFrameInstruction::parse` (`Cfi.parse`) and C06's
  declarative call-frame semantics (`Spec.Unwind.step`).
* **Spec** (`Gimli/Spec/WCfi.lean`): `wStep`, the meaning of a supplied (unfactored) instruction.
-/
namespace Gimli.Props.C14
open Gimli Gimli.WCfi Gimli.Cfi Gimli.Unwind Gimli.Spec.Unwind Gimli.Spec.WCfi

/-! ## 1. `write_advance_loc`: the form chosen for a factored delta decodes to exactly that delta -/

/-- **advance_loc widths.** For every factored delta below 2^32 (the writer's `u32`), whatever
follows in the section, the bytes chosen by `write_advance_loc` — `DW_CFA_advance_loc | delta`
below 0x40, `advance_loc1` below 0x100, `advance_loc2` below 0x10000, `advance_loc4` otherwise —
are decoded by `CallFrameInstruction::parse` (C06's Model) as `AdvanceLoc { delta }` with
exactly that delta, consuming exactly those bytes; and the emitted length is 1, 2, 3 or 5 bytes
on the respective side of each boundary (0x3f/0x40, 0xff/0x100, 0xffff/0x10000). -/
theorem advance_loc_widths (c : DecodeCfg) (pos delta : Nat) (rest : Bytes) (h : delta < 2 ^ 32) :
    parse c pos (advanceLocBytes c.endian delta ++ rest) = .ok (.advanceLoc delta, rest) ∧
    (advanceLocBytes c.endian delta).length =
      (if delta < 0x40 then 1 else if delta < 0x100 then 2 else if delta < 0x10000 then 3 else 5) := by
  refine ⟨parse_adv c pos delta rest h, ?_⟩
  unfold advanceLocBytes
  split
  · rfl
  · split
    · simp [Ints.toBytes_length]
    · split <;> simp [Ints.toBytes_length]

/-- **What `write_advance_loc` emits for a pair of code offsets**: nothing when the offset does not
move; otherwise the form above for `delta = (offset − prev) / factor`, and the decoded delta times
the code alignment factor is exactly the distance supplied — for every `u32` pair and factor. -/
theorem advance_loc_exact (c : DecodeCfg) (caf prev offset pos : Nat) (bs rest : Bytes)
    (ho : offset < 2 ^ 32) (h : writeAdvanceLoc c.endian caf prev offset = .ok bs) :
    (offset = prev ∧ bs = []) ∨
    (prev < offset ∧ ∃ d, parse c pos (bs ++ rest) = .ok (.advanceLoc d, rest) ∧ d * caf = offset - prev) := by
  rcases writeAdvanceLoc_ok ho h with h0 | ⟨hlt, d, rfl, hd, hmul⟩
  · exact .inl h0
  · exact .inr ⟨hlt, d, parse_adv c pos d rest hd, hmul⟩

/-! ## 2. factoring is exact -/

/-- **factoring_exact (code offsets).** `factored_code_delta` succeeds with `q` exactly when the
offset does not decrease, the factor is non-zero and the distance is `q · factor`; in every other
case — a decreasing offset, a zero factor, a distance that is not a multiple — it is the named
error `InvalidFrameCodeOffset` (never a panic, never a silently rounded value). -/
theorem factoring_exact_code (prev offset factor : Nat) :
    (∀ q, factoredCodeDelta prev offset factor = .ok q ↔
        (prev ≤ offset ∧ factor ≠ 0 ∧ offset - prev = q * factor)) ∧
    (factoredCodeDelta prev offset factor = .err .wInvalidFrameCodeOffset ↔
        (offset < prev ∨ factor = 0 ∨ (offset - prev) % factor ≠ 0)) ∧
    ((∃ q, factoredCodeDelta prev offset factor = .ok q) ∨
        factoredCodeDelta prev offset factor = .err .wInvalidFrameCodeOffset) := by
  refine ⟨fun q => code_ok_iff prev offset factor q, code_err_iff prev offset factor, ?_⟩
  rw [factoredCodeDelta_eq]
  split
  · exact Or.inl ⟨_, rfl⟩
  · exact Or.inr rfl

/-- **factoring_exact (data offsets).** `factored_data_offset` succeeds with `q` exactly when the
factor is non-zero, the pair is not `i32::MIN / -1` (whose quotient is not an `i32`) and the offset
is `q · factor`; otherwise — zero factor, `i32::MIN / -1`, not a multiple — it is the named error
`InvalidFrameDataOffset`. -/
theorem factoring_exact_data (offset factor : Int) :
    (∀ q, factoredDataOffset offset factor = .ok q ↔
        (factor ≠ 0 ∧ ¬(offset = -(2 ^ 31) ∧ factor = -1) ∧ offset = q * factor)) ∧
    (factoredDataOffset offset factor = .err .wInvalidFrameDataOffset ↔
        (factor = 0 ∨ (offset = -(2 ^ 31) ∧ factor = -1) ∨ ¬ factor ∣ offset)) ∧
    ((∃ q, factoredDataOffset offset factor = .ok q) ∨
        factoredDataOffset offset factor = .err .wInvalidFrameDataOffset) := by
  refine ⟨fun q => data_ok_iff offset factor q, data_err_iff offset factor, ?_⟩
  rw [factoredDataOffset_eq]
  split
  · exact Or.inl ⟨_, rfl⟩
  · exact Or.inr rfl

/-- an instruction that carries an offset is written iff its offset factors exactly: which
instructions consult the data alignment factor, and that its failure is the instruction's failure -/
theorem instr_write_error_iff (daf : Int) (wi : WInstr) :
    instrWrite daf wi = .err .wInvalidFrameDataOffset ↔
      match wi with
      | .offset _ o | .valOffset _ o => factoredDataOffset o daf = .err .wInvalidFrameDataOffset
      | .cfa _ o | .cfaOffset o => o < 0 ∧ factoredDataOffset o daf = .err .wInvalidFrameDataOffset
      | _ => False := by
  cases wi <;> simp only [instrWrite]
  case cfa | cfaOffset =>
    split
    · simp only [*, true_and]; exact Out.bind_eq_err_iff fun _ => nofun
    · simp [*]
  case offset | valOffset => exact Out.bind_eq_err_iff fun _ => by split <;> (try split) <;> nofun
  case restore => split <;> simp
  all_goals simp

/-! ## 3. every instruction round-trips through the decoder with the same meaning -/

/-- **instr_roundtrip.** For every `CallFrameInstruction` variant, every operand in the range of
its Rust type (`i32` offsets, `u32` argument size, any registers, any expression bytes), every
data alignment factor and every code alignment factor (`p`), whatever follows in the section and
whatever decoding context (`c`: byte order, address size, encodings, vendor — except that
`NegateRaState` needs the AArch64 vendor setting, without which `0x2d` is not a known opcode): if the writer emits the instruction at
all, then C06's decoder reads exactly one instruction from exactly those bytes, and C06's
call-frame semantics of that decoded instruction (operands multiplied back by the factors, in any
state `s`) is the meaning of the instruction supplied (`wStep`: unfactored offsets) — the same new
state or the same error.  This covers each choice of form: `def_cfa` / `def_cfa_sf`,
`def_cfa_offset` / `_sf`, `offset` / `offset_extended` / `offset_extended_sf`,
`val_offset` / `_sf`, `restore` / `restore_extended`. -/
theorem instr_roundtrip (c : DecodeCfg) (p : Params)
    (wi : WInstr) (hv : wi = .negateRaState → c.vendor = .aarch64) (hr : wi.InRange) (bs : Bytes)
    (h : instrWrite p.dataAlign wi = .ok bs) :
    ∃ i, (∀ (pos : Nat) (rest : Bytes), parse c pos (bs ++ rest) = .ok (i, rest)) ∧
      ∀ s : State, step p s i = wStep s wi :=
  let ⟨i, hu, hp⟩ := instrWrite_decodes c h hr hv
  ⟨i, hp, step_unfactored hu hr⟩

/-- **rows_roundtrip (whole programs, the "unwind rows" clause).** Take any CIE program and any FDE
program with its code offsets (operands in range; `NegateRaState` only under the AArch64 vendor
setting), any factors, any address size, any initial address and length.  If the writer emits both
instruction streams, then — whatever the number of padding nops behind each, wherever they lie in
the section — C06's instruction iterator decodes both to the end without error, and C06's
call-frame semantics of the decoded streams (`Spec.Unwind.table`, unbounded storage) is exactly
`wTable`: the rows meant by the instructions supplied at their code offsets (each later offset
completes a row `[loc, loc + (offset − prev))` with the rules as they were; the last row ends at
the FDE's end address), or the same error after the same rows when the supplied program is not
meaningful (e.g. `RestoreState` with nothing remembered) or leaves the address space.
With C06's `unwind_bytes_refines` (Model of `UnwindTable` = that semantics) this is: the rows
gimli reads back from a written table are the rows supplied. -/
theorem rows_roundtrip (cc fc : DecodeCfg) (p : Params)
    (cie : List WInstr) (fde : List (Nat × WInstr))
    (hcr : ∀ i ∈ cie, i.InRange) (hcv : ∀ i ∈ cie, i = .negateRaState → cc.vendor = .aarch64)
    (hfr : ProgInRange fde) (hfv : ProgVendorOk fc fde)
    (cb fb : Bytes) (n1 n2 ciePos fdePos initial len : Nat)
    (hc : instrsWrite p.dataAlign cie = .ok cb)
    (hf : fdeInstrsWrite fc.endian p.codeAlign p.dataAlign 0 fde = .ok fb) :
    (decodeAll cc ciePos (cb ++ List.replicate n1 0)).2 = .ok () ∧
    (decodeAll fc fdePos (fb ++ List.replicate n2 0)).2 = .ok () ∧
    table p none none (decodeAll cc ciePos (cb ++ List.replicate n1 0)).1 none
        (decodeAll fc fdePos (fb ++ List.replicate n2 0)).1 none initial len =
      wTable p cie fde initial len := by
  rw [instrsWrite_eq cc.endian p.codeAlign] at hc
  obtain ⟨Lc, hLc, hexc⟩ := program_roundtrip_main cc p _ 0 cb
    (progInRange_iff.mpr (by simpa using fun i hi => hcr i hi)) (progVendorOk_iff.mpr (by simpa using hcv)) hc
  obtain ⟨Lf, hLf, hexf⟩ := program_roundtrip_main fc p fde 0 fb hfr hfv hf
  rw [(hLc.append (DecodesTo.nops cc n1)).decodeAll ciePos, (hLf.append (DecodesTo.nops fc n2)).decodeAll fdePos]
  refine ⟨rfl, rfl, ?_⟩
  unfold table wTable
  simp only [hexc, hexf, exceeds]
  cases (wExec p 0 { loc := 0, cur := RuleSet.initial, stack := [], init := none } 0
      (cie.map (fun i => (0, i)))).2 with
  | error e => rfl
  | ok s1 => simp

/-! ## 4. decreasing code offsets are rejected -/

/-- **decreasing_rejected.** A code offset lower than the previous one is
`InvalidFrameCodeOffset` from `write_advance_loc`, for every factor and byte order. -/
theorem decreasing_rejected (e : Endian) (caf prev offset : Nat) (h : offset < prev) :
    writeAdvanceLoc e caf prev offset = .err .wInvalidFrameCodeOffset := by
  unfold writeAdvanceLoc
  rw [if_neg (by omega), (code_err_iff prev offset caf).mpr (.inl h)]
  rfl

/-- the code offsets of the list never decrease, starting from `prev` -/
def NonDecreasing : Nat → List (Nat × WInstr) → Prop
  | _, [] => True
  | prev, (o, _) :: is => prev ≤ o ∧ NonDecreasing o is

/-- **decreasing_rejected, for a whole FDE program.** If the instruction loop of
`FrameDescriptionEntry::write` succeeds, the code offsets were non-decreasing from the start
(`prev_offset = 0`); contrapositive: any decrease anywhere makes the FDE, hence the table, fail. -/
theorem fde_offsets_nondecreasing (e : Endian) (caf : Nat) (daf : Int) :
    ∀ (is : List (Nat × WInstr)) (prev : Nat) (bs : Bytes),
      fdeInstrsWrite e caf daf prev is = .ok bs → NonDecreasing prev is := by
  intro is
  induction is with
  | nil => intro _ _ _; trivial
  | cons oi is ih =>
    obtain ⟨o, i⟩ := oi
    intro prev bs h
    rw [fdeInstrsWrite] at h
    obtain ⟨adv, hadv, h⟩ := Out.bind_eq_ok h
    obtain ⟨a, _, h⟩ := Out.bind_eq_ok h
    obtain ⟨b, hb, _⟩ := Out.bind_eq_ok h
    refine ⟨?_, ih o b hb⟩
    rcases Nat.lt_or_ge o prev with hlt | hge
    · rw [decreasing_rejected e caf prev o hlt] at hadv; cases hadv
    · exact hge

/-! ## 5. entries are padded -/

/-- **padding_aligned.** For every CIE and every FDE the writer emits — both sections, both
formats, address size 1, 2, 4 or 8 (section below 2^64 bytes): *(length-field size + length) ≡ 0
(mod address size)*, i.e. the whole entry, 4- or 12-byte initial length included, is a multiple of
the address size, so that entries written back to back stay aligned.  The entry is its length
field followed by exactly `length` bytes, and the padding bytes are `DW_CFA_nop` (0).
(This is the writer with the repair `fix: pad 64-bit format CFI entries to the address size`; without
it the 64-bit format with 8-byte addresses gives 4 mod 8.) -/
theorem padding_aligned (m : Mode) (e : Endian) (eh : Bool) (c : WCie) (bs : Bytes)
    (ha : c.addressSize = 1 ∨ c.addressSize = 2 ∨ c.addressSize = 4 ∨ c.addressSize = 8)
    (hlen : bs.length < 2 ^ 64) :
    (∀ off, cieWrite m e eh c off = .ok bs →
      bs.length % c.addressSize = 0 ∧ EntryShape m e c.format c.addressSize bs) ∧
    (∀ off cieOff f, fdeWrite m e eh off cieOff c f = .ok bs →
      bs.length % c.addressSize = 0 ∧ EntryShape m e c.format c.addressSize bs) :=
  ⟨fun off h => ⟨(shape_aligned (cieWrite_shape m e eh c off bs h) ha hlen).1, cieWrite_shape m e eh c off bs h⟩,
   fun off cieOff f h => ⟨(shape_aligned (fdeWrite_shape m e eh off cieOff c f bs h) ha hlen).1,
     fdeWrite_shape m e eh off cieOff c f bs h⟩⟩

/-- the witness of the padding defect that repair removes: a version 4 CIE in the 64-bit format with
8-byte addresses is written as 32 bytes (12 bytes of initial length + `length` = 20) -/
example : ∃ bs, cieWrite .release .little false
    { format := .dwarf64, version := 4, addressSize := 8, codeAlign := 1, dataAlign := -8, raReg := 16 } 0 = .ok bs ∧
    bs.length = 32 := ⟨_, rfl, by decide⟩

/-! ## 6. identical CIEs share one id and are emitted once, when first needed -/

/-- **cie_dedup (ids).** `add_cie` of a CIE that is already in the table returns the existing id and
leaves the table unchanged (idempotence); two consecutive calls return the same id exactly when
the CIEs are equal (all fields: encoding, factors, register, augmentation, instructions); the id
designates the added CIE, and ids handed out before keep designating theirs. -/
theorem cie_dedup (t : Table) (a b : WCie) :
    (t.addCie a).1.addCie a = ((t.addCie a).1, (t.addCie a).2) ∧
    ((t.addCie a).2 = ((t.addCie a).1.addCie b).2 ↔ a = b) ∧
    (t.addCie a).1.cies[(t.addCie a).2]? = some a ∧
    (∀ (i : Nat) (x : WCie), t.cies[i]? = some x → (t.addCie a).1.cies[i]? = some x) :=
  ⟨addCie_idem t a, addCie_eq_iff t a b, addCie_get t a, fun i x h => addCie_stable t a x i h⟩

/-- **cie_dedup (any call sequence).** After any sequence of `add_cie` calls on an empty table the
table holds no CIE twice, and two calls returned the same id **iff** they were given equal CIEs. -/
theorem cie_dedup_calls (cs : List WCie) (j k : Nat) (hj : j < cs.length) (hk : k < cs.length) :
    (({} : Table).addCies cs).1.cies.Nodup ∧
    ((({} : Table).addCies cs).2[j]? = (({} : Table).addCies cs).2[k]? ↔ cs[j] = cs[k]) := by
  rw [addCies_eq]
  exact ⟨(IndexSet.insertAll_spec cs [] List.nodup_nil).1, IndexSet.insertAll_eq_iff cs [] List.nodup_nil j k hj hk⟩

/-- **cie_dedup (emission).** In the entries written for a table (either section): a CIE is written
at most once (`Nodup`), it is written **iff** some FDE refers to it (CIEs nobody uses are not
written), it is written right before the first FDE that uses it (`CieThenFde`: every CIE entry is
immediately followed by an FDE entry of that CIE, placed right behind it), and the entries lie back
to back from offset 0 (`Contiguous`), so the section is their concatenation. -/
theorem cie_emitted_once (m : Mode) (e : Endian) (eh : Bool) (t : Table) (es : List Entry)
    (h : tableEntries m e eh t = .ok es) :
    (cieIdxs es).Nodup ∧ (∀ i, i ∈ cieIdxs es ↔ ∃ f, (i, f) ∈ t.fdes) ∧
    CieThenFde es ∧ Contiguous 0 es ∧ tableWrite m e eh t = .ok (es.flatMap Entry.bytes) := by
  unfold tableEntries at h
  obtain ⟨h1, h2, h3, h4⟩ := writeLoop_inv m e eh t.cies t.fdes _ 0 es (by simp) h
  refine ⟨h1, ?_, h3, h4, ?_⟩
  · intro i
    rw [h2 i, getD_replicate_none]
    exact ⟨fun hh => hh.2, fun hh => ⟨rfl, hh⟩⟩
  · unfold tableWrite tableEntries
    rw [h]
    rfl

/-- **every FDE is bound to its CIE.** In the entries written for a table, every FDE entry is what
`FrameDescriptionEntry::write` produces for the CIE of its `CieId`, with the CIE pointer computed
against the offset of *the* CIE entry of that id in this section (unique by `cie_emitted_once`),
which lies before it.  (With `fde_header_roundtrip`: reading the FDE finds exactly that CIE.) -/
theorem fde_entries_bound (m : Mode) (e : Endian) (eh : Bool) (t : Table) (es : List Entry)
    (h : tableEntries m e eh t = .ok es) (ci off : Nat) (fb : Bytes) (hmem : Entry.fde ci off fb ∈ es) :
    ∃ c f cieOff cb, t.cies[ci]? = some c ∧ fdeWrite m e eh off cieOff c f = .ok fb ∧ cieOff ≤ off ∧
      Entry.cie ci cieOff cb ∈ es ∧ cieWrite m e eh c cieOff = .ok cb := by
  unfold tableEntries at h
  have hb := writeLoop_bound m e eh t.cies t.fdes _ 0 es (by simp) (by
    intro i o h'
    rw [getD_replicate_none] at h'; cases h') h
  obtain ⟨c, f, cieOff, hc, hw, hle, hor⟩ := FdesBound.mem es hb ci off fb hmem
  rcases hor with h1 | ⟨cb, hm, hcw⟩
  · rw [getD_replicate_none] at h1; cases h1
  · exact ⟨c, f, cieOff, cb, hc, hw, hle, hm, hcw⟩

/-! ## 7. layout: pointers and entry headers read back -/

/-- **eh_pointer_roundtrip.** Every pointer encoding the writer supports — formats absptr, uleb128,
udata2/4/8, sleb128, sdata2/4/8 × applications absptr and pcrel, with or without the indirect
flag — for every address that fits the address size (1, 2, 4, 8) and every position in the
section: what `write_eh_pointer` emits is decoded by `parse_encoded_pointer` (C06's Model, section
base 0) to the same address and the encoding's indirect flag, consuming exactly those bytes.
(Every other encoding is `UnsupportedPointerEncoding`; a value that does not fit the format is
`ValueTooLarge` — the hypothesis `h` is "the writer did emit it".) -/
theorem eh_pointer_roundtrip (m : Mode) (e : Endian) (pos v enc size : Nat) (p : PtrParams) (bs rest : Bytes)
    (hs : size = 1 ∨ size = 2 ∨ size = 4 ∨ size = 8) (hv : v < 2 ^ (8 * size))
    (hp : p.addressSize = size) (hb : p.sectionBase = some 0)
    (h : ehPointer e pos (.const v) enc size = .ok bs) :
    parseEncodedPointer m e enc p pos (bs ++ rest) = .ok ((v, enc / 128 % 2 = 1), rest) :=
  ehPointer_roundtrip m e pos v enc size p bs rest hs hv hp hb h

/-- **cie_header_roundtrip.** For every CIE the writer emits — both sections, versions 1/3/4, both
formats, every factor, every return address register, every augmentation combination — the small
Spec reader (`Spec.WCfi.readCieHeader`: DWARF 5 §6.4.1 / LSB layout) finds, field by field, what
was supplied: format, a length field equal to the entry size minus the length field, the CIE id,
version, the augmentation string `z[L][P][R][S]`, the address size (version 4), both alignment
factors, the return address register (one byte in version 1 — in `.eh_frame` too, by the repair
`fix: write the .eh_frame CIE return address register as a byte` — ULEB128 from version 3 on),
the augmentation data, and after them exactly the emitted initial instructions followed by the
padding nops. -/
theorem cie_header_roundtrip (m : Mode) (e : Endian) (eh : Bool) (c : WCie) (off : Nat) (bs : Bytes)
    (hr : c.InRange) (hlen : bs.length < 2 ^ 64)
    (h : cieWrite m e eh c off = .ok bs) :
    ∃ aug ins n pos, cieAugData e c pos = .ok aug ∧ instrsWrite c.dataAlign c.instructions = .ok ins ∧
      readCieHeader e eh bs = .ok
        { format := c.format, length := bs.length - lenFieldSize c.format, version := c.version,
          augmentation := c.augString,
          addressSize := if c.version = 4 then some c.addressSize else none,
          codeAlign := c.codeAlign, dataAlign := c.dataAlign, raReg := c.raReg.toNat,
          augData := if c.hasAugmentation then some aug.tail else none,
          instructions := ins ++ List.replicate n 0 } := by
  unfold cieWrite at h
  split at h
  · cases h
  rename_i hver
  have hv := versionOk_cases (by simpa using hver)
  obtain ⟨ra, hraB, h⟩ := Out.bind_eq_ok h
  obtain ⟨aug, haug, h⟩ := Out.bind_eq_ok h
  obtain ⟨ins, hins, h⟩ := Out.bind_eq_ok h
  obtain ⟨n, hn, h⟩ := Out.bind_eq_ok h
  obtain ⟨lf, hlf, h⟩ := Out.bind_eq_ok h
  cases h
  refine ⟨aug, ins, n, _, haug, hins, ?_⟩
  obtain ⟨henv, htake⟩ := read_envelope e c.format _ n lf hlf hlen
  have htl := cieAugData_reads e c _ aug hr haug
  obtain ⟨hAsz, hCaf, hDaf1, hDaf2, _⟩ := hr
  have hver := Ints.readFixed_byte e c.version (by omega)
  have hcaf := Leb.unsigned_roundtrip c.codeAlign (Nat.lt_trans hCaf (by decide))
  have hdaf := Leb.signed_roundtrip c.dataAlign (Int.le_trans (by decide) hDaf1)
    (Int.lt_of_le_of_lt hDaf2 (by decide))
  unfold readCieHeader
  rw [henv]
  dsimp only [Out.bind_ok]
  rw [htake]
  simp only [cieFixed, List.append_assoc, List.cons_append, List.nil_append, Out.bind_ok, readId, ne_eq,
    not_true_eq_false, if_false, hver, fun r => readCStr_isCStr.eq_ok_iff.mpr ⟨rfl (a := c.augString ++ 0 :: r), augString_nonzero c⟩, readAsz e c hv hAsz, hcaf, hdaf,
    readRa e c ra _ hraB, htl, Out.pure_eq]

/-- the witness of the return-address-register defect that repair removes: an `.eh_frame` CIE with register 128
carries the single byte `80`, and the reader finds register 128 and the `R` encoding `1b` -/
example : ∃ bs hdr, cieWrite .release .little true
    { format := .dwarf32, version := 1, addressSize := 8, codeAlign := 1, dataAlign := -8, raReg := 128,
      fdeAddressEncoding := 0x1b } 0 = .ok bs ∧
    readCieHeader .little true bs = .ok hdr ∧ hdr.raReg = 128 ∧ hdr.augData = some [0x1b] := by
  refine ⟨_, _, rfl, rfl, ?_, ?_⟩ <;> decide

/-- a version 1 CIE cannot carry a return address register above 255: `ValueTooLarge`, in both sections -/
example : cieWrite .release .little true { version := 1, raReg := 256 } 0 = .err .wValueTooLarge := by decide

/-- **fde_header_roundtrip.** For every FDE the writer emits — both sections and formats, plain
or `R`-encoded address fields, with or without an LSDA — for a constant address and LSDA that fit
the address size: the Spec reader (`Spec.WCfi.readFdeHeader`) finds the CIE the entry was written
for (`.debug_frame`: its section offset; `.eh_frame`: the distance back from the pointer field),
the initial location and address range supplied, the LSDA pointer supplied (with the indirect flag
of its encoding), a length field equal to the entry size minus the length field, and after them
exactly the emitted instructions followed by the padding nops. -/
theorem fde_header_roundtrip (m : Mode) (e : Endian) (eh : Bool) (off cieOff : Nat) (c : WCie) (f : WFde)
    (bs : Bytes) (a : Nat)
    (hs : c.addressSize = 1 ∨ c.addressSize = 2 ∨ c.addressSize = 4 ∨ c.addressSize = 8)
    (ha : f.address = .const a) (hav : a < 2 ^ (8 * c.addressSize)) (hl : f.length < 2 ^ 32)
    (hmatch : f.lsda.isSome = c.lsdaEncoding.isSome)
    (hlsda : ∀ l, f.lsda = some l → ∃ v, l = .const v ∧ v < 2 ^ (8 * c.addressSize))
    (hcie : cieOff ≤ off) (hend : off + bs.length < 2 ^ 64)
    (h : fdeWrite m e eh off cieOff c f = .ok bs) :
    ∃ ins n, fdeInstrsWrite e c.codeAlign c.dataAlign 0 f.instructions = .ok ins ∧
      readFdeHeader m e eh c.info off bs = .ok
        { format := c.format, length := bs.length - lenFieldSize c.format, cieOffset := cieOff,
          initialLocation := a, addressRange := f.length, lsda := expectedLsda c f,
          instructions := ins ++ List.replicate n 0 } := by
  unfold fdeWrite at h
  obtain ⟨ptr, hptr, h⟩ := Out.bind_eq_ok h
  obtain ⟨addrs, haddrs, h⟩ := Out.bind_eq_ok h
  obtain ⟨aug, haug, h⟩ := Out.bind_eq_ok h
  obtain ⟨ins, hins, h⟩ := Out.bind_eq_ok h
  obtain ⟨n, hn, h⟩ := Out.bind_eq_ok h
  obtain ⟨lf, hlf, h⟩ := Out.bind_eq_ok h
  cases h
  refine ⟨ins, n, hins, ?_⟩
  obtain ⟨henv, htake⟩ := read_envelope e c.format _ n lf hlf (Nat.lt_of_le_of_lt (Nat.le_add_left _ _) hend)
  have hlfl : lf.length = lenFieldSize c.format := Ints.writeInitialLength_length hlf
  simp only [List.length_append, List.length_replicate] at hend
  obtain ⟨hpl, p, hpr, hpc⟩ := fdeCiePointer_roundtrip e eh c.format (off + lenFieldSize c.format) cieOff ptr
    (addrs ++ (aug ++ (ins ++ List.replicate n 0))) (Nat.le_trans hcie (Nat.le_add_right _ _))
    (Nat.lt_of_le_of_lt (Nat.add_le_add_left (Nat.le_trans (Nat.le_of_eq hlfl.symm)
      (Nat.le_trans (Nat.le_add_right _ _) (Nat.le_add_right _ n))) off) hend) hptr
  rw [hpl] at haddrs haug
  have hkey := fdeAug_roundtrip m e c f _ aug (ins ++ List.replicate n (0 : UInt8))
    (fun (r1 : Bytes) => off + lenFieldSize c.format +
      ((ptr ++ (addrs ++ (aug ++ (ins ++ List.replicate n (0 : UInt8))))).length - r1.length))
    hs hmatch hlsda (by
      rintro data rfl
      simp only [List.length_append, List.length_cons, List.length_replicate]
      rw [← hpl]
      exact lsdaPos ..) haug
  unfold readFdeHeader
  rw [henv]
  dsimp only [Out.bind_ok]
  rw [htake]
  simp only [List.append_assoc, Out.bind_ok, hpr, fdeAddrs_roundtrip m e c f _ a addrs _ hs ha hav hl haddrs,
    hkey, Out.pure_eq, hpc]

/-! ## non-vacuity: the hypotheses are satisfiable by concrete, non-trivial values -/

example : (WInstr.offset 16 (-8)).InRange := by unfold WInstr.InRange isI32; decide
example : instrWrite (-8) (.offset 16 (-8)) = .ok [0x90, 0x01] := by decide
example : instrWrite (-8) (.offset 16 8) = .ok [0x11, 0x10, 0x7f] := by decide
example : instrWrite 4 (.offset 16 (-6)) = .err .wInvalidFrameDataOffset := by decide
example : writeAdvanceLoc .little 4 8 0x108 = .ok [0x02, 0x40] := by decide
example : writeAdvanceLoc .little 4 8 0x104 = .ok [0x7f] := by decide
example : writeAdvanceLoc .little 1 0 0x100 = .ok [0x03, 0x00, 0x01] := by decide
example : ProgInRange [(0, .cfaOffset 16), (4, .offset 6 (-16)), (0x104, .restore 6)] := by
  simp [ProgInRange, WInstr.InRange, isI32]
example : (({} : WCie)).InRange := by
  refine ⟨by decide, by decide, by decide, by decide, ?_, ?_, by decide⟩ <;> intro _ <;> simp
example : ehPointer .little 0x20 (.const 0x1000) 0x1b 8 = .ok [0xe0, 0x0f, 0x00, 0x00] := by decide
example : ∃ bs, fdeWrite .release .little true 0x18 0 { fdeAddressEncoding := 0x1b, dataAlign := -8 }
    { address := .const 0x1000, length := 0x20, instructions := [(4, .cfaOffset 16)] } = .ok bs ∧ bs.length = 24 :=
  ⟨_, rfl, by decide⟩

end Gimli.Props.C14
