import Gimli.Model.Bases
import Gimli.Props.C17
/-!
# C17 — default table bases of a unit, and lookups through them

"Indexed string/address tables each return exactly the entries present": the tables are indexed
from a *base*.  Compilers leave `DW_AT_str_offsets_base` / `DW_AT_rnglists_base` /
`DW_AT_loclists_base` out of DWARF 5 `.dwo` units (and of units taken from a `.dwp`), so
`Unit::new` has to supply the size of the table header itself.  These theorems pin those defaults
for every version × format × file type and show that a lookup through the default base of a
standard table returns exactly the i-th entry.
-/
namespace Gimli.Props.C17
open Gimli Gimli.Ints Gimli.Bases
open Gimli.Aranges (initialLengthSize)

/-- the header of a DWARF 5 `.debug_str_offsets` contribution: unit length, version 5, 2 bytes of
padding -/
def stdStrOffsetsHeader (e : Endian) (f : Format) (unitLength : Nat) : Bytes :=
  Pub.initLen e f unitLength ++ toBytes e 2 5 ++ toBytes e 2 0

/-- the header of a DWARF 5 `.debug_rnglists` / `.debug_loclists` contribution: unit length,
version 5, address size, segment selector size, offset entry count -/
def stdListsHeader (e : Endian) (f : Format) (unitLength addressSize count : Nat) : Bytes :=
  Pub.initLen e f unitLength ++ toBytes e 2 5 ++ toBytes e 1 addressSize ++ toBytes e 1 0 ++ toBytes e 4 count

theorem initLen_length (e : Endian) (f : Format) (n : Nat) : (Pub.initLen e f n).length = initialLengthSize f := by
  cases f <;> simp [Pub.initLen, toBytes_length, initialLengthSize]

/-- **The default bases, every version × format × file type** (`Unit::new` without base
attributes): all 0 in a main file and in GNU split DWARF (version ≤ 4); in a DWARF ≥ 5 `.dwo`
the string-offsets base is the header of that table (8 bytes for 32-bit DWARF, **16** for 64-bit
DWARF: the initial length is 12 bytes there, not a word), the range/location list bases are
their 12/20-byte headers, and the address base is 0 (`.debug_addr` never lives in a `.dwo`). -/
theorem default_bases (version : Nat) (f : Format) (ft : FileType) :
    unitBases version f ft [] =
      if version ≥ 5 ∧ ft = .dwo then
        match f with
        | .dwarf32 => { strOffsets := 8, addr := 0, loclists := 12, rnglists := 12 }
        | .dwarf64 => { strOffsets := 16, addr := 0, loclists := 20, rnglists := 20 }
      else { strOffsets := 0, addr := 0, loclists := 0, rnglists := 0 } := by
  by_cases h : version ≥ 5 ∧ ft = .dwo
  · cases f <;>
      simp [unitBases, defaults, strOffsetsBaseDefault, loclistsBaseDefault, rnglistsBaseDefault,
        addrBaseDefault, listsHeaderSize, initialLengthSize, h]
  · simp [unitBases, defaults, strOffsetsBaseDefault, loclistsBaseDefault, rnglistsBaseDefault,
      addrBaseDefault, h]

/-- the defaults are exactly the sizes of the standard headers -/
theorem default_bases_are_header_sizes (e : Endian) (f : Format) (version n a c : Nat) (hv : 5 ≤ version) :
    (defaults version f .dwo).strOffsets = (stdStrOffsetsHeader e f n).length ∧
    (defaults version f .dwo).rnglists = (stdListsHeader e f n a c).length ∧
    (defaults version f .dwo).loclists = (stdListsHeader e f n a c).length := by
  have h : version ≥ 5 ∧ FileType.dwo = FileType.dwo := ⟨hv, rfl⟩
  simp [defaults, strOffsetsBaseDefault, rnglistsBaseDefault, loclistsBaseDefault, listsHeaderSize, h,
    stdStrOffsetsHeader, stdListsHeader, List.length_append, toBytes_length, initLen_length]

/-- **An explicit base attribute overrides the default, the last one wins, and it touches only its
own table** (`DW_AT_str_offsets_base` 0x72; `DW_AT_addr_base` 0x73 / `DW_AT_GNU_addr_base`
0x2133; `DW_AT_loclists_base` 0x8c; `DW_AT_rnglists_base` 0x74 / `DW_AT_GNU_ranges_base`
0x2132); any other attribute leaves the bases alone. -/
theorem explicit_base_overrides (version : Nat) (f : Format) (ft : FileType) (attrs : List (Nat × Nat)) (b : Nat) :
    let old := unitBases version f ft attrs
    unitBases version f ft (attrs ++ [(0x72, b)]) = { old with strOffsets := b } ∧
    unitBases version f ft (attrs ++ [(0x73, b)]) = { old with addr := b } ∧
    unitBases version f ft (attrs ++ [(0x2133, b)]) = { old with addr := b } ∧
    unitBases version f ft (attrs ++ [(0x8c, b)]) = { old with loclists := b } ∧
    unitBases version f ft (attrs ++ [(0x74, b)]) = { old with rnglists := b } ∧
    unitBases version f ft (attrs ++ [(0x2132, b)]) = { old with rnglists := b } ∧
    (∀ at_, at_ ≠ 0x72 → at_ ≠ 0x73 → at_ ≠ 0x2133 → at_ ≠ 0x8c → at_ ≠ 0x74 → at_ ≠ 0x2132 →
      unitBases version f ft (attrs ++ [(at_, b)]) = old) := by
  simp only [unitBases, List.foldl_append, List.foldl_cons, List.foldl_nil]
  refine ⟨by simp [applyAttr], by simp [applyAttr], by simp [applyAttr], by simp [applyAttr],
    by simp [applyAttr], by simp [applyAttr], ?_⟩
  intro at_ h1 h2 h3 h4 h5 h6
  simp [applyAttr, h1, h2, h3, h4, h5, h6]

/-- **A lookup through the default base returns exactly the i-th entry.**  For a DWARF ≥ 5 split
unit without `DW_AT_str_offsets_base`, either format, either byte order: if `.debug_str_offsets`
(`.dwo`) is a standard header followed by the table `vals` (and anything after it), then
`Dwarf::string_offset(unit, i)` is `vals[i]`. -/
theorem str_offsets_default_base_exact (e : Endian) (f : Format) (version unitLength : Nat) (hv : 5 ≤ version)
    (vals : List Nat) (post : Bytes) (i : Nat) (hi : i < vals.length)
    (hb : ∀ v, v ∈ vals → v < 2 ^ (8 * f.wordSize)) (hsz : i * f.wordSize < 2 ^ 64) :
    stringOffset e f (unitBases version f .dwo [])
      (stdStrOffsetsHeader e f unitLength ++ vals.flatMap (fun v => toBytes e f.wordSize v) ++ post) i =
      .ok vals[i] := by
  have hbase : (unitBases version f .dwo []).strOffsets = (stdStrOffsetsHeader e f unitLength).length :=
    (default_bases_are_header_sizes e f version unitLength 0 0 hv).1
  unfold stringOffset
  rw [hbase]
  exact indexed_string_exact e f _ post vals i hi hb hsz

/-- … and with base 0 — main files of every version, and GNU split DWARF (version ≤ 4, whose
`.debug_str_offsets.dwo` has no header) — entry `i` of a table that starts at the beginning of the
section -/
theorem str_offsets_zero_base_exact (e : Endian) (f : Format) (version : Nat) (ft : FileType)
    (h0 : ft = .main ∨ version ≤ 4)
    (vals : List Nat) (post : Bytes) (i : Nat) (hi : i < vals.length)
    (hb : ∀ v, v ∈ vals → v < 2 ^ (8 * f.wordSize)) (hsz : i * f.wordSize < 2 ^ 64) :
    (unitBases version f ft []).strOffsets = 0 ∧
    stringOffset e f (unitBases version f ft [])
      (vals.flatMap (fun v => toBytes e f.wordSize v) ++ post) i = .ok vals[i] := by
  have hz : (unitBases version f ft []).strOffsets = 0 := by
    have : ¬ (version ≥ 5 ∧ ft = .dwo) := by
      rcases h0 with h | h
      · subst h; simp
      · omega
    rw [default_bases, if_neg this]
  refine ⟨hz, ?_⟩
  unfold stringOffset
  rw [hz]
  have := indexed_string_exact e f [] post vals i hi hb hsz
  simpa using this

/-- the same through an explicit `DW_AT_str_offsets_base` that points behind a header of any size
(a main-file DWARF 5 unit, or several contributions in one section) -/
theorem str_offsets_explicit_base_exact (e : Endian) (f : Format) (version : Nat) (ft : FileType)
    (attrs : List (Nat × Nat)) (pre post : Bytes) (vals : List Nat) (i : Nat) (hi : i < vals.length)
    (hb : ∀ v, v ∈ vals → v < 2 ^ (8 * f.wordSize)) (hsz : i * f.wordSize < 2 ^ 64) :
    stringOffset e f (unitBases version f ft (attrs ++ [(0x72, pre.length)]))
      (pre ++ vals.flatMap (fun v => toBytes e f.wordSize v) ++ post) i = .ok vals[i] := by
  unfold stringOffset
  rw [(explicit_base_overrides version f ft attrs pre.length).1]
  exact indexed_string_exact e f pre post vals i hi hb hsz

/-- `Dwarf::address(unit, i)`: the address base is 0 unless `DW_AT_addr_base` /
`DW_AT_GNU_addr_base` says otherwise; entry `i` of the table at that base -/
theorem addr_base_exact (e : Endian) (sz : Nat) (hs : sz = 1 ∨ sz = 2 ∨ sz = 4 ∨ sz = 8)
    (f : Format) (version : Nat) (ft : FileType) (attrs : List (Nat × Nat))
    (pre post : Bytes) (vals : List Nat) (i : Nat) (hi : i < vals.length)
    (hb : ∀ v, v ∈ vals → v < 2 ^ (8 * sz)) (hsz : i * sz < 2 ^ 64) :
    (unitBases version f ft []).addr = 0 ∧
    address e sz (unitBases version f ft (attrs ++ [(0x73, pre.length)]))
      (pre ++ vals.flatMap (fun v => toBytes e sz v) ++ post) i = .ok vals[i] ∧
    address e sz (unitBases version f ft (attrs ++ [(0x2133, pre.length)]))
      (pre ++ vals.flatMap (fun v => toBytes e sz v) ++ post) i = .ok vals[i] := by
  have ht := indexed_address_exact e sz hs pre post vals i hi hb hsz
  refine ⟨rfl, ?_, ?_⟩
  · unfold address; rw [(explicit_base_overrides version f ft attrs pre.length).2.1]; exact ht
  · unfold address; rw [(explicit_base_overrides version f ft attrs pre.length).2.2.1]; exact ht

/-! ## skeleton → split unit hand-over -/

/-- entry `i` of an offsets array at `base`, plus the base -/
theorem getListOffset_table (e : Endian) (f : Format) (pre post : Bytes) (vals : List Nat) (i : Nat)
    (hi : i < vals.length) (hb : ∀ v, v ∈ vals → v < 256 ^ f.wordSize) (hsz : i * f.wordSize < 2 ^ 64)
    (hsum : pre.length + vals[i] < 2 ^ 64) :
    getListOffset e f (pre ++ vals.flatMap (fun v => toBytes e f.wordSize v) ++ post) pre.length i =
      .ok (pre.length + vals[i]) := by
  rw [getListOffset, List.append_assoc, C17.skipTo_append, Out.bind_ok, if_neg (Nat.not_le.mpr hsz),
    C17.skipTo_table _ f.wordSize vals (fun a _ => toBytes_length e f.wordSize a) post i hi, Out.bind_ok,
    reads_word e f (hb _ (List.getElem_mem hi)) _, Out.bind_ok]
  dsimp only
  rw [if_neg (Nat.not_le.mpr hsum)]
  rfl

/-- **What a split unit takes over from its skeleton** (`Unit::copy_relocated_attributes`): always
`low_pc` and the address base; the ranges base only before DWARF 5.  A DWARF ≥ 5 split unit keeps
its own range-list, location-list and string-offsets bases. -/
theorem handover (self other : UnitState) :
    (copyRelocated self other).lowPc = other.lowPc ∧
    (copyRelocated self other).bases.addr = other.bases.addr ∧
    (copyRelocated self other).bases.loclists = self.bases.loclists ∧
    (copyRelocated self other).bases.strOffsets = self.bases.strOffsets ∧
    (5 ≤ self.version → (copyRelocated self other).bases.rnglists = self.bases.rnglists) ∧
    (self.version < 5 → (copyRelocated self other).bases.rnglists = other.bases.rnglists) ∧
    (copyRelocated self other).version = self.version ∧ (copyRelocated self other).format = self.format := by
  refine ⟨rfl, rfl, rfl, rfl, ?_, ?_, rfl, rfl⟩
  · intro h; simp [copyRelocated, Nat.not_lt.mpr h]
  · intro h; simp [copyRelocated, h]

/-- … so after the hand-over a DWARF ≥ 5 split unit without base attributes indexes its own
`.debug_rnglists.dwo` / `.debug_loclists.dwo` from just behind their 12/20-byte headers, whatever
`DW_AT_rnglists_base` the skeleton has (absent, 12, or the offset of a later contribution of the
main file), and addresses/`low_pc` are the skeleton's -/
theorem split_unit_bases_v5 (version : Nat) (hv : 5 ≤ version) (f : Format)
    (skAttrs : List (Nat × Nat)) (skLowPc : Option Nat) :
    let u := copyRelocated (newUnit version f .dwo [] none) (newUnit version f .main skAttrs skLowPc)
    u.bases.rnglists = listsHeaderSize f ∧ u.bases.loclists = listsHeaderSize f ∧
      u.bases.strOffsets = initialLengthSize f + 4 ∧
      u.bases.addr = (unitBases version f .main skAttrs).addr ∧ u.lowPc = skLowPc.getD 0 := by
  have h : version ≥ 5 ∧ FileType.dwo = FileType.dwo := ⟨hv, rfl⟩
  simp [copyRelocated, newUnit, unitBases, defaults, rnglistsBaseDefault, loclistsBaseDefault,
    strOffsetsBaseDefault, h, Nat.not_lt.mpr hv]

/-- a GNU (version ≤ 4) split unit gets the skeleton's `DW_AT_GNU_ranges_base`, which
`ranges_offset_from_raw` adds to every raw `.debug_ranges` offset of the unit; from DWARF 5 on
nothing is added -/
theorem split_unit_ranges_base_v4 (version : Nat) (f : Format) (skAttrs : List (Nat × Nat))
    (skLowPc : Option Nat) (self parent : Sections) (raw : Nat) (hraw : raw < 2 ^ 64) :
    let u := copyRelocated (newUnit version f .dwo [] none) (newUnit version f .main skAttrs skLowPc)
    let s := makeDwo self parent
    (version < 5 → u.bases.rnglists = (unitBases version f .main skAttrs).rnglists ∧
      rangesOffsetFromRaw u s raw = (raw + (unitBases version f .main skAttrs).rnglists) % 2 ^ 64) ∧
    (5 ≤ version → rangesOffsetFromRaw u s raw = raw) ∧
    s.fileType = .dwo ∧ s.debugAddr = parent.debugAddr ∧ s.debugRanges = parent.debugRanges ∧
      s.debugRnglists = self.debugRnglists ∧ s.debugLoclists = self.debugLoclists := by
  have _ := hraw
  refine ⟨?_, ?_, rfl, rfl, rfl, rfl, rfl⟩
  · intro h
    simp [copyRelocated, newUnit, rangesOffsetFromRaw, makeDwo, h]
  · intro h
    simp [copyRelocated, newUnit, rangesOffsetFromRaw, makeDwo, Nat.not_lt.mpr h]

/-- **`ranges_offset(i)` / `locations_offset(i)` of a split unit return the i-th entry of the
offsets array of the unit's OWN table** (relative to the end of that table's header), after the
hand-over from any skeleton: DWARF ≥ 5, either format, either byte order; the sections are the
`.dwo`'s (or the unit's `.dwp` contributions): a standard header, the offsets array, the lists. -/
theorem ranges_offset_after_handover_exact (e : Endian) (f : Format) (version : Nat) (hv : 5 ≤ version)
    (skAttrs : List (Nat × Nat)) (skLowPc : Option Nat) (self parent : Sections)
    (n a : Nat) (vals : List Nat) (lists : Bytes) (i : Nat) (hi : i < vals.length)
    (hb : ∀ v, v ∈ vals → v < 2 ^ (8 * f.wordSize)) (hsz : i * f.wordSize < 2 ^ 64)
    (hsum : listsHeaderSize f + vals[i] < 2 ^ 64) :
    let u := copyRelocated (newUnit version f .dwo [] none) (newUnit version f .main skAttrs skLowPc)
    let table := stdListsHeader e f n a vals.length ++ vals.flatMap (fun v => toBytes e f.wordSize v) ++ lists
    (self.debugRnglists = table →
      rangesOffset e u (makeDwo self parent) i = .ok (listsHeaderSize f + vals[i])) ∧
    (self.debugLoclists = table →
      locationsOffset e u (makeDwo self parent) i = .ok (listsHeaderSize f + vals[i])) := by
  intro u table
  obtain ⟨hr, hl, _, _, _⟩ := split_unit_bases_v5 version hv f skAttrs skLowPc
  have hlen : (stdListsHeader e f n a vals.length).length = listsHeaderSize f := by
    simp [stdListsHeader, listsHeaderSize, List.length_append, toBytes_length, initLen_length]
  have hb' : ∀ v, v ∈ vals → v < 256 ^ f.wordSize := fun v hv' => by rw [pow256]; exact hb v hv'
  have key := getListOffset_table e f (stdListsHeader e f n a vals.length) lists vals i hi hb' hsz
    (by rw [hlen]; exact hsum)
  rw [hlen] at key
  -- both are `getListOffset` on the unit's own section at the base just established
  exact ⟨fun hsec => by show getListOffset e f self.debugRnglists u.bases.rnglists i = _; rw [hr, hsec]; exact key,
    fun hsec => by show getListOffset e f self.debugLoclists u.bases.loclists i = _; rw [hl, hsec]; exact key⟩

end Gimli.Props.C17
