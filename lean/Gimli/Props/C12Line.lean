import Gimli.Lemmas.ConvLineRows
import Gimli.Props.C13
/-!
# C12, line-program component — conversion preserves the line rows and the file tables, or fails

Theorems about `Model/ConvLineRows.lean` (the mirror of `ConvertLineProgram` and of the
line-program part of `write::Dwarf::from`, tied to the code by the op `c12-line`,
`Drv/C12Line.lean` / `harness/src/prop/c12line.rs`), composed with the writer Model of C13
(`Gimli.WLine`, `Props/C13.lean`) and the reader Model of C04 (`Gimli.Line`).
The property theorems' names start with `line_`.
-/
namespace Gimli.Props.C12
open Gimli Gimli.Line Gimli.WLine Gimli.ConvLineRows Gimli.Props.C13


theorem convertString_ok (strs : Strs) (v : Nat) (tabs tabs' : Tabs) (a : AttrVal) (s : LineStr)
    (h : convertString strs v tabs a = .ok (tabs', s)) :
    ofRead (attrLineString strs a) = .ok s.val ∧
    s.form = (if v ≤ 4 then SForm.string else SForm.lineStrp) := by
  unfold convertString at h
  obtain ⟨r, hr, h⟩ := CRes.bind_eq_ok h
  cases LineStr.make_ok _ _ _ _ _ (ofWrite_eq_ok h)
  exact ⟨hr, rfl⟩

/-- what a successful `convert_file` + `add_file` step guarantees (see `line_files_preserved`) -/
def FileStepOk (strs : Strs) (st st' : CSt) (f : FileEntry) : Prop :=
    ∃ (id : Nat) (name : LineStr) (ent : FileEnt),
      st'.files = st.files ++ [id] ∧ st'.dirs = st.dirs ∧
      ofRead (attrLineString strs f.path) = .ok name.val ∧
      name.form = (if st.prog.enc.version ≤ 4 then SForm.string else SForm.lineStrp) ∧
      f.dirIndex < st.dirs.length ∧
      st'.prog.files[id]? = some ent ∧ ent.name = name ∧ ent.dir = st.dirs.getD f.dirIndex 0 ∧
      ent.info.timestamp = f.timestamp ∧ ent.info.size = f.size ∧ ent.info.md5 = f.md5 ∧
      (∀ s, f.source = some s → ∃ src, ent.info.source = some src ∧
        ofRead (attrLineString strs s) = .ok src.val) ∧
      (f.source = none → ent.info.source = none) ∧
      (∀ j e, st.prog.files[j]? = some e → ∃ e', st'.prog.files[j]? = some e' ∧ e'.name = e.name ∧
        e'.dir = e.dir ∧ (j ≠ id → e' = e)) 

/-- **One file entry, converted** (`convert_file` + `add_file`; header entries and
`DW_LNE_define_file` alike). Whenever the step succeeds, the new element `id` of the index mapping
points to an entry of the converted table whose name is the *resolved* path of the source entry
(inline for versions ≤ 4, in `.debug_line_str` for version 5), whose directory is the image of the
source directory index under the directory mapping, and whose timestamp / size / MD5 / source are
the source entry's; every index handed out before keeps its name and directory, and keeps its
info unless it is the same entry (`id`) — i.e. **duplicates (same name and directory) are merged
and the last one's info wins** (finding C12-L1, `line_files_duplicate_counterexample`). -/
theorem line_files_preserved (strs : Strs) (st st' : CSt) (f : FileEntry)
    (h : convertFile strs st f = .ok st') : FileStepOk strs st st' f := by
  obtain ⟨tabs1, tabs2, name, source, prog, id, hn, hdir, hsrc, ha, rfl⟩ := convertFile_ok strs st st' f h
  obtain ⟨hname, hform⟩ := convertString_ok _ _ _ _ _ _ hn
  obtain ⟨⟨ent, he, hen, hed, hei⟩, hpres, _⟩ := file_ids_stable _ _ _ _ _ _ ha
  have hinfo := hei _ rfl
  refine ⟨id, name, ent, rfl, rfl, hname, hform, hdir, he, hen, hed, by rw [hinfo], by rw [hinfo], by rw [hinfo],
    ?_, ?_, hpres⟩
  · intro s hs
    rw [hinfo]
    rcases hsrc with ⟨h1, _⟩ | ⟨s', src, h1, rfl, hc⟩
    · rw [h1] at hs; cases hs
    · rw [h1] at hs; cases hs
      exact ⟨src, rfl, (convertString_ok _ _ _ _ _ _ hc).1⟩
  · intro hs
    rw [hinfo]
    rcases hsrc with ⟨_, rfl⟩ | ⟨s', src, h1, _, _⟩
    · rfl
    · rw [h1] at hs; cases hs

/-! ## rows: which writer row is generated for a reader row -/

/-- **`convert_row` copies every register and maps the file through the converted table.** If the
row conversion succeeds, the writer row has the reader row's (sequence-relative) address and
op_index, line (`None` ↦ 0), column (`LeftEdge` ↦ 0), discriminator, is_stmt, basic_block,
prologue_end, epilogue_begin and isa unchanged, and its file is the image of the reader's file
register under the index mapping; the file register was a legal index for the version (not 0 for
versions ≤ 4) and the relative address is a multiple of the minimum instruction length. Otherwise the
conversion fails with `UnsupportedLineInstruction` (unaligned address, `address_offset()`, checked
first) or `InvalidFileIndex` — never anything else. -/
theorem line_row_registers (st : CSt) :
    (∃ w, convertRow st = .ok w ∧
      w.addressOffset = st.fromRow.address ∧ w.opIndex = st.fromRow.opIndex ∧ w.line = st.fromRow.line ∧
      w.column = st.fromRow.column ∧ w.discriminator = st.fromRow.discriminator ∧
      w.isStmt = st.fromRow.isStmt ∧ w.basicBlock = st.fromRow.basicBlock ∧
      w.prologueEnd = st.fromRow.prologueEnd ∧ w.epilogueBegin = st.fromRow.epilogueBegin ∧
      w.isa = st.fromRow.isa ∧ st.files[st.fromRow.file]? = some w.file ∧
      ¬ (st.fromRow.file = 0 ∧ st.prog.enc.version ≤ 4) ∧
      st.fromRow.address % st.prog.enc.minInstLen = 0) ∨
    (convertRow st = .err .unsupportedLineInstruction ∧
      st.fromRow.address % st.prog.enc.minInstLen ≠ 0) ∨
    (convertRow st = .err .invalidFileIndex ∧
      (st.files.length ≤ st.fromRow.file ∨ (st.fromRow.file = 0 ∧ st.prog.enc.version ≤ 4))) :=
  convertRow_cases st

/-- **`DW_AT_decl_file`-style indices** (`convert_file_index`): index 0 of a version ≤ 4 unit is
"no file" and stays so; every other index is mapped through the same index mapping as the rows,
and an index outside the (header + `DW_LNE_define_file`) table is `InvalidFileIndex`. -/
theorem line_file_index (version : Nat) (files : List Nat) (index : Nat) :
    convertFileIndex version files index =
      if index = 0 ∧ version ≤ 4 then .ok none
      else if h : index < files.length then .ok (some files[index]) else .err .invalidFileIndex := by
  unfold convertFileIndex
  by_cases h0 : index = 0 ∧ version ≤ 4
  · simp [h0]
  · simp only [h0, ↓reduceIte]
    by_cases h : index < files.length
    · simp [h]
    · simp [h]

/-! ## totality

Totality after the repairs of C12-L2/L3: the conversion Model returns a value or a `ConvertError`
on every input, except for panics that all come from the *writer*: the unchecked arithmetic of
`generate_row` / `op_advance` (line numbers ≥ 2^63, finding C13-3; operation advances ≥ 2^64,
C13-4; an operation pointer that goes backwards in a VLIW program, C12-L5 — all debug builds only)
and the `assert!`s of `add_directory` / `add_file` on strings a parsed header cannot contain (an
empty include directory of a version ≤ 4 table, a NUL inside a name). `line_rows_preserved`
(`Props/C12LineRows.lean`) shows that for non-VLIW programs (tombstones included) whose reported
rows have line numbers below 2^63 no step of the row loop panics. -/

/-- the loop of `read_row` always consumes the instructions it looks at: when it hands a row to
the caller, what remains is strictly shorter (so the fuel of `convLoop`, the instruction count + 1,
is enough and `ConvertLineProgram::convert` terminates). -/
theorem line_read_row_consumes (strs : Strs) (h : Params) : ∀ (is : List Instr) (tomb : Bool)
    (address : Option Nat) (st st' : CSt) (ev : RowEv) (rest : List Instr),
    readRowLoop strs h tomb address st is = .ok (some ev, st', rest) → rest.length < is.length :=
  readRowLoop_consumes strs h

/-! ## pinned findings (the code really differs from the property here) -/

/-- version 4, min_inst_len 4, max_ops 2 -/
def linePar4 : Params :=
  { endian := .little, format := .dwarf32, version := 4, addrSize := 8, minInstLen := 4, maxOps := 2,
    defaultIsStmt := true, lineBase := -5, lineRange := 14, opcodeBase := 13, stdLens := WLine.stdLens }

def lineFe (n : Bytes) (d t : Nat) : FileEntry :=
  { path := .string n, dirIndex := d, timestamp := t, size := 0, md5 := List.replicate 16 0, source := none }

/-- one include directory "i", comp dir "/"; files 1 and 3 are both "i/a", with timestamps 7 and 9 -/
def lineHdDup : Header :=
  { p := linePar4, unitLength := 0, headerLength := 0, dirFormat := [], dirs := [.string [0x69]],
    fileFormat := [], files := [lineFe [0x61] 1 7, lineFe [0x62] 0 0, lineFe [0x61] 1 9], program := [],
    compDir := some [0x2f], compFile := some (lineFe [0x6d] 0 0) }

def lineNoStrs : Strs := { debugStr := [], debugLineStr := [] }
def lineNoTabs : Tabs := { lineStrings := [], strings := [] }

/-- observable summary of a conversion: the index mapping -/
def lineMap : CRes CSt → Option (List Nat)
  | .ok st => some st.files
  | _ => none

/-- … the converted file table as (name, directory, timestamp) -/
def lineTable : CRes CSt → Option (List (Bytes × Nat × Nat))
  | .ok st => some (st.prog.files.map (fun f => (f.name.val, f.dir, f.info.timestamp)))
  | _ => none

/-- … and the instructions of the converted program -/
def lineInstrs : CRes CSt → Option (List WInstr)
  | .ok st => some st.prog.instrs
  | _ => none

def lineIsPanic : CRes CSt → Bool
  | .panic _ => true
  | _ => false

/-- **Finding C12-L1, pinned**: source files 1 and 3 (same name and directory, timestamps 7 and 9)
are merged into converted file 0 with timestamp 9 — what file 1 meant (timestamp 7) is gone. -/
theorem line_files_duplicate_counterexample :
    lineMap (convertProgram .debug lineNoStrs lineHdDup lineNoTabs [] none) = some [0, 0, 1, 0] ∧
    lineTable (convertProgram .debug lineNoStrs lineHdDup lineNoTabs [] none) =
      some [([0x61], 1, 9), ([0x62], 0, 0)] := by decide +kernel

def lineErr : CRes CSt → Option CErr
  | .err e => some e
  | _ => none

/-- **Regression for the repaired finding C12-L2** (`a88ed16`): `fixed_advance_pc 3` with
min_inst_len 4 puts the second row at 0x1003, which the writer cannot express: the conversion now
fails with `UnsupportedLineInstruction` in both build modes (it used to panic in debug builds and to
move the row to 0x1000 in release builds). -/
theorem line_rows_unaligned_regression (m : Mode) :
    lineErr (convertProgram m lineNoStrs lineHdDup lineNoTabs
      [.setAddress 0x1000, .copy, .fixedAddPc 3, .copy, .advancePc 2, .endSequence] none) =
      some .unsupportedLineInstruction := by
  cases m <;> decide +kernel

/-- **Regression for the repaired finding C12-L3** (`75911da`): `DW_LNE_define_file` with an empty
name (version ≤ 4) now fails with `UnsupportedLineInstruction` instead of panicking in `add_file`. -/
theorem line_define_file_empty_regression (m : Mode) :
    lineErr (convertProgram m lineNoStrs lineHdDup lineNoTabs
      [.defineFile (lineFe [] 0 0), .copy, .endSequence] none) = some .unsupportedLineInstruction := by
  cases m <;> decide +kernel

/-- **Finding C12-L5, pinned**: max_ops 2; `fixed_advance_pc 0` at op_index 1 puts the next row's
operation pointer behind the previous row's: `op_advance` underflows — a debug build panics; a
release build wraps (`advance_pc 2^64 − 1`), which the reader's wrapping arithmetic undoes. -/
theorem line_op_pointer_backwards_counterexample :
    lineIsPanic (convertProgram .debug lineNoStrs lineHdDup lineNoTabs
      [.setAddress 0x1000, .copy, .advancePc 1, .copy, .fixedAddPc 0, .copy, .advancePc 4, .endSequence] none)
      = true ∧
    lineInstrs (convertProgram .release lineNoStrs lineHdDup lineNoTabs
      [.setAddress 0x1000, .copy, .advancePc 1, .copy, .fixedAddPc 0, .copy, .advancePc 4, .endSequence] none) =
      some [.setAddress (some 0x1000), .copy, .special 32, .advancePc (2 ^ 64 - 1), .copy, .advancePc 4,
            .endSequence] := by decide +kernel

/-- **Finding C12-L4, pinned**: max_ops 2, the end row has op_index 1 in the source
(`advance_pc 1`); the converted program ends the sequence right after the row: op_index 0. -/
theorem line_end_op_index_counterexample :
    lineInstrs (convertProgram .release lineNoStrs lineHdDup lineNoTabs
      [.setAddress 0x1000, .copy, .advancePc 1, .endSequence] none) =
      some [.setAddress (some 0x1000), .copy, .endSequence] := by decide +kernel

/-! ## rows: from the converted rows to the written program and back -/

/-- the driver loop of `ConvertLineProgram::convert` on a list of events -/
def applyEvs (m : Mode) : CSt → List RowEv → CRes CSt
  | st, [] => .ok st
  | st, ev :: evs => do
    let st ← applyEv m st ev
    applyEvs m st evs

/-- events of one converted sequence that starts with a `DW_LNE_set_address`: the first row carries
the address, the others and the end do not -/
def seqEvents (a : Nat) (r1 : WRow) (rows : List WRow) (off : Nat) : List RowEv :=
  RowEv.row (some a) r1 :: (rows.map (RowEv.row none) ++ [RowEv.endSeq none off])

theorem applyEvs_rows (m : Mode) : ∀ (rows : List WRow) (st : CSt) (p' : Prog) (tail : List RowEv),
    genRows m st.prog rows = .ok p' →
    applyEvs m st (rows.map (RowEv.row none) ++ tail) = applyEvs m { st with prog := p' } tail := by
  intro rows
  induction rows with
  | nil =>
    intro st p' tail h
    simp only [genRows, Out.ok.injEq] at h
    subst h
    rfl
  | cons r rs ih =>
    intro st p' tail h
    rw [genRows] at h
    obtain ⟨p1, hg, h⟩ := Out.bind_eq_ok h
    simp only [List.map_cons, List.cons_append, applyEvs, applyEv, hg, ofWrite, CRes.bind_ok, CRes.pure_eq]
    exact ih { st with prog := p1 } p' tail h

/-- the driver loop on the events of one sequence is C13's `writeSequence` on the program -/
theorem applyEvs_seq (m : Mode) (st : CSt) (a : Nat) (r1 : WRow) (rows : List WRow) (off : Nat) (p' : Prog)
    (h : writeSequence m st.prog a (r1 :: rows) off = .ok p') :
    applyEvs m st (seqEvents a r1 rows off) = .ok { st with prog := p' } := by
  unfold writeSequence at h
  rw [genRows] at h
  obtain ⟨p2, h, hend⟩ := Out.bind_eq_ok h
  obtain ⟨p1, hg, hr⟩ := Out.bind_eq_ok h
  unfold seqEvents
  simp only [applyEvs, applyEv, hg, ofWrite, CRes.bind_ok, CRes.pure_eq]
  rw [applyEvs_rows m rows { st with prog := p1 } p2 _ hr]
  simp only [applyEvs, applyEv, hend, ofWrite, CRes.bind_ok, CRes.pure_eq]

/-- **Rows are preserved — partial: from the converted rows to the written program and back.**
For a converter state between sequences (the writer's `prev_row`/`row` in their initial state), an
encoding the writer accepts (`EncOk`), version ≤ 5, address size 1/2/4/8, both build modes: when
`read_row` hands over the events of one sequence — `SetAddress(a)`, rows `r₁ … rₙ`,
`EndSequence(off)` — whose rows are legal successors of one another (`ChainOk`/`EndOk`: aligned
offsets, op_index < max_ops, operation pointer not going backwards, lines < 2^63, addresses inside
the address size; exactly the conditions that findings C12-L2 and C13-3/4 violate), then the
driver loop (`set_address`, `generate_row`…, `end_sequence`) succeeds, and **reading the
instructions it appended (C04's reader) returns exactly `r₁ … rₙ` at `a + offset`, every register
equal, then the end row at `a + off`**, and reader and writer are back in their initial states.
By `line_row_registers` each `rᵢ` carries the source row's registers with the file mapped through
the converted table (`line_files_preserved`), so the rows read back are the source rows.

The full statement — the simulation between `LineRows::next_row` and `read_row` over all
instructions, tombstones included, with `ChainOk`/`EndOk` derived — is `line_rows_preserved`
(`Props/C12LineRows.lean`) for `max_ops = 1`; for VLIW programs this partial form and the
differential oracle `rows-differ` of `c12-line` remain. Where the code really differs:
`line_*_counterexample`. -/
theorem line_rows_preserved_partial (m : Mode) (en : Endian) (format : Format) (addrSize : Nat)
    (st : CSt) (a : Nat) (r1 : WRow) (rows : List WRow) (off : Nat)
    (henc : EncOk st.prog.enc) (hv : st.prog.enc.version ≤ 5)
    (hasz : addrSize = 1 ∨ addrSize = 2 ∨ addrSize = 4 ∨ addrSize = 8)
    (hprev : st.prog.prevRow = WRow.initial st.prog.enc) (hrow : st.prog.row = WRow.initial st.prog.enc)
    (ha : a < minTombstone addrSize)
    (hchain : ChainOk st.prog.enc addrSize a (WRow.initial st.prog.enc) (r1 :: rows))
    (hend : EndOk st.prog.enc addrSize a (lastRow (WRow.initial st.prog.enc) (r1 :: rows))
      (lastRow (WRow.initial st.prog.enc) (r1 :: rows)) off) :
    let h := readerParams en format addrSize st.prog.enc
    let last := lastRow (WRow.initial st.prog.enc) (r1 :: rows)
    ∃ st' is, applyEvs m st (seqEvents a r1 rows off) = .ok st' ∧
      st'.prog.instrs = st.prog.instrs ++ is ∧ st'.files = st.files ∧
      st'.prog.prevRow = WRow.initial st.prog.enc ∧ st'.prog.row = WRow.initial st.prog.enc ∧
      st'.prog.inSequence = false ∧
      ∀ (inSeq : Bool) (rest : List Instr),
      traceInstrs h (Row.new h) inSeq (is.map (WInstr.toInstr st.prog.enc.version) ++ rest) =
        (r1 :: rows).map (fun r => Ev.row (rowOf st.prog.enc.version a r)) ++
          Ev.row { rowOf st.prog.enc.version a last with address := a + off, opIndex := last.opIndex,
                                                         endSequence := true } ::
            traceInstrs h (Row.new h) false rest := by
  intro h last
  obtain ⟨p', is, hw, hins, hp, hr, hs, htr⟩ :=
    sequence_roundtrip m en format addrSize st.prog a (r1 :: rows) off henc hv hasz hprev hrow ha hchain hend
  exact ⟨{ st with prog := p' }, is, applyEvs_seq m st a r1 rows off p' hw, hins, rfl, hp, hr, hs, htr⟩
end Gimli.Props.C12
