import Gimli.Props.C02
import Gimli.Props.C03
import Gimli.Props.C04
import Gimli.Props.C05
import Gimli.Props.C06
import Gimli.Props.C07
import Gimli.Props.C08
import Gimli.Props.C17
import Gimli.Props.C17Total
import Gimli.Props.C12Lists
import Gimli.Props.C12Cfi
import Gimli.Props.C12Expr
import Gimli.Props.C12Unit
/-!
# C01 — entry points whose Models belong to other properties

The reading paths below are modelled (and tied to the code by their own correspondence runs) under
C02–C08 and C17, the four conversion entry points at the end under C12; each of those Models returns an `Out`
(`ok | err | panic | diverge`; the conversions of lists, expressions and units an `Except`) and mirrors
the overflow-checked arithmetic, indexing, `unwrap`s and loops of the Rust code, so their totality
theorems ARE the C01 clause "no panic, no non-termination, on every input" for these entry points.
Two are of another shape: `entry_index_find` bounds the number of probes, and `entry_convert_unit`
says which error a unit conversion can return (that Model returns an `Except`).
They are restated here, unchanged, so that C01's audit requires them: weakening or losing one of
them breaks C01's obligations, not only the owning property's.
-/
namespace Gimli.Props.C01

/-- `Abbreviations::parse`, `parse_unit_header` -/
theorem entry_abbrev_unit_header : type_of% @Gimli.Props.C02.parse_total := @Gimli.Props.C02.parse_total
/-- raw DIE reading over a whole unit (`EntriesRaw`) -/
theorem entry_die_raw : type_of% @Gimli.Props.C02.raw_total := @Gimli.Props.C02.raw_total
/-- `next_entry`, `next_dfs`, `next_sibling`, `EntriesTree::next` from every state -/
theorem entry_die_cursors : type_of% @Gimli.Props.C02.cursor_steps_total := @Gimli.Props.C02.cursor_steps_total
/-- `parse_attribute` (every form incl. `DW_FORM_indirect` chains) -/
theorem entry_attr_parse : type_of% @Gimli.Props.C03.parse_total := @Gimli.Props.C03.parse_total
/-- `read_attributes` -/
theorem entry_attr_read : type_of% @Gimli.Props.C03.read_total := @Gimli.Props.C03.read_total
/-- `skip_attributes` (repaired F7) -/
theorem entry_attr_skip : type_of% @Gimli.Props.C03.skip_total := @Gimli.Props.C03.skip_total
/-- `DebugLine::program` / `LineProgramHeader::parse` -/
theorem entry_line_header : type_of% @Gimli.Props.C04.header_total := @Gimli.Props.C04.header_total
/-- `LineInstruction::parse` -/
theorem entry_line_decode : type_of% @Gimli.Props.C04.decode_total := @Gimli.Props.C04.decode_total
/-- `LineRows::next_row` driven to the end (repaired F2) -/
theorem entry_line_rows : type_of% @Gimli.Props.C04.run_total := @Gimli.Props.C04.run_total
/-- `IncompleteLineProgram::sequences` -/
theorem entry_line_sequences : type_of% @Gimli.Props.C04.sequences_total := @Gimli.Props.C04.sequences_total
/-- `parse_encoded_pointer` -/
theorem entry_cfi_pointer : type_of% @Gimli.Props.C05.encoded_pointer_total := @Gimli.Props.C05.encoded_pointer_total
/-- `section.entries(bases)` over any bytes -/
theorem entry_cfi_entries : type_of% @Gimli.Props.C05.entries_total := @Gimli.Props.C05.entries_total
/-- `PartialFrameDescriptionEntry::parse` -/
theorem entry_cfi_fde : type_of% @Gimli.Props.C05.fde_parse_total := @Gimli.Props.C05.fde_parse_total
/-- `fde_for_address` (linear) -/
theorem entry_cfi_lookup : type_of% @Gimli.Props.C05.linear_lookup_total := @Gimli.Props.C05.linear_lookup_total
/-- `EhFrameHdr::parse` -/
theorem entry_ehhdr_parse : type_of% @Gimli.Props.C05.hdr_parse_total := @Gimli.Props.C05.hdr_parse_total
/-- `EhHdrTable::lookup` (repaired F5, F6) -/
theorem entry_ehhdr_lookup : type_of% @Gimli.Props.C05.hdr_lookup_total := @Gimli.Props.C05.hdr_lookup_total
/-- `EhHdrTable::fde_for_address` -/
theorem entry_ehhdr_fde : type_of% @Gimli.Props.C05.hdr_fde_for_address_total := @Gimli.Props.C05.hdr_fde_for_address_total
/-- `CallFrameInstruction::parse` -/
theorem entry_cfa_decode : type_of% @Gimli.Props.C06.decode_total := @Gimli.Props.C06.decode_total
/-- `CallFrameInstructionIter` driven to the end -/
theorem entry_cfa_iter : type_of% @Gimli.Props.C06.decode_all_total := @Gimli.Props.C06.decode_all_total
/-- `UnwindTable` over a CIE and an FDE driven to the end -/
theorem entry_unwind : type_of% @Gimli.Props.C06.unwind_total := @Gimli.Props.C06.unwind_total
/-- `Operation::parse` (repaired F1) -/
theorem entry_op_decode : type_of% @Gimli.Props.C07.decode_total := @Gimli.Props.C07.decode_total
/-- `Evaluation::evaluate` under an iteration limit (repaired C07-2) -/
theorem entry_eval_limit : type_of% @Gimli.Props.C07.iter_limit_terminates := @Gimli.Props.C07.iter_limit_terminates
/-- raw range/location list iteration -/
theorem entry_lists_raw : type_of% @Gimli.Props.C08.raw_terminates := @Gimli.Props.C08.raw_terminates
/-- cooked range/location list iteration -/
theorem entry_lists_cooked : type_of% @Gimli.Props.C08.cooked_terminates := @Gimli.Props.C08.cooked_terminates
/-- `Dwarf::die_ranges` (repaired F16) -/
theorem entry_die_ranges : type_of% @Gimli.Props.C08.die_ranges_total := @Gimli.Props.C08.die_ranges_total
/-- `UnitIndex::find` probes at most `slot_count` slots -/
theorem entry_index_find : type_of% @Gimli.Props.C17.find_terminates := @Gimli.Props.C17.find_terminates

/-! ### lookup tables, package index, indexed sections (Models of C17, `Props/C17Total.lean`) -/
theorem entry_aranges_header : type_of% @Gimli.Props.C17.aranges_header_total := @Gimli.Props.C17.aranges_header_total
theorem entry_aranges_headers_iter : type_of% @Gimli.Props.C17.aranges_headers_iter_total := @Gimli.Props.C17.aranges_headers_iter_total
theorem entry_aranges_parse_entry : type_of% @Gimli.Props.C17.aranges_parse_entry_total := @Gimli.Props.C17.aranges_parse_entry_total
theorem entry_aranges_next : type_of% @Gimli.Props.C17.aranges_next_total := @Gimli.Props.C17.aranges_next_total
theorem entry_aranges_entries_iter : type_of% @Gimli.Props.C17.aranges_entries_iter_total := @Gimli.Props.C17.aranges_entries_iter_total
theorem entry_pub_header : type_of% @Gimli.Props.C17.pub_header_total := @Gimli.Props.C17.pub_header_total
theorem entry_pub_entry : type_of% @Gimli.Props.C17.pub_entry_total := @Gimli.Props.C17.pub_entry_total
theorem entry_pub_next : type_of% @Gimli.Props.C17.pub_next_total := @Gimli.Props.C17.pub_next_total
theorem entry_pub_items_iter : type_of% @Gimli.Props.C17.pub_items_iter_total := @Gimli.Props.C17.pub_items_iter_total
theorem entry_names_header : type_of% @Gimli.Props.C17.names_header_total := @Gimli.Props.C17.names_header_total
theorem entry_names_headers_iter : type_of% @Gimli.Props.C17.names_headers_iter_total := @Gimli.Props.C17.names_headers_iter_total
theorem entry_names_abbrevs : type_of% @Gimli.Props.C17.names_abbrevs_total := @Gimli.Props.C17.names_abbrevs_total
theorem entry_names_new : type_of% @Gimli.Props.C17.names_new_total := @Gimli.Props.C17.names_new_total
theorem entry_names_accessors : type_of% @Gimli.Props.C17.names_accessors_total := @Gimli.Props.C17.names_accessors_total
theorem entry_names_lookup : type_of% @Gimli.Props.C17.names_lookup_total := @Gimli.Props.C17.names_lookup_total
theorem entry_names_bucket_next : type_of% @Gimli.Props.C17.names_bucket_next_total := @Gimli.Props.C17.names_bucket_next_total
theorem entry_names_bucket_iter : type_of% @Gimli.Props.C17.names_bucket_iter_total := @Gimli.Props.C17.names_bucket_iter_total
theorem entry_names_entry : type_of% @Gimli.Props.C17.names_entry_total := @Gimli.Props.C17.names_entry_total
theorem entry_names_entries_iter : type_of% @Gimli.Props.C17.names_entries_iter_total := @Gimli.Props.C17.names_entries_iter_total
theorem entry_index_parse : type_of% @Gimli.Props.C17.index_parse_total := @Gimli.Props.C17.index_parse_total
theorem entry_index_sections : type_of% @Gimli.Props.C17.index_sections_total := @Gimli.Props.C17.index_sections_total
theorem entry_index_find_unit : type_of% @Gimli.Props.C17.index_find_unit_total := @Gimli.Props.C17.index_find_unit_total
theorem entry_str_offsets : type_of% @Gimli.Props.C17.str_offsets_total := @Gimli.Props.C17.str_offsets_total
theorem entry_addr : type_of% @Gimli.Props.C17.addr_total := @Gimli.Props.C17.addr_total
theorem entry_attr_resolution : type_of% @Gimli.Props.C17.attr_resolution_total := @Gimli.Props.C17.attr_resolution_total

/-! ### read→write conversion entry points (component Models of C12) -/
/-- `RangeList::from` / `LocationList::from` -/
theorem entry_convert_lists : type_of% @Gimli.Props.C12.convert_total := @Gimli.Props.C12.convert_total
/-- `CallFrameInstruction::from` and the instruction loops of `FrameTable::from` -/
theorem entry_convert_cfi : type_of% @Gimli.Props.C12.cfi_convert_total := @Gimli.Props.C12.cfi_convert_total
/-- `Expression::from`: total, and the converted operations nest at most 64 deep (repaired C12-E1) -/
theorem entry_convert_expr : type_of% @Gimli.Props.C12.convert_expr_total := @Gimli.Props.C12.convert_expr_total
/-- unit conversion fails only with the error of one attribute's conversion -/
theorem entry_convert_unit : type_of% @Gimli.Props.C12.convert_fails_only_on_attr := @Gimli.Props.C12.convert_fails_only_on_attr

end Gimli.Props.C01
