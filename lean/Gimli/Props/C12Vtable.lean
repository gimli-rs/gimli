import Gimli.Model.ConvUnit
import Gimli.Model.Op
import Gimli.Lemmas.Leb
/-!
# C12, vtable slots: what `convert_attribute_value` copies verbatim

`DW_AT_vtable_elem_location` is the one place where the converter bypasses `Expression::from` and
copies the input bytes (`Expression::raw`): nothing inside a raw expression is re-encoded, so any
entry reference, typed operation, branch or indexed address in it would keep its *input* offsets.
The theorems below show that the raw path (`ConvUnit.vtableRaw`, as repaired by fix ac9183c) is
taken only for an expression that the decoder reads as exactly one `DW_OP_constu` operation — an
expression that contains nothing to retarget — and that it is taken for every such expression.
The rule before the repair, "the first byte is `DW_OP_constu`", accepts more
(`vtable_raw_old_rule_differs` gives an input on which the two rules differ).
-/
namespace Gimli.Props.C12
open Gimli Gimli.ConvUnit

/-- the raw path is taken only for `DW_OP_constu v` with nothing after it: the decoder reads the
whole expression as that one operation -/
theorem vtable_raw_is_lone_constu (e : Endian) (enc : Op.Encoding) (bs : Bytes) (h : vtableRaw bs = true) :
    ∃ v, Op.parse e enc bs = .ok (.unsignedConstant v, []) := by
  unfold vtableRaw at h
  split at h
  · rename_i op rest
    rw [Bool.and_eq_true, beq_iff_eq] at h
    obtain ⟨rfl, hrest⟩ := h
    split at hrest
    · rename_i v hv
      -- opcode 0x10 reads one ULEB128 operand
      exact ⟨v, show (Leb.unsigned rest >>= fun (v, bs) => pure (Op.Operation.unsignedConstant v, bs)) = _ by
        rw [hv]; rfl⟩
    · cases hrest
  · cases h

/-- and for every such expression (canonical ULEB128 of any 64-bit value) -/
theorem vtable_raw_of_constu (v : Nat) (hv : v < 2 ^ 64) : vtableRaw (0x10 :: Leb.encodeU v) = true := by
  unfold vtableRaw
  have h := Leb.unsigned_roundtrip v hv []
  rw [List.append_nil] at h
  simp only [h, beq_self_eq_true, Bool.and_self]

/-- anything after the `DW_OP_constu` (here `DW_OP_call4 0x14`), and any other first operation,
is converted -/
example : vtableRaw [0x10, 0x01, 0x99, 0x14, 0, 0, 0] = false := by decide
example : vtableRaw [0x31] = false := by decide
example : vtableRaw [0x10] = false := by decide
example : vtableRaw [0x10, 0x05] = true := by decide

/-- the rule before fix ac9183c ("starts with `DW_OP_constu`") accepted expressions the repaired
rule converts -/
theorem vtable_raw_old_rule_differs :
    ∃ bs : Bytes, bs.head? = some 0x10 ∧ vtableRaw bs = false := ⟨[0x10, 0x01, 0x99, 0x14, 0, 0, 0], by decide⟩

end Gimli.Props.C12
