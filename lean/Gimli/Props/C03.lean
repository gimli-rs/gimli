import Gimli.Lemmas.Attr
import Gimli.Lemmas.AttrRoundtrip
import Gimli.Lemmas.AttrSkip
/-!
# C03 — Every attribute form decodes to its DWARF value; skipping equals reading

Property theorems only (helper lemmas: `Gimli/Lemmas/Attr*.lean`). Every theorem is about the
Model functions of `Gimli/Model/Attr.lean` — `parseAttribute` (`parse_attribute`),
`readAttributes` (`EntriesRaw::read_attributes`), `skipAttributes` (`skip_attributes`),
`getAttributeSize` (`get_attribute_size`), `normalise` (`Attribute::value`) — which the
correspondence run ties to `src/read/unit.rs` / `src/read/abbrev.rs` on every check.

Quantifiers: every encoding (either byte order, any address size, both formats, any version),
every attribute name, every form (the 47 known ones and every unknown code), every list of
attribute specifications, every byte string.
-/
namespace Gimli.Props.C03
open Gimli Gimli.Attr Gimli.Ints Gimli.Spec.Attr

/-! ## (1) the advertised fixed size of a form equals what reading consumes -/

/-- **`fixed_size_exact`.** Whenever `get_attribute_size(form, encoding)` advertises `n` bytes,
every successful read of an attribute of that form consumes exactly the first `n` bytes of the
input — for every form, encoding, attribute name and input. (Case analysis over the ways a
form is decoded, `Shape.parse_consumes`; `DW_FORM_addr`, `DW_FORM_ref_addr` and the offset-sized
forms depend on the encoding.) -/
theorem fixed_size_exact (enc : Encoding) (spec : Spec) (bs : Bytes) (v : Value) (rest : Bytes)
    (n : Nat) (hsz : getAttributeSize spec.form enc = some n)
    (h : parseAttribute enc spec bs = .ok (v, rest)) :
    n ≤ bs.length ∧ rest = bs.drop n := by
  have hni : spec.form ≠ .indirect := by
    intro hi; rw [hi, getAttributeSize_indirect] at hsz; simp at hsz
  rw [parseAttribute_direct hni] at h
  exact parseDirect_fixed hsz h

/-! ## (2) skipping consumes exactly the bytes that reading consumes -/

/-- **`skip_eq_read` (main theorem).** For every list of attribute specifications, every encoding
and every input: if reading all the attributes succeeds and leaves `rest`, then
`skip_attributes` succeeds and leaves the same `rest`. (Induction over the specification list,
generalised over the pending `skip_bytes`, see `skipLoop_skipsAs`; covers fixed sizes
that are accumulated across several attributes, blocks, strings, LEB128 numbers and nested
`DW_FORM_indirect`.) -/
theorem skip_eq_read (enc : Encoding) (specs : List Spec) (bs : Bytes) (vs : List Value)
    (rest : Bytes) (h : readAttributes enc specs bs = .ok (vs, rest)) :
    skipAttributes enc specs bs = .ok rest :=
  skipLoop_of_readAttributes enc specs 0 bs vs rest (Nat.zero_le _) (by simpa using h)

/-- the same from any intermediate state of the skipper: `pending` bytes still to be skipped
stand for the input `pending` bytes further on -/
theorem skip_eq_read_pending (enc : Encoding) (specs : List Spec) (pending : Nat) (bs : Bytes)
    (vs : List Value) (rest : Bytes) (hp : pending ≤ bs.length)
    (h : readAttributes enc specs (bs.drop pending) = .ok (vs, rest)) :
    skipLoop enc specs pending bs = .ok rest :=
  skipLoop_of_readAttributes enc specs pending bs vs rest hp h

/-- corollary: when both succeed they agree on the position -/
theorem skip_read_same_position (enc : Encoding) (specs : List Spec) (bs : Bytes) (vs : List Value)
    (r₁ r₂ : Bytes) (hr : readAttributes enc specs bs = .ok (vs, r₁))
    (hs : skipAttributes enc specs bs = .ok r₂) : r₁ = r₂ := by
  rw [skip_eq_read enc specs bs vs r₁ hr] at hs
  simpa using hs

/-- **`skip_err_of_read_err`: the converse direction as far as it is true.** If reading all the
attributes fails with an error that is not *read-only* (`ReadOnlyErr`: over-long or overflowing
LEB128, `DW_FORM_indirect → DW_FORM_implicit_const`, an address size outside 1/2/4/8 — things
the skipper never looks at), then `skip_attributes` fails with the same error. -/
theorem skip_err_of_read_err (enc : Encoding) (specs : List Spec) (bs : Bytes) (x : Err)
    (h : readAttributes enc specs bs = .err x) (hx : ¬ ReadOnlyErr x) :
    skipAttributes enc specs bs = .err x :=
  skipLoop_err_of_readAttributes_err enc specs 0 bs x (Nat.zero_le _) (by simpa using h) hx

/-- in particular **skipping never succeeds where reading runs out of input**: the bytes a
successful skip passes over are all there -/
theorem skip_eof_of_read_eof (enc : Encoding) (specs : List Spec) (bs : Bytes)
    (h : readAttributes enc specs bs = .err .rUnexpectedEof) :
    skipAttributes enc specs bs = .err .rUnexpectedEof :=
  skip_err_of_read_err enc specs bs _ h (by simp [ReadOnlyErr])

/-- **`skip_ok_read_cases`: the exact converse.** When `skip_attributes` succeeds with rest `r`,
reading either succeeds with the same `r`, or fails with one of the read-only errors — nothing
else is possible. (The two witnesses below show that the second case does occur.) -/
theorem skip_ok_read_cases (enc : Encoding) (specs : List Spec) (bs r : Bytes)
    (h : skipAttributes enc specs bs = .ok r) :
    (∃ vs, readAttributes enc specs bs = .ok (vs, r)) ∨
      (∃ x, readAttributes enc specs bs = .err x ∧ ReadOnlyErr x) := by
  have hl := skipLoop_skipsAs enc specs 0 bs
  rw [skipN_zero, Out.bind_ok, show skipLoop enc specs 0 bs = .ok r from h] at hl
  rcases (readAttributes_normal enc specs bs).ok_or_err with ⟨p, hr⟩ | ⟨x, hr⟩ <;> rw [hr] at hl ⊢
  · cases hl
    exact .inl ⟨p.1, rfl⟩
  · exact .inr ⟨x, rfl, hl.resolve_right nofun⟩

/-- **The known asymmetry of the converse** (still present at HEAD): `DW_FORM_indirect` resolving
to `DW_FORM_implicit_const` is rejected by reading (`InvalidImplicitConst`: the abbreviation
carries no constant for an indirect form) but accepted — as zero bytes — by skipping. The input
is malformed DWARF (outside the property's quantifier); recorded, not a finding. -/
theorem indirect_implicit_const_asymmetry :
    let enc : Encoding := { endian := .little, addressSize := 8, format := .dwarf32, version := 5 }
    let spec : Spec := { name := 0x03, form := .indirect }
    readAttributes enc [spec] [0x21, 0xaa] = .err .rInvalidImplicitConst ∧
      skipAttributes enc [spec] [0x21, 0xaa] = .ok [0xaa] := by
  decide +kernel

/-- second asymmetry: the LEB128 forms are skipped with `skip_leb128`, which does not look at
the value, so an over-long number is rejected by reading and passed over by skipping -/
theorem overlong_leb_asymmetry :
    let enc : Encoding := { endian := .little, addressSize := 8, format := .dwarf32, version := 5 }
    let spec : Spec := { name := 0x0b, form := .udata }
    let bs : Bytes := [0x80, 0x80, 0x80, 0x80, 0x80, 0x80, 0x80, 0x80, 0x80, 0x80, 0x00, 0xaa]
    readAttributes enc [spec] bs = .err .rBadUnsignedLeb128 ∧ skipAttributes enc [spec] bs = .ok [0xaa] := by
  decide +kernel

/-! ## (3) every form decodes to the value DWARF assigns to it -/

/-- **`form_value_roundtrip`.** For every form with a value of its own (all but
`DW_FORM_indirect`, see `indirect_roundtrip`): if `bytes` is the DWARF encoding of a value with
payload `p` in form `spec.form` under `enc` (`Spec.Attr.encodeForm`: any address size 1/2/4/8,
both formats, both byte orders, any version incl. the address-sized `DW_FORM_ref_addr` of
version 2, the three-byte `strx3/addrx3`, signed and unsigned LEB128, blocks and strings of any
length, implicit constants), then decoding `bytes` followed by anything yields exactly that
payload, in the value class DWARF assigns to the form (`rawKind`, incl. the legacy `data4/data8`
section-offset classes), and leaves exactly what followed — i.e. reading advances by the
encoded size. -/
theorem form_value_roundtrip (enc : Encoding) (spec : Spec) (p : Payload) (bytes rest : Bytes)
    (henc : encodeForm enc spec.form p = some bytes)
    (himp : spec.form = .implicitConst → p = .int spec.implicitConst) :
    parseAttribute enc spec (bytes ++ rest) = .ok (⟨rawKind enc spec.name spec.form, p⟩, rest) :=
  reads_attribute enc spec p bytes henc himp rest

/-- **`read_attributes_roundtrip`**: the list version — the attribute values of an entry,
encoded one after the other, read back as exactly those values in order, and the reader stops
exactly behind them. (This is the hypothesis under which C02 reads a forest: `ForestOK`.) -/
theorem read_attributes_roundtrip (enc : Encoding) : ∀ (sps : List (Spec × Payload)) (bytes rest : Bytes),
    encodeAttrs enc sps = some bytes →
    (∀ sp ∈ sps, sp.1.form = .implicitConst → sp.2 = .int sp.1.implicitConst) →
    readAttributes enc (sps.map (·.1)) (bytes ++ rest) =
      .ok (sps.map (fun sp => ⟨rawKind enc sp.1.name sp.1.form, sp.2⟩), rest) :=
  fun sps bytes rest h himp => reads_attributes enc sps bytes h himp rest

/-- **`indirect_roundtrip`.** `DW_FORM_indirect`, nested to any depth: the attribute is written
as `k` times the code of `DW_FORM_indirect` (k ≥ 0), the ULEB128 code of the real form, and that
form's encoding. Decoding yields the real form's value and class and consumes exactly those
bytes — for every known real form except `DW_FORM_implicit_const`, which is not valid behind
`DW_FORM_indirect` (the abbreviation holds no constant for it, see
`indirect_implicit_const_asymmetry`). -/
theorem indirect_roundtrip (enc : Encoding) (spec : Spec) (hsp : spec.form = .indirect)
    (k : Nat) (form : Form) (p : Payload) (bytes rest : Bytes)
    (henc : encodeForm enc form p = some bytes) (hic : form ≠ .implicitConst) :
    parseAttribute enc spec (indirectPrefix k form ++ bytes ++ rest) =
      .ok (⟨rawKind enc spec.name form, p⟩, rest) := by
  have hni : form ≠ .indirect := by intro hi; rw [hi] at henc; cases henc
  have hk : form.Known := by
    cases form <;> first | trivial | cases henc
  have hl := indirectPrefix_length k form
  unfold parseAttribute
  rw [hsp, List.append_assoc]
  rw [parseLoop_indirect_chain enc spec form hk hni k _ (bytes ++ rest)
    (Nat.lt_succ_of_le (Nat.le_trans hl (by rw [List.length_append]; exact Nat.le_add_right ..)))]
  exact parseDirect_roundtrip enc spec form p bytes rest henc (fun h => absurd h hic)

/-- and the encoded size is what the size table advertises, whenever it advertises one -/
theorem encoded_size_eq_advertised (enc : Encoding) (spec : Spec) (p : Payload) (bytes : Bytes) (n : Nat)
    (henc : encodeForm enc spec.form p = some bytes)
    (himp : spec.form = .implicitConst → p = .int spec.implicitConst)
    (hsz : getAttributeSize spec.form enc = some n) : bytes.length = n := by
  have h := form_value_roundtrip enc spec p bytes [] henc himp
  obtain ⟨h1, h2⟩ := fixed_size_exact enc spec _ _ _ n hsz h
  simp only [List.append_nil] at h1 h2
  have : (bytes.drop n).length = 0 := by rw [← h2]; rfl
  simp only [List.length_drop] at this
  omega

/-- **`legacy_offset_rule`.** `DW_FORM_data4` / `DW_FORM_data8`, exactly: the value is the
4 (8) bytes read in the unit's byte order, exactly 4 (8) bytes are consumed, and the class is
`SecOffset` precisely when the width is the offset size of the format and the attribute name is
one of the DWARF 2/3 section-offset attributes (`DW_AT_data_member_location` only in versions
2 and 3) — the name never changes the number or the size. -/
theorem legacy_offset_rule (enc : Encoding) (spec : Spec) (bs : Bytes)
    (hf : spec.form = .data4 ∨ spec.form = .data8) :
    parseAttribute enc spec bs =
      let n := if spec.form = .data4 then 4 else 8
      if bs.length < n then .err .rUnexpectedEof
      else .ok (⟨rawKind enc spec.name spec.form, .num (fromBytes enc.endian (bs.take n))⟩, bs.drop n) := by
  have hni : spec.form ≠ .indirect := by rcases hf with hf | hf <;> rw [hf] <;> decide
  -- both forms have the shape `fixed k n`, whatever the name makes of `k`
  have hs : shape enc spec spec.form =
      .fixed (shape enc spec spec.form).kind (if spec.form = .data4 then 4 else 8) := by
    rcases hf with hf | hf <;> rw [hf] <;> unfold shape <;> dsimp only <;> split <;> rfl
  rw [parseAttribute_direct hni, parseDirect_eq, rawKind_eq, hs]
  exact Shape.parse_fixed enc _ _ bs

/-! ## (4) name-based normalisation never changes the payload -/

/-- **`normalise_payload`.** For every attribute name and every raw value, `Attribute::value()`
denotes the same number (`numeric`), views the same bytes, and carries the same flag as
`raw_value()`: normalisation only re-labels the class (e.g. `Data1 → Encoding`,
`SecOffset → DebugLineRef`, `Block → Exprloc`, non-negative `Sdata → Udata`). -/
theorem normalise_payload (name : Nat) (v : Value) :
    (normalise name v).payload.numeric = v.payload.numeric ∧
      (normalise name v).payload.bytes? = v.payload.bytes? ∧
      (normalise name v).payload.flag? = v.payload.flag? :=
  findSome_same (rules name) v

/-- attribute names without a conversion rule are returned unchanged -/
theorem normalise_no_rule (name : Nat) (v : Value) (h : rules name = []) : normalise name v = v := by
  simp [normalise, h]

/-! ## (5) totality -/

/-- `parse_attribute` returns a value or an error for every input: no panic, and the
`DW_FORM_indirect` loop terminates (the supplied fuel, input length + 1, is never exhausted) -/
theorem parse_total (enc : Encoding) (spec : Spec) (bs : Bytes) : (parseAttribute enc spec bs).Normal :=
  parseAttribute_normal enc spec bs

/-- `EntriesRaw::read_attributes`, every specification list -/
theorem read_total (enc : Encoding) (specs : List Spec) (bs : Bytes) : (readAttributes enc specs bs).Normal :=
  readAttributes_normal enc specs bs

/-- `skip_attributes`, every specification list -/
theorem skip_total (enc : Encoding) (specs : List Spec) (bs : Bytes) : (skipAttributes enc specs bs).Normal :=
  skipLoop_normal enc specs 0 bs

/-! ## non-vacuity: the hypotheses are met by concrete non-trivial inputs -/

private def encLE : Encoding := { endian := .little, addressSize := 8, format := .dwarf32, version := 4 }
private def encBE2 : Encoding := { endian := .big, addressSize := 4, format := .dwarf64, version := 2 }

-- a specification list that makes the accumulator cross fixed / variable / indirect boundaries
example : readAttributes encLE
    [⟨0x03, .data2, 0⟩, ⟨0x11, .addr, 0⟩, ⟨0x02, .block1, 0⟩, ⟨0x3e, .indirect, 0⟩, ⟨0x49, .ref4, 0⟩]
    [0x34, 0x12, 1, 2, 3, 4, 5, 6, 7, 8, 0x02, 0xaa, 0xbb, 0x0b, 0x07, 0x10, 0, 0, 0, 0xcc]
    = .ok ([⟨.data2, .num 0x1234⟩, ⟨.addr, .num 0x0807060504030201⟩, ⟨.block, .bytes [0xaa, 0xbb]⟩,
            ⟨.data1, .num 7⟩, ⟨.unitRef, .num 0x10⟩], [0xcc]) := by decide +kernel
example : getAttributeSize .refAddr encBE2 = some 4 ∧ getAttributeSize .secOffset encBE2 = some 8 := by decide
example : encodeForm encBE2 .strx3 (.num 0x010203) = some [1, 2, 3] := by decide
example : encodeForm encLE .string (.bytes [0x66, 0x6f, 0x6f]) = some [0x66, 0x6f, 0x6f, 0] := by decide
example : normalise 0x3e ⟨.data1, .num 7⟩ = ⟨.encoding, .num 7⟩ := by decide
example : normalise 0x02 ⟨.block, .bytes [0x91, 0x7c]⟩ = ⟨.exprloc, .bytes [0x91, 0x7c]⟩ := by decide

end Gimli.Props.C03
