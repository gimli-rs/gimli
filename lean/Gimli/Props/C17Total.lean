import Gimli.Lemmas.Aranges
import Gimli.Lemmas.Pub
import Gimli.Lemmas.NamesEntries
import Gimli.Lemmas.Package
/-!
# C17 — totality of every byte-level entry point the C17 Models mirror

`Out.Normal r`: `r` is `ok _` or `err _` — never `panic` (overflow-checked arithmetic, index out of
range, `unwrap`, division by zero) and never `diverge` (fuel exhausted = the Rust loop would not
end).  Every theorem holds for EVERY input (any bytes, any sizes, any index argument).

For iterators the Model function runs the iterator to its first `Ok(None)` under a cap on the
number of `next` calls.  Their theorems say: every call is `Normal` (`…_next_total`), and once
the cap exceeds the input length it is never reached — giving the iterator more calls changes
nothing — and at most "input length" items are produced (`…_iter_total`).  Where an error ends the
iteration (`headers`), it is the last item.

These are the C01 clauses ("no panic, no abort, no hang on untrusted input") for the reading paths
modelled under C17; `Props/C01Entries.lean` re-exports them.
-/
namespace Gimli.Props.C17
open Gimli Gimli.Ints Gimli.C17
open Gimli.Aranges (Item)

/-! ## `.debug_aranges` -/

/-- `ArangeHeader::parse` on any bytes -/
theorem aranges_header_total (e : Endian) (input : Bytes) : (Aranges.parseHeader e input).Normal :=
  (Aranges.parseHeader_ensures e input).1

/-- `DebugAranges::headers()` driven to the end: the cap is not reached, at most `len` items, an
error is the last item -/
theorem aranges_headers_iter_total (e : Endian) (input : Bytes) (off fuel : Nat)
    (hf : input.length < fuel) :
    Aranges.headers e fuel input off = Aranges.headers e (fuel + 1) input off ∧
      (Aranges.headers e fuel input off).length ≤ input.length ∧
      ∀ i x, (Aranges.headers e fuel input off)[i]? = some (.error x) →
        i + 1 = (Aranges.headers e fuel input off).length := by
  rw [Aranges.headers_eq_collect, Aranges.headers_eq_collect]
  exact hdr_total _ (fun input => ⟨(Aranges.parseHeader_ensures e input).1,
    fun p hp => Aranges.parseHeader_consumes e input p.1 p.2 hp⟩) fuel input off hf

/-- `ArangeEntry::parse`: the loop over null tuples (repaired in `929e5f5`: a loop instead of
self-recursion) ends for every address size and every input, e.g. megabytes of zero tuples; a
returned tuple was consumed -/
theorem aranges_parse_entry_total (e : Endian) (addressSize : Nat) (input : Bytes) :
    (Aranges.parseEntry e addressSize (input.length + 1) input).Normal ∧
      ∀ raw rest, Aranges.parseEntry e addressSize (input.length + 1) input = .ok (some raw, rest) →
        rest.length < input.length :=
  have h := Aranges.parseEntry_ensures e addressSize (input.length + 1) input (Nat.lt_succ_self _)
  ⟨h.1, fun raw _ hp => h.2 _ hp raw rfl⟩

/-- `ArangeEntryIter::next` (null tuples and tombstones skipped in its loop): normal, never grows
the input, strictly consumes input whenever it yields an entry or an error -/
theorem aranges_next_total (e : Endian) (addressSize : Nat) (input : Bytes) :
    (Aranges.next e addressSize input).1.Normal ∧
      (Aranges.next e addressSize input).2.length ≤ input.length ∧
      ((Aranges.next e addressSize input).1 ≠ .ok none →
        (Aranges.next e addressSize input).2.length < input.length) :=
  Aranges.next_ok e addressSize input

/-- the entry iterator driven to the end: the cap is not reached, at most `len` items -/
theorem aranges_entries_iter_total (e : Endian) (addressSize : Nat) (input : Bytes) (fuel : Nat)
    (hf : input.length < fuel) :
    Aranges.entries e addressSize fuel input = Aranges.entries e addressSize (fuel + 1) input ∧
      (Aranges.entries e addressSize fuel input).length ≤ input.length := by
  rw [Aranges.entries_eq_collect, Aranges.entries_eq_collect]
  exact collect_total_of_stepOk _ List.length (Aranges.next_ok e addressSize) fuel input hf

/-! ## `.debug_pubnames` / `.debug_pubtypes` -/

/-- `PubStuffParser::parse_header` -/
theorem pub_header_total (e : Endian) (input : Bytes) : (Pub.parseHeader e input).Normal :=
  (Pub.parseHeader_ensures e input).1

/-- `PubStuffParser::parse_entry` (incl. the NUL search of the name) -/
theorem pub_entry_total (e : Endian) (h : Pub.Header) (input : Bytes) : (Pub.parseEntry e h input).Normal :=
  (Pub.parseEntry_ensures e h input).1

/-- `LookupEntryIter::next` from every state: normal; the bytes left (current set + sets to come)
never grow and strictly shrink whenever an entry or an error is yielded -/
theorem pub_next_total (e : Endian) (st : Pub.State) :
    (Pub.next e st).1.Normal ∧ pubMu (Pub.next e st).2 ≤ pubMu st ∧
      ((Pub.next e st).1 ≠ .ok none → pubMu (Pub.next e st).2 < pubMu st) :=
  Pub.next_ok e st

/-- `DebugPubNames::items()` / `DebugPubTypes::items()` driven to the end over any section -/
theorem pub_items_iter_total (e : Endian) (section_ : Bytes) (fuel : Nat) (hf : section_.length < fuel) :
    Pub.items e fuel (Pub.start section_) = Pub.items e (fuel + 1) (Pub.start section_) ∧
      (Pub.items e fuel (Pub.start section_)).length ≤ section_.length := by
  -- the measure of the start state is the length of the section
  have hmu : pubMu (Pub.start section_) = section_.length := Nat.zero_add _
  rw [Pub.items_eq_collect, Pub.items_eq_collect, ← hmu]
  exact collect_total_of_stepOk _ pubMu (Pub.next_ok e) fuel _ (hmu ▸ hf)

/-! ## `.debug_names` -/

/-- `NameIndexHeader::parse` -/
theorem names_header_total (e : Endian) (input : Bytes) : (Names.parseHeader e input).Normal :=
  (Names.parseHeader_ensures e input).1

/-- `DebugNames::headers()` driven to the end -/
theorem names_headers_iter_total (e : Endian) (input : Bytes) (off fuel : Nat) (hf : input.length < fuel) :
    Names.headers e fuel input off = Names.headers e (fuel + 1) input off ∧
      (Names.headers e fuel input off).length ≤ input.length := by
  rw [Names.headers_eq_collect, Names.headers_eq_collect]
  obtain ⟨a, b, _⟩ := hdr_total _ (Names.parseHeader_ensures e) fuel input off hf
  exact ⟨a, b⟩

/-- `NameAbbreviations::parse` on any table bytes (nested loops over abbreviations and attribute
specifications) -/
theorem names_abbrevs_total (table : Bytes) : (Names.parseAbbrevs (table.length + 1) table).Normal :=
  Names.parseAbbrevs_normal _ _ (Nat.lt_succ_self _)

/-- `NameIndex::new` for any header: the size products cannot overflow, the splits fail with an
error, the abbreviation table parse ends -/
theorem names_new_total (h : Names.Header) : (Names.Index.new h).Normal := (Names.new_ensures h).1

/-- the list accessors and `name_string` for any index value -/
theorem names_accessors_total (e : Endian) (ix : Names.Index) (i : Nat) (debugStr : Bytes) :
    (ix.compileUnit e i).Normal ∧ (ix.localTypeUnit e i).Normal ∧ (ix.foreignTypeUnit e i).Normal ∧
      (ix.typeUnit e i).Normal ∧ (ix.nameStringOffset e i).Normal ∧ (Names.getStr debugStr i).Normal :=
  ⟨Names.offsetAt_normal e _ _ _, Names.offsetAt_normal e _ _ _, Names.foreignTypeUnit_normal e ix i,
   Names.typeUnit_normal e ix i, Names.offsetAt_normal e _ _ _, Indexed.getStr_normal _ _⟩

/-- `find_by_bucket` / `find_by_hash` construction for any bucket index / hash (also without a hash
table: an error, not a division by zero) -/
theorem names_lookup_total (e : Endian) (ix : Names.Index) (n : Nat) :
    (Names.BucketIter.new e ix n).Normal ∧ (ix.bucket e n).Normal ∧ (ix.findByHash e n).Normal :=
  ⟨(Names.bucketNew_ensures e ix n).1, Names.bucket_normal e ix n, Names.findByHash_normal e ix n⟩

/-- `NameBucketIter::next` and the loop of `NameHashIter::next` on every iterator that
`find_by_bucket` / `find_by_hash` can hand out for an index made by `NameIndex::new`: no division
by zero (`hash % bucket_count`), and the hash loop ends within the `name_count + 2` steps the Model
grants it -/
theorem names_bucket_next_total (e : Endian) (h : Names.Header) (ix : Names.Index)
    (hn : Names.Index.new h = .ok ix) (b : Nat) (it : Names.BucketIter)
    (hit : Names.BucketIter.new e ix b = .ok (some it)) (it' : Names.BucketIter) (hash : Nat) :
    (it'.next e ix).1.Normal ∧ (Names.hashNext e ix hash (ix.nameCount + 2) it').1.Normal := by
  obtain ⟨_, _, _, _, _, hbl, _, _, _, _, _, _, hbc, _⟩ := (Names.new_ensures h).2 ix hn
  have hne : ix.bucketCount ≠ 0 := Names.bucketNew_some e ix b it (by rw [hbl, hbc]) hit
  exact ⟨(Names.bucketNext_ok e ix it' hne).1, (Names.hashNext_normal e ix hash hne _ it' (by omega)).1⟩

/-- the bucket and hash iterators driven to the end: the cap is not reached, at most
`name_count + 1` items -/
theorem names_bucket_iter_total (e : Endian) (ix : Names.Index) (hbc : ix.bucketCount ≠ 0)
    (it : Names.BucketIter) (hash fuel : Nat) (hf : ix.nameCount < fuel) :
    Names.BucketIter.drain e ix fuel it = Names.BucketIter.drain e ix (fuel + 1) it ∧
      (Names.BucketIter.drain e ix fuel it).length ≤ ix.nameCount + 1 ∧
      Names.hashDrain e ix hash fuel it = Names.hashDrain e ix hash (fuel + 1) it ∧
      (Names.hashDrain e ix hash fuel it).length ≤ ix.nameCount + 1 := by
  obtain ⟨a, b⟩ := Names.bucketDrain_total e ix hbc fuel it (by omega)
  obtain ⟨c, d⟩ := Names.hashDrain_total e ix hash hbc fuel it (by omega)
  exact ⟨a, by omega, c, by omega⟩

/-- `NameEntry::parse` (abbreviation lookup, every form incl. unknown ones) and `name_entry(offset)` -/
theorem names_entry_total (e : Endian) (ix : Names.Index) (off : Nat) (bs : Bytes) :
    (Names.parseEntry e ix.abbrevs off bs).Normal ∧ (ix.nameEntry e off).Normal :=
  ⟨(Names.parseEntry_ensures e ix.abbrevs off bs).1, Names.nameEntry_normal e ix off⟩

/-- `name_entries(i)` and the entry iterator driven to the end over any pool bytes -/
theorem names_entries_iter_total (e : Endian) (ix : Names.Index) (i : Nat) (bs : Bytes) (fuel : Nat)
    (hf : bs.length < fuel) :
    (ix.nameEntries e i).Normal ∧
      Names.entrySeries e ix.abbrevs ix.entryPool.length fuel bs =
        Names.entrySeries e ix.abbrevs ix.entryPool.length (fuel + 1) bs ∧
      (Names.entrySeries e ix.abbrevs ix.entryPool.length fuel bs).length ≤ bs.length :=
  ⟨Names.nameEntries_normal e ix i, Names.entrySeries_total e ix.abbrevs _ fuel bs hf⟩

/-! ## `.debug_cu_index` / `.debug_tu_index`, package units -/

/-- `UnitIndex::parse` on any section bytes (slot-count test, `slot_count * 8`,
`unit_count * section_count * 4` cannot overflow, section kinds) -/
theorem index_parse_total (e : Endian) (input : Bytes) : (Index.parse e input).Normal :=
  (Index.parse_ensures e input).1

/-- `UnitIndex::sections(row)` for any index value and any row; the iterator yields at most
`section_count` items -/
theorem index_sections_total (e : Endian) (ix : Index.UnitIndex) (row : Nat) :
    (Index.sections e ix row).Normal ∧
      ∀ cols, Index.sections e ix row = .ok cols → cols.length ≤ ix.sections.length :=
  Index.sections_ensures e ix row

/-- `Section::dwp_range` and `DwarfPackage::find_cu` / `find_tu` (find, row access, the ten slices)
for any index, any package sections, any id -/
theorem index_find_unit_total (e : Endian) (ix : Index.UnitIndex) (pkg : Index.SecKind → Bytes) (id : Nat)
    (data : Bytes) (offset size : Nat) :
    (Index.dwpRange data offset size).Normal ∧ (Index.findUnit e ix pkg id).Normal :=
  ⟨Index.dwpRange_normal _ _ _, Index.findUnit_normal e ix pkg id⟩

/-! ## indexed tables, form resolution -/

/-- `DebugStrOffsets::get_str_offset` for any base and any index up to `usize::MAX`: the product
`index * word_size` is checked (`ab3a9b9`), an out-of-range result is an error -/
theorem str_offsets_total (e : Endian) (f : Format) (sec : Bytes) (base index : Nat) :
    (Indexed.getStrOffset e f sec base index).Normal := Indexed.getStrOffset_normal e f sec base index

/-- `DebugAddr::get_address` for any address size (valid or not), base and index -/
theorem addr_total (e : Endian) (addressSize : Nat) (sec : Bytes) (base index : Nat) :
    (Indexed.getAddress e addressSize sec base index).Normal :=
  Indexed.getAddress_normal e addressSize sec base index

/-- `Dwarf::attr_string` / `Dwarf::attr_address` for every attribute value and any sections -/
theorem attr_resolution_total (c : Indexed.Ctx) (a : Indexed.AttrVal) :
    (Indexed.attrString c a).Normal ∧ (Indexed.attrAddress c a).Normal :=
  ⟨Indexed.attrString_normal c a, Indexed.attrAddress_normal c a⟩

end Gimli.Props.C17
