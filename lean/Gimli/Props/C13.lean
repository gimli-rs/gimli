import Gimli.Lemmas.WLine
import Gimli.Lemmas.Leb
import Gimli.Lemmas.WLineHeader
import Gimli.Lemmas.WLineHeaderV5
import Gimli.Props.C04
/-!
# C13 — Written line programs read back to exactly the rows that were generated

Helper lemmas: `Gimli/Lemmas/WLine*.lean`; the few stated here speak of `rowOf` / `genRows` and
serve the theorems next to them. Every theorem is about the
writer Model `Gimli.WLine` (`Gimli/Model/WLine.lean`, the definitions the driver executes and the
correspondence run ties to `src/write/line.rs`) and the reader Model `Gimli.Line` of C04
(`Gimli/Model/Line.lean`, tied to `src/read/line.rs`): "reads back" means *the reader Model
executes what the writer Model emits*.

Quantifiers: every `LineEncoding` (`line_base`, `line_range`, `minimum_instruction_length`,
`maximum_operations_per_instruction`), every header version, every address size, both build modes,
every previous row and every next row, under the hypotheses stated in each theorem.
-/
namespace Gimli.Props.C13
open Gimli Gimli.Line Gimli.WLine Gimli.Spec.Line

/-- the header parameters a reader parses from what `LineProgram::write` emits for `e`
(`OPCODE_BASE = 13`, the fixed `standard_opcode_lengths`); it is `WLine.paramsOf` by `rfl`, the name the
lemmas under Lemmas/WLineHeader* state -/
def readerParams (en : Endian) (format : Format) (addrSize : Nat) (e : Enc) : Params :=
  { endian := en, format, version := e.version, addrSize, minInstLen := e.minInstLen,
    maxOps := e.maxOps, defaultIsStmt := e.defaultIsStmt, lineBase := e.lineBase,
    lineRange := e.lineRange, opcodeBase := 13, stdLens := WLine.stdLens }

/-- **the row the caller asked for**, as a reader row: the writer's `LineRow` `w` generated in a
sequence whose current base address (the most recent `set_address`, or 0) is `base` -/
def rowOf (version base : Nat) (w : WRow) : Row :=
  { tombstone := false, address := base + w.addressOffset, opIndex := w.opIndex,
    file := fileRaw version w.file, line := w.line, column := w.column, isStmt := w.isStmt,
    basicBlock := w.basicBlock, endSequence := false, prologueEnd := w.prologueEnd,
    epilogueBegin := w.epilogueBegin, isa := w.isa, discriminator := w.discriminator }

/-- exactly what `LineProgram::new` requires of `line_base`/`line_range` (`new_accepts_iff`:
`line_base ≤ 0 < line_base + line_range`) within the ranges of their types `i8` / `u8`
(`line_base` −128..0, `line_range` 1..255) — plus non-zero
`minimum_instruction_length` and `maximum_operations_per_instruction` (which a reader insists on) -/
def EncOk (e : Enc) : Prop :=
  -128 ≤ e.lineBase ∧ e.lineBase ≤ 0 ∧ 0 < e.lineBase + e.lineRange ∧ e.lineRange ≤ 255 ∧
  1 ≤ e.minInstLen ∧ 1 ≤ e.maxOps

instance (e : Enc) : Decidable (EncOk e) := by unfold EncOk; infer_instance

/-- the next row is a legal successor of the previous one: aligned addresses, operation indices
inside the instruction bundle, the operation pointer `(address, op_index)` does not go backwards,
the operation advance fits 64 bits, line numbers below 2^63 (finding C13-3 beyond), and the row's
address fits the address size -/
def StepOk (e : Enc) (addrSize base : Nat) (prev row : WRow) : Prop :=
  prev.addressOffset % e.minInstLen = 0 ∧ row.addressOffset % e.minInstLen = 0 ∧
  prev.opIndex < e.maxOps ∧ row.opIndex < e.maxOps ∧
  prev.addressOffset ≤ row.addressOffset ∧
  (prev.addressOffset = row.addressOffset → prev.opIndex ≤ row.opIndex) ∧
  (row.addressOffset - prev.addressOffset) / e.minInstLen * e.maxOps + row.opIndex < 2 ^ 64 ∧
  prev.line < 2 ^ 63 ∧ row.line < 2 ^ 63 ∧
  base + row.addressOffset ≤ onesSized addrSize

instance (e : Enc) (a b : Nat) (p r : WRow) : Decidable (StepOk e a b p r) := by
  unfold StepOk; infer_instance

theorem reset_rowOf (h : Params) (version base : Nat) (w : WRow) :
    reset h (rowOf version base w) = rowOf version base w.cleared := by
  simp [reset, rowOf, WRow.cleared]

/-- `rowOf` as registers of the §6.2 machine -/
def regsOf (version base : Nat) (w : WRow) : Spec.Line.Regs :=
  { address := base + w.addressOffset, opIndex := w.opIndex, file := fileRaw version w.file, line := w.line,
    column := w.column, isStmt := w.isStmt, basicBlock := w.basicBlock, endSequence := false,
    prologueEnd := w.prologueEnd, epilogueBegin := w.epilogueBegin, isa := w.isa, discriminator := w.discriminator }

theorem toRow_regsOf (version base : Nat) (w : WRow) : toRow (regsOf version base w) = rowOf version base w := by
  simp only [toRow, regsOf, rowOf, Int.toNat_natCast]

/-- **`generate_row` is correct — whichever opcode it chooses.** For every `LineEncoding` with
`line_base ≤ 0 < line_base + line_range` (`line_base` −128..0, `line_range` 1..255), every
`minimum_instruction_length ≥ 1`, every `maximum_operations_per_instruction ≥ 1`, every version,
address size 1/2/4/8, both build modes, every previous row `prev` (as `generate_row` leaves it:
per-row fields cleared) and every next row `row` that is a legal successor (`StepOk`):
`generate_row` succeeds, leaves `row.cleared` as the new previous row, and the instructions it
pushes — discriminator/flag setters, `negate_stmt`, `set_file`, `set_column`, `set_isa`,
`advance_line`, and one of special opcode / `const_add_pc` + special opcode / `advance_pc` +
special opcode or `copy` — executed by the reader (C04's `execute` via `traceInstrs`) from the
registers it has after the previous row, produce **exactly one row, equal to the requested one in
every register**, and leave the reader in the state that corresponds to the writer's new
`prev_row`. `rest` is whatever follows in the program. -/
theorem generate_row_correct (m : Mode) (en : Endian) (format : Format) (addrSize : Nat) (e : Enc)
    (base : Nat) (prev row : WRow)
    (henc : EncOk e) (hasz : addrSize = 1 ∨ addrSize = 2 ∨ addrSize = 4 ∨ addrSize = 8)
    (hprev : prev.cleared = prev) (hstep : StepOk e addrSize base prev row) :
    ∃ is, generateRow m e prev row = .ok (is, row.cleared) ∧ ∀ (inSeq : Bool) (rest : List Instr),
      traceInstrs (readerParams en format addrSize e) (rowOf e.version base prev) inSeq
          (is.map (WInstr.toInstr e.version) ++ rest) =
        Ev.row (rowOf e.version base row) ::
          traceInstrs (readerParams en format addrSize e) (rowOf e.version base row.cleared) true rest := by
  obtain ⟨hb1, hb2, hrng, hlr, hmin, hmax⟩ := henc
  obtain ⟨hal1, hal2, hop1, hop2, hle, hsame, hfit, hl1, hl2, haddr⟩ := hstep
  let h := readerParams en format addrSize e
  -- the machine's registers after the field setters
  let rb : Spec.Line.Regs := { regsOf e.version base prev with
    discriminator := row.discriminator, basicBlock := row.basicBlock,
    prologueEnd := row.prologueEnd, epilogueBegin := row.epilogueBegin, isStmt := row.isStmt,
    file := fileRaw e.version row.file, column := row.column, isa := row.isa }
  have hcl : prev.discriminator = 0 ∧ prev.basicBlock = false ∧ prev.prologueEnd = false ∧
      prev.epilogueBegin = false := by
    rw [← hprev]; exact ⟨rfl, rfl, rfl, rfl⟩
  -- the line and operation advances the writer computes; the latter lands on the row's pointer
  have hla := lineAdvance_spec m prev.line row.line hl1 hl2
  obtain ⟨oa, hoa, hsum, hland⟩ := opAdvance_lands m e h base prev row
    { rb with line := rb.line + ((row.line : Int) - prev.line) } rfl rfl rfl rfl hmin hmax hal1 hal2 hop1 hop2 hle
    hsame hfit
  have hfinal : Spec.Line.advance h { rb with line := rb.line + ((row.line : Int) - prev.line) } oa =
      regsOf e.version base row := by
    have hline : (prev.line : Int) + ((row.line : Int) - prev.line) = row.line := by omega
    rw [hland]
    show ({ rb with line := (prev.line : Int) + ((row.line : Int) - prev.line), address := _, opIndex := _ } :
      Spec.Line.Regs) = _
    rw [hline]
    rfl
  obtain ⟨ais, hadv, hrun⟩ := advanceInstrs_runs m e h ⟨rfl, rfl, rfl⟩ e.version rb
    ((row.line : Int) - prev.line) oa hb1 hb2 hrng hlr (by omega) hop1
    ⟨Int.natCast_nonneg _, by show (prev.line : Int) < 2 ^ 64; omega⟩ hsum
    (by rw [hfinal]; exact ⟨lt_pow_of_le_ones haddr, by
      show 0 ≤ (prev.line : Int) + ((row.line : Int) - prev.line) ∧ (prev.line : Int) + ((row.line : Int) - prev.line) < 2 ^ 64
      omega⟩)
  rw [hfinal] at hrun
  have htr := runs_trace (show h.addrSize ≤ 8 by show addrSize ≤ 8; omega) hrun hop1
  refine ⟨resetFieldInstrs row ++ stickyFieldInstrs prev row ++ ais, ?_, fun inSeq rest => ?_⟩
  · unfold generateRow
    simp only [hla, hoa, hadv, Out.bind_ok, Out.pure_eq]
  · -- the setters do not look at the tombstone flag: on the row itself; what they leave is `toRow rb`
    simp only [List.map_append, List.append_assoc]
    rw [trace_resetFields h e.version (rowOf e.version base prev) inSeq row _ hcl,
      trace_stickyFields h e.version _ inSeq prev row _ rfl rfl rfl rfl]
    refine (htr inSeq rest).trans ?_
    rw [ofRegs_afterRow, toRow_regsOf, reset_rowOf]
    rfl

/-! ## special opcodes are special opcodes; what `new` accepts -/

/-- **Every emitted `Special(op)` has 13 ≤ op ≤ 255 — debug builds, no hypothesis at all.** For
every `LineEncoding` whatsoever and every pair of rows: if `generate_row` returns (does not
panic), each special opcode it pushed is a real special opcode (`OPCODE_BASE = 13 ≤ op ≤ 255`) —
the two `debug_assert!`s turn everything else into a panic. -/
theorem special_opcode_in_range_debug (e : Enc) (prev row : WRow) (is : List WInstr) (row' : WRow)
    (h : generateRow .debug e prev row = .ok (is, row')) (op : Nat) (hm : WInstr.special op ∈ is) :
    13 ≤ op ∧ op ≤ 255 := by
  obtain ⟨la, oa, ais, _, hadv, hm'⟩ := generateRow_special_mem .debug e prev row is row' h op hm
  obtain ⟨s, us, _, hF, _⟩ := advanceInstrs_special_mem .debug e la oa ais hadv op hm'
  exact finalPart_debug_range e s us op hF

/-- **Every emitted `Special(op)` has 13 ≤ op ≤ 255 — any build mode**, for every `LineEncoding`
that `LineProgram::new` accepts (`line_base` −128..0, `line_range` 1..255,
`line_base + line_range > 0`, see `new_accepts_iff`), every min_inst_len/max_ops, every pair of
rows for which `generate_row` returns. -/
theorem special_opcode_in_range (m : Mode) (e : Enc) (prev row : WRow) (is : List WInstr) (row' : WRow)
    (h1 : -128 ≤ e.lineBase) (h2 : e.lineBase ≤ 0) (hr : 0 < e.lineBase + e.lineRange)
    (hlr : e.lineRange ≤ 255)
    (h : generateRow m e prev row = .ok (is, row')) (op : Nat) (hm : WInstr.special op ∈ is) :
    13 ≤ op ∧ op ≤ 255 := by
  obtain ⟨la, oa, ais, hla, hadv, hm'⟩ := generateRow_special_mem m e prev row is row' h op hm
  exact advanceInstrs_special_range m e la oa ais h1 h2 hr hlr (lineAdvance_range m _ _ la hla) hadv op hm'

/-- the `LineEncoding` of the repaired finding C13-2: the widest one -/
def enc255 : Enc :=
  { version := 4, minInstLen := 1, maxOps := 1, defaultIsStmt := true, lineBase := -128, lineRange := 255 }

/-- **Regression for the repaired finding C13-2** (`f134118`): with `line_base = −128`,
`line_range = 255` a line advance of +120 would need special opcode 261; the writer now falls back
to `advance_line` + `copy` (it used to emit `261 as u8 = 5 = DW_LNS_set_column` in release builds),
while +114 still gets the last special opcode 255. -/
theorem special_opcode_regression (m : Mode) :
    newCheck m enc255.lineBase enc255.lineRange = .ok () ∧
    generateRow m enc255 (WRow.initial enc255) { WRow.initial enc255 with line := 121 } =
      .ok ([.advanceLine 120, .copy], { WRow.initial enc255 with line := 121 }) ∧
    generateRow m enc255 (WRow.initial enc255) { WRow.initial enc255 with line := 115 } =
      .ok ([.special 255], { WRow.initial enc255 with line := 115 }) := by
  cases m <;> decide +kernel

/-- **What `LineProgram::new` accepts** (its two `assert!`s, as repaired in `1141615`): in both
build modes exactly the documented contract `line_base ≤ 0 < line_base + line_range` — every
`line_base` −128..0 and `line_range` 1..255 whose sum is positive. -/
theorem new_accepts_iff (m : Mode) (lineBase : Int) (lineRange : Nat) :
    newCheck m lineBase lineRange = .ok () ↔ (lineBase ≤ 0 ∧ 0 < lineBase + lineRange) := by
  unfold newCheck
  by_cases h0 : lineBase ≤ 0
  · rw [if_neg (by omega)]
    by_cases hp : lineBase + (lineRange : Int) > 0
    · rw [if_pos hp]; simp; omega
    · rw [if_neg hp]; simp; omega
  · rw [if_pos h0]
    simp; omega

/-- **Regression for the repaired finding C13-1**: gcc's own `line_base = −10`, `line_range = 242`
is accepted in both build modes (it used to hit the `line_range as i8` assert) -/
theorem new_accepts_gcc_encoding (m : Mode) : newCheck m (-10) 242 = .ok () := by
  cases m <;> decide +kernel

/-! ## file identity -/

/-- **File ids are stable and identify the key.** For every program state and every
`add_file(name, directory, info)` that returns (does not hit its `assert!`s) with id `i`:
1. entry `i` of the table has exactly that `(name, directory)` key, and the given info if one
   was given;
2. every entry that existed before keeps its index and its key (only the info of entry `i` may
   have been replaced) — ids handed out earlier stay valid;
3. adding the same key again — with any info — returns the **same id** and does not grow the
   table: duplicate names map to one id. -/
theorem file_ids_stable (p p1 : Prog) (name : LineStr) (dir : Nat) (info : Option FileInfo) (i : Nat)
    (h : addFile p name dir info = .ok (p1, i)) :
    (∃ f, p1.files[i]? = some f ∧ f.name = name ∧ f.dir = dir ∧ ∀ x, info = some x → f.info = x) ∧
    (∀ j f, p.files[j]? = some f →
      ∃ f', p1.files[j]? = some f' ∧ f'.name = f.name ∧ f'.dir = f.dir ∧ (j ≠ i → f' = f)) ∧
    (∀ info', ∃ p2, addFile p1 name dir info' = .ok (p2, i) ∧ p2.files.length = p1.files.length) :=
  addFile_stable p p1 name dir info i h

/-- **Different keys get different ids**: two successive `add_file` calls with different
`(name, directory)` keys never return the same id. -/
theorem file_ids_injective (p p1 p2 : Prog) (n1 n2 : LineStr) (d1 d2 : Nat) (i1 i2 : Option FileInfo)
    (i j : Nat) (h1 : addFile p n1 d1 i1 = .ok (p1, i)) (h2 : addFile p1 n2 d2 i2 = .ok (p2, j))
    (hne : ¬ (n1 = n2 ∧ d1 = d2)) : i ≠ j := by
  intro hij
  subst hij
  obtain ⟨⟨f, hf, hn, hd, _⟩, _, _⟩ := file_ids_stable p p1 n1 d1 i1 i h1
  obtain ⟨⟨g, hg, hn', hd', _⟩, hpres, _⟩ := file_ids_stable p1 p2 n2 d2 i2 i h2
  obtain ⟨f', hf', hfn, hfd, _⟩ := hpres i f hf
  rw [hg] at hf'
  cases hf'
  exact hne ⟨by rw [← hn, ← hfn, hn'], by rw [← hd, ← hfd, hd']⟩

/-- **Index base by version**: the raw file number written for id `i` (`FileId::raw`) is `i + 1`
for versions ≤ 4 and `i` for version 5, and that is exactly the number under which the reader's
`LineProgramHeader::file` (C04's `Header.file`) finds entry `i` of the file table — for every
header of version 2–5 (for versions ≤ 4 the raw number is never 0, so it never aliases the
compilation unit's own name). -/
theorem file_index_base (hd : Header) (i : Nat) :
    fileRaw hd.p.version i = (if hd.p.version ≤ 4 then i + 1 else i) ∧
    hd.file (fileRaw hd.p.version i) = hd.files[i]? := by
  constructor
  · rfl
  · unfold Header.file fileRaw
    by_cases hv : hd.p.version ≤ 4
    · simp [hv]
    · simp [hv]

/-- the initial `file` register: `FileId::initial_state` made raw is the DWARF default 1 for
every version 2–5 -/
theorem file_initial_raw (version : Nat) (hv : version ≤ 5) : fileRaw version (fileInitial version) = 1 := by
  unfold fileRaw fileInitial
  by_cases h5 : version = 5
  · subst h5; simp
  · have : version ≤ 4 := by omega
    simp [h5, this]

/-- a small encoding for the examples: version 4, line_base −5, line_range 14 -/
def enc4 : Enc :=
  { version := 4, minInstLen := 1, maxOps := 1, defaultIsStmt := true, lineBase := -5, lineRange := 14 }

def prog0 : Prog :=
  { format := .dwarf32, addrSize := 8, enc := enc4, dirs := [], files := [], hasTimestamp := false,
    hasSize := false, hasMd5 := false, hasSource := false, prevRow := WRow.initial enc4,
    row := WRow.initial enc4, instrs := [], inSequence := false }

/-- non-vacuity: "a" twice (the second time with an info) is one entry, "b" is another -/
example :
    (do let (p, i) ← addFile prog0 ⟨.string, [0x61]⟩ 0 none
        let (p, j) ← addFile p ⟨.string, [0x61]⟩ 0 (some FileInfo.default)
        let (p, k) ← addFile p ⟨.string, [0x62]⟩ 0 none
        pure (i, j, k, p.files.length) : Out (Nat × Nat × Nat × Nat)) = .ok (0, 0, 1, 2) := by
  decide +kernel

/-! ## instruction bytes -/

/-- **Every emitted instruction decodes back.** For every header a reader parses from the writer's
output (`opcode_base = 13`, address size 1/2/4/8, any version, either byte order), every
instruction the writer can hold whose operands fit its own field types (`WInstr.Encodable`: `u8`
special opcode ≥ 13, `u64` operands, `i64` line advance, a constant address), and any following
bytes `rest`: C04's `LineInstruction::parse` Model on the bytes `LineInstruction::write` emits
returns exactly that instruction (file ids made raw) and `rest` — incl. the extended-opcode
length prefixes of `end_sequence`, `set_address`, `set_discriminator` and the signed LEB128 operand
of `advance_line` (`Leb.signed_roundtrip`, proved in `Lemmas/Leb.lean`). -/
theorem instr_bytes_roundtrip (h : Params) (hh : WriterHeader h) (i : WInstr)
    (henc : i.Encodable h.version)
    (bs : Bytes) (hw : writeInstr h.endian h.version h.addrSize i = .ok bs) (rest : Bytes) :
    parseInstr h (bs ++ rest) = .ok (i.toInstr h.version, rest) := by
  obtain ⟨rfl, hok⟩ := writeInstr_encode h hh i henc bs hw
  exact parseInstr_encode h (by rw [hh.1]; decide) (by rw [hh.1]; decide) hh.2 _ hok rest

/-- the same for a whole program: `header.instructions()` on the written bytes is the instruction
list that was written, and running the reader on the bytes is running it on that list — so
`generate_row_correct` and `sequence_roundtrip` speak about the emitted **bytes** -/
theorem program_bytes_roundtrip (h : Params) (hh : WriterHeader h) (is : List WInstr)
    (henc : ∀ i ∈ is, i.Encodable h.version)
    (bs : Bytes) (hw : writeInstrs h.endian h.version h.addrSize is = .ok bs) :
    decodeAll h (bs.length + 1) bs = .ok (is.map (WInstr.toInstr h.version)) ∧
    trace h bs = traceInstrs h (Row.new h) false (is.map (WInstr.toInstr h.version)) := by
  have hd := writeInstrs_decodeAll h hh is henc bs hw (bs.length + 1) (Nat.lt_succ_self _)
  exact ⟨hd, trace_decodeAll h bs _ hd⟩

/-- concrete signed LEB128 round trips (instances of `Leb.signed_roundtrip`) -/
example : ∀ v ∈ [(0 : Int), 1, -1, 63, 64, -64, -65, 300, -300, 8191, 8192, -8192, -8193,
    2 ^ 62, -(2 ^ 62), 2 ^ 63 - 1, -(2 ^ 63)],
    Leb.signed (Leb.encodeS v ++ [0xaa, 0x01]) = .ok (v, [0xaa, 0x01]) := by decide +kernel

example : writeInstr .little 4 8 (.setAddress (some 0x1000)) = .ok [0, 9, 2, 0, 0x10, 0, 0, 0, 0, 0, 0] := by
  decide +kernel
example : writeInstr .little 4 8 (.setDiscriminator 300) = .ok [0, 3, 4, 0xac, 0x02] := by decide +kernel

/-! ## sequences: `set_address`, `end_sequence`, state reset -/

/-- `LineRow::initial_state` is the reader's `LineRow::new`, for every version 2–5 -/
theorem rowOf_initial (en : Endian) (format : Format) (addrSize : Nat) (e : Enc) (hv : e.version ≤ 5) :
    rowOf e.version 0 (WRow.initial e) = Row.new (readerParams en format addrSize e) := by
  simp [rowOf, WRow.initial, Row.new, readerParams, file_initial_raw e.version hv]

/-- **`set_address`** (at the start of a sequence or in the middle of one). For every program
state and every constant address `a` that is not below the address of the previous row (the
caller's documented obligation) and below the tombstone values of the address size: the writer
pushes one `DW_LNE_set_address(a)` and restarts the previous row's `address_offset`/`op_index` at 0;
the reader, executing it, is in the state that corresponds to that new previous row **with base
`a`** — so offsets of the following rows are relative to `a`. -/
theorem set_address_correct (en : Endian) (format : Format) (addrSize : Nat) (p : Prog) (base a : Nat)
    (inSeq : Bool) (rest : List Instr) (hlo : base + p.prevRow.addressOffset ≤ a) (hhi : a < minTombstone addrSize) :
    let p' := p.setAddress (some a)
    p'.instrs = p.instrs ++ [.setAddress (some a)] ∧
    p'.prevRow = { p.prevRow with addressOffset := 0, opIndex := 0 } ∧ p'.row = p.row ∧
    p'.inSequence = true ∧
    traceInstrs (readerParams en format addrSize p.enc) (rowOf p.enc.version base p.prevRow) inSeq
        ((WInstr.setAddress (some a)).toInstr p.enc.version :: rest) =
      traceInstrs (readerParams en format addrSize p.enc) (rowOf p.enc.version a p'.prevRow) inSeq rest := by
  refine ⟨rfl, rfl, rfl, rfl, ?_⟩
  rw [traceInstrs]
  have h1 : ¬ a < base + p.prevRow.addressOffset := by omega
  have h2 : ¬ a ≥ minTombstone addrSize := by omega
  simp [WInstr.toInstr, execute, rowOf, readerParams, Prog.setAddress, h1, h2]

/-- the operation pointer of `end_sequence(address_offset)` is a legal successor of the previous
row -/
def EndOk (e : Enc) (addrSize base : Nat) (prev row : WRow) (off : Nat) : Prop :=
  prev.addressOffset % e.minInstLen = 0 ∧ off % e.minInstLen = 0 ∧
  prev.opIndex < e.maxOps ∧ row.opIndex < e.maxOps ∧
  prev.addressOffset ≤ off ∧ (prev.addressOffset = off → prev.opIndex ≤ row.opIndex) ∧
  (off - prev.addressOffset) / e.minInstLen * e.maxOps + row.opIndex < 2 ^ 64 ∧
  base + off ≤ onesSized addrSize

/-- **`end_sequence`.** For every encoding with min_inst_len, max_ops ≥ 1, every previous row
and current row (only its `op_index` is used) and every end offset that is a legal successor
(`EndOk`): the writer pushes `advance_pc` (if the operation pointer moves) and
`DW_LNE_end_sequence`; the reader produces exactly one row, with `end_sequence` set, at address
`base + address_offset` and the current `op_index`, and is then back in its initial state —
like the writer, whose `prev_row` and `row` are reset to `LineRow::initial_state`. -/
theorem end_sequence_correct (m : Mode) (en : Endian) (format : Format) (addrSize : Nat) (e : Enc)
    (base : Nat) (prev row : WRow) (off : Nat)
    (hmin : 1 ≤ e.minInstLen) (hmax : 1 ≤ e.maxOps)
    (hasz : addrSize = 1 ∨ addrSize = 2 ∨ addrSize = 4 ∨ addrSize = 8)
    (hend : EndOk e addrSize base prev row off) :
    ∃ is, endSequence m e prev row off = .ok is ∧ ∀ (inSeq : Bool) (rest : List Instr),
      traceInstrs (readerParams en format addrSize e) (rowOf e.version base prev) inSeq
          (is.map (WInstr.toInstr e.version) ++ rest) =
        Ev.row { rowOf e.version base prev with address := base + off, opIndex := row.opIndex,
                                                endSequence := true } ::
          traceInstrs (readerParams en format addrSize e) (Row.new (readerParams en format addrSize e))
            false rest := by
  obtain ⟨hal1, hal2, hop1, hop2, hle, hsame, hfit, haddr⟩ := hend
  let h := readerParams en format addrSize e
  obtain ⟨oa, hoa, hsum, hadv⟩ := opAdvance_lands m e h base prev { row with addressOffset := off }
    (regsOf e.version base prev) rfl rfl rfl rfl hmin hmax hal1 hal2 hop1 hop2 hle hsame hfit
  -- `end_sequence` from the pointer the advance lands on
  have hfin : Runs h { regsOf e.version base prev with address := base + off, opIndex := row.opIndex }
      [Instr.endSequence]
      [{ regsOf e.version base prev with address := base + off, opIndex := row.opIndex, endSequence := true }]
      (Spec.Line.init h) :=
    .row trivial rfl (.nil _)
  have hrun : Runs h (regsOf e.version base prev)
      (((if oa ≠ 0 then [WInstr.advancePc oa] else []) ++ [WInstr.endSequence]).map (WInstr.toInstr e.version))
      [{ regsOf e.version base prev with address := base + off, opIndex := row.opIndex, endSequence := true }]
      (Spec.Line.init h) := by
    rw [List.map_append]
    by_cases hz : oa = 0
    · -- the operation pointer does not move: `hadv` says the end row is where the previous row was
      rw [if_neg (by simpa using hz)]
      rw [hz, advance_zero h _ hop1] at hadv
      exact hadv ▸ hfin
    · rw [if_pos hz]
      exact runs_append (.quiet (i := .advancePc oa) ⟨hsum, by rw [hadv]; exact lt_pow_of_le_ones haddr⟩ rfl (.nil _))
        (hadv ▸ hfin)
  refine ⟨_, by unfold endSequence; rw [hoa]; rfl, fun inSeq rest => ?_⟩
  rw [← toRow_regsOf, runs_trace (show h.addrSize ≤ 8 by show addrSize ≤ 8; omega) hrun hop1 inSeq rest]
  rfl

/-- `Prog.endSequence` resets the writer's rows to the initial state and leaves the sequence -/
theorem end_sequence_resets (m : Mode) (p p' : Prog) (off : Nat) (h : p.endSequence m off = .ok p') :
    p'.prevRow = WRow.initial p.enc ∧ p'.row = WRow.initial p.enc ∧ p'.inSequence = false ∧
    ∃ is, WLine.endSequence m p.enc p.prevRow p.row off = .ok is ∧ p'.instrs = p.instrs ++ is := by
  obtain ⟨is, hes, rfl⟩ := Prog.endSequence_ok.mp h
  exact ⟨rfl, rfl, rfl, is, hes, rfl⟩

/-- `*program.row() = r; program.generate_row();` for each row of a list -/
def genRows (m : Mode) : Prog → List WRow → Out Prog
  | p, [] => .ok p
  | p, r :: rs => do
    let p ← ({ p with row := r } : Prog).generateRow m
    genRows m p rs

/-- every row is a legal successor of the one before it -/
def ChainOk (e : Enc) (addrSize base : Nat) : WRow → List WRow → Prop
  | _, [] => True
  | prev, r :: rs => StepOk e addrSize base prev r ∧ ChainOk e addrSize base r.cleared rs

/-- the writer's `prev_row` after a list of rows -/
def lastRow : WRow → List WRow → WRow
  | prev, [] => prev
  | _, r :: rs => lastRow r.cleared rs

theorem genRows_correct (m : Mode) (en : Endian) (format : Format) (addrSize : Nat) (base : Nat)
    (hasz : addrSize = 1 ∨ addrSize = 2 ∨ addrSize = 4 ∨ addrSize = 8) :
    ∀ (rows : List WRow) (p : Prog), EncOk p.enc → p.prevRow.cleared = p.prevRow →
      ChainOk p.enc addrSize base p.prevRow rows →
      ∃ p' is, genRows m p rows = .ok p' ∧ p'.instrs = p.instrs ++ is ∧ p'.enc = p.enc ∧
        p'.prevRow = lastRow p.prevRow rows ∧ (rows ≠ [] → p'.row = p'.prevRow) ∧
        (rows = [] → p'.row = p.row) ∧ p'.prevRow.cleared = p'.prevRow ∧
        ∀ (inSeq : Bool) (rest : List Instr),
        traceInstrs (readerParams en format addrSize p.enc) (rowOf p.enc.version base p.prevRow) inSeq
            (is.map (WInstr.toInstr p.enc.version) ++ rest) =
          rows.map (fun r => Ev.row (rowOf p.enc.version base r)) ++
            traceInstrs (readerParams en format addrSize p.enc)
              (rowOf p.enc.version base (lastRow p.prevRow rows)) (inSeq || !rows.isEmpty) rest := by
  intro rows
  induction rows with
  | nil =>
    intro p _ hcl _
    exact ⟨p, [], rfl, by simp, rfl, rfl, fun h => absurd rfl h, fun _ => rfl, hcl,
      fun inSeq rest => by simp [lastRow]⟩
  | cons r rs ih =>
    intro p henc hcl hchain
    obtain ⟨hstep, hrest⟩ := hchain
    obtain ⟨is1, hg, htr⟩ := generate_row_correct m en format addrSize p.enc base p.prevRow r
      henc hasz hcl hstep
    let p1 : Prog := { p with inSequence := true, instrs := p.instrs ++ is1, prevRow := r.cleared, row := r.cleared }
    have hp1 : ({ p with row := r } : Prog).generateRow m = .ok p1 := Prog.generateRow_eq_ok hg
    obtain ⟨p', is2, hg2, hins, henc2, hprev, hrow, _, hcl2, htr2⟩ :=
      ih p1 henc (cleared_cleared r) hrest
    refine ⟨p', is1 ++ is2, ?_, ?_, henc2, hprev, fun _ => ?_, fun h => (List.cons_ne_nil _ _ h).elim, hcl2, ?_⟩
    · rw [genRows]
      simp only [hp1, Out.bind_ok]
      exact hg2
    · rw [hins]; simp [p1]
    · by_cases hrs : rs = []
      · subst hrs
        simp only [genRows, Out.ok.injEq] at hg2
        subst hg2
        rfl
      · exact hrow hrs
    · intro inSeq rest
      simp only [List.map_append, List.append_assoc, List.map_cons, List.cons_append]
      rw [htr]
      congr 1
      have h2 := htr2 true rest
      rw [Bool.true_or] at h2
      have e : (inSeq || !(r :: rs).isEmpty) = true := by simp
      rw [e]
      exact h2


/-- `set_address(a); (row() = r; generate_row())*; end_sequence(off)` -/
def writeSequence (m : Mode) (p : Prog) (a : Nat) (rows : List WRow) (off : Nat) : Out Prog := do
  let p ← genRows m (p.setAddress (some a)) rows
  p.endSequence m off

/-- **A whole sequence reads back.** For every encoding accepted by `EncOk`, version ≤ 5, address
size 1/2/4/8, both build modes; a program between sequences (`prev_row = row = initial state`, as
`new` and `end_sequence` leave it); every start address below the tombstone values; every list of
rows each of which is a legal successor of the one before (`ChainOk`, offsets relative to the
start address) and every legal end offset (`EndOk`):
`set_address`, the `generate_row` calls and `end_sequence` succeed, append instructions `is`, put
the writer back into the between-sequences state, and the reader — started in its own initial
state (whatever `in_sequence` flag `LineRows` carries) — executing `is` returns **exactly the requested rows, in order, then one `end_sequence`
row at `a + off`, and is back in its initial state** for whatever follows (`rest`): the next
sequence starts from a clean slate on both sides. -/
theorem sequence_roundtrip (m : Mode) (en : Endian) (format : Format) (addrSize : Nat) (p : Prog)
    (a : Nat) (rows : List WRow) (off : Nat)
    (henc : EncOk p.enc) (hv : p.enc.version ≤ 5)
    (hasz : addrSize = 1 ∨ addrSize = 2 ∨ addrSize = 4 ∨ addrSize = 8)
    (hprev : p.prevRow = WRow.initial p.enc) (hrow : p.row = WRow.initial p.enc)
    (ha : a < minTombstone addrSize)
    (hchain : ChainOk p.enc addrSize a (WRow.initial p.enc) rows)
    (hend : EndOk p.enc addrSize a (lastRow (WRow.initial p.enc) rows)
      (lastRow (WRow.initial p.enc) rows) off) :
    let h := readerParams en format addrSize p.enc
    let last := lastRow (WRow.initial p.enc) rows
    ∃ p' is, writeSequence m p a rows off = .ok p' ∧ p'.instrs = p.instrs ++ is ∧
      p'.prevRow = WRow.initial p.enc ∧ p'.row = WRow.initial p.enc ∧ p'.inSequence = false ∧
      ∀ (inSeq : Bool) (rest : List Instr),
      traceInstrs h (Row.new h) inSeq (is.map (WInstr.toInstr p.enc.version) ++ rest) =
        rows.map (fun r => Ev.row (rowOf p.enc.version a r)) ++
          Ev.row { rowOf p.enc.version a last with address := a + off, opIndex := last.opIndex,
                                                   endSequence := true } ::
            traceInstrs h (Row.new h) false rest := by
  intro h last
  let p1 := p.setAddress (some a)
  have hp1prev : p1.prevRow = WRow.initial p.enc := by
    show ({ p.prevRow with addressOffset := 0, opIndex := 0 } : WRow) = _
    rw [hprev]; rfl
  obtain ⟨p2, is2, hg, hins2, henc2, hprev2, hrow2, hrow2', hcl2, htr2⟩ :=
    genRows_correct m en format addrSize a hasz rows p1 henc
      (by rw [hp1prev]; rfl) (by rw [hp1prev]; exact hchain)
  have hp2prev : p2.prevRow = last := by rw [hprev2, hp1prev]
  have hp2row : p2.row = last := by
    by_cases hr : rows = []
    · rw [hrow2' hr]
      show p.row = last
      rw [hrow]
      show _ = lastRow (WRow.initial p.enc) rows
      rw [hr]; rfl
    · rw [hrow2 hr, hp2prev]
  have hp2enc : p2.enc = p.enc := henc2
  obtain ⟨is3, hes, htr3⟩ := end_sequence_correct m en format addrSize p.enc a last last off
    henc.2.2.2.2.1 henc.2.2.2.2.2 hasz hend
  let p3 : Prog := { p2 with inSequence := false, instrs := p2.instrs ++ is3,
                             prevRow := WRow.initial p2.enc, row := WRow.initial p2.enc }
  have hp3 : p2.endSequence m off = .ok p3 :=
    Prog.endSequence_ok.mpr ⟨is3, by rw [hp2prev, hp2row, hp2enc]; exact hes, rfl⟩
  refine ⟨p3, [.setAddress (some a)] ++ is2 ++ is3, ?_, ?_, ?_, ?_, rfl, ?_⟩
  · show (genRows m p1 rows >>= fun p => p.endSequence m off) = _
    rw [hg]
    exact hp3
  · show p2.instrs ++ is3 = _
    rw [hins2]
    show (p.instrs ++ [WInstr.setAddress (some a)]) ++ is2 ++ is3 = _
    simp
  · show WRow.initial p2.enc = _; rw [hp2enc]
  · show WRow.initial p2.enc = _; rw [hp2enc]
  · intro inSeq rest
    obtain ⟨_, _, _, _, hs5⟩ := set_address_correct en format addrSize p 0 a inSeq
      ((is2 ++ is3).map (WInstr.toInstr p.enc.version) ++ rest)
      (by rw [hprev]; simp [WRow.initial]) ha
    have h0 : Row.new h = rowOf p.enc.version 0 p.prevRow := by
      rw [hprev]; exact (rowOf_initial en format addrSize p.enc hv).symm
    rw [h0]
    simp only [List.map_append, List.append_assoc, List.map_cons, List.cons_append,
      List.nil_append] at hs5 ⊢
    rw [hs5]
    refine (htr2 inSeq (is3.map (WInstr.toInstr p.enc.version) ++ rest)).trans ?_
    rw [hp1prev, ← h0]
    exact congrArg _ (htr3 _ rest)


/-! ## the unit header, versions 2–4 -/

/-- **A written version 2–4 header parses back** (version 5: `header_written_parses_v5`; all
versions from the success of `write`: `header_written_parses`). For every program whose
parameters a reader accepts (`EncReadable`: byte-sized non-zero min_inst_len / max_ops /
line_range, `max_ops = 1` before version 4), whose include directories (all but the working
directory, which is not emitted) and file names are non-empty inline strings without NUL, whose
file fields fit `u64`, and for which the three fallible writer steps succeed (instruction
serialisation, `header_length`, `unit_length`): `LineProgram::write` returns exactly
`unit_length ++ version ++ header_length ++ parameters ++ tables ++ instructions`, and C04's
`LineProgramHeader::parse` on those bytes returns the writer's parameters, the include
directories in order, **the file table entry for entry (name, directory index, timestamp, size)**,
and the instruction bytes as the program. -/
theorem header_written_parses_v4 (en : Endian) (m : Mode) (p : Prog) (uver : Nat) (tabs : Tabs)
    (cd cn : Option Bytes) (prog hl il : Bytes)
    (he : EncReadable p.enc)
    (hds : ∀ d ∈ p.dirs.drop 1, InlineOk d) (hfs : ∀ f ∈ p.files, InlineOk f.name ∧ FileFits f)
    (hprog : writeInstrs en p.enc.version p.addrSize p.instrs = .ok prog)
    (hhl : Ints.writeUdata en
      (headerBodyV4 p.enc (dirBytes (p.dirs.drop 1) ++ 0 :: (fileBytes p.files ++ [0]))).length
      p.format.wordSize = .ok hl)
    (hil : Ints.writeInitialLength en p.format
      (Ints.toBytes en 2 p.enc.version ++ hl ++
        headerBodyV4 p.enc (dirBytes (p.dirs.drop 1) ++ 0 :: (fileBytes p.files ++ [0])) ++ prog).length = .ok il)
    (hsmall : (Ints.toBytes en 2 p.enc.version ++ hl ++
        headerBodyV4 p.enc (dirBytes (p.dirs.drop 1) ++ 0 :: (fileBytes p.files ++ [0])) ++ prog).length < 2 ^ 64) :
    ∃ bytes ul hdl, p.write en m uver p.addrSize tabs = .ok (bytes, tabs) ∧
      parseHeader en p.addrSize cd cn bytes =
        .ok { p := readerParams en p.format p.addrSize p.enc, unitLength := ul, headerLength := hdl,
              dirFormat := [], dirs := (p.dirs.drop 1).map (fun d => AttrVal.string d.val),
              fileFormat := [], files := p.files.map FileEnt.toEntry, program := prog, compDir := cd,
              compFile := cn.map fun n => { path := .string n, dirIndex := 0, timestamp := 0, size := 0,
                                             md5 := List.replicate 16 0, source := none } } := by
  obtain ⟨hv2, hv4, _, _, _, _, hv3, _⟩ := id he
  exact ⟨_, _, _, (write_v4_ok hv2 hv4 (fun h => hv3 (by omega)) hds (fun f hf => (hfs f hf).1)).mpr
    ⟨rfl, hl, prog, il, hhl, hprog, hil, rfl⟩,
    parseHeader_v4_layout en p.format p.addrSize cd cn p.enc he _ _ prog il hl hds hfs hhl hil hsmall⟩

/-! ## the unit header, version 5 -/

/-- **A written version 5 header parses back.** For every version 5 program whose parameters a
reader accepts (`EncReadable5`: byte-sized non-zero min_inst_len / max_ops / line_range, line_base
in `i8`; address size 1/2/4/8), whose inline strings have no NUL and whose file fields fit (`u64`
directory index / timestamp / size, a 16-byte MD5 — `FileOk5`), whatever the string forms
(**inline `DW_FORM_string`, `DW_FORM_line_strp`, `DW_FORM_strp`** for directories, file names and
sources, the directory table in the form of directory 0, the file names in the form of file 0, the
sources in the form of the first source), whichever of the optional fields the program carries
(**`file_has_timestamp`, `file_has_size`, `file_has_md5`, `file_has_source`**: 16 entry formats),
files with and without a source (a missing source is written as the empty string, which `write`
adds to the string table: `tabs'` extends `tabs`): **if `LineProgram::write` succeeds**, its output
is exactly the §6.2.4 encoding (`Spec.Line.encodeHeaderV5`) of the abstract header `headerV5Of` —
directory_entry_format `(DW_LNCT_path, form)`, one field per directory; file_name_entry_format
`path, directory_index[, timestamp][, size][, MD5][, LLVM_source]`, the fields of every file in
that order — followed by the serialised instructions, and **C04's `LineProgramHeader::parse`
(`header_roundtrip_v5`) returns**: the writer's parameters and address size, both entry formats,
**every directory including directory 0** (inline, or the offset the string table `tabs'` gives
its content),
**the file table entry for entry** (`FileEnt.toEntry5`: path, directory index, and timestamp /
size / MD5 / source where the format announces them, the reader's defaults where not), and the
instruction bytes as the program; `comp_dir` / `comp_name` are not used. Side conditions that
always hold in the code: the string sections and the unit are smaller than 2^64 bytes
(`TabsSmall`, `hsmall`), fewer than 2^64 directories and files. -/
theorem header_written_parses_v5 (en : Endian) (m : Mode) (p : Prog) (uver asz : Nat) (tabs tabs' : Tabs)
    (cd cn : Option Bytes) (bytes : Bytes)
    (he : EncReadable5 p.enc) (hasz : p.addrSize = 1 ∨ p.addrSize = 2 ∨ p.addrSize = 4 ∨ p.addrSize = 8)
    (hds : ∀ d ∈ p.dirs, NulFree d) (hfs : ∀ f ∈ p.files, FileOk5 f) (hsm : TabsSmall tabs')
    (hcount : p.dirs.length < 2 ^ 64 ∧ p.files.length < 2 ^ 64) (hsmall : bytes.length < 2 ^ 64)
    (hw : p.write en m uver p.addrSize tabs = .ok (bytes, tabs')) :
    Tabs.le tabs tabs' ∧
    ∃ prog ul hdl, writeInstrs en 5 p.addrSize p.instrs = .ok prog ∧
      encodeHeaderV5 (headerV5Of en p tabs' prog) = .ok bytes ∧
      parseHeader en asz cd cn bytes =
        .ok { p := readerParams en p.format p.addrSize p.enc, unitLength := ul, headerLength := hdl,
              dirFormat := [(1, (dirFormOf p).code)], dirs := p.dirs.map (attrOf tabs'),
              fileFormat := fileFormatOf p (fileFormOf p) (firstSourceForm p.files),
              files := p.files.map (FileEnt.toEntry5 p tabs' (firstSourceForm p.files)),
              program := prog, compDir := none, compFile := none } := by
  obtain ⟨prog, hprog, henc, hwf, hle⟩ := write_v5_layout en m p uver p.addrSize tabs tabs' bytes he hasz hds hfs hsm
    hcount hsmall hw
  refine ⟨hle, prog, (encodeBodyV5 (headerV5Of en p tabs' prog)).length,
    (encodeFieldsV5 (headerV5Of en p tabs' prog)).length, hprog, henc, ?_⟩
  have := Gimli.Props.C04.header_roundtrip_v5 (headerV5Of en p tabs' prog) hwf asz cd cn bytes [] henc
  rw [List.append_nil, headerV5Of_expected en p tabs' prog (fun f hf => (hfs f hf).2.2.1)] at this
  exact this

/-! ## the unit header, every version -/

/-- the header a reader gets from a written program: versions 2–4 (directory 0 and file 0 are the
caller's `comp_dir` / `comp_name`, the tables are inline strings) and version 5 (the tables carry
entry formats and directory 0; strings are inline or offsets into `tabs'`) -/
def writtenHeader (en : Endian) (p : Prog) (tabs' : Tabs) (prog : Bytes) (ul hdl : Nat) (cd cn : Option Bytes) :
    Header :=
  if p.enc.version ≤ 4 then
    { p := readerParams en p.format p.addrSize p.enc, unitLength := ul, headerLength := hdl,
      dirFormat := [], dirs := (p.dirs.drop 1).map (fun d => AttrVal.string d.val),
      fileFormat := [], files := p.files.map FileEnt.toEntry, program := prog, compDir := cd,
      compFile := cn.map fun n => { path := .string n, dirIndex := 0, timestamp := 0, size := 0,
                                     md5 := List.replicate 16 0, source := none } }
  else
    { p := readerParams en p.format p.addrSize p.enc, unitLength := ul, headerLength := hdl,
      dirFormat := [(1, (dirFormOf p).code)], dirs := p.dirs.map (attrOf tabs'),
      fileFormat := fileFormatOf p (fileFormOf p) (firstSourceForm p.files),
      files := p.files.map (FileEnt.toEntry5 p tabs' (firstSourceForm p.files)),
      program := prog, compDir := none, compFile := none }

/-- what `header_written_parses` asks of the program, per version: the hypotheses of
`header_written_parses_v4` / `header_written_parses_v5` -/
def WriteReadable (p : Prog) : Prop :=
  (p.enc.version ≤ 4 → EncReadable p.enc ∧ (∀ d ∈ p.dirs.drop 1, InlineOk d) ∧
    ∀ f ∈ p.files, InlineOk f.name ∧ FileFits f) ∧
  (5 ≤ p.enc.version → EncReadable5 p.enc ∧ (p.addrSize = 1 ∨ p.addrSize = 2 ∨ p.addrSize = 4 ∨ p.addrSize = 8) ∧
    (∀ d ∈ p.dirs, NulFree d) ∧ (∀ f ∈ p.files, FileOk5 f) ∧ p.dirs.length < 2 ^ 64 ∧ p.files.length < 2 ^ 64)

/-- **A written header parses back — versions 2, 3, 4 and 5.** For every program that is
`WriteReadable` (parameters a reader accepts; versions ≤ 4: non-empty NUL-free inline strings;
version 5: any mix of inline / `line_strp` / `strp` strings, any of the optional timestamp / size /
MD5 / source fields), both byte orders and formats, both build modes: **if `LineProgram::write`
returns `bytes`, then the instructions serialise to some `prog` and C04's
`LineProgramHeader::parse` on `bytes` returns `writtenHeader`** — the writer's parameters, the
directories in order, the file table entry for entry, and `prog` as the program. (Versions 2–4
also in the forward direction — `write` succeeds when its three fallible steps do —:
`header_written_parses_v4`; version 5 with the §6.2.4 encoding spelled out:
`header_written_parses_v5`.) -/
theorem header_written_parses (en : Endian) (m : Mode) (p : Prog) (uver : Nat) (tabs tabs' : Tabs)
    (cd cn : Option Bytes) (bytes : Bytes)
    (hr : WriteReadable p) (hsm : TabsSmall tabs') (hsmall : bytes.length < 2 ^ 64)
    (hw : p.write en m uver p.addrSize tabs = .ok (bytes, tabs')) :
    ∃ prog ul hdl, writeInstrs en p.enc.version p.addrSize p.instrs = .ok prog ∧
      parseHeader en p.addrSize cd cn bytes = .ok (writtenHeader en p tabs' prog ul hdl cd cn) := by
  by_cases hv4 : p.enc.version ≤ 4
  · obtain ⟨he, hds, hfs⟩ := hr.1 hv4
    obtain ⟨hv2, _, _, _, _, _, hv3, _⟩ := id he
    obtain ⟨rfl, hl, prog, il, hhl, hprog, hil, rfl⟩ :=
      (write_v4_ok hv2 hv4 (fun h => hv3 (by omega)) hds (fun f hf => (hfs f hf).1)).mp hw
    refine ⟨prog, ?_, ?_, hprog, (parseHeader_v4_layout en p.format p.addrSize cd cn p.enc he _ _ prog il hl hds hfs
      hhl hil (by rw [List.length_append] at hsmall; exact Nat.lt_of_le_of_lt (Nat.le_add_left _ _) hsmall)).trans ?_⟩
    rotate_left 2
    rw [writtenHeader, if_pos hv4]
    rfl
  · obtain ⟨he, hasz, hds, hfs, hc1, hc2⟩ := hr.2 (by omega)
    obtain ⟨_, prog, ul, hdl, hprog, _, hparse⟩ := header_written_parses_v5 en m p uver p.addrSize tabs tabs' cd cn
      bytes he hasz hds hfs hsm ⟨hc1, hc2⟩ hsmall hw
    refine ⟨prog, ul, hdl, by rw [he.1]; exact hprog, ?_⟩
    rw [hparse]
    simp [writtenHeader, hv4]

/-! ## non-vacuity: the hypotheses are satisfiable, and every opcode choice occurs -/

instance decChainOk (e : Enc) (addrSize base : Nat) : (prev : WRow) → (rows : List WRow) →
    Decidable (ChainOk e addrSize base prev rows)
  | _, [] => isTrue trivial
  | prev, r :: rs => by
    unfold ChainOk
    have := decChainOk e addrSize base r.cleared rs
    infer_instance

instance (e : Enc) (a b : Nat) (p r : WRow) (off : Nat) : Decidable (EndOk e a b p r off) := by
  unfold EndOk; infer_instance

/-- VLIW: min_inst_len 4, max_ops 3, version 5 -/
def encV : Enc :=
  { version := 5, minInstLen := 4, maxOps := 3, defaultIsStmt := false, lineBase := -3, lineRange := 12 }

def w0 : WRow := WRow.initial enc4

example : EncOk enc4 ∧ EncOk encV := by decide +kernel
example : EncOk enc255 := by decide +kernel

/-- the four shapes of `generate_row`'s output for (−5, 14): special opcode alone; `const_add_pc` +
special; `advance_pc` + special carrying the line; `advance_line` + `advance_pc` + `copy` -/
example : generateRow .debug enc4 w0 { w0 with addressOffset := 3, line := 4 } =
    .ok ([.special 63], { w0 with addressOffset := 3, line := 4 }) := by decide +kernel
example : generateRow .debug enc4 w0 { w0 with addressOffset := 20, line := 2 } =
    .ok ([.constAddPc, .special 61], { w0 with addressOffset := 20, line := 2 }) := by decide +kernel
example : generateRow .debug enc4 w0 { w0 with addressOffset := 100, line := 2 } =
    .ok ([.advancePc 100, .special 19], { w0 with addressOffset := 100, line := 2 }) := by decide +kernel
example : generateRow .release enc4 w0 { w0 with addressOffset := 100, line := 200, column := 7,
                                                  discriminator := 3, isStmt := false } =
    .ok ([.setDiscriminator 3, .negateStatement, .setColumn 7, .advanceLine 199, .advancePc 100, .copy],
         { w0 with addressOffset := 100, line := 200, column := 7, isStmt := false }) := by decide +kernel
example : StepOk enc4 8 0x1000 w0 { w0 with addressOffset := 100, line := 200 } := by decide +kernel
example : StepOk encV 4 0x1000 { WRow.initial encV with addressOffset := 8, opIndex := 2 }
    { WRow.initial encV with addressOffset := 12, opIndex := 0, line := 7 } := by decide +kernel
/-- VLIW: from (8, op 2) to (12, op 0) is an operation advance of 1 -/
example : generateRow .debug encV { WRow.initial encV with addressOffset := 8, opIndex := 2 }
    { WRow.initial encV with addressOffset := 12, opIndex := 0, line := 3 } =
    .ok ([.special 30], { WRow.initial encV with addressOffset := 12, opIndex := 0, line := 3 }) := by decide +kernel

/-- a two-row sequence satisfies the hypotheses of `sequence_roundtrip`, and this is what it is -/
def rowsEx : List WRow :=
  [{ w0 with line := 5 }, { w0 with addressOffset := 40, line := 3, column := 2, basicBlock := true }]

example : ChainOk enc4 8 0x1000 (WRow.initial enc4) rowsEx := by decide +kernel
example : EndOk enc4 8 0x1000 (lastRow (WRow.initial enc4) rowsEx) (lastRow (WRow.initial enc4) rowsEx) 48 := by
  decide +kernel
example : (writeSequence .debug prog0 0x1000 rowsEx 48).map (·.instrs) =
    .ok [.setAddress (some 0x1000), .special 22, .setBasicBlock, .setColumn 2, .advancePc 40, .special 16,
         .advancePc 8, .endSequence] := by decide +kernel

/-- a version 4 program with a working directory (not emitted), one include directory and two files -/
def progEx : Prog :=
  { prog0 with
    dirs := [⟨.string, [0x2f, 0x77]⟩, ⟨.string, [0x73]⟩],
    files := [{ name := ⟨.string, [0x61]⟩, dir := 1, info := { FileInfo.default with timestamp := 7, size := 300 } },
              { name := ⟨.string, [0x62]⟩, dir := 0, info := FileInfo.default }],
    instrs := [.setAddress (some 0x1000), .special 22, .advancePc 8, .endSequence] }

instance (e : Enc) : Decidable (EncReadable e) := by unfold EncReadable; infer_instance

example : EncReadable progEx.enc := by decide +kernel
/-- what the reader gets from the written header of `progEx` -/
def progExReadBack : Option Header :=
  match progEx.write .little .debug 4 8 { lineStrings := [], strings := [] } with
  | .ok (bytes, _) =>
    match parseHeader .little 8 none none bytes with
    | .ok hd => some hd
    | _ => none
  | _ => none

example : progExReadBack.map (·.p) = some (readerParams .little .dwarf32 8 enc4) := by decide +kernel
example : progExReadBack.map (·.dirs) = some [.string [0x73]] := by decide +kernel
example : progExReadBack.map (fun hd => hd.files.map (fun f => (f.path, f.dirIndex, f.timestamp, f.size))) =
    some [(.string [0x61], 1, 7, 300), (.string [0x62], 0, 0, 0)] := by decide +kernel
example : progExReadBack.map (·.program) =
    some [0, 9, 2, 0, 0x10, 0, 0, 0, 0, 0, 0, 22, 2, 8, 0, 1, 1] := by decide +kernel

/-- a version 5 program: directories as `DW_FORM_line_strp`, file names inline, MD5 and source
fields; the first file has a `DW_FORM_strp` source, the second none (written as the empty string,
which `write` adds to `.debug_str`) -/
def progEx5 : Prog :=
  { prog0 with
    enc := { enc4 with version := 5 }, hasMd5 := true, hasSource := true,
    dirs := [⟨.lineStrp, [0x2f, 0x77]⟩, ⟨.lineStrp, [0x73]⟩],
    files := [{ name := ⟨.string, [0x61]⟩, dir := 1,
                info := { timestamp := 7, size := 300, md5 := List.replicate 16 0xab, source := some ⟨.strp, [0x78]⟩ } },
              { name := ⟨.string, [0x62]⟩, dir := 0, info := FileInfo.default }],
    instrs := [.setAddress (some 0x1000), .special 22, .advancePc 8, .endSequence] }

def tabsEx5 : Tabs := { lineStrings := [[0x2f, 0x77], [0x73]], strings := [[0x78]] }

instance (s : LineStr) : Decidable (InlineOk s) := by unfold InlineOk; infer_instance
instance (f : FileEnt) : Decidable (FileFits f) := by unfold FileFits; infer_instance
instance (p : Prog) : Decidable (WriteReadable p) := by
  unfold WriteReadable; infer_instance

example : WriteReadable progEx5 := by decide +kernel
/-- what the reader gets from the written header of `progEx5`, and the string tables afterwards -/
def progEx5ReadBack : Option (Header × Tabs) :=
  match progEx5.write .little .debug 5 8 tabsEx5 with
  | .ok (bytes, tabs') =>
    match parseHeader .little 4 none none bytes with
    | .ok hd => some (hd, tabs')
    | _ => none
  | _ => none

example : progEx5ReadBack.map (·.2) = some { lineStrings := [[0x2f, 0x77], [0x73]], strings := [[0x78], []] } := by
  decide +kernel
example : progEx5ReadBack.map (·.1.p) = some (readerParams .little .dwarf32 8 { enc4 with version := 5 }) := by decide +kernel
example : progEx5ReadBack.map (fun x => (x.1.dirFormat, x.1.dirs)) =
    some ([(1, 0x1f)], [.lineStrp 0, .lineStrp 3]) := by decide +kernel
example : progEx5ReadBack.map (fun x => x.1.fileFormat) = some [(1, 0x08), (2, 0x0f), (5, 0x1e), (0x2001, 0x0e)] := by
  decide +kernel
example : progEx5ReadBack.map (fun x => x.1.files.map (fun f => (f.path, f.dirIndex, f.timestamp))) =
    some [(.string [0x61], 1, 0), (.string [0x62], 0, 0)] := by decide +kernel
example : progEx5ReadBack.map (fun x => x.1.files.map (fun f => (f.md5.head?, f.source))) =
    some [(some 0xab, some (.strp 0)), (some 0, some (.strp 2))] := by decide +kernel
end Gimli.Props.C13
