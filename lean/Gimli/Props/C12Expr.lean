import Gimli.Lemmas.ConvOp
import Gimli.Lemmas.ConvOpDecoded
import Gimli.Lemmas.WOpExpr
/-!
# C12, expression component — `write::Expression::from` preserves every operation or fails

About `Model/ConvOp.lean` (the Model of `Expression::from`, tied to the code by the `c12-expr`
correspondence), C07's decoder (`Op.parse`, `Op.iterAll`) on the input side and C15's writer Model
(`WOp.image`, `WOp.exprWrite`, `Props.C15.expr_decode_emit`, `branch_lands`) on the output side.
`ConvOp.mapOp` (`Spec/ConvOp.lean`) says what "the same operation" means.

Assumptions about the abstract environment are exactly `ConvOp.EnvSpec` (the writer has an output
offset `u o` for the entry `unitRef o` returns; `convert_address` yields constants; `.debug_addr`
look-ups yield `addrx`).
-/
namespace Gimli.Props.C12
open Gimli Gimli.ConvOp
open Gimli.Op (Encoding)

/-- **(a) A converted operation is the same operation.** For every decoded input operation `r`
other than a branch: whenever its conversion succeeds with the writer operation `w`, what the
reader decodes from `w` once written (`WOp.image`, by C15 `op_decode_emit`) is `mapOp … r`: `r`
itself with unit references mapped to the output offset of the same DIE, section references to the
fixed-up value, the `entry_value` body to the converted body, addresses through
`convert_address`/`.debug_addr` — every other operand unchanged (`deref_size` of the address size
is `deref`, i.e. the identical reader operation; typed and sized forms are kept). Otherwise the
conversion is an error: there is no third outcome. -/
theorem convert_op_image (env : Env) (enc : Encoding) (offs : Nat → Option Nat) (u addr addrx : Nat → Nat)
    (hE : EnvSpec env offs u addr addrx) (offsets : List Nat) (endOff : Nat)
    (sub : Bytes → CR (List WOp.Operation)) (r : Op.Operation) (w : WOp.Operation)
    (hnb : isBranch r = false) (h : convertOp env enc offsets endOff sub r = .ok w)
    (disp : Int) (body : Bytes) (refv : Nat) :
    WOp.image enc offs disp body refv w = some (mapOp u addr addrx refv body r) := by
  -- a reference resolved through the environment is mapped as `EnvSpec` says
  have hunit : ∀ {o id} {f : Nat → Op.Operation}, env.unitRef o = .ok id → (offs id).map f = some (f (u o)) :=
    fun hu => by rw [hE.unit _ _ hu]; rfl
  cases convertOp_converts env enc offsets endOff sub r w h with
  | simple hs => rw [mapOp_simple hs]; exact hs
  | branch | skip => cases hnb
  | derefType hbt hu => exact (hunit hu).trans (by simp [mapOp, mapBase, hbt])
  | registerType hbt hu => exact (hunit hu).trans (by simp [mapOp, mapBase, hbt])
  | convert hbt hu => exact (hunit hu).trans (by simp [mapOp, mapBase, hbt])
  | reinterpret hbt hu => exact (hunit hu).trans (by simp [mapOp, mapBase, hbt])
  | call hu | parameterRef hu | typedLiteral hu => exact hunit hu
  | address ha => cases hE.address _ _ ha; rfl
  | addressIndex hf hv ha => cases hE.address _ _ ha; cases hE.index _ _ _ hf hv; rfl
  | constantIndex hf hv => cases hE.index _ _ _ hf hv; rfl
  -- every other rule copies the operands, which `mapOp` leaves alone
  | _ => rfl

/-- **(b) A converted branch designates the operation at the input target.** `DW_OP_skip`/`bra`
with displacement `d`, decoded with its end at `endOff`, converts to the writer branch to index `k`
exactly when entry `k` of the input offsets vector is the (wrapped) input target offset
`endOff + d`, and `k` is the first such entry (the only one: `input_offsets_increasing`)… -/
theorem convert_branch_target (env : Env) (enc : Encoding) (offsets : List Nat) (endOff : Nat)
    (sub : Bytes → CR (List WOp.Operation)) (d : Int) (w : WOp.Operation) :
    (convertOp env enc offsets endOff sub (.skip d) = .ok w →
      ∃ k, w = .skip k ∧ offsets[k]? = some (wrapOff endOff d) ∧ ∀ j, j < k → offsets[j]? ≠ some (wrapOff endOff d)) ∧
    (convertOp env enc offsets endOff sub (.bra d) = .ok w →
      ∃ k, w = .branch k ∧ offsets[k]? = some (wrapOff endOff d) ∧ ∀ j, j < k → offsets[j]? ≠ some (wrapOff endOff d)) := by
  constructor <;> intro h <;>
    simp only [convertOp, Except.bind_eq_ok_iff, pure, Except.pure, Except.ok.injEq] at h <;>
    obtain ⟨k, hk, rfl⟩ := h <;>
    exact ⟨k, rfl, branchIndex_ok offsets endOff d k hk⟩

/-- … and a target that is not the start of an operation (the middle of one, before the start,
past the end) is `InvalidBranchTarget`, never a retargeted branch. -/
theorem convert_branch_invalid (env : Env) (enc : Encoding) (offsets : List Nat) (endOff : Nat)
    (sub : Bytes → CR (List WOp.Operation)) (d : Int) (hno : wrapOff endOff d ∉ offsets) :
    convertOp env enc offsets endOff sub (.skip d) = .error .invalidBranchTarget ∧
    convertOp env enc offsets endOff sub (.bra d) = .error .invalidBranchTarget := by
  have hb : branchIndex offsets endOff d = .error .invalidBranchTarget := by
    cases hbi : branchIndex offsets endOff d with
    | ok k =>
      have := (branchIndex_ok offsets endOff d k hbi).1
      exact absurd (List.mem_of_getElem? this) hno
    | error x => rw [(branchIndex_err offsets endOff d x hbi).1]
  constructor <;> simp [convertOp, hb, bind, Except.bind]

/-- the wrapped target offset is the mathematical one whenever that is not negative, and a
negative one wraps above 2^63 — beyond any offset of an expression that fits in memory -/
theorem branch_target_math (endOff : Nat) (d : Int) (he : endOff < 2 ^ 63) (hd : -(2:Int) ^ 63 ≤ d ∧ d < 2 ^ 63) :
    (0 ≤ (endOff : Int) + d → (wrapOff endOff d : Int) = endOff + d) ∧
    ((endOff : Int) + d < 0 → 2 ^ 63 ≤ wrapOff endOff d) := by
  have h := wrapOff_cast endOff d
  refine ⟨fun ht => by rw [h, Int.emod_eq_of_lt ht (by omega)], fun ht => ?_⟩
  rw [← Int.add_emod_right, Int.emod_eq_of_lt (by omega) (by omega)] at h
  omega

/-- the end offsets `OperationIter` reports — hence the offsets vector of the first pass — are
strictly increasing, the last one is the length: `binary_search` finds at most one index -/
theorem input_offsets_increasing (e : Endian) (enc : Encoding) (bs : Bytes) (ops : List (Op.Operation × Nat))
    (h : Op.iterAll e enc bs.length (bs.length + 1) bs = (ops, none)) :
    (ops.map (·.2)).Pairwise (· < ·) ∧ (∀ p ∈ ops, 0 < p.2 ∧ p.2 ≤ bs.length) ∧
      (ops ≠ [] → (ops.map (·.2)).getLast? = some bs.length) := by
  obtain ⟨h1, h2, h3, _⟩ := iterAll_ends e enc bs.length (bs.length + 1) bs ops (Nat.le_refl _) (Nat.lt_succ_self _) h
  exact ⟨h1, fun p hp => ⟨by have := (h2 p hp).1; omega, (h2 p hp).2⟩, h3⟩

/-- every operand C07's decoder yields is in the range of its Rust type — for every opcode byte -/
theorem decoded_in_range (e : Endian) (enc : Encoding) (bs : Bytes) (op : Op.Operation) (rest : Bytes)
    (h : Op.parse e enc bs = .ok (op, rest)) : RWf enc op :=
  (parse_post e enc bs op rest h).1

/-- and conversion carries them to the writer's operand ranges (`WOp.OpWf`), given an environment
that hands out `u64` addresses -/
theorem converted_in_range (env : Env) (henv : EnvRanges env) (e : Endian) (enc : Encoding) (bs : Bytes)
    (ws : List WOp.Operation) (h : convert env e enc bs = .ok ws) : ∀ w ∈ ws, WOp.OpWf w :=
  convertNested_wf env henv e enc maxEntryValueDepth bs ws h

/-- (c) for any offsets function of the writer, or none (`uo = none`: CFI expressions) -/
theorem convert_expr_decode_opt (env : Env) (henv : EnvRanges env) (e : Endian) (enc : Encoding) (bs : Bytes)
    (ws : List WOp.Operation) (hconv : convert env e enc bs = .ok ws)
    (uo : WOp.UnitOffs) (hasRefs : Bool) (pos : Nat) (out : Bytes) (fx : List WOp.Fixup)
    (hw : WOp.exprWrite e enc uo hasRefs pos ws = .ok (out, fx))
    (hoffs : ∀ offs, uo = some offs → ∀ en o, offs en = some o → o < 2 ^ 64)
    (hlen : out.length < 2 ^ 64) (fuel : Nat) (hfuel : ws.length ≤ fuel) :
    ∃ ins offsOut,
      Op.iterAll e enc bs.length (bs.length + 1) bs = (ins, none) ∧
      AllPairs (fun p w => convertOp env enc (inputOffsets ins bs.length) p.2
        (subAt env e enc maxEntryValueDepth) p.1 = .ok w) ins ws ∧
      WOp.exprOffsets enc uo ws pos = .ok offsOut ∧
      Op.iterAll e enc out.length fuel out =
        (WOp.expectedDecode e enc uo hasRefs offsOut pos 0 ws, none) := by
  have hwf := converted_in_range env henv e enc bs ws hconv
  obtain ⟨ins, hI, hconv⟩ := convertNested_ok hconv
  obtain ⟨offsOut, ho, hw⟩ := Out.bind_eq_ok hw
  have hd := WOp.iterAll_emit e enc uo hasRefs offsOut hoffs
    ws pos out fx out.length fuel hw hwf (Nat.le_refl _) hlen hfuel
  rw [Nat.sub_self] at hd
  exact ⟨ins, offsOut, hI, convertList_allPairs env enc _ _ ins ws hconv, ho, hd⟩

/-- **(c) Whole expressions.** If the conversion of `bs` succeeds with the writer operations `ws`
and writing them succeeds with the bytes `out`, then: the input decoded without error into
operations `ins`; `ws` is, position by position, the conversion of `ins` (so by (a) every
non-branch operation of the output is `mapOp` of the input operation at the same position, and by
(b) every branch designates the operation at the input target); and decoding `out` yields exactly
the images of `ws`, as many as were converted, with operation boundaries at the writer's offsets
vector (C15 `expr_decode_emit`; with C15 `branch_lands` each converted branch lands on the start of
the operation it designates). The only assumptions: the environment hands out `u64` addresses
(`EnvRanges`), output entry offsets and the output length fit `u64`. -/
theorem convert_expr_decode (env : Env) (henv : EnvRanges env) (e : Endian) (enc : Encoding) (bs : Bytes)
    (ws : List WOp.Operation) (hconv : convert env e enc bs = .ok ws)
    (offs : Nat → Option Nat) (hasRefs : Bool) (pos : Nat) (out : Bytes) (fx : List WOp.Fixup)
    (hw : WOp.exprWrite e enc (some offs) hasRefs pos ws = .ok (out, fx))
    (hoffs : ∀ en o, offs en = some o → o < 2 ^ 64)
    (hlen : out.length < 2 ^ 64) (fuel : Nat) (hfuel : ws.length ≤ fuel) :
    ∃ ins offsOut,
      Op.iterAll e enc bs.length (bs.length + 1) bs = (ins, none) ∧
      AllPairs (fun p w => convertOp env enc (inputOffsets ins bs.length) p.2
        (subAt env e enc maxEntryValueDepth) p.1 = .ok w) ins ws ∧
      WOp.exprOffsets enc (some offs) ws pos = .ok offsOut ∧
      Op.iterAll e enc out.length fuel out =
        (WOp.expectedDecode e enc (some offs) hasRefs offsOut pos 0 ws, none) :=
  convert_expr_decode_opt env henv e enc bs ws hconv (some offs) hasRefs pos out fx hw
    (fun _ hf en o ho => by cases hf; exact hoffs en o ho) hlen fuel hfuel

/-- at every level: what is converted with `left` more levels allowed nests at most `left` deep -/
theorem converted_nesting_bounded (env : Env) (e : Endian) (enc : Encoding) (left : Nat) (bs : Bytes)
    (ws : List WOp.Operation) (h : convertNested env e enc left bs = .ok ws) : exprDepth ws ≤ left := by
  induction left generalizing bs ws with
  | zero =>
    obtain ⟨ins, -, h⟩ := convertNested_ok h
    exact convertList_depth env enc _ refuseNested 0 (fun x ws h => by cases h) _ ws h
  | succ left ih =>
    obtain ⟨ins, -, h⟩ := convertNested_ok h
    exact convertList_depth env enc _ _ (left + 1) (fun x ws' h' => Nat.succ_le_succ (ih x ws' h')) _ ws h

/-- **(d) Totality, with the native recursion bounded.** `Expression::from` as modelled is a total
function — the recursion into `DW_OP_entry_value` is structural on the number of nesting levels
still allowed (64 at the top), so no input needs more than 65 nested calls — and for every byte
string it returns either a `ConvertError`, or converted operations that nest `entry_value` at most
64 deep (so the writer's own recursion in `size`/`write` is bounded as well). The bound is the
`fix:` for finding C12-E1. -/
theorem convert_expr_total (env : Env) (e : Endian) (enc : Encoding) (bs : Bytes) :
    (∃ c, convert env e enc bs = .error c) ∨
      (∃ ws, convert env e enc bs = .ok ws ∧ exprDepth ws ≤ maxEntryValueDepth) := by
  cases h : convert env e enc bs with
  | error c => exact Or.inl ⟨c, rfl⟩
  | ok ws => exact Or.inr ⟨ws, rfl, converted_nesting_bounded env e enc maxEntryValueDepth bs ws h⟩

/-- **the 65th nested `entry_value` is refused**: with no level left, an `entry_value` operation is
`UnsupportedOperation` — before its sub-expression is looked at (whatever it contains) -/
theorem entry_value_depth_refused (env : Env) (enc : Encoding) (offsets : List Nat) (endOff : Nat) (x : Bytes) :
    convertOp env enc offsets endOff refuseNested (.entryValue x) = .error .unsupportedOperation := by
  simp [convertOp, refuseNested, bind, Except.bind]

/-- the bytes of a decoded `entry_value` are strictly shorter than the expression they are in -/
theorem entry_value_shorter (e : Endian) (enc : Encoding) (bs : Bytes) (p : Op.Operation × Nat) (x : Bytes)
    (hp : p ∈ (Op.iterAll e enc bs.length (bs.length + 1) bs).1) (hx : p.1 = .entryValue x) :
    x.length < bs.length := by
  obtain ⟨sfx, rest, hl, hpar⟩ := iterAll_mem e enc bs.length (bs.length + 1) bs p hp
  have := (parse_post e enc sfx p.1 rest hpar).2 x hx
  omega

/-! ## non-vacuity -/

private def demoEnv : Env where
  unitRef o := if o = 14 ∨ o = 19 then .ok o else .error .invalidUnitRef
  infoRef o := if o = 14 then .ok (.entry 0 o) else .error .invalidDebugInfoRef
  convAddr a := if a = 0xdead then none else some (.constant a)
  addrIndex := none

-- const1u 5; bra -3 (from offset 5, the end of the bra, back to offset 2, the bra itself: operation 1); deref_size 8; GNU_deref_type 4, base 14
example : convert demoEnv .little ⟨8, .dwarf32, 4⟩ [0x08, 0x05, 0x28, 0xfd, 0xff, 0x94, 0x08, 0xf6, 0x04, 0x0e] =
    .ok [.unsignedConstant 5, .branch 1, .deref false, .derefType false 4 14] := by rfl
-- a branch into the middle of `const1u 5`
example : convert demoEnv .little ⟨8, .dwarf32, 4⟩ [0x08, 0x05, 0x2f, 0xfc, 0xff] = .error .invalidBranchTarget := by rfl
-- a dangling base type
example : convert demoEnv .little ⟨8, .dwarf32, 4⟩ [0xf7, 0x0f] = .error .invalidUnitRef := by rfl
-- three nested `entry_value`s convert to an expression of depth 3
private def nest : Nat → Bytes → Bytes
  | 0, x => x
  | n + 1, x => nest n (0xf3 :: UInt8.ofNat x.length :: x)
example : (convert demoEnv .little ⟨8, .dwarf32, 4⟩ (nest 3 [0x50])).toOption.map exprDepth = some 3 := by rfl

end Gimli.Props.C12
