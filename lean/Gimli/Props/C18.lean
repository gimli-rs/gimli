import Gimli.Lemmas.RelocWrite
import Gimli.Lemmas.RelocReadSim
import Gimli.Model.Utf8
/-!
# C18 — Relocation is transparent on both the reading and the writing side

Property theorems only; they are about the definitions of `Gimli/Model/Reloc.lean` (and, for the
reading side, of `Gimli/Model/Reader.lean`), which the driver executes and the correspondence
check (`harness/src/prop/c18.rs`) ties to `src/write/relocate.rs`, `src/write/writer.rs`,
`src/write/endian_vec.rs`, `src/read/relocate.rs`.
-/
namespace Gimli.Props.C18
open Gimli Gimli.Wr

/-! ## (1) writing -/

/-- **Writing through the recording writer and then applying the recorded relocations gives the
bytes that writing directly gives** — for every sequence of `Writer` calls (plain data, LEB128,
positioned writes, `write_address`, `write_offset`, `write_offset_at`, `write_eh_pointer`, constant
and symbolic addresses, every size and pointer encoding), every byte order and every assignment
`env` of addresses to symbols and sections:
if the recording writer accepts the sequence, producing bytes `b0` and relocations `ρ`, then
applying `ρ` to `b0` succeeds with bytes `b` **iff** writing directly (resolving symbols and
section bases on the spot; with constant addresses and zero bases this is the plain `EndianVec`)
succeeds with the same `b`.

Hypothesis `NoClobber`: no positioned *plain* write (`write_at`, `write_udata_at`) lands on a field
that already carries a relocation — otherwise the relocation would overwrite the later data
(gimli's writers use positioned plain writes only for lengths and plain placeholders;
`write_offset_at` itself may overwrite anything, including relocated fields). -/
theorem reloc_write_transparent (env : Env) (e : Endian) (calls : List Call) (b0 : Bytes)
    (ρ : List Reloc) (hnc : NoClobber e ([], []) calls) (hr : runR e ([], []) calls = .ok (b0, ρ))
    (b : Bytes) : applyW env e ρ b0 = .ok b ↔ runD env e [] calls = .ok b := by
  exact (runR_inv calls _ _ (Inv.init env e) hnc _ hr).eq b

/-- … and the recorded relocations all lie inside the section that was written -/
theorem reloc_write_in_bounds (e : Endian) (calls : List Call) (b0 : Bytes) (ρ : List Reloc)
    (hnc : NoClobber e ([], []) calls) (hr : runR e ([], []) calls = .ok (b0, ρ)) :
    ∀ r ∈ ρ, r.off + r.size ≤ b0.length := by
  exact (runR_inv calls _ _ (Inv.init ⟨fun _ => 0, fun _ => 0⟩ e) hnc _ hr).bounds

/-- **The recording writer accepts whatever direct writing accepts**, with a section of the same
length — except symbolic `.eh_frame` pointers whose encoding has no fixed size (LEB128) or is
unknown (`SymSized`), which `RelocateWriter::write_eh_pointer` refuses. Together with
`reloc_write_transparent`: for such call sequences without clobbering, direct writing succeeds
with `b` iff recording succeeds and applying the recorded relocations gives `b`. -/
theorem reloc_write_complete (env : Env) (e : Endian) (calls : List Call) (b : Bytes)
    (hd : runD env e [] calls = .ok b) (hs : ∀ c ∈ calls, SymSized c) :
    ∃ b0 ρ, runR e ([], []) calls = .ok (b0, ρ) ∧ b0.length = b.length := by
  obtain ⟨st', h1, h2⟩ := runR_of_runD calls [] b ([], []) rfl hd hs
  exact ⟨st'.1, st'.2, h1, h2⟩

/-! ## (2) reading -/

open Gimli.Rd Gimli.Rr in
/-- **Reading through the relocating reader gives what reading the pre-relocated section gives.**
For every parser `P` — a program over the required `Reader` methods and
`read_address`/`read_offset`/`read_sized_offset`, branching arbitrarily on what they return; every
other `Reader` method and so every gimli parser is such a program — every section `b`, byte
order, build mode, UTF-8 predicate, and every relocation set `ρ` (offset, size, addend):
if the entries of `ρ` are non-empty and pairwise disjoint (`separated`), applying them to `b`
succeeds with `b'` (every field inside the section, every relocated value fits its field), and
along the run of `P` every relocated field is only ever read by a relocatable primitive with
exactly its size (`compat`: no plain read, `find`, or string/slice conversion touches a relocated
byte; a relocatable read covers exactly one entry or none), then running `P` on
`RelocateReader(b, ρ)` and on the plain reader over `b'` gives the same result. -/
theorem reloc_read_transparent {α : Type} (m : Mode) (e : Endian) (valid : Bytes → Bool)
    (lossy : Bytes → Bytes) (ρ : List RRel) (b b' : Bytes) (P : Prog α)
    (hsep : separated ρ = true) (happ : applyR e ρ b = .ok b')
    (hc : compat ρ m e valid lossy P (St.init (RCur.new (Cur.ofSec b))) = true) :
    run (relocImpl sharedImpl (relOf ρ)) m e valid lossy P (St.init (RCur.new (Cur.ofSec b))) =
      run sharedImpl m e valid lossy P (St.init (Cur.ofSec b')) := by
  have hf := Facts.of_apply ((separated_iff ρ).mp hsep) happ
  exact run_transparent hf m valid lossy P _ _ (StRel.init (RR.init hf)) hc

open Gimli.Rd Gimli.Rr in
/-- the relocation function is consulted with the field's section offset and its raw value; it
answers with the value the linker would have stored there -/
theorem reloc_read_value (e : Endian) (ρ : List RRel) (b b' : Bytes) (hsep : separated ρ = true)
    (happ : applyR e ρ b = .ok b') (r : RRel) (hr : r ∈ ρ) (h8 : r.size ≤ 8) :
    (relOf ρ).addr r.off (Ints.fromBytes e (ext b r.off r.size)) =
      .ok (Ints.fromBytes e (ext b' r.off r.size)) :=
  (Facts.of_apply ((separated_iff ρ).mp hsep) happ).relFun_value hr h8

/-! ## non-vacuity -/

open Gimli.Rd Gimli.Rr in
/-- a parser that reads two plain bytes, a relocated 4-byte address, a plain byte, a relocated
2-byte offset, and the rest as a slice: hypotheses hold, both runs give the same observations -/
example :
    let b : Bytes := [1, 2, 3, 4, 5, 6, 7, 8, 9, 10]
    let ρ : List RRel := [⟨2, 4, 16⟩, ⟨7, 2, -1⟩]
    let P := Prog.ofList [.readSlice 0 2, .addr 0 4, .readSlice 0 1, .sizedOff 0 2, .toSlice 0] []
    separated ρ = true ∧ applyR .little ρ b = .ok [1, 2, 19, 4, 5, 6, 7, 7, 9, 10] ∧
    compat ρ .debug .little Utf8.valid Utf8.lossy P (St.init (RCur.new (Cur.ofSec b))) = true ∧
    (run (relocImpl sharedImpl (relOf ρ)) .debug .little Utf8.valid Utf8.lossy P
        (St.init (RCur.new (Cur.ofSec b)))).isOk = true := by
  decide +kernel

/-- the unit test of `src/write/relocate.rs`, extended by a `write_offset_at` over a placeholder
and a pc-relative symbolic pointer: recorded, applied, and equal to direct writing -/
example :
    let calls : List Call :=
      [.udata 0x12345678 4, .address (.const 0x87654321) 4, .address (.sym 1 0x12345678) 4,
       .offset 0x12345678 2 4, .udata 1 4, .offsetAt 16 7 1 4, .ehPointer (.const 100) 27 8,
       .ehPointer (.sym 0 4) 27 8, .udataAt 0 9 2]
    let env : Env := ⟨fun i => [4096, 8192].getD i 0, fun i => [0, 0, 16].getD i 0⟩
    NoClobber .little ([], []) calls ∧
    (∃ b0 ρ b, runR .little ([], []) calls = .ok (b0, ρ) ∧ ρ.length = 4 ∧
      applyW env .little ρ b0 = .ok b ∧ runD env .little [] calls = .ok b) := by
  refine ⟨by decide +kernel, _, _, _, rfl, rfl, rfl, ?_⟩
  decide +kernel

/-- without `NoClobber` the statement is false: a plain positioned write over a relocated field -/
example :
    let calls : List Call := [.offset 5 0 4, .writeAt 0 [1, 2, 3, 4]]
    let env : Env := ⟨fun _ => 0, fun _ => 0⟩
    ¬ NoClobber .little ([], []) calls ∧
    runD env .little [] calls = .ok [1, 2, 3, 4] ∧
    (∃ b0 ρ, runR .little ([], []) calls = .ok (b0, ρ) ∧ applyW env .little ρ b0 = .ok [5, 0, 0, 0]) := by
  refine ⟨by decide +kernel, by decide +kernel, _, _, rfl, by decide +kernel⟩

end Gimli.Props.C18
