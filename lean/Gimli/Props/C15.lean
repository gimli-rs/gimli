import Gimli.Lemmas.WOpExpr
import Gimli.Lemmas.WOpEval
import Gimli.Lemmas.WOpRun
/-!
# C15 — Written expressions decode to the same operations, branches and references

The property theorems (lemmas: `Gimli/Lemmas/WOp{,Decode,Expr,Eval,Run}.lean`). They are about the
writer Model `Gimli/Model/WOp.lean` (`opSize`, `opWrite`, `exprSize`, `exprOffsets`, `exprWrite`,
the length-prefix writers, `applyFixups`), the reader Model of C07 (`Gimli.Op.parse`,
`Gimli.Op.iterAll` = `OperationIter`) and C07's evaluator (`Gimli.Eval.computePc`,
`Gimli.Eval.evaluateOneOperation`, `Gimli.Eval.run`) and, for `eval_same`, the as-built evaluator of
`Gimli/Spec/BuiltEval.lean`.  The correspondence run (`harness/src/prop/c15.rs` against
`lean/Gimli/Drv/C15.lean`) ties the writer Model to `src/write/op.rs` byte for byte; C07's run ties
the reader Model to `src/read/op.rs`.

Quantifiers: every operation / every list of operations (any length, any nesting of
`entry_value`), every encoding (address size, format, version — also ones DWARF does not have),
both byte orders, every offsets function (`none` = no offset yet), every output position, every
`refs` flag. Hypotheses are the Rust operand types (`OpWf`: `u64`, `i64`, `Register(u16)`, `u8`,
`u32`), "entry offsets and the emitted length fit `u64`", and nothing else. (A `piece` of 2^61 bytes
or more — whose size in bits the reader cannot represent — is a write error, the `fix:` for
finding C15-1: `piece_too_large_rejected`.)
-/
namespace Gimli.Props.C15
open Gimli Gimli.WOp
open Gimli.Op (Encoding)
open Gimli.Eval (Config Mach)

/-! ## 1. the predicted size is the emitted length -/

/-- **`Operation::size` = bytes emitted by `Operation::write`**, for every operation variant,
encoding, byte order, offsets function, `refs`, offsets vector and position: whenever the write
succeeds, the size computation succeeds as well and predicts exactly the emitted length.
(The choice between `lit`/`constu`, `reg`/`regx`, `breg`/`bregx`, `dup`/`over`/`pick`, the
DWARF 2 reference size of `implicit_pointer`, and a nested `entry_value` with its ULEB128 length are
all covered: the two `match`es of `op.rs` agree arm by arm.) -/
theorem op_size_eq_emit (e : Endian) (enc : Encoding) (uo : UnitOffs) (hasRefs : Bool)
    (op : Operation) (offsets : List Nat) (pos : Nat) (bs : Bytes) (fx : List Fixup)
    (h : opWrite e enc uo hasRefs offsets pos op = .ok (bs, fx)) :
    opSize enc uo op = .ok bs.length :=
  opWrite_length e enc uo hasRefs op offsets pos bs fx h

/-- the same for the loop over the operations of an expression, with any offsets vector -/
theorem ops_size_eq_emit (e : Endian) (enc : Encoding) (uo : UnitOffs) (hasRefs : Bool)
    (ops : List Operation) (offsets : List Nat) (pos : Nat) (bs : Bytes) (fx : List Fixup)
    (h : exprWriteOps e enc uo hasRefs offsets pos ops = .ok (bs, fx)) :
    exprSize enc uo ops = .ok bs.length :=
  exprWriteOps_length e enc uo hasRefs ops offsets pos bs fx h

/-- **`Expression::size` = bytes emitted by `Expression::write`.** -/
theorem expr_size_eq_emit (e : Endian) (enc : Encoding) (uo : UnitOffs) (hasRefs : Bool)
    (ops : List Operation) (pos : Nat) (bs : Bytes) (fx : List Fixup)
    (h : exprWrite e enc uo hasRefs pos ops = .ok (bs, fx)) :
    exprSize enc uo ops = .ok bs.length := by
  obtain ⟨offs, -, hw⟩ := Out.bind_eq_ok h
  exact exprWriteOps_length e enc uo hasRefs ops offs pos bs fx hw

/-- **The offsets vector is exact** (so the two `debug_assert_eq!(w.len(), offset)` of
`Expression::write` can never fire): split the expression anywhere; the operations before the split
emitted `b1`, and entry `|pre|` of the offsets vector is exactly where they ended. With `suf = []`
this is "the last entry is the end of the expression". -/
theorem expr_offsets_consistent (e : Endian) (enc : Encoding) (uo : UnitOffs) (hasRefs : Bool)
    (pre suf : List Operation) (pos : Nat) (bs : Bytes) (fx : List Fixup) (offs : List Nat)
    (ho : exprOffsets enc uo (pre ++ suf) pos = .ok offs)
    (hw : exprWriteOps e enc uo hasRefs offs pos (pre ++ suf) = .ok (bs, fx)) :
    ∃ b1 f1 b2 f2, exprWriteOps e enc uo hasRefs offs pos pre = .ok (b1, f1) ∧
      exprWriteOps e enc uo hasRefs offs (pos + b1.length) suf = .ok (b2, f2) ∧
      bs = b1 ++ b2 ∧ fx = f1 ++ f2 ∧ offs[pre.length]? = some (pos + b1.length) :=
  exprWrite_at_offsets e enc uo hasRefs pre suf pos bs fx offs ho hw

/-- **Length prefix of `DW_FORM_exprloc` / `DW_FORM_block`** (`AttributeValue::Exprloc`): the
ULEB128 written from `size()` decodes to exactly the number of expression bytes that follow. -/
theorem exprloc_prefix_eq_emit (e : Endian) (enc : Encoding) (uo : UnitOffs) (pos : Nat)
    (ops : List Operation) (bs : Bytes) (fx : List Fixup)
    (h : writeExprloc e enc uo pos ops = .ok (bs, fx)) (hL : bs.length < 2 ^ 64) :
    ∃ body, exprWrite e enc uo true (pos + (Leb.encodeU body.length).length) ops = .ok (body, fx) ∧
      bs = Leb.encodeU body.length ++ body ∧
      ∀ rest, Leb.unsigned (bs ++ rest) = .ok (body.length, body ++ rest) := by
  obtain ⟨_, body, hpre, hw, rfl⟩ :=
    exprWrite_prefixed e enc uo true (fun n => .ok (Leb.encodeU n)) pos ops bs fx h
  cases hpre
  refine ⟨body, hw, rfl, fun rest => ?_⟩
  rw [List.append_assoc]
  exact Leb.unsigned_roundtrip _ (by simp at hL; omega) _

/-- **Length prefix in location lists** (`loc.rs` `write_expression`): `u16` up to DWARF 4 (an
expression of 65536 bytes or more is `ValueTooLarge`, not truncated), ULEB128 in DWARF 5. -/
theorem loc_prefix_eq_emit (e : Endian) (enc : Encoding) (uo : UnitOffs) (pos : Nat)
    (ops : List Operation) (bs : Bytes) (fx : List Fixup)
    (h : writeLocExpr e enc uo pos ops = .ok (bs, fx)) (hL : bs.length < 2 ^ 64) :
    ∃ pre body, exprWrite e enc uo true (pos + pre.length) ops = .ok (body, fx) ∧ bs = pre ++ body ∧
      ∀ rest,
        (if enc.version ≤ 4 then Op.rdU e 2 (bs ++ rest) else Leb.unsigned (bs ++ rest)) =
          .ok (body.length, body ++ rest) := by
  obtain ⟨pre, body, hpre, hw, rfl⟩ := exprWrite_prefixed e enc uo true (locPrefix e enc) pos ops bs fx h
  refine ⟨pre, body, hw, rfl, fun rest => ?_⟩
  have h64 : body.length < 2 ^ 64 := by simp at hL; omega
  rw [List.append_assoc]
  unfold locPrefix at hpre
  split at hpre <;> rename_i hv
  · rw [if_pos hv]; exact Ints.reads_udata hpre h64 _
  · cases hpre
    rw [if_neg hv]; exact Leb.unsigned_roundtrip _ h64 _

/-- **Length prefix of the CFI expression instructions.** -/
theorem cfi_prefix_eq_emit (e : Endian) (enc : Encoding) (pos : Nat)
    (ops : List Operation) (bs : Bytes) (fx : List Fixup)
    (h : writeCfiExpr e enc pos ops = .ok (bs, fx)) (hL : bs.length < 2 ^ 64) :
    ∃ body, exprWrite e enc none false (pos + (Leb.encodeU body.length).length) ops = .ok (body, fx) ∧
      bs = Leb.encodeU body.length ++ body ∧
      ∀ rest, Leb.unsigned (bs ++ rest) = .ok (body.length, body ++ rest) := by
  obtain ⟨_, body, hpre, hw, rfl⟩ :=
    exprWrite_prefixed e enc none false (fun n => .ok (Leb.encodeU n)) pos ops bs fx h
  cases hpre
  refine ⟨body, hw, rfl, fun rest => ?_⟩
  rw [List.append_assoc]
  exact Leb.unsigned_roundtrip _ (by simp at hL; omega) _

/-! ## 2. decoding the emitted bytes gives the operation as built -/

/-- **One operation.** Whatever follows (`rest`), the C07 reader Model applied to the emitted bytes
returns the reader-side image of the operation (`opImage`: `lit`/`constu` → `UnsignedConstant`,
`reg`/`regx` → `Register`, `breg`/`bregx` → `RegisterOffset`, `dup`/`over`/`pick` → `Pick`,
`DW_OP_*` and `DW_OP_GNU_*` forms alike, typed operations with the *unit offset of the intended
entry*, branches with the displacement `offsets[target] - (pos + 3)`, `entry_value` with the bytes
its sub-expression emitted, section references with the still-zero field) and consumes exactly the
emitted bytes. -/
theorem op_decode_emit (e : Endian) (enc : Encoding) (uo : UnitOffs) (hasRefs : Bool)
    (op : Operation) (offsets : List Nat) (pos : Nat) (bs : Bytes) (fx : List Fixup) (rest : Bytes)
    (hoffs : ∀ offs, uo = some offs → ∀ en o, offs en = some o → o < 2 ^ 64)
    (hlen : bs.length < 2 ^ 64)
    (hw : opWrite e enc uo hasRefs offsets pos op = .ok (bs, fx)) (hwf : OpWf op) :
    ∃ img, opImage e enc uo hasRefs offsets pos op = some img ∧
      Op.parse e enc (bs ++ rest) = .ok (img, rest) :=
  opWrite_decode e enc uo hasRefs op offsets pos bs fx rest hoffs hlen hw hwf

/-- **A piece whose size in bits does not fit `u64` is refused** (`ValueTooLarge`, nothing is
written) instead of being emitted as bytecode the reader rejects with `InvalidPiece` — the `fix:`
for finding C15-1. Together with `op_decode_emit` (which needs no bound on pieces): every
`op_piece` either decodes to the piece as built or is a write error. -/
theorem piece_too_large_rejected (e : Endian) (enc : Encoding) (uo : UnitOffs) (hasRefs : Bool)
    (offsets : List Nat) (pos n : Nat) (hn : 2 ^ 61 ≤ n) :
    opWrite e enc uo hasRefs offsets pos (.piece n) = .err .wValueTooLarge :=
  (opWrite_piece e enc uo hasRefs offsets pos n).trans (if_pos hn)

/-- and every smaller piece is written (2 to 10 bytes) -/
theorem piece_written (e : Endian) (enc : Encoding) (uo : UnitOffs) (hasRefs : Bool)
    (offsets : List Nat) (pos n : Nat) (hn : n < 2 ^ 61) :
    opWrite e enc uo hasRefs offsets pos (.piece n) = .ok (0x93 :: Leb.encodeU n, []) :=
  (opWrite_piece e enc uo hasRefs offsets pos n).trans (if_neg (Nat.not_le.mpr hn))

/-- **A whole expression.** `OperationIter` (`Op.iterAll`) over the bytes `Expression::write`
emitted yields, in order, exactly the images of the operations as built — as many as were built, no
error, nothing left over — and the i-th one ends at the writer's predicted offset of operation
i+1 (so decoded operation boundaries = entries of the offsets vector). Sub-expressions of
`entry_value` are covered by applying the theorem to the body (it holds at every position). -/
theorem expr_decode_emit (e : Endian) (enc : Encoding) (uo : UnitOffs) (hasRefs : Bool)
    (ops : List Operation) (pos : Nat) (bs : Bytes) (fx : List Fixup) (fuel : Nat)
    (hoffs : ∀ f, uo = some f → ∀ en o, f en = some o → o < 2 ^ 64)
    (hlen : bs.length < 2 ^ 64) (hfuel : ops.length ≤ fuel)
    (hw : exprWrite e enc uo hasRefs pos ops = .ok (bs, fx)) (hwf : ∀ op ∈ ops, OpWf op) :
    ∃ offs, exprOffsets enc uo ops pos = .ok offs ∧
      Op.iterAll e enc bs.length fuel bs = (expectedDecode e enc uo hasRefs offs pos 0 ops, none) := by
  obtain ⟨offs, ho, hw⟩ := Out.bind_eq_ok hw
  refine ⟨offs, ho, ?_⟩
  have := iterAll_emit e enc uo hasRefs offs hoffs ops pos bs fx bs.length fuel hw hwf (Nat.le_refl _) hlen hfuel
  simpa using this

/-! ## 3. branches -/

/-- **Every `skip`/`bra` lands on the intended operation.** Let an expression `pre ++ op :: suf`
with `op` a branch to operation index `t` be written successfully. Then `t` is within `[0, len]`;
at the offset where `pre` ends the reader decodes the branch with some displacement `d`; and the
evaluator's `compute_pc`, applied to the reader position after the branch, the whole bytecode and
`d`, yields exactly the bytes that operation `t` and its successors emitted (`btail`; empty when
`t = len`: a branch to the end) — forward or backward alike. -/
theorem branch_lands (e : Endian) (enc : Encoding) (uo : UnitOffs) (hasRefs : Bool)
    (pre suf : List Operation) (op : Operation) (t : Nat) (hb : isBranchTo op t)
    (pos : Nat) (bs : Bytes) (fx : List Fixup) (hL : bs.length < 2 ^ 64)
    (hw : exprWrite e enc uo hasRefs pos (pre ++ op :: suf) = .ok (bs, fx)) :
    t ≤ (pre ++ op :: suf).length ∧
    ∃ (offs : List Nat) (b1 : Bytes) (f1 : List Fixup) (d : Int) (after : Bytes) (bt : Bytes)
      (ft : List Fixup) (btail : Bytes) (ftail : List Fixup),
      exprOffsets enc uo (pre ++ op :: suf) pos = .ok offs ∧
      exprWriteOps e enc uo hasRefs offs pos pre = .ok (b1, f1) ∧
      Op.parse e enc (bs.drop b1.length) = .ok (branchImage op d, after) ∧
      exprWriteOps e enc uo hasRefs offs pos ((pre ++ op :: suf).take t) = .ok (bt, ft) ∧
      exprWriteOps e enc uo hasRefs offs (pos + bt.length) ((pre ++ op :: suf).drop t) = .ok (btail, ftail) ∧
      bs = bt ++ btail ∧
      Eval.computePc after bs d = .ok btail :=
  branch_lands_aux e enc uo hasRefs pre suf op t hb pos bs fx hL hw

/-- **… else the write fails with `ValueTooLarge`**: a displacement outside `i16` is never
truncated. (`tt` is the offsets-vector entry of the target, `pos` where the branch starts.) -/
theorem branch_too_far_rejected (e : Endian) (enc : Encoding) (uo : UnitOffs) (hasRefs : Bool)
    (op : Operation) (t : Nat) (hb : isBranchTo op t) (offs : List Nat) (pos tt : Nat)
    (hg : offs[t]? = some tt)
    (hfar : (tt : Int) - ((pos : Int) + 3) < -(2:Int)^15 ∨ (2:Int)^15 ≤ (tt : Int) - ((pos : Int) + 3)) :
    opWrite e enc uo hasRefs offs pos op = .err .wValueTooLarge := by
  have key : writeBranch e offs t (pos + 1) = .err .wValueTooLarge := by
    unfold writeBranch
    simp only [hg]
    exact Ints.writeSdata_err (.inr (.inl rfl)) (by omega)
  rcases hb with rfl | rfl <;> simp [opWrite, key]

/-- and the displacement that *is* written always fits -/
theorem branch_displacement_fits (e : Endian) (enc : Encoding) (uo : UnitOffs) (hasRefs : Bool)
    (op : Operation) (t : Nat) (hb : isBranchTo op t) (offs : List Nat) (pos : Nat)
    (bs : Bytes) (fx : List Fixup) (rest : Bytes)
    (hw : opWrite e enc uo hasRefs offs pos op = .ok (bs, fx)) :
    ∃ tt, offs[t]? = some tt ∧ bs.length = 3 ∧
      Op.parse e enc (bs ++ rest) = .ok (branchImage op ((tt : Int) - ((pos : Int) + 3)), rest) ∧
      -(2 : Int) ^ 15 ≤ (tt : Int) - ((pos : Int) + 3) ∧ (tt : Int) - ((pos : Int) + 3) < 2 ^ 15 :=
  opWrite_branch e enc uo hasRefs op t hb offs pos bs fx rest hw

/-! ## 4. references to entries without a known offset -/

/-- **A reference to an entry whose offset is not known is an error, never a wrong offset**
(typed operations, `call4`, `GNU_parameter_ref`): `UnsupportedExpressionForwardReference` … -/
theorem forward_ref_rejected (e : Endian) (enc : Encoding) (hasRefs : Bool)
    (op : Operation) (en : Nat) (hd : directRef op = some en)
    (offs : Nat → Option Nat) (hn : offs en = none) (offsets : List Nat) (pos : Nat) :
    opWrite e enc (some offs) hasRefs offsets pos op = .err .wUnsupportedExpressionForwardReference := by
  obtain ⟨k, hk⟩ := opWrite_directRef e enc (some offs) hasRefs op en hd offsets pos
  simp [hk, entryOffset, hn]

/-- … and without unit offsets at all (CFI) `UnsupportedCfiExpressionReference`. -/
theorem cfi_ref_rejected (e : Endian) (enc : Encoding) (hasRefs : Bool)
    (op : Operation) (en : Nat) (hd : directRef op = some en) (offsets : List Nat) (pos : Nat) :
    opWrite e enc none hasRefs offsets pos op = .err .wUnsupportedCfiExpressionReference := by
  obtain ⟨k, hk⟩ := opWrite_directRef e enc none hasRefs op en hd offsets pos
  rw [hk]; rfl

/-- At any nesting depth: an expression that was written had an offset for every unit entry it
refers to (and by `op_decode_emit` the offset written is that entry's). -/
theorem written_refs_known (e : Endian) (enc : Encoding) (hasRefs : Bool) (offs : Nat → Option Nat)
    (ops : List Operation) (pos : Nat) (bs : Bytes) (fx : List Fixup)
    (hw : exprWrite e enc (some offs) hasRefs pos ops = .ok (bs, fx)) :
    refsKnownAll offs ops = true := by
  obtain ⟨o, -, hw⟩ := Out.bind_eq_ok hw
  exact exprWriteOps_refsKnown e enc hasRefs offs ops o pos bs fx hw

/-- **Section references (`call_ref`, `GNU_variable_value`, `implicit_pointer`) resolve to the
intended entry.** Such an operation records exactly one fix-up, located at its reference field and
naming the intended `(unit, entry)`; if that entry has no `.debug_info` offset the fix-up pass fails
with `InvalidReference` (never a wrong offset); otherwise, after `write_debug_info_fixups` has
patched the field, the reader decodes the operation with that entry's offset `o` as its reference
(`image … o op`), consuming exactly the emitted bytes. -/
theorem section_ref_resolves (e : Endian) (enc : Encoding) (uo : UnitOffs) (hasRefs : Bool)
    (op : Operation) (r : DRef) (size : Nat) (hs : sectionRef enc op = some (r, size))
    (offsets : List Nat) (pos : Nat) (bs : Bytes) (fx : List Fixup) (rest : Bytes)
    (hw : opWrite e enc uo hasRefs offsets pos op = .ok (bs, fx)) (hwf : OpWf op)
    (info : Nat → Nat → Option Nat) :
    ∃ u en, r = .entry u en ∧ fx = [⟨pos + 1, size, u, en⟩] ∧
      (info u en = none → applyFixups e info pos bs fx = .err .wInvalidReference) ∧
      ∀ o, info u en = some o → o < 2 ^ 64 → ∀ bs', applyFixups e info pos bs fx = .ok bs' →
        Op.parse e enc (bs' ++ rest) = .ok ((image enc (fun _ => none) 0 [] o op).getD .nop, rest) := by
  unfold sectionRef at hs
  split at hs <;> cases hs
  all_goals
    obtain ⟨⟨z, f⟩, hz, h⟩ := Out.bind_eq_ok hw
    cases h
    obtain ⟨hz0, u, en, rfl, rfl⟩ := writeDRef_entry _ _ _ _ _ _ _ hz
    have hzl := Ints.writeUdata_length hz0
  -- `call_ref`, `GNU_variable_value`: the field ends the operation
  · obtain ⟨hnone, hsome⟩ := applyFixups_one e info pos 0x9a z [] u en
    rw [List.append_nil, hzl] at hnone hsome
    refine ⟨u, en, rfl, rfl, hnone, fun o ho ho64 bs' hap => ?_⟩
    obtain ⟨p, hp, rfl⟩ := hsome o bs' ho hap
    rw [List.append_nil]
    exact parse_reads e enc rest 0x9a (po_9a e enc) ((reads_offset e hp ho64).map fun _ => rfl)
  · obtain ⟨hnone, hsome⟩ := applyFixups_one e info pos 0xfd z [] u en
    rw [List.append_nil, hzl] at hnone hsome
    refine ⟨u, en, rfl, rfl, hnone, fun o ho ho64 bs' hap => ?_⟩
    obtain ⟨p, hp, rfl⟩ := hsome o bs' ho hap
    rw [List.append_nil]
    exact parse_reads e enc rest 0xfd (po_fd e enc) ((reads_offset e hp ho64).map fun _ => rfl)
  -- `implicit_pointer`: the byte offset follows
  · rename_i bo
    obtain ⟨hnone, hsome⟩ := applyFixups_one e info pos (vOp enc 0xa0 0xf2) z (Leb.encodeS bo) u en
    rw [hzl] at hnone hsome
    refine ⟨u, en, rfl, rfl, hnone, fun o ho ho64 bs' hap => ?_⟩
    obtain ⟨p, hp, rfl⟩ := hsome o bs' ho hap
    exact parse_reads e enc rest _ (po_vOp e enc 0xa0 0xf2 (po_a0 e enc) (po_f2 e enc))
      (reads_implicitPointer e enc hp ho64 bo hwf)

/-! ## 5. evaluation -/

/-- **One evaluation step on the emitted bytes = executing the operation as built.** Let
`pre ++ op :: suf` be written successfully to `bs`, and let the evaluator (C07's Model, any
configuration with the same byte order and encoding) stand at the start of `op` in `bs`. Then

* `evaluate_one_operation` = `execute` of the reader-side image of `op` as built, with the reader
  moved past exactly the bytes `op` emitted — whichever shorter encoding the writer chose;
* and if that step returns, the bytecode is unchanged and the reader stands again at the start of
  an operation as built, or at the end: the next one, or — for a taken `skip`/`bra` — operation `t`.

This is the step lemma behind `eval_same` below. -/
theorem eval_step_same (e : Endian) (enc : Encoding) (uo : UnitOffs) (hasRefs : Bool)
    (c : Config) (hce : c.endian = e) (hcenc : c.encoding = enc)
    (pre suf : List Operation) (op : Operation) (pos : Nat) (bs : Bytes) (fx : List Fixup)
    (hoffs : ∀ f, uo = some f → ∀ en o, f en = some o → o < 2 ^ 64)
    (hL : bs.length < 2 ^ 64) (hwf : OpWf op)
    (hw : exprWrite e enc uo hasRefs pos (pre ++ op :: suf) = .ok (bs, fx)) :
    ∃ (offs : List Nat) (b1 : Bytes) (f1 : List Fixup) (bo : Bytes) (fo : List Fixup) (img : Op.Operation),
      exprOffsets enc uo (pre ++ op :: suf) pos = .ok offs ∧
      exprWriteOps e enc uo hasRefs offs pos pre = .ok (b1, f1) ∧
      opWrite e enc uo hasRefs offs (pos + b1.length) op = .ok (bo, fo) ∧
      opImage e enc uo hasRefs offs (pos + b1.length) op = some img ∧
      ∀ m : Mach, m.bytecode = bs → m.pc = bs.drop b1.length →
        Eval.evaluateOneOperation c m = Eval.execute c img { m with pc := bs.drop (b1.length + bo.length) } ∧
        ∀ r m', Eval.evaluateOneOperation c m = .ok (r, m') →
          m'.bytecode = bs ∧
          ∃ j bj fj, j ≤ (pre ++ op :: suf).length ∧
            exprWriteOps e enc uo hasRefs offs pos ((pre ++ op :: suf).take j) = .ok (bj, fj) ∧
            m'.pc = bs.drop bj.length :=
  eval_step_aux e enc uo hasRefs c hce hcenc pre suf op pos bs fx hoffs hL hwf hw

/-- **Evaluating the emitted bytes gives the same result as evaluating the operations as built**
(`eval_same`). The *as-built evaluator* (`Spec/BuiltEval.lean`) is the evaluator's control loop
with the byte decoder replaced by a look-up in the listing of the expression as built
(`expectedDecode`: start offset ↦ reader-side image of the built operation, end offset; branch
images carry the distance to the *intended* operation): inside the written expression it never
looks at the emitted bytes, so the writer's choice of encodings cannot influence it.

For every successfully written expression, every evaluator state that is about to start on it
(any configuration with the writer's byte order and encoding: storage capacities, arithmetic mode,
iteration limit, object address, initial value), every fuel and every script of answers to the
evaluator's requests (`resume_with_*`, including `at_location` answers that make it run other
bytecode and return), the whole run of C07's evaluator on the emitted bytes — every request with
its operands, in order, and the final pieces / value / error — is identical to the run of the
as-built evaluator. -/
theorem eval_same (e : Endian) (enc : Encoding) (uo : UnitOffs) (hasRefs : Bool)
    (ops : List Operation) (pos : Nat) (bs : Bytes) (fx : List Fixup)
    (hoffs : ∀ f, uo = some f → ∀ en o, f en = some o → o < 2 ^ 64)
    (hL : bs.length < 2 ^ 64) (hwf : ∀ op ∈ ops, OpWf op)
    (hw : exprWrite e enc uo hasRefs pos ops = .ok (bs, fx))
    (s : Eval.Eval) (hce : s.cfg.endian = e) (hcenc : s.cfg.encoding = enc)
    (hpc : s.m.pc = bs) (hes : s.m.exprStack = [])
    (fuel : Nat) (toks : List Eval.Tok) :
    ∃ offs, exprOffsets enc uo ops pos = .ok offs ∧
      Eval.run fuel toks s =
        BuiltEval.runD (BuiltEval.builtDec bs (expectedDecode e enc uo hasRefs offs pos 0 ops)) fuel toks s := by
  obtain ⟨offs, ho, hw⟩ := Out.bind_eq_ok hw
  refine ⟨offs, ho, ?_⟩
  let W : Emitted := ⟨e, enc, uo, hasRefs, ops, pos, bs, fx, offs⟩
  have hW : Written W := ⟨ho, hw, hwf, hoffs, hL⟩
  have hg : Good W s :=
    ⟨hce, hcenc, fun _ => hpc ▸ atOp_start, by rw [hes]; nofun⟩
  rw [← runD_parse]
  exact (run_agree hW fuel toks s hg).symm

/-- every operation other than `skip`/`bra` leaves the evaluator's reader position, bytecode and
expression stack untouched (what `eval_step_same` rests on for an operation that is not a branch;
stated for C07's `execute` over all reader operations) -/
theorem execute_keeps_pc (c : Config) (op : Op.Operation) (m : Mach)
    (hs : ∀ t, op ≠ .skip t) (hb : ∀ t, op ≠ .bra t) (r : Eval.OpResult) (m' : Mach)
    (h : Eval.execute c op m = .ok (r, m')) :
    m'.pc = m.pc ∧ m'.bytecode = m.bytecode ∧ m'.exprStack = m.exprStack :=
  execute_keeps c op m hs hb (r, m') h

/-! ## non-vacuity -/

example : exprWrite .little ⟨8, .dwarf32, 4⟩ (some fun _ => some 12) true 0
    [.unsignedConstant 31, .unsignedConstant 32, .constantType 0 [0xff], .skip 0, .pick 1,
     .entryValue [.register 32, .branch 0]] =
    .ok ([0x4f, 0x10, 0x20, 0xf4, 0x0c, 0x01, 0xff, 0x2f, 0xf6, 0xff, 0x14, 0xf3, 0x05, 0x90, 0x20, 0x28, 0xfb, 0xff], []) := by
  rfl

example : OpWf (.registerOffset 65535 (-9223372036854775808)) ∧ OpWf (.piece 18446744073709551615) ∧
    OpWf (.simple 0x22) ∧ ¬ OpWf (.simple 0x03) := by decide

-- the piece boundary: 2^61 - 1 bytes are written, 2^61 bytes are refused
example : opWrite .little ⟨8, .dwarf32, 4⟩ none false [] 0 (.piece 2305843009213693951) =
    .ok ([0x93, 0xff, 0xff, 0xff, 0xff, 0xff, 0xff, 0xff, 0xff, 0x1f], []) := by decide
example : opWrite .little ⟨8, .dwarf32, 4⟩ none false [] 0 (.piece 2305843009213693952) =
    .err .wValueTooLarge := by decide

example : isBranchTo (.branch 7) 7 ∧ directRef (.derefType false 4 3) = some 3 ∧
    sectionRef ⟨4, .dwarf64, 2⟩ (.implicitPointer (.entry 1 0) (-1)) = some (.entry 1 0, 4) := by
  exact ⟨Or.inr rfl, rfl, rfl⟩

-- the listing of `lit3; skip → operation 0`: at offset 1 the as-built decoder finds the branch as built
example : BuiltEval.listingLookup
    (expectedDecode .little ⟨8, .dwarf32, 4⟩ none false [0, 1, 4] 0 0 [.unsignedConstant 3, .skip 0]) 0 1 =
    some (.skip (-4), 4) := by decide

-- a backward branch over 32765 bytes fits (-32768), over 32766 bytes does not
example : opWrite .little ⟨8, .dwarf32, 5⟩ none false [0, 32765, 32768] 32765 (.skip 0) =
    .ok ([0x2f, 0x00, 0x80], []) := by decide
example : opWrite .little ⟨8, .dwarf32, 5⟩ none false [0, 32766, 32769] 32766 (.skip 0) =
    .err .wValueTooLarge := by decide

end Gimli.Props.C15
