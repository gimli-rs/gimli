import Gimli.Lemmas.ReaderKinds
import Gimli.Lemmas.ReaderViews
import Gimli.Lemmas.ReaderNoPanic
import Gimli.Lemmas.Leb
import Gimli.Model.Utf8
/-!
# C10 — Readers are faithful zero-copy views; all reader kinds behave identically

Property theorems, and `Op.relocatable`, with which `relocate_delegates` is stated (`Op.misuse` of
`subrange_hist_no_panic` stands in `Lemmas/ReaderNoPanic.lean`). They are about the definitions of
`Gimli/Model/Reader.lean`, which the
driver executes and the correspondence check (`harness/src/prop/c10.rs`) ties to
`src/read/endian_slice.rs`, `src/read/endian_reader.rs` (`SubRange`), `src/read/relocate.rs` and
the default methods of `src/read/reader.rs`.

Quantifiers: every section (`Bytes`, any length), every history (`List Op`, any length, every
operation with every argument — in range or not — applied to any reader of the table, live or
not), both byte orders, both build modes, every UTF-8 validity predicate / lossy conversion
(`valid`, `lossy` are parameters), every relocation function where one occurs.

* `sharedImpl` is `EndianReader<Endian, T>` for every `T : CloneStableDeref` — `EndianRcSlice`,
  `EndianArcSlice` and custom buffers are the same generic code and therefore the same Model;
  that the three instantiations agree is checked on the real code only (harness oracle
  `kinds-differ`).
* Memory safety of the shared-buffer reader under clone/split/truncate/drop **in any order** is
  carried here only as far as a pure model can: every reachable `(ptr, len)` stays inside the
  allocation (`subrange_inv`), for every history including `clone` and `drop`. Reference counts,
  the allocator and `Send`/`Sync` are not modelled — that clause is PARTIAL (observed by the
  harness: live-handle counter of a custom buffer, drop in scrambled order; Miri in the
  thorough tier where available).
-/
namespace Gimli.Props.C10
open Gimli Gimli.Rd

variable (m : Mode) (e : Endian) (valid : Bytes → Bool) (lossy : Bytes → Bytes)

/-! ## (1) `subrange_inv` -/

/-- **Every reachable `SubRange` stays inside the allocation.** For every section, every history of
reader operations (any operation, any argument, any order, including `clone` and `drop`) and every
reader `c` that is live afterwards: `c` is a window of the original section and
`off + len ≤ sec.length`. Since every prefix of a history is a history, this holds at every
intermediate point too — so each `ptr.add(n)` and each `slice::from_raw_parts(ptr, len)` executed
by `SubRange::{bytes, skip, read_slice}` is in bounds. (Induction over histories:
`Rd.runHist_all`, with `Rd.sharedImpl_safe` for the single operations.) -/
theorem subrange_inv (sec : Bytes) (ops : List Op) (c : Cur)
    (hc : some c ∈ (runHist sharedImpl m e valid lossy (St.init (Cur.ofSec sec)) ops).2.rs) :
    c.sec = sec ∧ c.off + c.len ≤ sec.length :=
  (hist_win m e valid lossy sec ops).2 c hc

/-- the same for `EndianSlice` (safe code; the bound is what makes `&self.slice[..len]` not panic) -/
theorem subrange_inv_slice (sec : Bytes) (ops : List Op) (c : Cur)
    (hc : some c ∈ (runHist sliceImpl m e valid lossy (St.init (Cur.ofSec sec)) ops).2.rs) :
    c.sec = sec ∧ c.off + c.len ≤ sec.length :=
  subrange_inv m e valid lossy sec ops c (sharedImpl_eq ▸ hc)

/-- … and for `RelocateReader` over the shared-buffer reader with ANY relocation function; its
`section` field is never changed -/
theorem subrange_inv_reloc (sec : Bytes) (rel : Rel) (ops : List Op) (s : RCur Cur)
    (hs : some s ∈ (runHist (relocImpl sharedImpl rel) m e valid lossy
      (St.init (RCur.new (Cur.ofSec sec))) ops).2.rs) :
    (s.rdr.sec = sec ∧ s.rdr.off + s.rdr.len ≤ sec.length) ∧ s.sect = Cur.ofSec sec :=
  (runHist_all (relocImpl_safe (Q := fun c => c = Cur.ofSec sec) (sharedImpl_safe sec) rel)
    m e valid lossy ops _ (St.All.init ⟨Win.ofSec sec, rfl⟩)).2 s hs

/-- The `assert!(len <= self.len)` of `SubRange::{truncate, skip}` is never reached from the
`Reader` methods (each call site has compared with `self.len()` before), for any argument. -/
theorem subrange_asserts_unreachable (n : Nat) (c : Cur) (w : String) :
    (Shared.truncate n c).1 ≠ .panic w ∧ (Shared.skip n c).1 ≠ .panic w ∧
    (Shared.split n c).1 ≠ .panic w ∧ (Shared.readSlice n c).1 ≠ .panic w := by
  rw [Shared.truncate_eq, Shared.skip_eq, Shared.split_eq, Shared.readSlice_eq]
  have np : ∀ {α : Type} {x : M Cur α}, Total x → (x c).1 ≠ .panic w := fun h => (h c).ne_panic w
  exact ⟨np (checked_total n _ _), np (checked_total n _ _), np (checked_total n _ _),
    np (readSlice_total n)⟩

/-- **Along every history no operation on the shared-buffer reader panics**, API misuse apart
(`read_uint(n)` with `n > 8`, documented; `offset_from` with a base the reader does not lie in,
a `debug_assert!`): so none of `SubRange`'s `assert!`s, which guard its pointer arithmetic, fires,
whatever the history before (`st` is arbitrary) and whatever the arguments. -/
theorem subrange_hist_no_panic (st : St Cur) (op : Op) (h : Op.misuse m op = false) (w : String) :
    (step sharedImpl m e valid lossy st op).1.res ≠ .panic w :=
  sharedImpl_eq ▸ (step_total m e valid lossy st op h).ne_panic w

/-- The raw-pointer arithmetic of `SubRange` computes exactly the windows that safe slicing
(`&s[..n]`, `&s[n..]`) computes, for in-range and out-of-range arguments. -/
theorem subrange_eq_safe_slicing (n : Nat) (c : Cur) :
    Shared.truncate n c = Slice.truncate n c ∧ Shared.skip n c = Slice.skip n c ∧
    Shared.split n c = Slice.split n c ∧ Shared.readSlice n c = Slice.readSlice n c :=
  ⟨Shared.truncate_eq n c, Shared.skip_eq n c, Shared.split_eq n c, Shared.readSlice_eq n c⟩

/-! ## (2) `views_are_views` -/

/-- **What a reader shows is the section at its offset.** `to_slice` of a window `c` of `sec` is
`sec.extract off (off+len)`; so are `to_string` (when it succeeds) and the borrowed
`to_string_lossy`. -/
theorem views_are_views_slices (sec : Bytes) (c : Cur) (hc : c.sec = sec) :
    Shared.toSlice c = .ok (sec.extract c.off (c.off + c.len)) ∧
    Slice.toSlice c = .ok (sec.extract c.off (c.off + c.len)) ∧
    (∀ b, Shared.toStr valid c = .ok b → b = sec.extract c.off (c.off + c.len)) ∧
    (∀ b, Shared.toLossy valid lossy c = .ok (true, b) → b = sec.extract c.off (c.off + c.len)) := by
  subst hc
  refine ⟨by simp [Shared.toSlice, SubRange.bytes, Cur.bytes_eq_extract],
    by simp [Slice.toSlice, Cur.bytes_eq_extract], fun b hb => ?_, fun b hb => ?_⟩
  · unfold Shared.toStr at hb
    split at hb
    · cases hb; exact Cur.bytes_eq_extract c
    · cases hb
  · unfold Shared.toLossy at hb
    split at hb
    · cases hb; exact Cur.bytes_eq_extract c
    · cases hb

/-- **`split` hands back a view, not a copy.** The returned reader is `(sec, off, n)`, the reader
itself continues at `(sec, off+n, len-n)`; the two windows are adjacent, and together they are
the old window (nothing reordered, nothing from outside). Same statement for both concrete kinds
(`subrange_eq_safe_slicing`). -/
theorem views_are_views_split (n : Nat) (c r c' : Cur) (h : Shared.split n c = (.ok r, c')) :
    n ≤ c.len ∧ r = { c with len := n } ∧ c' = { c with off := c.off + n, len := c.len - n } ∧
    r.bytes = c.sec.extract c.off (c.off + n) ∧ r.bytes ++ c'.bytes = c.bytes := by
  rw [Shared.split_eq, Slice.split_eq_checked] at h
  obtain ⟨hn, rfl, rfl⟩ := checked_ok.mp h
  refine ⟨hn, rfl, rfl, Cur.bytes_eq_extract _, ?_⟩
  rw [Cur.bytes_cut c hn, Cur.bytes_adv, List.take_append_drop]

/-- **`read_slice` copies out exactly `sec[off .. off+n]`** and advances by `n`. -/
theorem views_are_views_read (n : Nat) (c c' : Cur) (bs : Bytes)
    (h : Shared.readSlice n c = (.ok bs, c')) :
    n ≤ c.len ∧ bs = c.sec.extract c.off (c.off + n) ∧
      c' = { c with off := c.off + n, len := c.len - n } := by
  rw [Shared.readSlice_eq, Slice.readSlice_eq_checked] at h
  obtain ⟨hn, rfl, rfl⟩ := checked_ok.mp h
  exact ⟨hn, Cur.bytes_eq_extract _, rfl⟩

/-- **`read_null_terminated_slice`**: the returned reader is the window up to the first NUL of
the old window (`sec[off .. off+idx]`, no NUL inside), the reader continues after the NUL. -/
theorem views_are_views_nts (c r c' : Cur) (h : Dflt.readNts sliceCore c = (.ok r, c')) :
    ∃ idx, idx + 1 ≤ c.len ∧ r = { c with len := idx } ∧
      c' = { c with off := c.off + idx + 1, len := c.len - idx - 1 } ∧
      ∃ hi : idx < c.bytes.length, c.bytes[idx] = 0 ∧ ∀ j (hj : j < idx), c.bytes[j]'(by omega) ≠ 0 := by
  obtain ⟨idx, hp, h1, h2, h3⟩ := Slice.readNts_ok h
  exact ⟨idx, h1, h2, h3, position_spec hp⟩

/-- **`read_uleb128` through a reader is the C09 decoder on the reader's window**: the value is the
mathematical value of exactly one LEB128 number `pre` at the front of the window (all of C09's
`uleb_sound` carries over), and the reader continues right behind it, still a view of the same
section. -/
theorem views_are_views_uleb (c c' : Cur) (v : Nat) (hinv : c.Inv)
    (h : Dflt.readUleb sharedCore c = (.ok v, c')) :
    ∃ pre, c.bytes = pre ++ c'.bytes ∧ Spec.IsLebEnc pre ∧ pre.length ≤ 10 ∧ v = Spec.ulebVal pre ∧
      c'.sec = c.sec ∧ c'.off = c.off + pre.length ∧ c'.len = c.len - pre.length := by
  obtain ⟨rest, hf, hsec, rfl, hoff, hlen⟩ := via_ok _ _ c c' v hinv
    (fun v rest hf => let ⟨pre, hp, _⟩ := Leb.unsigned_sound _ v rest hf; ⟨pre, hp⟩) h
  obtain ⟨pre, hp, henc, hl10, hv, _⟩ := Leb.unsigned_sound _ v _ hf
  -- the decoder consumed `pre`, which lies inside the window
  have hl : c.len = pre.length + c'.len := by rw [hlen, ← Cur.bytes_length hinv, hp, List.length_append]
  exact ⟨pre, hp, henc, hl10, hv, hsec, by rw [hoff, ← hlen, hl, Nat.add_sub_cancel],
    by rw [hl, Nat.add_sub_cancel_left]⟩

/-- **Along every history** every reader in the table — hence every sub-reader ever returned by
`split`, `clone` or `read_null_terminated_slice`, since each is entered into the table — is
`(sec, off', len')` with `off' + len' ≤ sec.length`, its bytes are `sec.extract off' (off'+len')`,
and the window reported in the trace is `(off', len')`. -/
theorem views_are_views (sec : Bytes) (ops : List Op) (i : Nat) (c : Cur)
    (hc : (runHist sharedImpl m e valid lossy (St.init (Cur.ofSec sec)) ops).2.get i = some c) :
    c.sec = sec ∧ c.off + c.len ≤ sec.length ∧ c.bytes = sec.extract c.off (c.off + c.len) ∧
    (step sharedImpl m e valid lossy
        (runHist sharedImpl m e valid lossy (St.init (Cur.ofSec sec)) ops).2 (.toSlice i)).1 =
      { res := .ok (.bytes (sec.extract c.off (c.off + c.len))),
        tgt := some { off := c.off, len := c.len }, new := none } := by
  have hw : Win sec c :=
    (hist_win m e valid lossy sec ops).get hc
  obtain ⟨h1, h2⟩ := hw
  refine ⟨h1, h2, by rw [← h1]; exact Cur.bytes_eq_extract c, ?_⟩
  unfold step
  simp only [runQ, hc]
  rw [show sharedImpl.toSlice c = _ from (views_are_views_slices valid lossy sec c h1).1]
  rfl

/-! ## (3) `offset_id_inverse` -/

/-- **Offset ids map back to the position they came from.** If the window `r` lies inside the
window `s` (same section) then looking up `r`'s id in `s` gives exactly `r`'s offset relative to
`s` — which is also what `offset_from` reports, in both build modes. Conversely an id that `s`
resolves to `k` is the id of position `s.off + k`, and `k ≤ s.len`. -/
theorem offset_id_inverse (s r : Cur) (h1 : s.off ≤ r.off) (h2 : r.off + r.len ≤ s.off + s.len) :
    Shared.lookupOffsetId s (Shared.offsetId r) = some (r.off - s.off) ∧
    Shared.offsetFrom m r s = .ok (r.off - s.off) ∧
    (∀ id k, Shared.lookupOffsetId s id = some k → id = .inSec (s.off + k) ∧ k ≤ s.len) :=
  ⟨ptrLookup_offsetId h1 (Nat.le_trans (Nat.le_add_right _ _) h2), ptrOffsetFrom_within m h1 h2,
    fun _ _ h => ptrLookup_some h⟩

/-- the same for `EndianSlice` readers -/
theorem offset_id_inverse_slice (s r : Cur) (h1 : s.off ≤ r.off) (h2 : r.off + r.len ≤ s.off + s.len) :
    Slice.lookupOffsetId s (Slice.offsetId r) = some (r.off - s.off) ∧
    Slice.offsetFrom m r s = .ok (r.off - s.off) :=
  have h := offset_id_inverse m s r h1 h2
  ⟨h.1, h.2.1⟩

/-- **`empty()` keeps the reader's position** (both concrete readers, the repaired C10-1): an
emptied reader is still a window of the section, so if it lay inside the window `s` before,
`offset_from(s)` and `lookup_offset_id` of its id still report its position afterwards. -/
theorem empty_keeps_position (s r : Cur) (h1 : s.off ≤ r.off) (h2 : r.off + r.len ≤ s.off + s.len) :
    Slice.empty r = { r with len := 0 } ∧ Shared.empty r = { r with len := 0 } ∧
    Slice.offsetFrom m (Slice.empty r) s = .ok (r.off - s.off) ∧
    Slice.lookupOffsetId s (Slice.offsetId (Slice.empty r)) = some (r.off - s.off) ∧
    Shared.offsetFrom m (Shared.empty r) s = .ok (r.off - s.off) ∧
    Shared.lookupOffsetId s (Shared.offsetId (Shared.empty r)) = some (r.off - s.off) := by
  have he : Shared.empty r = { r with len := 0 } := Shared.empty_eq r
  have hs := offset_id_inverse_slice m s { r with len := 0 } h1
    (Nat.le_trans (Nat.le_add_right _ _) h2)
  refine ⟨rfl, he, hs.2, hs.1, ?_, ?_⟩
  · rw [he]; exact hs.2
  · rw [he]; exact hs.1

/-- **Along every history**: the id of any live reader resolves, against the section reader, to
that reader's section offset — and `offset_from(section)` agrees. -/
theorem offset_id_inverse_hist (sec : Bytes) (ops : List Op) (i : Nat) (c : Cur)
    (hc : (runHist sharedImpl m e valid lossy (St.init (Cur.ofSec sec)) ops).2.get i = some c) :
    Shared.lookupOffsetId (Cur.ofSec sec) (Shared.offsetId c) = some c.off ∧
    Shared.offsetFrom m c (Cur.ofSec sec) = .ok c.off := by
  have hw : Win sec c :=
    (hist_win m e valid lossy sec ops).get hc
  have h := ptrLookup_offsetId (s := Cur.ofSec sec) (r := c) (Nat.zero_le _)
    (Nat.le_trans (Nat.le_add_right _ _) (by simpa [Cur.ofSec] using hw.2))
  exact ⟨h, ptrOffsetFrom_ofSec m hw.2⟩

/-! ## (4) `kinds_bisimilar` -/

/-- **The identity-relocating reader is indistinguishable from the reader it wraps**, for every
history (shared-buffer kind; `Rc`, `Arc` and custom buffers are this one Model). -/
theorem kinds_bisimilar_reloc (sec : Bytes) (ops : List Op) :
    trace (relocImpl sharedImpl Rel.id) (RCur.new (Cur.ofSec sec)) m e valid lossy ops =
      trace sharedImpl (Cur.ofSec sec) m e valid lossy ops := by
  rw [sharedImpl_eq]
  exact trace_reloc_id (sliceImpl_safe sec) (fun m t ht => ⟨_, ptrOffsetFrom_ofSec m ht.2⟩)
    Slice.split_eq_splitTS (Win.ofSec sec) m e valid lossy ops

/-- **Borrowed, shared-buffer and identity-relocating readers give identical observation traces**
for EVERY history (this rests on the repair of C10-1: with `EndianSlice::empty()` assigning the
static `&[]` the statement holds only for histories without `empty`):
`EndianSlice`, `RelocateReader<EndianSlice>` and `RelocateReader<EndianReader>` with the identity
relocation all produce the trace of `EndianReader` (`Rc`, `Arc`, custom buffers). -/
theorem kinds_bisimilar (sec : Bytes) (ops : List Op) :
    trace sliceImpl (Cur.ofSec sec) m e valid lossy ops =
      trace sharedImpl (Cur.ofSec sec) m e valid lossy ops ∧
    trace (relocImpl sliceImpl Rel.id) (RCur.new (Cur.ofSec sec)) m e valid lossy ops =
      trace sharedImpl (Cur.ofSec sec) m e valid lossy ops ∧
    trace (relocImpl sharedImpl Rel.id) (RCur.new (Cur.ofSec sec)) m e valid lossy ops =
      trace sharedImpl (Cur.ofSec sec) m e valid lossy ops := by
  have h := kinds_bisimilar_reloc m e valid lossy sec ops
  refine ⟨by rw [sharedImpl_eq], ?_, h⟩
  rw [sharedImpl_eq] at h ⊢
  exact h

/-- regression for C10-1 (`empty` then `offset_id`): equal traces, and the emptied borrowed
reader's id is the section offset -/
theorem empty_offset_id_regression :
    trace sliceImpl (Cur.ofSec [1, 2]) .debug .little (fun _ => true) id [.skip 0 1, .empty 0, .offId 0] =
      trace sharedImpl (Cur.ofSec [1, 2]) .debug .little (fun _ => true) id [.skip 0 1, .empty 0, .offId 0] ∧
    ((trace sliceImpl (Cur.ofSec [1, 2]) .debug .little (fun _ => true) id
      [.skip 0 1, .empty 0, .offId 0]).map (·.res))[2]? = some (.ok (.addr (.inSec 1))) := by
  decide +kernel

/-! ## (5) `relocate_delegates` -/

/-- is this one of `read_address`, `read_offset`, `read_sized_offset`? -/
def Op.relocatable : Op → Bool
  | .addr .. | .offset .. | .sizedOff .. => true
  | _ => false

/-- **Only `read_address` / `read_offset` / `read_sized_offset` consult the relocation.** Every
other operation of a `RelocateReader` (over any inner kind) gives the same observation and the
same state whatever the relocation function is. -/
theorem relocate_delegates {σ : Type} (I : Impl σ) (rel rel' : Rel) (st : St (RCur σ)) (op : Op)
    (hop : Op.relocatable op = false) :
    step (relocImpl I rel) m e valid lossy st op = step (relocImpl I rel') m e valid lossy st op := by
  -- the two kinds differ in `readAddress`, `readOffset`, `readSizedOffset` only
  have key : ∀ (K : Core (RCur σ)) a b c a' b' c',
      step ⟨K, a, b, c⟩ m e valid lossy st op = step ⟨K, a', b', c'⟩ m e valid lossy st op := by
    intro K a b c a' b' c'
    cases op with
    | addr | offset | sizedOff => cases hop
    | _ => rfl
  exact key (relocImpl I rel).toCore _ _ _ _ _ _

/-- … and of the three that do, `read_address` over the shared-buffer reader: the offset handed
to the relocation is the reader's position in the section (`offset_from(section)`), the value is
what the inner reader read, the relocation's answer (value or error) is the result, and the reader
advances as the inner read does. -/
theorem relocate_consults (sec : Bytes) (rel : Rel) (n : Nat) (s : RCur Cur)
    (hs : s.sect = Cur.ofSec sec) (hw : s.rdr.off + s.rdr.len ≤ sec.length) :
    (relocImpl sharedImpl rel).readAddress m e n s =
      (match sharedImpl.readAddress m e n s.rdr with
       | (.ok v, r') => (rel.addr s.rdr.off v, { s with rdr := r' })
       | (.err x, r') => (.err x, { s with rdr := r' })
       | (.panic w, r') => (.panic w, { s with rdr := r' })
       | (.diverge, r') => (.diverge, { s with rdr := r' })) := by
  have hoff : sharedImpl.offsetFrom m s.rdr s.sect = .ok s.rdr.off := hs ▸ ptrOffsetFrom_ofSec m hw
  show Reloc.relocated sharedImpl m (sharedImpl.readAddress m e n) rel.addr s = _
  rw [Reloc.relocated_eq hoff]
  generalize sharedImpl.readAddress m e n s.rdr = p
  obtain ⟨o, r'⟩ := p
  cases o <;> rfl

/-! ## non-vacuity -/

/-- a history with in-range and out-of-range arguments, sub-readers, ids, strings -/
example : (trace sharedImpl (Cur.ofSec [0x61, 0x62, 0, 0xe5, 0x8e, 0x26, 7]) .debug .little
    Utf8.valid Utf8.lossy
    [.nts 0, .toStr 1, .uleb 0, .split 0 9, .split 0 1, .offId 2, .lookup 0 0, .offFrom 2 0]).map
      (fun o => (o.res, o.new)) =
    [(.ok .rdr, some ⟨0, 2⟩), (.ok (.bytes [0x61, 0x62]), none), (.ok (.nat 624485), none),
     (.err .rUnexpectedEof, none), (.ok .rdr, some ⟨6, 1⟩), (.ok (.addr (.inSec 6)), none),
     (.ok (.opt none), none), (.panic "assertion failed: base_ptr <= ptr", none)] := by decide +kernel

example : Shared.split 2 (Cur.ofSec [1, 2, 3]) =
    (.ok ⟨[1, 2, 3], 0, 2⟩, ⟨[1, 2, 3], 2, 1⟩) := by decide +kernel

end Gimli.Props.C10
