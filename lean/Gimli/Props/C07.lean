import Gimli.Lemmas.Value
import Gimli.Lemmas.OpSuffix
import Gimli.Lemmas.Capacity
import Gimli.Lemmas.SimRun
import Gimli.Lemmas.IterWrap
import Gimli.Lemmas.RunLimit
import Gimli.Lemmas.StackInv
/-!
# C07 — Expression decoding and evaluation equal the DWARF stack machine

Property theorems only (helper lemmas: `Gimli/Lemmas/{Value,ValueWf,OpDecode,OpOk,OpSuffix,ExecInv,Eval,EvalRun,ValueSim,
Sim,SimRun,Capacity,StackInv,IterWrap,RunLimit}.lean`).
Every theorem is about the Model functions of `Gimli/Model/{Value,Op,Eval}.lean` — the functions the
driver (`Gimli/Drv/C07.lean`) executes in the correspondence run against `src/read/{value,op,util}.rs`.
The Spec side is `Gimli/Spec/{Expr,OpTable,Machine}.lean`.

Quantifiers: every byte string, every encoding (address size / format / version / byte order),
every value and mask of the stated shape, every fuel, every evaluator state, every script of
resume answers.
-/
namespace Gimli.Props.C07
open Gimli Gimli.Op Gimli.Eval Gimli.Value Gimli.Spec.Expr
open Gimli.Sim (RunRel FinRel TokOk absScript absPiece)

/-! ## (1) value arithmetic -/

/-- **`value_refines`.** For every address size `a ∈ {1,2,4,8}` (mask `2^(8a)-1`), **every** binary
`Value` operation — `add sub mul div rem and or xor shl shr shra eq ge gt le lt ne` — and all
integer operands (generic or typed, stored patterns arbitrary: generic operands may carry garbage
above the address size): the Model result, read *modulo `2^(8a)`* for generic values and *exactly*
for typed ones (`absV`), is the Spec result on the abstracted operands — including the error cases
(`DivisionByZero` before `TypeMismatch`, `InvalidShiftExpression` for a negative or float count,
`UnsupportedTypeOperation` for `shr` of a signed / `shra` of an unsigned type, …), which are equal
as `Out` values. `WF y`: the stored pattern fits its Rust type.
The shifts need no hypothesis on a generic count: `shift_length` masks it to the address size
(the `fix:` for finding C07-1). -/
theorem value_refines (a : Nat) (ha : AddrSize a) (op : BinOp) (x y : Value) (ix : IsInt x) (hy : WF y) :
    (binaryOf op x y (maskOf a)).map (absV a) = binary a op (absV a x) (absV a y) :=
  binary_refines a ha op x y ix hy

/-- regression for finding C07-1, its counter-example on a 4-byte target:
`1 << Generic(2^32 + 2)` — the count is `2` modulo the address size; the Spec result is `4` and
so is the Model (= `value.rs`) result (an unmasked count gives `0`). -/
theorem shift_count_masked_regression :
    (Value.shl ⟨.generic, 1⟩ ⟨.generic, 2 ^ 32 + 2⟩ (maskOf 4)).map (absV 4) = .ok ⟨.generic, 4⟩ ∧
      binary 4 .shl (absV 4 ⟨.generic, 1⟩) (absV 4 ⟨.generic, 2 ^ 32 + 2⟩) = .ok ⟨.generic, 4⟩ := by
  constructor <;> decide +kernel

/-- **Unary operations** `abs`, `neg`, `not`: same refinement, same error cases
(`neg` of an unsigned type is `UnsupportedTypeOperation`). -/
theorem value_refines_unary (a : Nat) (ha : AddrSize a) (op : UnOp) (x : Value) (ix : IsInt x) (hx : WF x) :
    (unaryOf op x (maskOf a)).map (absV a) = unary a op (absV a x) :=
  unary_refines a ha op x ix hx

/-- **`DW_OP_convert`** between integer types: the Model result denotes the Spec value wrapped
into the target type (generic source read modulo the address size, signed sources sign extended). -/
theorem value_refines_convert (a : Nat) (ha : AddrSize a) (v : Value) (hv : VOk v) (t : ValueType)
    (ht : t.kind ≠ .float) :
    ∃ r, v.convert t (maskOf a) = .ok r ∧ absV a r = convertInt a (absV a v) t ∧ VOk r :=
  Sim.convert_refines a ha v hv t ht

/-- **`DW_OP_reinterpret`** between integer types: `TypeMismatch` exactly when the sizes differ
(the generic type has the address size), otherwise the same bits read in the target type. -/
theorem value_refines_reinterpret (a : Nat) (ha : AddrSize a) (v : Value) (hv : VOk v) (t : ValueType)
    (ht : t.kind ≠ .float) :
    Sim.Sim (fun r sr => sr = absV a r ∧ VOk r) (v.reinterpret t (maskOf a)) (reinterpretInt a (absV a v) t) :=
  Sim.reinterpret_refines a ha v hv t ht

/-- `sign_extend(value, mask)` is the two's complement reading of the low `8a` bits
(the xor / subtract trick of `value.rs`, proved without `bv_decide`). -/
theorem sign_extend_spec (a : Nat) (ha : AddrSize a) (x : Nat) :
    signExtend x (maskOf a) = smod (8 * a) (x : Int) := by
  rw [signExtend_mask a ha, sval_eq_smod]

/-! ## (2) decoding -/

/-- **`decode_matches_table`.** For every byte string, byte order and encoding,
`Operation::parse` is the table-driven Spec decode: opcode ↦ operand kinds (`OpTable.signature`, the
256-row table), operands laid out per kind (`readOperands`: sizes from the encoding, v2
`DW_OP_implicit_pointer` address sized, `DW_OP_piece` in bits or `InvalidPiece`), then the operation
the opcode denotes (`meaning`). Same value, same bytes consumed, same error. -/
theorem decode_matches_table (e : Endian) (enc : Encoding) (bs : Bytes) :
    Op.parse e enc bs = Spec.OpTable.decode e enc bs :=
  parse_eq_decode e enc bs

/-- the operand signature of an opcode is what the table says, e.g. the rows the unit tests of
`op.rs` never reach together -/
example : Spec.OpTable.signature 0xa4 = some [.uleb, .block1] ∧ Spec.OpTable.signature 0x92 = some [.reg, .sleb] ∧
    Spec.OpTable.signature 0xf1 = none := by decide +kernel

/-- **(7) `decode_total`.** Decoding any byte string returns a value or a gimli error: never a
panic, never fuel exhaustion. -/
theorem decode_total (e : Endian) (enc : Encoding) (bs : Bytes) : (Op.parse e enc bs).Normal :=
  parse_normal e enc bs

/-- **`OperationIter`**: every operation it yields consumes at least one byte (so it ends), and
after an error it is empty: the next call is `Ok(None)`. -/
theorem operation_iter_ends (e : Endian) (enc : Encoding) (input : Bytes) :
    (∀ op, (iterNext e enc input).1 = .ok (some op) → (iterNext e enc input).2.length < input.length) ∧
    (∀ x, (iterNext e enc input).1 = .err x →
      (iterNext e enc (iterNext e enc input).2).1 = .ok none) :=
  ⟨fun op h => iterNext_progress e enc input op h, fun x h => (iterNext_after_error e enc input x h).2⟩

/-! ## (3) branches -/

/-- **`branch_in_bounds`.** `compute_pc` with a 16-bit target: the new pc is `bytecode[t..]` for the
mathematical target `t = (offset of the following operation) + target` when `0 ≤ t ≤ len`, and
`BadBranchTarget` otherwise (the wrapping `usize` addition can not smuggle a negative target in).
`hpc`/`hlen`: the pc is inside the expression, which is shorter than `2^63` bytes. -/
theorem branch_in_bounds (pc bc : Bytes) (target : Int) (ht : -2 ^ 15 ≤ target ∧ target < 2 ^ 15)
    (hlen : bc.length < 2 ^ 63) (hpc : pc.length ≤ bc.length) :
    computePc pc bc target =
      (let t : Int := ((bc.length - pc.length : Nat) : Int) + target
       if 0 ≤ t ∧ t ≤ bc.length then .ok (bc.drop t.toNat) else .err .rBadBranchTarget) :=
  computePc_spec pc bc target ht hlen hpc

/-- in particular whatever `compute_pc` returns is a suffix of the bytecode at an offset in `[0, len]` -/
theorem branch_target_suffix (pc bc pc' : Bytes) (target : Int) (h : computePc pc bc target = .ok pc') :
    ∃ k, k ≤ bc.length ∧ pc' = bc.drop k := by
  rw [computePc_eq] at h
  split at h
  · cases h
  · next hle => cases h; exact ⟨_, Nat.le_of_not_gt hle, rfl⟩

/-! ## (4) iteration limit -/

/-- **`iter_limit`** (bound). With `max_iterations = m` (any `u32`: `m < 2^32`), from any state
whose counter is within the limit, any call that returns (`Complete` or a `Requires*`) leaves the
counter within the limit, never decreases it, and has decoded at most two operations per
iteration (one `evaluate_one_operation` per iteration plus at most one extra decode after a
location-completing operation). The counter is part of the state, so the bound is on the total
over `evaluate()` and every later `resume_with_*`. (The limit `u32::MAX` is covered too: the
comparison comes before a saturating increment, the `fix:` for finding C07-2.) -/
theorem iter_limit (m : Nat) (hm : m < 2 ^ 32) (fuel : Nat) (s : Eval) (r : Request) (s' : Eval)
    (hmax : s.cfg.maxIterations = some m) (hit : s.iteration ≤ m)
    (h : evaluateInternal fuel s = .ok (r, s')) :
    s'.cfg = s.cfg ∧ s.iteration ≤ s'.iteration ∧ s'.iteration ≤ m ∧
      s'.decodes - s.decodes ≤ 2 * (s'.iteration - s.iteration) := by
  obtain ⟨h1, h2, h3, h4⟩ := evalInternal_bound m hm fuel s r s' hmax hit h
  exact ⟨h1, h2, h3, by omega⟩

/-- **`iter_limit`** (no looping). With the limit set, `m + 2` iterations of fuel counted from the
current counter always suffice: the call returns a result or an error (`TooManyIterations` when
the program needs more), never runs on and never panics. -/
theorem iter_limit_terminates (m : Nat) (hm : m < 2 ^ 32) (fuel : Nat) (s : Eval)
    (hmax : s.cfg.maxIterations = some m) (hit : s.iteration ≤ m) (hf : m + 2 ≤ fuel + s.iteration) :
    (evaluateInternal fuel s).Normal :=
  evalInternal_terminates m hm fuel s hmax hit (Nat.le_of_succ_le hf)

/-- **`iter_limit`** over any sequence of resume answers. A whole run — `evaluate()`, then one
`resume_with_*` per request, answers from an arbitrary script `toks` — of an evaluator with
`max_iterations = m`, given `m + 2` fuel per call: never runs out of fuel (it ends with a result,
`TooManyIterations` or another error, or at the end of the script), and the state it ends in has
executed at most `m` operations in total (`iteration ≤ m`) and decoded at most two per iteration. -/
theorem iter_limit_run (m : Nat) (hm : m < 2 ^ 32) (fuel : Nat) (hf : m + 2 ≤ fuel) (toks : List Tok) (s : Eval)
    (hmax : s.cfg.maxIterations = some m) (hit : s.iteration ≤ m) :
    (run fuel toks s).2.1 ≠ .diverged ∧
      ∀ e, (run fuel toks s).2.2 = some e →
        e.iteration ≤ m ∧ e.decodes - s.decodes ≤ 2 * (e.iteration - s.iteration) := by
  obtain ⟨h1, h2⟩ := run_limit m hm fuel hf toks s hmax hit
  refine ⟨h1, fun e he => ?_⟩
  obtain ⟨_, _, h3, h4⟩ := h2 e he
  exact ⟨h3, by omega⟩

/-- regression for finding C07-2: with `max_iterations = u32::MAX` the endless loop
`DW_OP_skip -3` is stopped by `TooManyIterations` after exactly `u32::MAX` operations, in either
build mode (an unchecked `+= 1` before the comparison overflows: panic / wrap-around and no
error ever). -/
theorem iter_limit_u32_max_regression (mode : Mode) (dec : Nat) :
    evaluateInternal ((2 ^ 32 - 1) + 1) (loopState mode (some (2 ^ 32 - 1)) 0 dec) = .err .rTooManyIterations :=
  selfLoop_u32_max_limit mode (2 ^ 32 - 1) 0 dec (by omega)

/-- … and without a limit the counter saturates instead of overflowing: however long the loop
runs, the evaluator does not panic (only the Model's fuel runs out). -/
theorem iter_counter_saturates (mode : Mode) (fuel it dec : Nat) :
    evaluateInternal fuel (loopState mode none it dec) = .diverge :=
  selfLoop_no_limit_never_panics mode fuel it dec

/-- a looping program: the limit error, not a hang (`DW_OP_skip -3` forever, limit 5) -/
example :
    (Eval.new .little ⟨4, .dwarf32, 4⟩ {} .debug [0x2f, 0xfd, 0xff] none none (some 5)).bind
      (fun s => (evaluate 7 s).1.map (·.1)) = .err .rTooManyIterations := by decide +kernel

/-! ## (6) storage capacity -/

/-- **`stack_capacity`** (local). `push` on a fixed-capacity stack is `StackFull` exactly when the
stack already holds `n` values; otherwise it pushes. -/
theorem stack_full_iff (c : Config) (v : Value) (m : Mach) :
    push c v m = .err .rStackFull ↔ ∃ n, c.caps.stack = some n ∧ n ≤ m.stack.length :=
  push_full_iff c v m

/-- **`stack_capacity`** (global). Running with fixed capacities (value stack, expression stack,
result pieces) gives exactly what the heap-backed evaluator gives on the same state — same request,
same machine, same counters — or `StackFull`; capacities change nothing else. -/
theorem stack_capacity (fuel : Nat) (s : Eval) :
    (evaluateInternal fuel s).map heapRes = .err .rStackFull ∨
      (evaluateInternal fuel s).map heapRes = (evaluateInternal fuel (heapState s)).map heapRes :=
  evaluateInternal_cap fuel s

/-- **`stack_capacity`** (invariant). The value stack of a fixed-capacity evaluator never holds more
than `n` values: every state `evaluate` / `resume_with_*` return satisfies the bound if the state
they start from does (a fresh evaluator has an empty stack). Together with `stack_full_iff`:
`StackFull` is returned exactly at the pushes that would take the stack beyond `n`. -/
theorem stack_within_capacity (fuel : Nat) (s : Eval) (r : Request) (s' : Eval) (h0 : StackOk s.cfg s.m) :
    (evaluateInternal fuel s = .ok (r, s') → StackOk s'.cfg s'.m) ∧
    (∀ a, resume fuel a s = .ok (r, s') → StackOk s'.cfg s'.m) :=
  ⟨fun h => (evaluateInternal_stackOk fuel s h0 _ h).2, fun a h => (resume_stackOk fuel a s h0 _ h).2⟩

/-- four pushes into `[Value; 3]` -/
example :
    (Eval.new .little ⟨4, .dwarf32, 4⟩ { stack := some 3 } .debug [0x30, 0x31, 0x32, 0x33] none none none).bind
      (fun s => (evaluate 9 s).1.map (·.1)) = .err .rStackFull := by decide +kernel

/-! ## (5) whole evaluations -/

/-- **`eval_refines`** (partial — see below). Take any expression `code` (shorter than `2^63`
bytes), byte order, encoding with address size `a ∈ {1,2,4,8}`, optional initial value and object
address, any script `toks` of resume answers (`TokOk`: integer values that fit their type, any
called expressions shorter than `2^63` bytes) and any fuel. Run the Model evaluator from `Evaluation::new` (heap storage, no
iteration limit) through `evaluate()` and one `resume_with_*` per request, and run the Spec
machine (`Spec/Machine.lean`: mathematical integers, generic values modulo `2^(8a)`, pc as an
offset, return stack, `OpTable` decode) on the same script. Then (`RunRel`), unless the Spec run
reaches a point it leaves unspecified:

* both produce **the same requests in the same order** — register, memory (address, size, address
  space, base type), frame base, CFA, TLS, base type, address index (with the relocate flag),
  entry value, parameter reference, called DIE: exactly what the operation names — and continue
  identically from each answer;
* both **end the same way** (`FinRel`): the same named error (`DivisionByZero`, `BadBranchTarget`,
  `NotEnoughStackItems`, `InvalidPiece`, `InvalidExpressionTerminator`, type errors, …), or
  completion with the same pieces (sizes, bit offsets, locations; values and addresses inside them
  equal *modulo the address size* for generic values and exactly for typed ones) and the same
  value result; or both ran out of the same fuel / script.

Typed values are inside: `DW_OP_const_type`, `DW_OP_convert`, `DW_OP_reinterpret`,
`DW_OP_regval_type`, `DW_OP_deref_type` with integer base types and typed integer answers.

PARTIAL: only floating point values are excluded (float answers, float base types: there the Spec
says `unspecified` and the theorem claims nothing); every operation on integers, including the
shifts, is covered. Fixed-capacity storage and the iteration limit are related to this run by
`stack_capacity` and `iter_limit`. The full statement drops "unless unspecified" and the
storage / limit restrictions. -/
theorem eval_refines_partial (a : Nat) (ha : AddrSize a) (e : Endian) (enc : Encoding)
    (henc : enc.addressSize = a) (mode : Mode) (code : Bytes) (hlen : code.length < 2 ^ 63)
    (init obj : Option Nat) (hinit : ∀ v, init = some v → v < 2 ^ 64) (hobj : ∀ v, obj = some v → v < 2 ^ 64)
    (fuel : Nat) (toks : List Eval.Tok) (htoks : ∀ t ∈ toks, TokOk t)
    (s : Eval)
    (hnew : Eval.new e enc {} mode code init obj none = .ok s) :
    RunRel a (Eval.run fuel toks s)
      (Spec.Machine.runAll ⟨e, enc, obj⟩ fuel (absScript a toks) code init) :=
  Sim.run_refines a ha e enc henc mode code hlen init obj hinit hobj fuel toks htoks s hnew

/-- the Spec machine is not vacuous: a program with a loop (`lit5; L: lit1 minus dup bra L`), a
register request (`breg0 2`), arithmetic and a `stack_value` location is inside the fragment and
evaluates to the value 9 after one request -/
example :
    Spec.Machine.runAll ⟨.little, ⟨4, .dwarf32, 4⟩, none⟩ 40 [fun _ => .register ⟨.generic, 7⟩]
      [0x35, 0x31, 0x1c, 0x12, 0x28, 0xfa, 0xff, 0x70, 0x02, 0x22, 0x9f] none
      = ([.requiresRegister 0 0, .complete], .done [⟨none, none, .value ⟨.generic, 9⟩⟩] none) := by decide +kernel

/-- the witness of finding C07-1 (`lit1; const4u 0xfffffffd; not; shl`, 4-byte addresses) is
inside the fragment and evaluates to 4 -/
example :
    Spec.Machine.runAll ⟨.little, ⟨4, .dwarf32, 4⟩, none⟩ 10 [] [0x31, 0x0c, 0xfd, 0xff, 0xff, 0xff, 0x20, 0x24] none
      = ([.complete], .done [⟨none, none, .address 4⟩] (some ⟨.generic, 4⟩)) := by decide +kernel

/-- one step of the simulation, for reference: every operation of the fragment, on related
machines, has related effects (`Sim.exec_sim`), e.g. a taken branch lands on the same offset -/
example (a : Nat) (c : Config) (sc : Spec.Machine.SCfg) (hc : Sim.CfgRel a c sc) (op : Operation)
    (hop : OpOk op) (m : Mach) (st : Spec.Machine.SState) (h : Sim.R a m st) :
    Sim.Sim (Sim.EffRel a) (Eval.execute c op m) (Spec.Machine.exec sc op st) :=
  Sim.exec_sim hc op hop h

end Gimli.Props.C07
