import Gimli.Lemmas.WUnit
/-!
# C11 — Written units read back as the same forest with every reference intact

Property theorems (helper lemmas: `Gimli/Lemmas/WUnit.lean` and the modules under
`Gimli/Lemmas/WUnit/`).  Every theorem is about the
Model definitions of `Gimli/Model/WUnit.lean` — the functions the driver executes for the `wunit`
op and which the correspondence run compares byte for byte with `gimli::write`
(`.debug_info`, `.debug_abbrev`, `.debug_str`, `.debug_line_str`).

Quantifiers: every entry tree (any shape, depth and size), every attribute list, every value of
every `write::AttributeValue` variant, every DWARF version / format / address size / byte order,
every section position.  The only structural hypothesis is the one the API guarantees: the
entries of a unit have distinct ids (`t.ids.Nodup`).

What is proved here is the size/offset core of the property: the writer's size model agrees with
what it emits, hence the offsets it hands out in pass 1 are the positions of the entries in pass 2,
hence the values patched into references are the positions of the intended entries.  That the
*reader* then reports the same forest is established by the direct oracle of the differential run
(read back with `gimli::read`), not by a theorem (DESIGN.md §7 C11: partial).
-/
namespace Gimli.Props.C11
open Gimli Gimli.Ints Gimli.WUnit

/-! ## (1) the three parallel switches agree -/

/-- **Predicted size = emitted length, for every value kind × version × format × address size.**
`AttributeValue::size` evaluated during pass 1 (with the offsets `a` known at that moment) equals
the number of bytes `AttributeValue::write` appends during pass 2 (with the final offsets
`cx.offs`), whenever both succeed and pass 2 knows at least what pass 1 knew (`a.Ext cx.offs`). -/
theorem attr_size_eq_emit (cx : Ctx) (a : Offs) (pos : Nat) (v : AttrVal) (sz : Nat) (em : Emit)
    (hext : a.Ext cx.offs) (hs : attrSize cx.enc a v = .ok sz) (he : attrEmit cx pos v = .ok em) :
    em.bytes.length = sz :=
  attr_size_eq_emit' cx a pos v sz em hext hs he

/-- the same with one set of offsets (the form used for a single attribute in isolation) -/
theorem attr_size_eq_emit_same (cx : Ctx) (pos : Nat) (v : AttrVal) (sz : Nat) (em : Emit)
    (hs : attrSize cx.enc cx.offs v = .ok sz) (he : attrEmit cx pos v = .ok em) :
    em.bytes.length = sz :=
  attr_size_eq_emit' cx cx.offs pos v sz em (Offs.Ext.refl _) hs he

/-- `uleb128_size` / `sleb128_size` are the lengths of the LEB128 encodings, for every value -/
theorem leb_size_eq_emit (u : Nat) (s : Int) :
    (Leb.encodeU u).length = Leb.sizeU u ∧ (Leb.encodeS s).length = Leb.sizeS s :=
  ⟨Leb.encodeU_length u, Leb.encodeS_length s⟩

/-! ## (1b) the emitted bytes are what the form's reader decodes -/

/-- **The bytes written for a value are the encoding the reader of its form decodes** — for every
`AttributeValue` kind whose bytes are final when pass 2 emits them (everything except the two
reference kinds `UnitRef` / `DebugInfoRef`, whose placeholders are patched later and are covered by
`unit_refs_resolve` / `fixups_resolve`), in every version, format, address size and byte order:
reading `em.bytes ++ rest` with the primitive readers `read::parse_attribute` uses for the form
`AttributeValue::form` chose (`Spec/WUnit.lean` `readFormFull`, built from the readers of C09:
`Leb.unsigned`, `Leb.signed`, `readFixed`, `readAddress`; `DW_FORM_implicit_const` takes its value
from the abbreviation) gives back exactly the intended value (`decodedFull`: numbers, signed
numbers, block / string / expression bytes, flags, table and section offsets) and leaves exactly
`rest`.  So `form`, `size` and `write` agree not only on the length but on the meaning. -/
theorem attr_bytes_decode (cx : Ctx) (pos : Nat) (v : AttrVal) (em : Emit) (fv : FormVal)
    (rest : Bytes) (h : attrEmit cx pos v = .ok em) (hr : v.InRangeFull cx) (hd : decodedFull cx v = some fv)
    (hso : ∀ o ∈ cx.strOffsets, o < 2 ^ 64) (hlo : ∀ o ∈ cx.lineStrOffsets, o < 2 ^ 64)
    (hlp : ∀ o, cx.lineProgram = some o → o < 2 ^ 64) :
    readFormFull cx.endian cx.enc (attrForm cx.enc v).1 (attrForm cx.enc v).2 (em.bytes ++ rest) =
      .ok (fv, rest) :=
  attr_bytes_decode_full cx pos v em fv rest h hr hd hso hlo hlp

/-- what `decodedFull` leaves out is exactly the reference kinds (and the kinds that can only
fail to be written) -/
theorem decoded_covers (cx : Ctx) (v : AttrVal) (em : Emit) (pos : Nat) (h : attrEmit cx pos v = .ok em) :
    (∃ fv, decodedFull cx v = some fv) ∨ (∃ id, v = .unitRef id) ∨ (∃ u id, v = .debugInfoRef u id) := by
  cases v <;> dsimp only [attrEmit] at h
  case unitRef id => exact .inr (.inl ⟨id, rfl⟩)
  case debugInfoRef u id => exact .inr (.inr ⟨u, id, rfl⟩)
  case addressSym | debugInfoRefSym => cases h
  case exprloc items =>
    obtain ⟨body, heb, -⟩ := exprloc_emit h
    exact .inl ⟨.bytes body, congrArg (Option.map FormVal.bytes) heb⟩
  case lineProgramRef =>
    split at h
    · rename_i off hl
      exact .inl ⟨.num off, congrArg (Option.map FormVal.num) hl⟩
    · cases h
  case stringRef idx | lineStringRef idx =>
    obtain ⟨off, ho, -⟩ := Out.bind_eq_ok h
    exact .inl ⟨.num off, congrArg (Option.map FormVal.num) (tableOffset_ok ho)⟩
  all_goals exact .inl ⟨_, rfl⟩

/-! ## (2) pass 1 offsets are pass 2 positions -/

/-- **Main theorem.** Lay a tree out with `calculate_offsets` starting at section offset `start`
(empty offset table, empty abbreviation table), then write it with
`DebuggingInformationEntry::write` using the tables pass 1 produced.  If both succeed then

* the bytes written are exactly as many as pass 1 predicted (`start + length = final offset`);
* every entry of the tree is written exactly once, in pre-order (`starts` lists the ids);
* **the position at which each entry starts is the offset pass 1 assigned to it** — the
  `debug_assert_eq!(offsets.debug_info_offset(self.id), Some(w.offset()))` at the head of
  `DebuggingInformationEntry::write` holds for every tree.

Consequently a `UnitRef`, a `DW_AT_sibling`, a `DW_OP_call4`/`DW_OP_convert` operand or a
`DebugInfoFixup` computed from `offsets` designates the byte at which the intended entry begins. -/
theorem offsets_exact (cx : Ctx) (t : Tree) (start unitOff n : Nat) (p1 : P1) (em : Emit)
    (hnd : t.ids.Nodup)
    (hc : calcTree cx.enc
      { offset := start, offs := { unit := unitOff, n := n, map := fun _ => none },
        abbrevs := [], codes := fun _ => none } t = .ok p1)
    (hoffs : cx.offs = p1.offs) (hcodes : cx.codes = p1.codes)
    (he : emitTree cx start t = .ok em) :
    start + em.bytes.length = p1.offset ∧ em.starts.map (·.1) = t.ids ∧
      ∀ id pos, (id, pos) ∈ em.starts → p1.offs.map id = some pos := by
  have hx : p1.ExtCx cx := ⟨hoffs ▸ Offs.Ext.refl _, fun j c hj => hcodes ▸ hj⟩
  obtain ⟨h1, h2, h3⟩ := (emit_exact cx).1 t _ p1 em hc he hnd (fun _ _ => ⟨rfl, rfl⟩) hx
  exact ⟨h1, h3, fun id pos hmem => hoffs ▸ h2 (id, pos) hmem⟩

/-- the same from any intermediate state of pass 1 (this is the induction that `offsets_exact`
instantiates): `st` is the state before the subtree, none of whose ids has been laid out yet, and
pass 2 reads tables that extend the state after the subtree -/
theorem offsets_exact_from (cx : Ctx) (t : Tree) (st st' : P1) (em : Emit)
    (hc : calcTree cx.enc st t = .ok st') (he : emitTree cx st.offset t = .ok em)
    (hnd : t.ids.Nodup) (hfresh : Fresh t.ids st) (hx : st'.ExtCx cx) :
    st.offset + em.bytes.length = st'.offset ∧ (∀ p ∈ em.starts, cx.offs.map p.1 = some p.2) ∧
      em.starts.map (·.1) = t.ids :=
  (emit_exact cx).1 t st st' em hc he hnd hfresh hx

/-- pass 1 never moves an offset or a code it has assigned: the tables after a subtree agree with
the tables before it on every id outside the subtree -/
theorem pass1_monotone (c : Enc) (t : Tree) (st st' : P1) (h : calcTree c st t = .ok st') :
    st'.offs.unit = st.offs.unit ∧ st'.offs.n = st.offs.n ∧
      ∀ j, j ∉ t.ids → st'.offs.map j = st.offs.map j ∧ st'.codes j = st.codes j :=
  let ⟨h1, h2, h3⟩ := (calc_frame c).1 t st st' h
  ⟨h1, h2, h3⟩

/-- **Total unit length = emitted length.** In a successful `Unit::write` the value stored in the
unit's initial-length field (`body`) is exactly the number of bytes the unit occupies after that
field, patching the references changes no length, and the bytes of earlier units stay as they
were. -/
theorem unit_length_exact (e : Endian) (so lso : List Nat) (s s' : Sec) (u : UnitIn) (o : Offs)
    (h : writeUnit e so lso s u = .ok (s', o)) :
    ∃ body lenField, writeInitialLength e u.enc.format body = .ok lenField ∧
      lenField.length = initLenSize u.enc.format ∧
      s'.info.length = s.info.length + lenField.length + body ∧
      (∀ i, i < s.info.length → s'.info[i]? = s.info[i]?) := by
  obtain ⟨hdr, p1, em, lf, w⟩ := writeUnit_spec e so lso s s' u o h
  have hlf : lf.length = initLenSize _ := writeInitialLength_length w.lenField
  exact ⟨hdr.length + em.bytes.length, lf, w.lenField, hlf, by rw [w.length, hlf, Nat.add_assoc], w.earlier⟩

/-! ## (2b) hence every reference designates the intended entry -/

/-- **Every `UnitRef` placeholder ends up holding the unit offset of the entry it names.**
After a successful `Unit::write`: for every reference `(pos, id)` that pass 2 recorded, the entry
`id` was written by pass 2 at some section position `target`, pass 1 had assigned exactly `target`
to it, and the `word` bytes at `pos` in `.debug_info` are the encoding of `target - unit offset`
— the value a reader adds to the unit's offset to find the entry.  Bytes of earlier units are not
touched. (`unit_refs_survive` carries this to the end of `Dwarf::write`.) -/
theorem unit_refs_resolve (e : Endian) (so lso : List Nat) (s s' : Sec) (u : UnitIn) (o : Offs)
    (hnd : (unitRoot u).ids.Nodup) (h : writeUnit e so lso s u = .ok (s', o)) :
    ∃ (hdr : Bytes) (p1 : P1) (em : Emit),
      calcTree u.enc (p1Init (s.info.length + initLenSize u.enc.format + hdr.length) s.info.length u.nEntries)
        (unitRoot u) = .ok p1 ∧
      emitTree (unitCtx e so lso u p1) (s.info.length + initLenSize u.enc.format + hdr.length) (unitRoot u) = .ok em ∧
      o = p1.offs ∧
      ∀ r ∈ em.urefs, ∃ target, (r.2, target) ∈ em.starts ∧ p1.offs.map r.2 = some target ∧
        ∀ i, i < u.enc.word → s'.info[r.1 + i]? = (toBytes e u.enc.word (target - s.info.length))[i]? := by
  obtain ⟨hdr, p1, em, _, w⟩ := writeUnit_spec e so lso s s' u o h
  exact ⟨hdr, p1, em, w.pass1, w.pass2, w.offs, w.refs hnd⟩

/-- **…and they still do when `Dwarf::write` returns.** Write unit `u` on top of the sections `s0`,
then any further units, then patch all queued cross-unit fix-ups: in the final `.debug_info`
every `UnitRef` placeholder of `u` holds the unit offset of the entry it names — no fix-up
placeholder overlaps a unit-ref placeholder, fix-ups of other units lie inside those units, and
later units only append. (`hp0` holds for the empty sections and is preserved by every unit
write: `fixups_stay_placed`.) -/
theorem unit_refs_survive (e : Endian) (so lso : List Nat) (s0 s1 s2 : Sec) (u : UnitIn) (o : Offs)
    (post : List UnitIn) (offs2 allOffs : List Offs) (info : Bytes)
    (hnd : (unitRoot u).ids.Nodup)
    (hp0 : Placed 0 s0.info.length (holesI s0.ifix))
    (h1 : writeUnit e so lso s0 u = .ok (s1, o))
    (h2 : writeUnits e so lso s1 post = .ok (s2, offs2))
    (h3 : applyFixups e allOffs s2.info s2.ifix = .ok info) :
    ∃ (hdr : Bytes) (p1 : P1) (em : Emit),
      calcTree u.enc (p1Init (s0.info.length + initLenSize u.enc.format + hdr.length) s0.info.length u.nEntries)
        (unitRoot u) = .ok p1 ∧
      emitTree (unitCtx e so lso u p1) (s0.info.length + initLenSize u.enc.format + hdr.length) (unitRoot u) = .ok em ∧
      o = p1.offs ∧
      ∀ r ∈ em.urefs, ∃ target, (r.2, target) ∈ em.starts ∧ p1.offs.map r.2 = some target ∧
        ∀ i, i < u.enc.word → info[r.1 + i]? = (toBytes e u.enc.word (target - s0.info.length))[i]? := by
  obtain ⟨hdr, p1, em, _, w⟩ := writeUnit_spec e so lso s0 s1 u o h1
  refine ⟨hdr, p1, em, w.pass1, w.pass2, w.offs, fun r hr => ?_⟩
  obtain ⟨target, t1, t2, t3⟩ := w.refs hnd r hr
  refine ⟨target, t1, t2, fun i hi => ?_⟩
  -- the placeholder lies in this unit's bytes: later units append behind it, and no fix-up reaches
  -- into it, be it of an earlier unit, of this one or of a later one
  obtain ⟨hr1, hr2⟩ := holesU_within w.holes.urefs hr
  have hbeg : s0.info.length ≤ r.1 + i :=
    Nat.le_trans (Nat.le_trans (Nat.le_add_right ..) (Nat.le_add_right ..)) (Nat.le_trans hr1 (Nat.le_add_right ..))
  have hin : r.1 + i < r.1 + u.enc.word := Nat.add_lt_add_left hi r.1
  have hend : r.1 + u.enc.word ≤ s1.info.length := w.length ▸ hr2
  obtain ⟨-, fr2, later, hlater, hpl⟩ := writeUnits_appends e so lso post s1 s2 offs2 h2
  rw [applyFixups_eq] at h3
  rw [← t3 i hi, patchAll_frame h3 (r.1 + i) ?_, fr2 (r.1 + i) (Nat.lt_of_lt_of_le hin hend)]
  intro f hf pos b hres
  obtain ⟨rfl, _, _, _, _, hw⟩ := resolveFix_ok hres
  rw [writeUdata_length hw]
  rw [hlater, w.ifix, List.mem_append, List.mem_append] at hf
  rcases hf with (hf | hf) | hf
  · exact .inr (Nat.le_trans (holesI_within hp0 hf).2 hbeg)
  · exact (w.holes.cross r hr f hf).imp (Nat.lt_of_lt_of_le hin) (Nat.le_trans · (Nat.le_add_right ..))
  · exact .inl (Nat.lt_of_lt_of_le hin (Nat.le_trans hend (holesI_within hpl hf).1))

/-- the invariant `unit_refs_survive` and `fixups_resolve` rest on: the queued fix-up
placeholders are in increasing order, pairwise disjoint and inside `.debug_info` — initially
(no fix-ups) and after every unit write -/
theorem fixups_stay_placed (e : Endian) (so lso : List Nat) (s s' : Sec) (u : UnitIn) (o : Offs)
    (h : writeUnit e so lso s u = .ok (s', o)) (hp : Placed 0 s.info.length (holesI s.ifix)) :
    Placed 0 s'.info.length (holesI s'.ifix) := by
  obtain ⟨-, -, later, hl, pl⟩ := writeUnit_appends e so lso s s' u o h
  rw [hl, holesI_append]
  exact hp.append pl

/-- **Every cross-unit fix-up ends up holding the section offset of the entry it names.**
After a successful `Dwarf::write`: `offs[k]` being the final `UnitOffsets` of unit `k` (the very
table `offsets_exact` is about), every `DebugInfoFixup` `f` queued by any unit — from a
`DebugInfoRef` attribute or a `DW_OP_call_ref` inside an expression — names a unit that exists and
an entry that has an offset `off` there, and the `f.size` bytes at `f.pos` of the final
`.debug_info` are the encoding of `off`.  (Fix-up placeholders never overlap, so none of these
values is overwritten by another one.) -/
theorem fixups_resolve (e : Endian) (strs lstrs : StrTab) (units : List UnitIn)
    (info abbr str lstr : Bytes) (h : writeDwarf e strs lstrs units = .ok (info, abbr, str, lstr)) :
    ∃ s offs, writeUnits e (strOffsets strs) (strOffsets lstrs) {} units = .ok (s, offs) ∧
      info.length = s.info.length ∧ abbr = s.abbr ∧
      ∀ f ∈ s.ifix, ∃ o off, offs[f.unit]? = some o ∧ o.debugInfoOffset f.id = .ok (some off) ∧
        ∀ i, i < f.size → info[f.pos + i]? = (toBytes e f.size off)[i]? := by
  unfold writeDwarf at h
  obtain ⟨⟨s, offs⟩, h1, h⟩ := Out.bind_eq_ok h
  obtain ⟨info', h2, h⟩ := Out.bind_eq_ok h
  cases h
  -- all fix-ups were queued by these unit writes, so they are in increasing order
  obtain ⟨-, -, later, (hl : s.ifix = later), pl⟩ := writeUnits_appends e _ _ units {} s offs h1
  rw [hl] at h2
  obtain ⟨q1, -, q3⟩ := applyFixups_placed e offs later _ _ _ _ h2 pl
  exact ⟨s, offs, h1, q3, rfl, fun f hf => q1 f (hl ▸ hf)⟩

/-- **A sibling pointer points behind the subtree.** The `DW_AT_sibling` value an entry with
children is given is the unit offset of the first byte after everything the entry and its
subtree emitted — where the next sibling (or the parent's null terminator) starts. -/
theorem sibling_exact (cx : Ctx) (pos id tag : Nat) (attrs : List (Nat × AttrVal)) (t : Tree)
    (rest : Forest) (em : Emit) (h : emitTree cx pos (.node id tag true attrs (.cons t rest)) = .ok em) :
    ∃ code tail, em.bytes = Leb.encodeU code ++
      toBytes cx.endian cx.enc.word (pos + em.bytes.length - cx.offs.unit) ++ tail := by
  obtain ⟨code, sibBs, a, k, -, -, -, -, hem, hsib⟩ := emitTree_node h
  refine ⟨code, a.bytes ++ (k ++ Emit.ofBytes [0]).bytes, ?_⟩
  rw [← hsib rfl, hem]
  simp only [Emit.append_bytes, List.append_assoc]
  rfl

/-! ## (3) de-duplicating tables -/

/-- **Abbreviation codes start at 1, are dense, and equal abbreviations share one code.**
`AbbreviationTable::add` returns a code between 1 and the table size, the table holds exactly
this abbreviation under that code, the table grows by at most one entry and only at its end (so
codes handed out earlier keep their meaning), stays duplicate-free, and adding an abbreviation
that is already there under code `k + 1` returns `k + 1` and changes nothing. -/
theorem dedup_tables (tab : List Abbrev) (a : Abbrev) (hnd : tab.Nodup) :
    1 ≤ (abbrevAdd tab a).1 ∧ (abbrevAdd tab a).1 ≤ (abbrevAdd tab a).2.length ∧
    (abbrevAdd tab a).2[(abbrevAdd tab a).1 - 1]? = some a ∧
    ((abbrevAdd tab a).2 = tab ∨ (a ∉ tab ∧ (abbrevAdd tab a).2 = tab ++ [a])) ∧
    (abbrevAdd tab a).2.Nodup ∧
    (∀ k, tab[k]? = some a → abbrevAdd tab a = (k + 1, tab)) := by
  obtain ⟨h1, h2, h3, h4⟩ := abbrevAdd_spec tab a
  exact ⟨h1, h2, h3, h4, abbrevAdd_nodup tab a hnd, fun k hk => abbrevAdd_existing tab a k hnd hk⟩

/-- the first abbreviation of a unit gets code 1 -/
theorem first_code_is_one (a : Abbrev) : abbrevAdd [] a = (1, [a]) := rfl

/-- `AbbreviationTable::write` numbers the declarations 1, 2, 3, … in table order, so the
declaration written under code `k` is `tab[k-1]` — the one `add` associated with `k` -/
theorem abbrev_table_numbering (k : Nat) (a : Abbrev) (rest : List Abbrev) :
    abbrevsWriteFrom k (a :: rest) =
      Leb.encodeU (k + 1) ++ abbrevWrite a ++ abbrevsWriteFrom (k + 1) rest := rfl

/-- **Every entry's code designates the entry's own abbreviation** in the table that is finally
written, for every tree: after pass 1 (started with an empty table) each entry `id` has a code
`≥ 1` and the table holds under that code the abbreviation built from that entry's tag,
children flag, sibling flag and attribute forms; and two entries have the same code exactly when
their abbreviations are equal. -/
theorem entry_codes_designate_own_abbrev (c : Enc) (t : Tree) (st0 p1 : P1)
    (hempty : st0.abbrevs = []) (hnd : t.ids.Nodup) (hc : calcTree c st0 t = .ok p1) :
    p1.abbrevs.Nodup ∧
    (∀ p ∈ t.abbrevs c, ∃ code, p1.codes p.1 = some code ∧ 1 ≤ code ∧
      p1.abbrevs[code - 1]? = some p.2) ∧
    (∀ p ∈ t.abbrevs c, ∀ q ∈ t.abbrevs c, ∀ cp cq, p1.codes p.1 = some cp → p1.codes q.1 = some cq →
      (cp = cq ↔ p.2 = q.2)) := by
  obtain ⟨h1, _, h3⟩ := (calc_codes c).1 t st0 p1 hc hnd (by rw [hempty]; exact List.nodup_nil)
  refine ⟨h1, h3, ?_⟩
  intro p hp q hq cp cq hcp hcq
  obtain ⟨c1, a1, a2, a3⟩ := h3 p hp
  obtain ⟨c2, b1, b2, b3⟩ := h3 q hq
  rw [hcp] at a1; rw [hcq] at b1
  cases a1; cases b1
  constructor
  · intro heq
    subst heq
    rw [a3] at b3
    exact Option.some.inj b3
  · intro heq
    have := nodup_getElem?_inj p1.abbrevs (cp - 1) (cq - 1) p.2 h1 a3 (heq ▸ b3)
    omega

/-- **Equal strings share one offset, and the offset resolves.** `StringTable::add` returns an id
under which the table holds exactly this string; the table grows only at its end and stays
duplicate-free; a string already present under id `k` gets id `k` again; and the offset recorded
for an id is the position in the written `.debug_str` at which that string, followed by its NUL
terminator, stands. -/
theorem string_table_dedup (tab : StrTab) (s : Bytes) (hnd : tab.Nodup) :
    (strAdd tab s).2[(strAdd tab s).1]? = some s ∧
    ((strAdd tab s).2 = tab ∨ (s ∉ tab ∧ (strAdd tab s).2 = tab ++ [s])) ∧
    (strAdd tab s).2.Nodup ∧
    (∀ k, tab[k]? = some s → strAdd tab s = (k, tab)) := by
  obtain ⟨h1, h2⟩ := strAdd_spec tab s
  exact ⟨h1, h2, strAdd_nodup tab s hnd, fun k hk => strAdd_existing tab s k hnd hk⟩

theorem string_offset_resolves (tab : StrTab) (idx : Nat) (s : Bytes) (h : tab[idx]? = some s) :
    ∃ off, (strOffsets tab)[idx]? = some off ∧
      (strWrite tab).drop off = s ++ 0 :: strWrite (tab.drop (idx + 1)) := by
  obtain ⟨h1, h2⟩ := str_offset_resolves tab 0 idx s h
  exact ⟨_, h1, by simpa using h2⟩

/-! ## (4) base types first -/

/-- **`reorder_base_types` preserves the forest up to the documented reordering of the root's
children.** The root keeps its id, tag, sibling flag and attributes; its children are the same
subtrees (a permutation — nothing lost, nothing duplicated, subtrees untouched); all base-type
children come first; and the relative order among the base types and among the others is kept. -/
theorem base_types_first (id tag : Nat) (sib : Bool) (attrs : List (Nat × AttrVal)) (ch : Forest) :
    ∃ ch', reorderBaseTypes (.node id tag sib attrs ch) = .node id tag sib attrs ch' ∧
      ch'.toList.Perm ch.toList ∧
      ch'.toList = ch.toList.filter isBase ++ ch.toList.filter (fun t => !isBase t) ∧
      ch'.toList.filter isBase = ch.toList.filter isBase ∧
      ch'.toList.filter (fun t => !isBase t) = ch.toList.filter (fun t => !isBase t) := by
  refine ⟨_, reorder_children id tag sib attrs ch, ?_, ?_, ?_, ?_⟩
  · rw [toList_ofList]; exact List.filter_append_perm isBase ch.toList
  · rw [toList_ofList]
  · rw [toList_ofList]; exact filter_partition_left isBase ch.toList
  · rw [toList_ofList]; exact filter_partition_right isBase ch.toList

/-! ## (5) what cannot be encoded is an error, never bytes -/

/-- `write_udata(v, size)` accepts `v` -/
def fitsIn (v size : Nat) : Prop := size = 8 ∨ ((size = 1 ∨ size = 2 ∨ size = 4) ∧ v < 2 ^ (8 * size))

instance (v size : Nat) : Decidable (fitsIn v size) := by unfold fitsIn; infer_instance

/-- the requests `AttributeValue::write` can encode under `cx` -/
def Encodable (cx : Ctx) : AttrVal → Prop
  | .address v => fitsIn v cx.enc.addrSize
  | .addressSym => False
  | .debugInfoRefSym => False
  | .unitRef _ => fitsIn 0 cx.enc.word
  | .debugInfoRef _ _ => fitsIn 0 (if cx.enc.version = 2 then cx.enc.addrSize else cx.enc.word)
  | .debugInfoRefSup off | .locationListRef off | .debugMacinfoRef off | .debugMacroRef off
  | .rangeListRef off | .debugStrRefSup off => fitsIn off cx.enc.word
  | .lineProgramRef => ∃ off, cx.lineProgram = some off ∧ fitsIn off cx.enc.word
  | .stringRef idx => ∃ off, cx.strOffsets[idx]? = some off ∧ fitsIn off cx.enc.word
  | .lineStringRef idx => ∃ off, cx.lineStrOffsets[idx]? = some off ∧ fitsIn off cx.enc.word
  | .string bs => bs.contains 0 = false
  | _ => True

/-- **A value too large for its form, an address that needs relocation, a symbolic reference, a
line-program reference without a line program, an address size `write_udata` cannot write, a
string value containing a NUL byte: each is an error, never bytes.**  Stated as its contrapositive: if `AttributeValue::write` produced
bytes, the value was encodable. -/
theorem unencodable_value_is_error (cx : Ctx) (pos : Nat) (v : AttrVal) (em : Emit)
    (h : attrEmit cx pos v = .ok em) : Encodable cx v := by
  cases v <;> dsimp only [attrEmit] at h <;> dsimp only [Encodable]
  case addressSym | debugInfoRefSym => cases h
  case address | debugInfoRefSup | locationListRef | debugMacinfoRef | debugMacroRef | rangeListRef
      | debugStrRefSup => exact (udataEmit_ok h).2
  case unitRef | debugInfoRef =>
    obtain ⟨b, hb, -⟩ := Out.bind_eq_ok h
    exact (writeUdata_ok hb).2
  case lineProgramRef =>
    split at h
    · exact ⟨_, ‹_›, (udataEmit_ok h).2⟩
    · cases h
  case stringRef | lineStringRef =>
    obtain ⟨off, ho, h⟩ := Out.bind_eq_ok h
    exact ⟨off, tableOffset_ok ho, (udataEmit_ok h).2⟩
  case string bs => exact (string_emit_inv bs em h).1
  all_goals trivial

/-- **An unencodable value anywhere in the tree makes the whole write fail**: if pass 2 produced
bytes for a tree then every attribute value of every entry of it is encodable. -/
theorem unencodable_is_error (cx : Ctx) (t : Tree) (pos : Nat) (em : Emit)
    (h : emitTree cx pos t = .ok em) : ∀ v ∈ t.attrVals, Encodable cx v := by
  intro v hv
  obtain ⟨pos', em', h'⟩ := (emit_ok_each cx).1 t pos em h v hv
  exact unencodable_value_is_error cx pos' v em' h'

/-- **A NUL byte inside an `AttributeValue::String` → `InvalidAttributeValue`**, at any position,
under any encoding, before a byte of the value is written (repair of finding C11-2: without it the
value is emitted verbatim and read back as a shorter string followed by garbage). -/
theorem nul_in_string_is_error (cx : Ctx) (pos : Nat) (bs : Bytes) (h : (0 : UInt8) ∈ bs) :
    attrEmit cx pos (.string bs) = .err .wInvalidAttributeValue :=
  if_pos (List.contains_iff_mem.mpr h)

/-- … and therefore a tree that carries such a string anywhere is never written. -/
theorem nul_in_string_anywhere_is_error (cx : Ctx) (t : Tree) (pos : Nat) (em : Emit) (bs : Bytes)
    (hmem : AttrVal.string bs ∈ t.attrVals) (h0 : (0 : UInt8) ∈ bs) : emitTree cx pos t ≠ .ok em := by
  intro h
  have hc : bs.contains 0 = false := unencodable_is_error cx t pos em h _ hmem
  rw [List.contains_iff_mem.mpr h0] at hc
  cases hc

/-- **An address size other than 1, 2, 4 or 8 → `UnsupportedWordSize`**, whatever the unit
contains and whatever its version, before anything is written to any section (repair of finding
C11-1: without it such a unit is written whenever no attribute needs the address size, and its
header cannot be read). -/
theorem bad_address_size_is_error (e : Endian) (so lso : List Nat) (s : Sec) (u : UnitIn)
    (ha : ¬ (u.enc.addrSize = 1 ∨ u.enc.addrSize = 2 ∨ u.enc.addrSize = 4 ∨ u.enc.addrSize = 8)) :
    writeUnit e so lso s u = .err .wUnsupportedWordSize := by
  unfold writeUnit
  exact if_pos ha

/-- contrapositive: every unit that is written has a readable address size and version -/
theorem written_unit_is_readable (e : Endian) (so lso : List Nat) (s s' : Sec) (u : UnitIn) (o : Offs)
    (h : writeUnit e so lso s u = .ok (s', o)) :
    (u.enc.addrSize = 1 ∨ u.enc.addrSize = 2 ∨ u.enc.addrSize = 4 ∨ u.enc.addrSize = 8) ∧
      2 ≤ u.enc.version ∧ u.enc.version ≤ 5 := by
  refine ⟨?_, ?_⟩
  · apply Classical.byContradiction
    intro ha
    rw [bad_address_size_is_error e so lso s u ha] at h; cases h
  · obtain ⟨hdr, _, _, _, hh, _⟩ := writeUnit_inv e so lso s s' u o h
    exact Classical.byContradiction fun hv => by rw [unitHeader_err hv] at hh; cases hh

/-- **Unsupported version → `UnsupportedVersion`**, whatever the unit contains (the address size
is checked first, so it must be one `Unit::write` accepts). -/
theorem unsupported_version_is_error (e : Endian) (so lso : List Nat) (s : Sec) (u : UnitIn)
    (ha : u.enc.addrSize = 1 ∨ u.enc.addrSize = 2 ∨ u.enc.addrSize = 4 ∨ u.enc.addrSize = 8)
    (hv : u.enc.version < 2 ∨ 5 < u.enc.version) :
    writeUnit e so lso s u = .err .wUnsupportedVersion := by
  have hh : unitHeader e u.enc s.abbr.length = .err .wUnsupportedVersion := unitHeader_err (by omega)
  unfold writeUnit
  dsimp only
  rw [if_neg (not_not_intro ha), hh]
  rfl

/-- **A reference to an entry that was never laid out is an error** (`InvalidReference`, or the
documented slice panic for an id beyond `entries.len()`), never a patched placeholder: if the
`unit_refs` loop succeeds, every reference resolved to an assigned offset that fits the word
size and lies inside the section; lengths are unchanged. -/
theorem unresolved_unit_ref_is_error (e : Endian) (word : Nat) (o : Offs) (refs : List (Nat × Nat))
    (info info' : Bytes) (h : patchUnitRefs e word o info refs = .ok info') :
    info'.length = info.length ∧
      ∀ r ∈ refs, ∃ u b, o.unitOffset r.2 = .ok (some u) ∧ writeUdata e u word = .ok b ∧
        r.1 + word ≤ info.length := by
  rw [patchUnitRefs_eq] at h
  refine ⟨(patchAll_ok h).1, fun r hr => ?_⟩
  obtain ⟨pos, b, hres, hb⟩ := (patchAll_ok h).2 r hr
  obtain ⟨rfl, u, hu, hw⟩ := resolveURef_ok hres
  exact ⟨u, b, hu, hw, writeUdata_length hw ▸ hb⟩

/-- the same for the cross-unit fix-ups of `UnitTable::write_debug_info_fixups` -/
theorem unresolved_fixup_is_error (e : Endian) (units : List Offs) (fx : List IFix)
    (info info' : Bytes) (h : applyFixups e units info fx = .ok info') :
    info'.length = info.length ∧
      ∀ f ∈ fx, ∃ o off b, units[f.unit]? = some o ∧ o.debugInfoOffset f.id = .ok (some off) ∧
        writeUdata e off f.size = .ok b ∧ f.pos + f.size ≤ info.length := by
  rw [applyFixups_eq] at h
  refine ⟨(patchAll_ok h).1, fun f hf => ?_⟩
  obtain ⟨pos, b, hres, hb⟩ := (patchAll_ok h).2 f hf
  obtain ⟨rfl, o, off, ho, hoff, hw⟩ := resolveFix_ok hres
  exact ⟨o, off, b, ho, hoff, hw, writeUdata_length hw ▸ hb⟩

/-- a unit too long for a 32-bit initial length is an error (`InitialLengthOverflow` for the
reserved values, `ValueTooLarge` above), never a truncated length -/
theorem length_overflow_is_error (e : Endian) (len : Nat) (bs : Bytes)
    (h : writeInitialLength e .dwarf32 len = .ok bs) : len < 0xffff_fff0 :=
  (writeInitialLength_ok h).elim (·.2.1) fun h64 => nomatch h64.1

/-! ## non-vacuity: the hypotheses are met by concrete, non-trivial inputs -/

/-- a pass-2 context with empty tables -/
def exCtxW : Ctx :=
  { endian := .little, enc := { version := 4, format := .dwarf32, addrSize := 8 },
    offs := { unit := 0, n := 1, map := fun _ => none }, codes := fun _ => none, lineProgram := none,
    strOffsets := [], lineStrOffsets := [] }


/-- root with a forward `UnitRef` to its second child, a base type that is moved first -/
def exTree : Tree :=
  .node 0 0x11 false [(0x49, .unitRef 2), (0x03, .string [0x61])]
    (.cons (.node 1 0x2e true [(0x49, .unitRef 2)] (.cons (.node 3 0x34 false [(0x02, .udata 300)] .nil) .nil))
      (.cons (.node 2 0x24 false [(0x3e, .constClass 5)] .nil) .nil))

def exEnc : Enc := { version := 4, format := .dwarf32, addrSize := 8 }

example : exTree.ids.Nodup := by decide
example : (reorderBaseTypes exTree).ids = [0, 2, 1, 3] := by decide

/-- the whole pipeline succeeds on it (so the hypotheses of `offsets_exact` — both passes `ok` —
are satisfiable); evaluated by the kernel -/
example : (writeDwarf .little [] [] [{ enc := exEnc, nEntries := 4, root := exTree, lineProgram := none }]).isOk = true := by
  decide +kernel

example : fitsIn 0x1234 2 ∧ ¬ fitsIn 0x12345 2 ∧ ¬ fitsIn 0 3 := by decide
example : (AttrVal.data2 0x1234).InRange ∧ (AttrVal.string [0x61, 0x62]).InRange ∧
    ¬ (AttrVal.string [0x61, 0]).InRange := by decide
example : Placed 0 0 (holesI ([] : List IFix)) := Nat.le_refl 0
example : decodedFull exCtxW (.sdata (-5)) = some (.int (-5)) ∧ (AttrVal.sdata (-5)).InRangeFull exCtxW := by
  refine ⟨rfl, trivial, by decide⟩
example : abbrevAdd [⟨1, true, []⟩] ⟨1, true, []⟩ = (1, [⟨1, true, []⟩]) := by decide
example : strAdd [[1], [2]] [2] = (1, [[1], [2]]) ∧ strOffsets [[1], [2, 3], []] = [0, 2, 5] := by decide

end Gimli.Props.C11
