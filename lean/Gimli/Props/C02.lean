import Gimli.Lemmas.Die
import Gimli.Lemmas.DieForest
import Gimli.Lemmas.Abbrev
import Gimli.Lemmas.UnitHeader
import Gimli.Lemmas.DieSibling
import Gimli.Lemmas.DieTree
import Gimli.Props.C03
/-!
# C02 — The DIE forest is reported exactly as encoded, by every navigation API

The property theorems (their lemmas: `Gimli/Lemmas/{Die*,Abbrev,UnitHeader}.lean`). The Model
functions (`Gimli/Model/{Die,Abbrev}.lean`) mirror `src/read/unit.rs` and `src/read/abbrev.rs`
and are tied to them by the correspondence run on every check.

Vocabulary. `Spec.Forest` is the abstract forest, `Forest.encodeUnit f pad` the DWARF encoding
of its entries followed by `pad` null bytes, `Forest.listingUnit off f pad` the exact list of
(unit offset, depth, tag, children flag) — null entries included — that a faithful reader reports
when the body starts at unit offset `off`. `ForestOK ctx f` says that the unit's abbreviation
table (`ctx.abbrevs`) resolves every entry's code to a declaration with that entry's tag and
children flag and that the entry's attribute bytes are an encoding of the declared attributes
(which is what C03 provides); it is the well-formedness hypothesis, for *any* abbreviation-code
assignment, forest shape, attribute content and encoding parameters.
-/
namespace Gimli.Props.C02
open Gimli Gimli.Attr Gimli.Abbrev Gimli.Die Gimli.Spec Gimli.Spec.Forest Gimli.Spec.Unit Gimli.Spec.AbbrevTable

/-! ## (0) well-formedness comes from the spec encoders -/

/-- An entry whose attribute bytes are the DWARF encoding (`Spec.Attr.encodeAttrs`, C03) of some
payloads for the attributes its abbreviation declares is readable (`NodeOK`): the hypothesis of
the theorems below is met by everything a producer writes according to the spec. -/
theorem node_ok_of_encoded (ctx : Ctx) (d : Node) (a : Abbreviation) (ps : List Payload)
    (hc0 : d.code ≠ 0) (hc64 : d.code < 2 ^ 64) (ht0 : d.tag ≠ 0)
    (hget : ctx.abbrevs.get d.code = some a) (htag : a.tag = d.tag) (hch : a.hasChildren = d.children)
    (hlen : ps.length = a.attrs.length)
    (henc : Spec.Attr.encodeAttrs ctx.enc (a.attrs.zip ps) = some d.attrBytes)
    (himp : ∀ sp ∈ a.attrs.zip ps, sp.1.form = .implicitConst → sp.2 = .int sp.1.implicitConst) :
    NodeOK ctx d := by
  refine ⟨hc0, hc64, ht0, a, hget, htag, hch,
    (a.attrs.zip ps).map (fun sp => ⟨Spec.Attr.rawKind ctx.enc sp.1.name sp.1.form, sp.2⟩), fun rest => ?_⟩
  have h := C03.read_attributes_roundtrip ctx.enc (a.attrs.zip ps) d.attrBytes rest henc himp
  rw [List.map_fst_zip (by omega)] at h
  exact h

/-! ## (1) raw entry reading reports exactly the depth-first listing -/

/-- **`raw_is_dfs`.** Reading the body of a well-formed unit entry by entry
(`while !entries.is_empty() { entries.read_entry(..)? }`) yields exactly the depth-first list of
(offset, depth, tag, children flag) of the encoded forest, null entries and trailing padding
included, and then ends normally — for every forest, padding, start offset and any fuel of at
least `length + 1` (so the loop bound is never hit). -/
theorem raw_is_dfs (ctx : Ctx) (f : Forest) (hok : ForestOK ctx f) (pad off fuel : Nat)
    (hfuel : (encodeUnit f pad).length + 1 ≤ fuel) :
    ∃ es, es.map Entry.item = listingUnit off f pad ∧
      rawAll ctx fuel (Raw.new (encodeUnit f pad) off) = (es, .ok ()) := by
  obtain ⟨es1, r₁, hl1, hr1, h₁⟩ := reads_forest ctx f hok
    (At.mk' (off := off) (D := 0) (tail := List.replicate pad 0) rfl)
  obtain ⟨es2, r', hl2, hr2, hr'⟩ := reads_padding ctx pad h₁
  have hr := hr1.append hr2
  exact ⟨es1 ++ es2, by rw [List.map_append, hl1, hl2, listingUnit],
    rawAll_complete hr hr' (Nat.lt_of_le_of_lt (Nat.le_trans (Nat.le_add_right _ _) hr.length_le) hfuel)⟩

/-- the same inside any surrounding input: a forest is read as its listing and the reader is
left exactly behind it, at the same depth (`reads_forest`, restated for `rawAll`) -/
theorem raw_is_dfs_prefix (ctx : Ctx) (f : Forest) (hok : ForestOK ctx f) (k off : Nat) (depth : Int)
    (rest : Bytes) :
    ∃ es, es.map Entry.item = listing off depth f ∧
      rawAll ctx (count f + k) ⟨encode f ++ rest, off + (encode f ++ rest).length, depth⟩ =
        (es ++ (rawAll ctx k ⟨rest, off + (encode f ++ rest).length, depth⟩).1,
          (rawAll ctx k ⟨rest, off + (encode f ++ rest).length, depth⟩).2) := by
  obtain ⟨es, r', hl, hr, h'⟩ := reads_forest ctx f hok (At.mk' (off := off) (D := depth) (tail := rest) rfl)
  obtain rfl := h'.eq_end
  refine ⟨es, hl, ?_⟩
  rw [← listing_length off depth f, ← hl, List.length_map]
  exact rawAll_reads hr k

/-- `read_abbreviation` + `skip_attributes` (the other documented way to use `EntriesRaw`)
reports the same entries at the same offsets and depths — by C03's `skip_eq_read`. Holds for
every input on which the reading loop ends normally, well formed or not. -/
theorem rawskip_eq (ctx : Ctx) (n : Nat) (r : Raw) (es : List Entry)
    (h : rawAll ctx n r = (es, .ok ())) :
    rawSkipAll ctx n r = (es.map Entry.strip, .ok ()) := by
  induction n generalizing r es with
  | zero => cases h
  | succ n ih =>
    rw [rawSkipAll]
    cases he : r.input.isEmpty with
    | true => rw [rawAll_empty _ he] at h; cases h; rfl
    | false =>
      rw [rawAll_read _ he] at h
      rw [if_neg (by simp)]
      cases hr : r.readEntry ctx with
      | ok p =>
        rw [hr] at h
        obtain ⟨rfl, h2⟩ := Prod.mk.inj (h : (p.1 :: _, _) = _)
        rw [skipEntry_of_readEntry hr]
        exact congrArg (Trace.cons _) (ih p.2 _ (Prod.ext rfl h2))
      | err x => rw [hr] at h; cases h
      | panic w => rw [hr] at h; cases h
      | diverge => rw [hr] at h; cases h


/-! ## (2) the cursor styles report the same forest -/

/-- `EntriesCursor::next_entry` in a loop is the raw loop: identical entries, offsets, depths and
ending — for every input and fuel. -/
theorem entry_cursor_eq (ctx : Ctx) (fuel : Nat) (c : Cursor) :
    entryAll ctx fuel c = rawAll ctx fuel c.raw := by
  induction fuel generalizing c with
  | zero => rfl
  | succ fuel ih =>
    rw [entryAll]
    cases he : c.raw.input.isEmpty with
    | true => rw [nextEntry_empty he, rawAll_empty _ he]
    | false =>
      rw [nextEntry_read he, rawAll_read _ he]
      cases hr : c.raw.readEntry ctx with
      | ok p => exact congrArg (Trace.cons p.1) (ih _)
      | _ => rfl


/-- **`dfs_cursor_eq`.** `EntriesCursor::next_dfs` in a loop reports exactly the raw listing
without its null entries, and ends the same way (normally or with the same error) — for every
input, well formed or not. -/
theorem dfs_cursor_eq (ctx : Ctx) (n : Nat) (r : Raw) (es : List Entry) (en : Out Unit)
    (h : rawAll ctx n r = (es, en)) (hd : en ≠ .diverge) (m : Nat) (cur : Entry) (hm : n ≤ m) :
    dfsAll ctx m ⟨r, cur⟩ = (es.filter (fun e => !e.isNull), en) := by
  obtain ⟨rfl, rfl⟩ := Prod.mk.inj h.symm
  exact dfsAll_eq_rawAll ctx n r hd m cur hm

/-- … hence on a well-formed unit: the non-null items of the depth-first listing, in order -/
theorem dfs_cursor_forest (ctx : Ctx) (f : Forest) (hok : ForestOK ctx f) (pad off fuel : Nat)
    (hfuel : (encodeUnit f pad).length + 1 ≤ fuel) :
    ∃ es, es.map Entry.item = (listingUnit off f pad).filter (fun i => !i.isNull) ∧
      dfsAll ctx fuel (Cursor.new (encodeUnit f pad) off) = (es, .ok ()) := by
  obtain ⟨es, hl, hr⟩ := raw_is_dfs ctx f hok pad off fuel hfuel
  refine ⟨es.filter (fun e => !e.isNull), ?_, ?_⟩
  · rw [← hl, List.filter_map]
    rfl
  · exact dfs_cursor_eq ctx fuel _ es _ hr (by simp) fuel _ (Nat.le_refl _)

/-- **`sibling_eq`.** Walking a well-formed unit with `next_entry` (to step into a child list) and
`next_sibling` (to iterate it), recursively, visits exactly the non-null entries of the
depth-first listing in order, with the same offsets, depths, tags and children flags — whether
entries carry no `DW_AT_sibling` attribute, a correct one (pointing just behind the entry's
subtree), or a mixture (`SibOK`: for every entry with the children flag the fast-path target is
absent or correct). In particular the fast path only jumps forward and keeps the depth. -/
theorem sibling_eq (ctx : Ctx) (f : Forest) (hok : ForestOK ctx f) (pad off : Nat)
    (hsib : SibOK ctx off f) (fuel : Nat) (hfuel : count f < fuel) :
    ∃ es, es.map Entry.item = (listingUnit off f pad).filter (fun i => !i.isNull) ∧
      siblingAll ctx fuel (Cursor.new (encodeUnit f pad) off) = (es, .ok ()) := by
  have htail : List.replicate pad (0 : UInt8) = [] ∨ ∃ t, List.replicate pad (0 : UInt8) = 0 :: t := by
    cases pad with
    | zero => exact Or.inl rfl
    | succ n => exact Or.inr ⟨_, List.replicate_succ⟩
  obtain ⟨b, c', hp, hne, -⟩ := nextEntry_posAt ctx 0 f hok (At.mk' (off := off) rfl) htail Entry.null
  obtain ⟨es, hl, hw⟩ := siblingWalk_forest ctx f hok off hsib 0 (List.replicate pad 0) htail c' hp fuel hfuel
  refine ⟨es, ?_, ?_⟩
  · rw [hl, listingUnit, List.filter_append]
    have := padding_filter_nonNull pad (off + (encode f).length) 0
    rw [this, List.append_nil]
  · unfold siblingAll Cursor.new Raw.new Forest.encodeUnit
    rw [hne]
    exact hw

/-- the single step behind it: from any entry, `next_sibling` ends on that entry's next sibling —
or on no entry when it was the last of its list — with or without the fast path -/
theorem next_sibling_step (ctx : Ctx) (d : Node) (kids sibs : Forest) (hok : ForestOK ctx (.node d kids sibs))
    (off : Nat) (hsib : SibOK ctx off (.node d kids sibs)) (D : Int) (tail : Bytes)
    (htail : tail = [] ∨ ∃ t, tail = 0 :: t) (c : Cursor) (hc : PosAt ctx c off D tail (.node d kids sibs)) :
    ∃ c', PosAt ctx c' (if d.children then off + (headBytes d).length + (encode kids).length + 1
                        else off + (headBytes d).length) D tail sibs ∧
      c.nextSibling ctx = .ok (c'.current, c') :=
  nextSibling_posAt ctx d kids sibs hok off hsib D tail htail c hc

/-- **`tree_eq`.** `entries_tree(None)?.root()` followed by the complete recursion over
`children()` reports the root entry and then exactly its descendants in depth-first order, with
their offsets, depths, tags and children flags: the tree view reproduces the encoded tree
(whatever follows the root's subtree in the unit). -/
theorem tree_eq (ctx : Ctx) (d : Node) (kids sibs : Forest) (hok : ForestOK ctx (.node d kids sibs))
    (tail : Bytes) (off fuel : Nat) (hfuel : count kids + 1 < fuel) :
    ∃ es, es.map Entry.item =
        ⟨off, 0, d.tag, d.children⟩ ::
          (if d.children then (listing (off + (headBytes d).length) 1 kids).filter (fun i => !i.isNull) else []) ∧
      treeAll ctx fuel (Tree.new (encode (.node d kids sibs) ++ tail) off) = (es, .ok ()) := by
  obtain ⟨hd, hk, hs⟩ := hok
  obtain ⟨e, r₁, hre, hp⟩ := (At.mk' (off := off) (D := 0) (g := .node d kids sibs) (tail := tail) rfl).read hd
  obtain ⟨he, -, hpar⟩ := hp.next
  unfold treeAll
  simp only [Tree.rootNode_new, Raw.new, hre, Out.bind_ok, he.isNull hd, Bool.false_eq_true, if_false, Out.pure_eq]
  obtain ⟨fuel, rfl⟩ := Nat.exists_eq_add_one_of_ne_zero (Nat.ne_zero_of_lt hfuel)
  cases hcd : d.children with
  | false =>
    rw [treeChildren_leaf ctx fuel _ 1 (he.depth ▸ Int.zero_lt_one) (he.hasChildren.trans hcd)]
    exact ⟨[e], by simp [he.item, hcd], rfl⟩
  | true =>
    have h₁ := hpar hcd
    rw [Int.zero_add] at h₁
    obtain ⟨es1, r', hl1, -, hw1⟩ := treeChildren_forest ctx kids hk (Tree.mk _ r₁ e) h₁
      (Or.inl ⟨he.depth ▸ Int.zero_lt_one, he.hasChildren.trans hcd⟩) (fuel + 1) (Nat.lt_of_succ_lt hfuel)
    rw [hw1]
    exact ⟨e :: es1, by simp [he.item, hcd, hl1], rfl⟩

/-- **`tree_next_skips_subtree`**: the tree's `DW_AT_sibling` fast path. When the caller did not
iterate (all of) an entry's children and asks the parent's iterator for the next child,
`EntriesTree::next` passes over the rest of the subtree — by reading it, or by jumping through a
usable `DW_AT_sibling` — and ends on the entry's next sibling (`true`) or on the end of the
list (`false`), at the same depth. (`TagsOK`: no declaration has the null tag, which
`Abbreviation::parse` guarantees.) -/
theorem tree_next_skips_subtree (ctx : Ctx) (htags : TagsOK ctx) (d : Node) (kids sibs : Forest)
    (hok : ForestOK ctx (.node d kids sibs)) (off : Nat) (hsib : SibOK ctx off (.node d kids sibs)) (D : Int)
    (tail : Bytes) (htail : tail = [] ∨ ∃ t, tail = 0 :: t) (t : Tree)
    (hc : PosAt ctx ⟨t.raw, t.entry⟩ off D tail (.node d kids sibs)) :
    ∃ c', PosAt ctx c' (if d.children then off + (headBytes d).length + (encode kids).length + 1
                        else off + (headBytes d).length) D tail sibs ∧
      t.next ctx D = .ok (c'.current.isSome, Tree.mk t.root c'.raw c'.cur) := by
  obtain ⟨c', hp, hns⟩ := nextSibling_posAt ctx d kids sibs hok off hsib D tail htail ⟨t.raw, t.entry⟩ hc
  refine ⟨c', hp, ?_⟩
  have he : EntryFor ctx d off D t.entry := hc.next.1
  have hnn := he.isNull hok.1
  unfold Tree.next
  rw [if_neg (by rw [he.depth]; omega),
    nextLoop_eq_siblingLoop ctx htags D _ t (by rw [hnn]; intro h; cases h)]
  simp only [Cursor.nextSibling, Cursor.current_of_isNull_false (c := ⟨t.raw, t.entry⟩) hnn, he.depth] at hns
  rw [hns]
  rfl

/-- the children iterator at any level: a complete traversal of a child list reports exactly its
entries and leaves the tree on the list's terminating null entry -/
theorem tree_children_eq (ctx : Ctx) (g : Forest) (hok : ForestOK ctx g) (off : Nat) (D : Int) (rest : Bytes)
    (t : Tree) (hraw : t.raw = ⟨encode g ++ 0 :: rest, off + (encode g ++ 0 :: rest).length, D⟩)
    (hm : TreeMode t D) (fuel : Nat) (hf : count g < fuel) :
    ∃ es, es.map Entry.item = (listing off D g).filter (fun i => !i.isNull) ∧
      treeChildren ctx fuel t D =
        ((es, .ok ()), Tree.mk t.root ⟨rest, off + (encode g ++ 0 :: rest).length, D - 1⟩
          ⟨off + (encode g).length, D, 0, false, []⟩) := by
  obtain ⟨es, r', hl, h', hw⟩ := treeChildren_forest ctx g hok t (hraw ▸ At.mk' rfl) hm fuel hf
  have hr' : r' = ⟨rest, off + (encode g ++ 0 :: rest).length, D - 1⟩ := by
    rw [h'.eq, List.length_append (as := encode g), List.length_cons]
    exact congrArg (Raw.mk rest · (D - 1)) (by rw [encode, List.nil_append]; omega)
  exact ⟨es, hl, hr' ▸ hw⟩

/-! ## (3) positioned reads -/

/-- **`entry_at_offset_eq`.** `UnitHeader::entry(abbrevs, offset)` at the offset of any entry of
the listing returns that entry (its tag and children flag, depth 0 as documented); at the
offset of a null entry it returns `NoEntryAtGivenOffset`. -/
theorem entry_at_offset_eq (ctx : Ctx) (h : UnitHeader) (f : Forest) (pad : Nat) (hok : ForestOK ctx f)
    (hbuf : h.entriesBuf = encodeUnit f pad) (i : Item) (hi : i ∈ listingUnit h.headerSize f pad) :
    (i.tag = 0 → h.entry ctx i.offset = .err .rNoEntryAtGivenOffset) ∧
    (i.tag ≠ 0 → ∃ e, h.entry ctx i.offset = .ok e ∧ e.item = ⟨i.offset, 0, i.tag, i.children⟩) := by
  obtain ⟨tl, e, r, hr, hre, hit, hnull⟩ := readEntry_at_item ctx h f pad hok hbuf i hi
  constructor
  · intro h0
    simp [UnitHeader.entry, UnitHeader.entriesRaw, hr, hre, hnull, h0]
  · intro h0
    exact ⟨e, by simp [UnitHeader.entry, UnitHeader.entriesRaw, hr, hre, hnull, h0], hit⟩

/-- the same through `entries_tree(abbrevs, Some(offset))?.root()` -/
theorem tree_root_at_offset_eq (ctx : Ctx) (h : UnitHeader) (f : Forest) (pad : Nat) (hok : ForestOK ctx f)
    (hbuf : h.entriesBuf = encodeUnit f pad) (i : Item) (hi : i ∈ listingUnit h.headerSize f pad) :
    (i.tag = 0 → (h.entriesTree i.offset >>= fun t => t.rootNode ctx) = .err .rNoEntryAtGivenOffset) ∧
    (i.tag ≠ 0 → ∃ t, (h.entriesTree i.offset >>= fun t => t.rootNode ctx) = .ok t ∧
      t.entry.item = ⟨i.offset, 0, i.tag, i.children⟩) := by
  obtain ⟨tl, e, r, hr, hre, hit, hnull⟩ := readEntry_at_item ctx h f pad hok hbuf i hi
  constructor
  · intro h0
    simp [UnitHeader.entriesTree, hr, Tree.rootNode_new, hre, hnull, h0]
  · intro h0
    exact ⟨_, by simp [UnitHeader.entriesTree, hr, Tree.rootNode_new, hre, hnull, h0]; rfl, hit⟩

/-- and `range_from(offset..)` (which `entries_raw`, `entries_at_offset`, `entries_tree` start
from) yields the body from that item on; stated here for its first entry (`StartsAt`), in
`rangeFrom_position` for the whole rest: the forest the item heads and what follows it, in front of
which a reader started there stands (`At`) -/
theorem range_from_offset (ctx : Ctx) (h : UnitHeader) (f : Forest) (pad : Nat) (hok : ForestOK ctx f)
    (hbuf : h.entriesBuf = encodeUnit f pad) (i : Item) (hi : i ∈ listingUnit h.headerSize f pad) :
    ∃ tl, h.rangeFrom i.offset = .ok tl ∧ StartsAt ctx i tl :=
  rangeFrom_item ctx h f pad hok hbuf i hi

/-! ## (4) abbreviation lookup -/

/-- **`abbrev_get_insert`.** Let `ds` be the declarations that `Abbreviations::parse` reads from
`bs` (in order, up to the null abbreviation). If their codes are pairwise distinct, parsing
succeeds and `get c` returns, for every `c`, exactly the declaration carrying code `c` (`none`
if there is none) — whatever the codes are: sequential, permuted, sparse, or anywhere up to
2^64. If some code occurs twice, parsing fails with `DuplicateAbbreviationCode`. -/
theorem abbrev_get_insert (bs : Bytes) (ds : List Abbreviation)
    (h : parseDecls (bs.length + 1) bs = .ok ds) :
    (((ds.map (·.code)).Nodup) →
      ∃ t, Abbreviations.parse bs = .ok t ∧ ∀ c, t.get c = ds.find? (fun a => a.code = c)) ∧
    ((¬ (ds.map (·.code)).Nodup) → Abbreviations.parse bs = .err .rDuplicateAbbreviationCode) := by
  obtain ⟨hl, hz⟩ := parseLoop_of_parseDecls (bs.length + 1) .empty bs ds h
  have hspec := insertAll_get ds .empty hz
  unfold Abbreviations.parse
  rw [hl]
  constructor
  · intro hnd
    obtain ⟨t, hins, hget⟩ := hspec.1 ⟨hnd, fun _ _ => get_empty _⟩
    exact ⟨t, by rw [hins], fun c => by rw [hget, get_empty]; rfl⟩
  · intro hnd
    rw [hspec.2 fun h => hnd h.1]

/-- **`abbrev_table_roundtrip`.** The same against the DWARF encoding of a table
(`Spec.AbbrevTable.encodeTable`: any declarations a producer can write — any non-zero codes up
to 2^64 in any order, any tags, attribute lists with implicit constants): when the codes are
pairwise distinct, parsing the encoded table (followed by anything) succeeds and `get c`
returns exactly the declaration carrying `c`; when a code repeats, parsing fails with
`DuplicateAbbreviationCode`. -/
theorem abbrev_table_roundtrip (ds : List Abbreviation) (hv : ∀ a ∈ ds, DeclValid a) (rest : Bytes) :
    (((ds.map (·.code)).Nodup) →
      ∃ t, Abbreviations.parse (encodeTable ds ++ rest) = .ok t ∧
        ∀ c, t.get c = ds.find? (fun a => a.code = c)) ∧
    ((¬ (ds.map (·.code)).Nodup) →
      Abbreviations.parse (encodeTable ds ++ rest) = .err .rDuplicateAbbreviationCode) :=
  abbrev_get_insert (encodeTable ds ++ rest) ds
    (parseDecls_rt ds _ rest hv (by
      have := encodeTable_length ds
      simp only [List.length_append]; omega))

/-- the storage level: inserting a code that `get` does not find succeeds and afterwards `get`
finds exactly it in addition; inserting one that `get` finds fails (dense vector or map, for
any code) -/
theorem insert_get (t : Abbreviations) (a : Abbreviation) (h0 : a.code ≠ 0) :
    (t.get a.code = none →
      ∃ t', t.insert a = some t' ∧ ∀ c, t'.get c = if c = a.code then some a else t.get c) ∧
    ((t.get a.code).isSome → t.insert a = none) :=
  ⟨insert_some_of_get_none t a h0, insert_none_of_get_some t a h0⟩

/-! ## (5) unit headers -/

/-- **`header_roundtrip`.** For every valid header (DWARF 2–5, 32/64-bit format, every unit type,
address size 1/2/4/8, either byte order) followed by any entries and any further input:
`parse_unit_header` reports exactly the encoded unit length, format, version, address size,
abbreviation offset, unit type with its signature / type offset / DWO id, the section and unit
offset it was given; its entries buffer is exactly the entries and the input is left exactly
behind the unit. -/
theorem header_roundtrip (e : Endian) (sect : Sect) (off : Nat) (h : Header) (entries after : Bytes)
    (hv : Valid h sect (unitLength e h entries)) :
    parseUnitHeader e sect off (encodeUnit e h entries ++ after) =
      .ok ({ enc := { endian := e, addressSize := h.addressSize, format := h.format, version := h.version },
             unitLength := unitLength e h entries, unitType := h.unitType,
             abbrevOffset := h.abbrevOffset, sect := sect, unitOffset := off, entriesBuf := entries },
           after) := by
  obtain ⟨⟨hv2, hv5⟩, hasz, hao, hut, hsect, hlen⟩ := hv
  have hcode : (UInt8.ofNat (unitTypeCode h.unitType)).toNat = unitTypeCode h.unitType := by
    cases h.unitType <;> rfl
  refine Reads.bind (readInitialLength_rt e h.format _ hlen)
    (.map (List.length_append ▸ Ints.reads_take (encodeBody e h ++ entries)) fun after => ?_) after
  -- the unit's own bytes are read with the entries left over
  refine ReadsTo.bind (k := fun entries => (_, after)) (Ints.reads_fixed e 2 (by omega)) (fun entries => ?_) entries
  by_cases h5 : h.version = 5
  · rw [if_pos h5]
    show ((if 2 ≤ h.version ∧ h.version ≤ 4 then _ else if h.version = 5 then _ else _) >>= _) = _
    rw [if_neg (by omega), if_pos h5]
    simp only [Out.bind_assoc, Out.pure_eq, Out.bind_ok]
    refine ReadsTo.bind (k := fun entries => (_, after)) (w := [_]) (Ints.reads_byte e _) ?_ entries
    dsimp only
    refine .bind (w := [_]) (readAddressSize_rt _ hasz) ?_
    dsimp only
    refine .bind (Ints.reads_word e h.format (Ints.pow256 _ ▸ hao)) ?_
    dsimp only
    rw [hcode]
    exact .map (parseUnitType_rt e h.format h.unitType hut) fun _ => rfl
  · rw [if_neg h5]
    have h24 : 2 ≤ h.version ∧ h.version ≤ 4 := by omega
    show ((if 2 ≤ h.version ∧ h.version ≤ 4 then _ else _) >>= _) = _
    rw [if_pos h24, List.append_assoc (Ints.toBytes _ _ _)]
    simp only [Out.bind_assoc, Out.pure_eq, Out.bind_ok]
    refine ReadsTo.bind (k := fun entries => (_, after)) (Ints.reads_word e h.format (Ints.pow256 _ ▸ hao)) ?_ entries
    dsimp only
    refine .bind (readAddressSize_rt _ hasz) ?_
    dsimp only
    rcases hsect h24.2 with ⟨rfl, hu⟩ | ⟨rfl, s, o, hu⟩ <;> rw [hu] at hut ⊢
    · exact .map (parseUnitType_rt e h.format .compilation hut) fun _ => rfl
    · exact .map (parseUnitType_rt e h.format (.typeUnit s o) hut) fun _ => rfl

/-- and the sizes it derives are the encoded ones: `header_size()` (from the buffer) and
`size_of_header()` (from the fields) both equal the number of bytes before the entries, so the
root entry sits at that unit offset and `length_including_self` is the length of the whole unit -/
theorem header_sizes (e : Endian) (sect : Sect) (off : Nat) (h : Header) (entries : Bytes) :
    let H : UnitHeader :=
      { enc := { endian := e, addressSize := h.addressSize, format := h.format, version := h.version },
        unitLength := unitLength e h entries, unitType := h.unitType,
        abbrevOffset := h.abbrevOffset, sect := sect, unitOffset := off, entriesBuf := entries }
    H.headerSize + entries.length = (encodeUnit e h entries).length ∧
      H.sizeOfHeader = H.headerSize ∧ H.rootOffset = H.headerSize ∧
      H.lengthIncludingSelf = (encodeUnit e h entries).length := by
  intro H
  have hs := sizeOfHeader_encode e h H rfl rfl rfl
  simp only [H, UnitHeader.headerSize, UnitHeader.lengthIncludingSelf, UnitHeader.rootOffset,
    Unit.encodeUnit, unitLength, List.length_append, encodeLength_length] at hs ⊢
  exact ⟨by omega, by omega, trivial, trivial⟩

/-! ## (6) totality: every input, well formed or not -/

/-- reading entries until the input is empty never panics and never runs out of the supplied
fuel (`input length + 1` steps always suffice): it ends normally or with an error -/
theorem raw_total (ctx : Ctx) (fuel : Nat) (r : Raw) (h : r.input.length < fuel) :
    (rawAll ctx fuel r).2.Normal := by
  induction fuel generalizing r with
  | zero => exact absurd h (Nat.not_lt_zero _)
  | succ fuel ih =>
    cases he : r.input.isEmpty with
    | true => rw [rawAll_empty _ he]; trivial
    | false =>
      rw [rawAll_read _ he]
      have hn := readEntry_normal ctx r
      cases hr : r.readEntry ctx with
      | ok p => exact ih p.2 (Nat.lt_of_lt_of_le (readEntry_shrinks hr).1 (Nat.le_of_lt_succ h))
      | err x => trivial
      | panic w => exact (hr ▸ hn).elim
      | diverge => exact (hr ▸ hn).elim


/-- `next_entry`, `next_dfs`, `next_sibling` and `EntriesTree::next` terminate with a value or an
error on every input and from every state -/
theorem cursor_steps_total (ctx : Ctx) (c : Cursor) (t : Tree) (D : Int) :
    (c.nextEntry ctx).Normal ∧ (Cursor.nextDfs ctx (c.raw.input.length + 1) c).Normal ∧
      (c.nextSibling ctx).Normal ∧ (t.next ctx D).Normal :=
  ⟨nextEntry_normal ctx c, nextDfs_total ctx _ c (Nat.lt_succ_self _), nextSibling_total ctx c,
    treeNext_total ctx t D⟩

/-- `Abbreviations::parse` and `parse_unit_header` on every byte string -/
theorem parse_total (e : Endian) (sect : Sect) (off : Nat) (bs : Bytes) :
    (Abbreviations.parse bs).Normal ∧ (parseUnitHeader e sect off bs).Normal :=
  ⟨Abbrev.abbreviationsParse_total bs, parseUnitHeader_total e sect off bs⟩

/-! ## non-vacuity: a concrete unit that satisfies the hypotheses -/

namespace Example
def enc : Encoding := { endian := .little, addressSize := 8, format := .dwarf32, version := 4 }
/-- code 1: `DW_TAG_compile_unit`, children, `DW_AT_sibling` as `DW_FORM_ref4`;
code 2: `DW_TAG_base_type`, no children, `DW_AT_byte_size` as `DW_FORM_data1` -/
def a1 : Abbreviation := { code := 1, tag := 0x11, hasChildren := true, attrs := [⟨0x01, .ref4, 0⟩] }
def a2 : Abbreviation := { code := 2, tag := 0x24, hasChildren := false, attrs := [⟨0x0b, .data1, 0⟩] }
def ctx : Ctx := { enc := enc, abbrevs := { vec := [a1, a2], map := [] } }
def root : Node := { code := 1, tag := 0x11, children := true, attrBytes := [21, 0, 0, 0] }
def leaf (n : UInt8) : Node := { code := 2, tag := 0x24, children := false, attrBytes := [n] }
/-- a root at unit offset 11 with two children; its `DW_AT_sibling` points behind its subtree (21) -/
def forest : Forest := .node root (.node (leaf 4) .nil (.node (leaf 8) .nil .nil)) .nil
end Example
open Example

theorem example_attrs1 (rest : Bytes) :
    readAttributes enc a1.attrs (root.attrBytes ++ rest) = .ok ([⟨.unitRef, .num 21⟩], rest) := by
  have h := C03.form_value_roundtrip enc ⟨0x01, .ref4, 0⟩ (.num 21) [21, 0, 0, 0] rest
    (by decide) (by intro h; cases h)
  simp only [a1, root, readAttributes, h, Out.bind_ok, Out.pure_eq]
  rfl

theorem example_attrs2 (n : UInt8) (rest : Bytes) :
    readAttributes enc a2.attrs ((leaf n).attrBytes ++ rest) = .ok ([⟨.data1, .num n.toNat⟩], rest) := by
  have h := C03.form_value_roundtrip enc ⟨0x0b, .data1, 0⟩ (.num n.toNat) [n] rest
    (by
      have : n.toNat < 2 ^ (8 * 1) := UInt8.toNat_lt n
      show Spec.Attr.encFixed enc.endian 1 (.num n.toNat) = some [n]
      simp [Spec.Attr.encFixed, this, enc, Ints.toBytes, Ints.leBytes])
    (by intro h; cases h)
  simp only [a2, leaf, readAttributes, h, Out.bind_ok, Out.pure_eq]
  rfl

theorem example_forestOK : ForestOK ctx forest := by
  refine ⟨⟨by decide, by decide, by decide, a1, by decide, rfl, rfl, _, example_attrs1⟩, ?_, trivial⟩
  refine ⟨⟨by decide, by decide, by decide, a2, by decide, rfl, rfl, _, example_attrs2 4⟩, trivial, ?_⟩
  exact ⟨⟨by decide, by decide, by decide, a2, by decide, rfl, rfl, _, example_attrs2 8⟩, trivial, trivial⟩

theorem example_sibOK : SibOK ctx 11 forest := by
  have hkids : SibOK ctx (11 + (headBytes root).length) (.node (leaf 4) .nil (.node (leaf 8) .nil .nil)) := by
    simp [SibOK, leaf]
  refine ⟨fun _ => Or.inr ?_, hkids, trivial⟩
  intro a vs depth hget hattrs
  have ha : a = a1 := by
    have : ctx.abbrevs.get root.code = some a1 := by decide
    rw [this] at hget; exact (Option.some.inj hget).symm
  subst ha
  have hv := hattrs []
  have he := example_attrs1 []
  change readAttributes enc a1.attrs (root.attrBytes ++ []) = _ at hv
  rw [he] at hv
  simp only [Out.ok.injEq, Prod.mk.injEq, and_true] at hv
  subst hv
  have h21 : (if root.children = true then
        11 + (headBytes root).length + (encode (.node (leaf 4) .nil (.node (leaf 8) .nil .nil))).length + 1
      else 11 + (headBytes root).length) = 21 := by decide
  rw [h21]
  simp [Entry.sibling, a1, normalise, rules]

example : encodeUnit forest 1 = [1, 21, 0, 0, 0, 2, 4, 2, 8, 0, 0] := by decide +kernel
example : listingUnit 11 forest 1 =
    [⟨11, 0, 0x11, true⟩, ⟨16, 1, 0x24, false⟩, ⟨18, 1, 0x24, false⟩, ⟨20, 1, 0, false⟩, ⟨21, 0, 0, false⟩] := by
  decide +kernel
/-- so `sibling_eq` applies (through the fast path) -/
example : ∃ es, es.map Entry.item = (listingUnit 11 forest 1).filter (fun i => !i.isNull) ∧
    siblingAll ctx 100 (Cursor.new (encodeUnit forest 1) 11) = (es, .ok ()) :=
  sibling_eq ctx forest example_forestOK 1 11 example_sibOK 100 (by decide)
-- an abbreviation table with codes out of order, one of them huge, and a duplicate
example : (Abbreviations.parse [0x02, 0x24, 0x00, 0x0b, 0x0b, 0, 0, 0x80, 0x80, 0x80, 0x80, 0x10, 0x11, 0x01, 0, 0,
    0x01, 0x2e, 0x00, 0, 0, 0]).map (fun t => ((t.get 2).map (·.tag), (t.get (2 ^ 32)).map (·.tag), (t.get 1).map (·.tag), (t.get 3).map (·.tag)))
    = .ok (some 0x24, some 0x11, some 0x2e, none) := by decide +kernel
example : Abbreviations.parse [0x02, 0x24, 0x00, 0, 0, 0x01, 0x2e, 0x00, 0, 0, 0x02, 0x11, 0x01, 0, 0, 0]
    = .err .rDuplicateAbbreviationCode := by decide +kernel
example : DeclValid ⟨2 ^ 40, 0x2e, true, [⟨0x03, .strp, 0⟩, ⟨0x3a, .implicitConst, -5⟩]⟩ := by
  unfold DeclValid SpecValid; decide
example : Valid ⟨.dwarf64, 5, 8, .splitType 0x1122334455667788 0x30, 0x40⟩ .debugInfo 100 := by
  simp [Valid, Format.wordSize]

end Gimli.Props.C02
