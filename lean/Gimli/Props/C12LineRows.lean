import Gimli.Lemmas.ConvLineSim
import Gimli.Props.C12Line
/-!
# C12, line-program component — the rows theorem

`line_rows_preserved`: reading (C04's reader Model) the program that the conversion Model
(`Model/ConvLineRows.lean`) makes the writer Model (C13) emit returns exactly the source's rows.
Built on the simulation lemmas of `Lemmas/ConvLineSim.lean` (`execute_frozen`: the reader's step and
the converter's step are the same step up to the address, which both move by the same amount and
inside a tombstone not at all; `readRowLoop_sim`: one `read_row` against the reader's next reported
row, skipped rows included; `convLoop_sim`: the whole loop with the writer and the reader of its
output) and on C13's `generate_row_correct`, `set_address_correct`, `end_sequence_correct`. The
other theorems of the component are in `Props/C12Line.lean`.
-/
namespace Gimli.Props.C12
open Gimli Gimli.Line Gimli.WLine Gimli.ConvLineRows Gimli.Props.C13


/-- **Rows are preserved.** For every source header the reader accepts (`Params.Valid`, C04's
`header_valid`) without VLIW (`maximum_operations_per_instruction = 1`), every string section
content, both build modes, and every instruction list that is `Tame` from the initial registers —
the reader runs it without an error and the line numbers of the rows it reports stay below 2^63
(finding C13-3) — : **if the conversion succeeds** (`ConvertLineProgram::new` and the whole
`convert` loop: it may fail with `InvalidFileIndex`, `InvalidDirectoryIndex`, `InvalidLineBase`,
`UnsupportedLineInstruction`, `MissingLineEndSequence`, …), then the program it builds keeps the
source header's parameters, is not left inside a sequence, and **reading its instructions (C04's
reader, from the initial registers, under the header the writer emits) returns exactly the rows
that `LineRows::next_row` reports for the source (`vis`: C04's `run` on the decoded instructions),
in order**: the same address, op_index, line, column, is_stmt, basic_block, prologue_end,
epilogue_begin, isa and discriminator, the file register mapped through the index mapping `files`
(`line_files_preserved` says what the mapped entry is), and each `end_sequence` row at the same
address; and the written program has no skipped row of its own. Whatever opcodes the source used —
special opcodes, `const_add_pc`, `fixed_advance_pc`, `advance_pc`, `DW_LNE_define_file`, unknown
opcodes, several sequences — and **whatever `DW_LNE_set_address` values**: at the start or in the
middle of a sequence, several in a row, directly before the end, accepted, lower than the current
address or a tombstone value (−1/−2 of the address size). Rows the reader skips (C04's `skipRow`:
inside a tombstone, except the end of a sequence that has already reported rows) are not brought
back, rows it reports are not lost, a sequence whose tail is tombstoned is ended where the reader
ends it, a wholly tombstoned sequence leaves nothing. All the conditions the writer needs (aligned
offsets, monotone operation pointer, addresses inside the address size, operation advances that
fit, `set_address` not below the previous row) are *derived* here from the reader's behaviour and
the conversion's success; none is assumed. This lifts `line_addresses_preserved` (addresses only,
abstract instructions) to all registers and the real instruction set.

Not covered by this theorem: VLIW programs (`line_rows_preserved_partial` and the differential
oracle of `c12-line`; findings C12-L4, C12-L5, C13-4 live there). -/
theorem line_rows_preserved (m : Mode) (en : Endian) (format : Format) (strs : Strs) (hd : Header)
    (tabs : Tabs) (is : List Instr) (st : CSt)
    (hvalid : hd.p.Valid) (hmax : hd.p.maxOps = 1) (htame : Tame hd.p (Row.new hd.p) false is)
    (hconv : convertProgram m strs hd tabs is none = .ok st) :
    st.prog.enc = encOf hd.p ∧ st.prog.inSequence = false ∧
    ∀ bout : Bool,
      (traceInstrs (readerParams en format hd.p.addrSize (encOf hd.p))
          (Row.new (readerParams en format hd.p.addrSize (encOf hd.p))) bout
          (st.prog.instrs.map (WInstr.toInstr hd.p.version))).map obsOut =
        (vis hd.p (Row.new hd.p) false is).map
          (obsIn (fun i => fileRaw hd.p.version (st.files.getD i 0))) := by
  unfold convertProgram at hconv
  obtain ⟨st0, h0, hconv⟩ := CRes.bind_eq_ok hconv
  obtain ⟨stf, h1, hconv⟩ := CRes.bind_eq_ok hconv
  dsimp only at hconv
  split at hconv
  · cases hconv
  · rename_i hin
    have hst : stf = st := by cases hconv; rfl
    subst hst
    obtain ⟨hlb, q1, q2, q3, q4, q5, q6, q7, q8⟩ := convNew_spec m strs hd tabs st0 h0
    have hw := WInv.init hd.p en format hd.p.addrSize (st := st0) (Rlast := Row.new hd.p) (by rw [q5]; exact hvalid.2.1)
      (by rw [q2, q5]) (by rw [q3, q5]) (by simp [Row.new, q7])
    rw [q5] at hw
    obtain ⟨new, more, g1, g2, g3, g4⟩ := convLoop_sim m en format hd.p.addrSize strs hd.p hmax hvalid.2.2.1
      (encOf hd.p) ⟨rfl, rfl, rfl, rfl⟩ (encOk_of_valid hvalid hlb) hvalid.2.1 (is.length + 1) is st0 stf (Row.new hd.p) 0
      _ (Nat.lt_succ_self _) h1 q5 (Or.inr (Rel.new q6 q7)) (by rw [reset_new, q8]; exact htame) hw
    refine ⟨g3, by simpa using hin, fun bout => ?_⟩
    have := g4 bout
    rw [reset_new, q8] at this
    rw [g1, q1, List.nil_append]
    exact this

/-! ## non-vacuity -/

instance decTame (h : Params) : (R : Row) → (b : Bool) → (is : List Instr) → Decidable (Tame h R b is)
  | _, _, [] => isTrue trivial
  | R, b, ins :: is => by
    rw [Tame]
    cases hx : execute h R ins with
    | mk R' x =>
      cases x with
      | err e => exact isFalse (fun hf => hf)
      | noEmit => exact decTame h R' b is
      | emit =>
        have d1 := decTame h (reset h R') b is
        have d2 := decTame h (reset h R') (!R'.endSequence) is
        exact inferInstanceAs (Decidable (if skipRow R' b then Tame h (reset h R') b is
          else R'.line < 2 ^ 63 ∧ Tame h (reset h R') (!R'.endSequence) is))

/-- version 4, min_inst_len 2, no VLIW, two files -/
def lineHdRows : Header :=
  { p := { linePar4 with minInstLen := 2, maxOps := 1 }, unitLength := 0, headerLength := 0,
    dirFormat := [], dirs := [.string [0x69]], fileFormat := [],
    files := [lineFe [0x61] 1 7, lineFe [0x62] 0 0], program := [],
    compDir := some [0x2f], compFile := some (lineFe [0x6d] 0 0) }

/-- two sequences, special opcodes, `const_add_pc`, `fixed_advance_pc`, a `set_address` in the
middle of a sequence, a `DW_LNE_define_file`, an unknown extended opcode -/
def lineProgRows : List Instr :=
  [.setAddress 0x1000, .copy, .special 0x4b, .advancePc 3, .setFile 2, .fixedAddPc 4, .copy, .constAddPc,
   .setAddress 0x2000, .setDiscriminator 5, .special 20, .advancePc 4, .endSequence,
   .defineFile (lineFe [0x63] 1 0), .unknownExtended 0x80 [1], .setAddress 0x800, .setFile 3, .advanceLine 9,
   .copy, .endSequence]

example : lineHdRows.p.Valid ∧ lineHdRows.p.maxOps = 1 := by decide +kernel
example : Tame lineHdRows.p (Row.new lineHdRows.p) false lineProgRows := by decide +kernel
example : lineMap (convertProgram .debug lineNoStrs lineHdRows lineNoTabs lineProgRows none) =
    some [0, 0, 1, 2] := by decide +kernel

/-- tombstones: a refused (lower) `set_address` in the middle of a sequence and the rows after it,
an accepted one after it, a tail tombstoned by −1 before the end of a sequence that has reported
rows (its end row is still reported, at the frozen address), a wholly tombstoned sequence (−2:
nothing reported), then an ordinary sequence at a lower address -/
def lineProgTomb : List Instr :=
  [.setAddress 0x1000, .copy, .advancePc 2, .setAddress 0x10, .special 0x4b, .copy,
   .setAddress 0x2000, .special 20, .advancePc 1, .setAddress (2 ^ 64 - 1), .advancePc 3, .copy, .endSequence,
   .setAddress (2 ^ 64 - 2), .copy, .advancePc 1, .copy, .endSequence,
   .setAddress 0x800, .setFile 2, .copy, .advancePc 5, .endSequence]

/-- (address, line, end_sequence) of the reported rows; the number of skipped ones -/
def lineVisSummary (h : Params) (is : List Instr) : List (Nat × Nat × Bool) × Nat :=
  ((vis h (Row.new h) false is).filterMap (fun e => match e with
      | .row r => some (r.address, r.line, r.endSequence)
      | _ => none),
   ((traceInstrs h (Row.new h) false is).filter (fun e => !e.visible)).length)

example : Tame lineHdRows.p (Row.new lineHdRows.p) false lineProgTomb := by decide +kernel
example : lineVisSummary lineHdRows.p lineProgTomb =
    ([(0x1000, 1, false), (0x2000, 4, false), (0x2002, 4, true), (0x800, 1, false), (0x80a, 1, true)], 6) := by
  decide +kernel
example : lineInstrs (convertProgram .debug lineNoStrs lineHdRows lineNoTabs lineProgTomb none) =
    some [.setAddress (some 0x1000), .copy, .setAddress (some 0x2000), .special 21, .advancePc 1, .endSequence,
          .setAddress (some 0x800), .setFile 1, .copy, .advancePc 5, .endSequence] := by decide +kernel

end Gimli.Props.C12
