import Gimli.Lemmas.LineRun
import Gimli.Lemmas.LineHeader
import Gimli.Lemmas.LineEncode
import Gimli.Lemmas.LineHeaderRt
import Gimli.Lemmas.LineHeaderV5
/-!
# C04 — Line-number rows equal the DWARF state machine; sequences are consistent

Property theorems only (helper lemmas live in `Gimli/Lemmas/Line*.lean`). Every theorem is about
the Model functions of `Gimli/Model/Line.lean` — the definitions the driver executes and the
correspondence run ties to `src/read/line.rs` — and the Spec of `Gimli/Spec/Line.lean` (the
DWARF §6.2 machine over unbounded integers).

Quantifiers: every header parameter tuple (`Params`, constrained only by what
`LineProgramHeader::parse` itself guarantees, `Params.Valid`), every byte string, every
instruction list, every register state.
-/
namespace Gimli.Props.C04
open Gimli Gimli.Line Gimli.Spec.Line

/-! ## "For any input whatsoever, row addresses never decrease within a sequence and never
exceed the address size" -/

/-- **Monotone on every input, as the caller sees it.** For every header and every byte string,
in what `next_row()` returns until `Ok(None)`: every returned row's address is at least the
address of the previous returned row of the same sequence and at most the all-ones value of the
address size, where a sequence ends exactly at a *returned* row with `end_sequence`. Errors
returned by `next_row` (the iteration goes on after an `execute` error) and rows swallowed as
tombstones do not break it. No hypothesis on the header at all.

Holds since the `fix:` for the end row of a partially tombstoned sequence (former finding C04-1:
before it a tombstoned `end_sequence` was swallowed together with its register reset, so the
caller saw addresses go backwards inside one sequence; the invariant that carries the proof is
"`in_sequence = false` ⇒ no row of the current sequence has been returned", so a swallowed
`end_sequence` can no longer follow a returned row). -/
theorem monotone_any_input (h : Params) (bs : Bytes) :
    MonoObserved h.addrSize 0 (run h bs) ∧ MonoObserved h.addrSize 0 (trace h bs) := by
  have ht : MonoObserved h.addrSize 0 (trace h bs) := by
    unfold trace
    apply traceLoop_mono
    · exact reset_endSequence h _
    · exact Nat.zero_le _
    · rw [reset_new]; simp [Row.new]
    · intro _; rfl
  exact ⟨monoObserved_filter _ _ 0 ht, ht⟩

/-- **Never beyond the address size**, unconditionally, for what the caller sees. -/
theorem address_bound_any_input (h : Params) (bs : Bytes) (r : Row) (hr : Ev.row r ∈ run h bs) :
    r.address ≤ onesSized h.addrSize :=
  row_bound_of_observed _ _ 0 (monotone_any_input h bs).1 r hr

/-- resuming a sequence is running its instructions, so the same holds for `resume_from` -/
theorem monotone_resume (h : Params) (s : Seq) : MonoObserved h.addrSize 0 (resume h s) :=
  (monotone_any_input h s.instructions).1

/-- a usual header: version 4, 8-byte addresses, line_base −5, line_range 14, opcode_base 13 -/
def hdr4 : Params where
  endian := .little
  format := .dwarf32
  version := 4
  addrSize := 8
  minInstLen := 1
  maxOps := 1
  defaultIsStmt := true
  lineBase := -5
  lineRange := 14
  opcodeBase := 13
  stdLens := [0, 1, 1, 1, 1, 0, 0, 0, 1, 0, 0, 1]

/-- a VLIW header: version 5, 4-byte addresses, min_inst_len 4, max_ops 3, opcode_base 10 -/
def hdrVliw : Params where
  endian := .big
  format := .dwarf64
  version := 5
  addrSize := 4
  minInstLen := 4
  maxOps := 3
  defaultIsStmt := false
  lineBase := -3
  lineRange := 12
  opcodeBase := 10
  stdLens := [0, 1, 1, 1, 1, 0, 0, 0, 1]

example : hdr4.Valid := by decide
example : hdrVliw.Valid := by decide

/-- regression witness of the repaired finding C04-1: `set_address 0x5000; copy; set_address 0`
(lower ⇒ tombstone)`; end_sequence; set_address 0x1000; copy; end_sequence`. The first sequence
now gets its end row, at the address where the tombstone started, so the caller receives
0x5000, 0x5000(end), 0x1000, 0x1000(end) — before the fix: 0x5000, 0x1000, 0x1000(end). -/
example : (run hdr4
      [0, 9, 2, 0, 0x50, 0, 0, 0, 0, 0, 0,  1,  0, 9, 2, 0, 0, 0, 0, 0, 0, 0, 0,  0, 1, 1,
       0, 9, 2, 0, 0x10, 0, 0, 0, 0, 0, 0,  1,  0, 1, 1]).map
      (fun e => match e with | .row r => (r.address, r.endSequence) | _ => (0, false)) =
    [(0x5000, false), (0x5000, true), (0x1000, false), (0x1000, true)] := by
  decide +kernel

/-- a sequence that is tombstoned from its start is still skipped entirely, end row included -/
example : (run hdr4
      [0, 9, 2, 0xff, 0xff, 0xff, 0xff, 0xff, 0xff, 0xff, 0xff,  1,  0, 1, 1,
       0, 9, 2, 0, 0x10, 0, 0, 0, 0, 0, 0,  1,  0, 1, 1]).map
      (fun e => match e with | .row r => (r.address, r.endSequence) | _ => (0, false)) =
    [(0x1000, false), (0x1000, true)] := by
  decide +kernel

/-! ## special opcodes: every opcode value `opcode_base..255` × all header parameters -/

/-- §6.2.5.1 read backwards: the opcode the standard prescribes for a desired line increment and
operation advance, `(line_increment − line_base) + line_range·operation_advance + opcode_base`,
is decoded by `exec_special_opcode`'s arithmetic into exactly that pair — for every header. -/
theorem special_opcode_inverse (h : Params) (lineInc : Int) (opAdv : Nat)
    (hlr : 0 < h.lineRange) (hlo : h.lineBase ≤ lineInc) (hhi : lineInc < h.lineBase + h.lineRange) :
    let opcode := (lineInc - h.lineBase).toNat + h.lineRange * opAdv + h.opcodeBase
    adjustOpcode h opcode / h.lineRange = opAdv ∧
    h.lineBase + ((adjustOpcode h opcode % h.lineRange : Nat) : Int) = lineInc := by
  intro opcode
  have hx : (lineInc - h.lineBase).toNat < h.lineRange := by omega
  have hadj : adjustOpcode h opcode = (lineInc - h.lineBase).toNat + h.lineRange * opAdv :=
    Nat.add_sub_cancel _ _
  rw [hadj, Nat.add_mul_div_left _ _ hlr, Nat.add_mul_mod_self_left, Nat.div_eq_of_lt hx,
    Nat.mod_eq_of_lt hx]
  omega

/-- **Every special opcode, every header, every state.** For all valid header parameters
(min_inst_len 1..255, max_ops 1..255, line_base −128..127, line_range 1..255, opcode_base 1..255,
address size 1/2/4/8), every opcode value `opcode_base ≤ opcode ≤ 255` and every register state
that is not tombstoned: `exec_special_opcode` adds `line_base + (adjusted mod line_range)` to the
line (clamped at 0, wrapping at 2^64 as the `u64` register does) and moves the operation pointer
by `adjusted / line_range` exactly as §6.2.5.1 says, or reports `AddressOverflow` — leaving the
address untouched — exactly when the new address does not fit the address size. -/
theorem special_opcode_table (h : Params) (hv : h.Valid) (opcode : Nat)
    (hop : h.opcodeBase ≤ opcode ∧ opcode ≤ 255) (row : Row) (hnt : row.tombstone = false)
    (hidx : row.opIndex < h.maxOps) (hl : row.line < 2 ^ 64) :
    let adjusted := opcode - h.opcodeBase
    let lineInc : Int := h.lineBase + ((adjusted % h.lineRange : Nat) : Int)
    let opAdv := adjusted / h.lineRange
    let newLine : Int := (row.line : Int) + lineInc
    let line' := if newLine < 0 then 0 else newLine.toNat % 2 ^ 64
    let address' := row.address + h.minInstLen * ((row.opIndex + opAdv) / h.maxOps)
    let opIndex' := (row.opIndex + opAdv) % h.maxOps
    execSpecial h row opcode =
      if address' ≤ onesSized h.addrSize then
        ({ row with line := line', opIndex := opIndex', address := address' }, none)
      else ({ row with line := line', opIndex := opIndex' }, some .rAddressOverflow) := by
  intro adjusted lineInc opAdv newLine line' address' opIndex'
  obtain ⟨-, -, hsz, -, hmin2, hmax1, hmax2, -⟩ := hv
  have hadv : opAdv ≤ 255 := by
    have : adjusted / h.lineRange ≤ adjusted := Nat.div_le_self _ _
    omega
  have hq : (row.opIndex + opAdv) / h.maxOps ≤ 510 := by
    have : (row.opIndex + opAdv) / h.maxOps ≤ row.opIndex + opAdv := Nat.div_le_self _ _
    omega
  have hprod : h.minInstLen * ((row.opIndex + opAdv) / h.maxOps) ≤ 255 * 510 :=
    Nat.mul_le_mul hmin2 hq
  have hA := applyLineAdvance_eq row lineInc hl
  show applyOperationAdvance h (applyLineAdvance row lineInc) opAdv = _
  rw [hA]
  exact applyOperationAdvance_eq h { row with line := line' } opAdv hnt (by omega) hmax1 hidx
    (by simp only; omega) (Nat.lt_of_le_of_lt hprod (by decide))

/-- under the well-formedness conditions (the new line stays in `0 .. 2^64`, the new address fits)
this is literally the Spec's special-opcode equation of §6.2.5.1 -/
theorem special_opcode_refines (h : Params) (hv : h.Valid) (opcode : Nat) (r : Regs)
    (hidx : r.opIndex < h.maxOps) (hr : RegsOk h r = true)
    (hop : InstrOk h (.special opcode) = true)
    (hr' : RegsOk h (step h r (.special opcode)).1 = true) :
    execute h (toRow r) (.special opcode) = (toRow (step h r (.special opcode)).1, .emit) :=
  (execute_spec h hv.2.2.1 hv.2.2.2.2.2.2.1 r (.special opcode) hidx hr hop rfl hr').1

/-! ## "for every well-formed line-number program the emitted rows are exactly those of the DWARF
line-number state machine" -/

/-- **Rows refine the Spec.** For every valid header and every byte string that the instruction
decoder (`LineInstruction::parse`, iterated) decodes completely into a program `prog` that is
well-formed (`WF`: operands encodable, no register leaves its width, the line never goes below 0,
`set_address` never goes backwards inside a sequence and is not a tombstone), what the caller
receives from `next_row()` is exactly the matrix of the DWARF §6.2 machine, row by row, register by
register, with no error and nothing swallowed. Covers min_inst_len/max_ops 1..255 (VLIW `op_index`
arithmetic), line_base −128..127, line_range 1..255, opcode_base 1..255 with arbitrary
`standard_opcode_lengths`, unknown standard/extended opcodes, address sizes 1/2/4/8. -/
theorem rows_refine (h : Params) (hv : h.Valid) (bs : Bytes) (prog : List Instr)
    (hdec : decodeAll h (bs.length + 1) bs = .ok prog) (hwf : WF h prog = true) :
    run h bs = (rows h prog).map (fun r => Ev.row (toRow r)) ∧
    trace h bs = (rows h prog).map (fun r => Ev.row (toRow r)) := by
  have htrace : trace h bs = (rows h prog).map (fun r => Ev.row (toRow r)) := by
    rw [trace_decodeAll h bs prog hdec]
    obtain ⟨hop, hr⟩ := init_ok h hv.2.2.2.2.2.1
    exact traceInstrs_spec h hv.2.2.1 hv.2.2.2.2.2.2.1 prog (init h) false hop hr hwf
  refine ⟨?_, htrace⟩
  unfold run
  rw [htrace]
  simp only [List.filter_map, Ev.visible, Function.comp_def]
  congr 1
  exact List.filter_eq_self.mpr (fun _ _ => rfl)

/-- … and the file table: the entries `DW_LNE_define_file` appends while the program runs are
exactly the Spec's, in order -/
theorem files_refine (h : Params) (bs : Bytes) (prog : List Instr)
    (hdec : decodeAll h (bs.length + 1) bs = .ok prog) :
    Line.definedFiles h (bs.length + 1) bs = Spec.Line.definedFiles prog :=
  definedFiles_decodeAll h _ bs prog hdec

/-! ### non-vacuity of `rows_refine`: concrete programs that decode, are well-formed, and whose
matrix is what one computes by hand from §6.2 -/

def prog4 : List Instr :=
  [.setAddress 0x1000, .copy, .special 0x4b, .advancePc 3, .advanceLine 10, .setColumn 7,
   .special 0xf1, .constAddPc, .fixedAddPc 0x100, .setDiscriminator 5, .copy, .endSequence,
   .setAddress 0x2000, .special 20, .endSequence]

def bytes4 : Bytes :=
  [0, 9, 2, 0, 0x10, 0, 0, 0, 0, 0, 0,  1,  0x4b,  2, 3,  3, 10,  5, 7,  0xf1,  8,  9, 0, 1,
   0, 2, 4, 5,  1,  0, 1, 1,  0, 9, 2, 0, 0x20, 0, 0, 0, 0, 0, 0,  20,  0, 1, 1]

example : decodeAll hdr4 (bytes4.length + 1) bytes4 = .ok prog4 := by decide +kernel
example : WF hdr4 prog4 = true := by decide +kernel
example : encodeProg hdr4 prog4 = bytes4 := by decide +kernel
example : (rows hdr4 prog4).map (fun r => (r.address, r.line, r.endSequence)) =
    [(0x1000, 1, false), (0x1004, 2, false), (0x1017, 11, false), (0x1128, 11, false),
     (0x1128, 11, true), (0x2000, 3, false), (0x2000, 3, true)] := by decide +kernel

/-- VLIW: min_inst_len 4, max_ops 3, opcode_base 10, big-endian 4-byte addresses, an unknown
extended opcode in the middle -/
def progV : List Instr :=
  [.setAddress 0x100, .special 100, .special 255, .advancePc 7, .copy,
   .unknownExtended 0x80 [1, 2, 3], .constAddPc, .special 10, .endSequence]

def bytesV : Bytes :=
  [0, 5, 2, 0, 0, 1, 0,  100,  255,  2, 7,  1,  0, 4, 128, 1, 2, 3,  8,  10,  0, 1, 1]

example : decodeAll hdrVliw (bytesV.length + 1) bytesV = .ok progV := by decide +kernel
example : WF hdrVliw progV = true := by decide +kernel
example : (rows hdrVliw progV).map (fun r => (r.address, r.opIndex, r.line, r.endSequence)) =
    [(264, 1, 4, false), (292, 0, 6, false), (300, 1, 6, false), (328, 0, 3, false),
     (328, 0, 3, true)] := by decide +kernel
example : run hdrVliw bytesV = (rows hdrVliw progV).map (fun r => Ev.row (toRow r)) :=
  (rows_refine hdrVliw (by decide) bytesV progV (by decide +kernel) (by decide +kernel)).1

/-- **decode ∘ encode = id**: the decoder (`LineInstruction::parse`) inverts the §6.2.5 encoding
of every instruction the header can express (`EncOk`: the opcode number is below `opcode_base` for
standard opcodes, at or above it for special ones; operands fit; unknown standard opcodes carry the
announced number of ULEB operands; extended opcodes of any length), whatever follows — standard,
special, extended, unknown standard (0/1/N operands) and unknown extended opcodes, including
`DW_LNS_advance_line` with every `i64` (signed LEB128 round trip, `Leb.signed_roundtrip`). -/
theorem decode_encode (h : Params) (hv : h.Valid) (i : Instr) (hok : EncOk h i) (rest : Bytes) :
    parseInstr h (encodeInstr h i ++ rest) = .ok (i, rest) := by
  obtain ⟨-, -, hsz, -, -, -, -, -, -, -, -, hob1, hob2, -⟩ := hv
  exact parseInstr_encode h hob1 hob2 hsz i hok rest

/-- **Rows refine the Spec, from the abstract program.** For every valid header and every
instruction list that is expressible (`EncOk`) and well-formed (`WF`), running the implementation's
model over the §6.2.5 *encoding* of the program yields exactly the rows of the §6.2 machine. -/
theorem rows_refine_encoded (h : Params) (hv : h.Valid) (prog : List Instr)
    (henc : ∀ i ∈ prog, EncOk h i) (hwf : WF h prog = true) :
    run h (encodeProg h prog) = (rows h prog).map (fun r => Ev.row (toRow r)) := by
  refine (rows_refine h hv _ prog ?_ hwf).1
  obtain ⟨-, -, hsz, -, -, -, -, -, -, -, -, hob1, hob2, -⟩ := hv
  exact decodeAll_encodeProg h hob1 hob2 hsz prog henc _ (by have := encodeProg_length h prog; omega)

example : ∀ i ∈ prog4, EncOk hdr4 i := by decide
example : ∀ i ∈ progV, EncOk hdrVliw i := by decide

/-! ## "Splitting a program into sequences and resuming any sequence yields exactly the rows a
straight run yields for it, and each sequence's reported address bounds are its first and end
addresses" -/

/-- **Sequences and resume, every input.** Whenever `sequences()` succeeds (for any header, any
bytes): the straight run `rows()` is exactly the concatenation, in order, of what
`resume_from(s)` yields for each reported sequence `s`, followed by trailing rows that do not end
a sequence (and belong to none); resuming a sequence yields only rows (no error), exactly one of
them — the last — with `end_sequence`; and `s.end` is that row's address. -/
theorem sequences_resume (h : Params) (bs : Bytes) (seqs : List Seq)
    (hs : sequences h bs = .ok seqs) :
    ∃ tail : List Row,
      run h bs = seqs.flatMap (resume h) ++ tail.map Ev.row ∧
      (∀ r ∈ tail, r.endSequence = false) ∧
      ∀ s ∈ seqs, ∃ (rows : List Row) (last : Row),
        resume h s = rows.map Ev.row ++ [Ev.row last] ∧ last.endSequence = true ∧
        (∀ r ∈ rows, r.endSequence = false) ∧ s.end = last.address := by
  obtain ⟨tail, h1, h2, h3⟩ := sequences_spec h bs seqs hs
  refine ⟨tail, h1, h2, fun s hs' => ?_⟩
  obtain ⟨rows, last, a, b, c, d, _⟩ := h3 s hs'
  exact ⟨rows, last, a, b, c, d⟩

/-- **Reported bounds, every input.** For every sequence `sequences()` reports, `start` is the
address of the first row `resume_from` yields for it — the end row itself when the sequence has
no other row (holds since the `fix:` for `LineSequence::start`, former finding C04-2; before it
such a sequence was reported with `start = 0`) — and `end` is the address of its last row, the
`end_sequence` row. -/
theorem sequences_start (h : Params) (bs : Bytes) (seqs : List Seq)
    (hs : sequences h bs = .ok seqs) (s : Seq) (hmem : s ∈ seqs) :
    ∃ first last : Row, (resume h s).head? = some (Ev.row first) ∧
      (resume h s).getLast? = some (Ev.row last) ∧ last.endSequence = true ∧
      s.start = first.address ∧ s.end = last.address := by
  obtain ⟨_, _, _, h3⟩ := sequences_spec h bs seqs hs
  obtain ⟨rows, last, a, b, _, d, e⟩ := h3 s hmem
  cases rows with
  | nil => exact ⟨last, last, by rw [a]; simp, by rw [a]; simp, b, e, d⟩
  | cons r rs =>
    refine ⟨r, last, by rw [a]; simp, ?_, b, e, d⟩
    rw [a, List.getLast?_append]
    simp

/-- regression witness of the repaired finding C04-2: `set_address 0x1000; end_sequence` is the
empty sequence at 0x1000 -/
example : sequences hdr4 [0, 9, 2, 0, 0x10, 0, 0, 0, 0, 0, 0,  0, 1, 1] =
    .ok [{ start := 0x1000, «end» := 0x1000,
           instructions := [0, 9, 2, 0, 0x10, 0, 0, 0, 0, 0, 0,  0, 1, 1] }] := by
  decide +kernel

/-- **Ordered bounds, every input**: `start ≤ end` for every sequence `sequences()` reports, and
every row the sequence yields lies in `start ..= end` (holds since the `fix:` for the end row of a
partially tombstoned sequence, former finding C04-1, which was the only way to get
`start > end`). -/
theorem sequences_ordered (h : Params) (bs : Bytes) (seqs : List Seq)
    (hs : sequences h bs = .ok seqs) (s : Seq) (hmem : s ∈ seqs) :
    s.start ≤ s.end ∧ ∀ r, Ev.row r ∈ resume h s → s.start ≤ r.address ∧ r.address ≤ s.end := by
  obtain ⟨_, _, _, h3⟩ := sequences_spec h bs seqs hs
  obtain ⟨rows, last, a, _, c, d, e⟩ := h3 s hmem
  have hm := monotone_resume h s
  rw [a] at hm
  -- the first row of the sequence is observed from its own address as well as from 0
  have hm' : MonoObserved h.addrSize s.start (rows.map Ev.row ++ [Ev.row last]) := by
    rw [e]
    cases rows with
    | nil => exact ⟨Nat.le_refl _, hm.2⟩
    | cons r0 rs => exact ⟨Nat.le_refl _, hm.2⟩
  obtain ⟨h1, h2⟩ := monoObserved_bounds _ rows last s.start c hm'
  rw [d, a]
  refine ⟨h1, fun r hr => ?_⟩
  rcases List.mem_append.mp hr with hr | hr
  · obtain ⟨x, hx, hxr⟩ := List.mem_map.mp hr
    cases hxr
    exact h2 _ hx
  · cases List.mem_singleton.mp hr
    exact ⟨h1, Nat.le_refl _⟩

/-- non-vacuity: a program with two sequences and trailing rows -/
example : (sequences hdr4 (bytes4 ++ [1, 1])).map (fun ss => ss.map (fun s => (s.start, s.end))) =
    .ok [(0x1000, 0x1128), (0x2000, 0x2000)] := by decide +kernel

/-! ## termination / totality of everything modelled -/

/-- **`next_row()` terminates and the decoder never panics**: on every input the trace contains
no `stuck` (fuel exhausted / decoder panic) — the fuel `length + 1` always suffices because every
instruction consumes at least one byte. -/
theorem run_total (h : Params) (bs : Bytes) : Ev.stuck ∉ trace h bs ∧ Ev.stuck ∉ run h bs := by
  have h1 : Ev.stuck ∉ trace h bs := traceLoop_not_stuck h _ _ _ bs (by omega)
  exact ⟨h1, fun hm => h1 (List.mem_filter.mp hm).1⟩

/-- **The trace is the API**: a caller that constructs `LineRows` (registers `LineRow::new`) and
calls `next_row()` until it returns `Ok(None)` receives, call by call, exactly `run h bs` — the
list all theorems above are about (`nextRow` mirrors one call: reset, then the loop with tombstone
suppression; a parse error empties the input; an `execute` error is returned and the next call
goes on). -/
theorem next_row_iteration (h : Params) (bs : Bytes) :
    collect h (bs.length + 1) (Row.new h) false bs = run h bs :=
  collect_eq_run h _ _ _ bs (by omega)

/-- `LineInstruction::parse` returns an instruction or an error on every input and header, and a
successful parse consumes at least one byte and does not depend on what follows the instruction -/
theorem decode_total (h : Params) (input : Bytes) :
    (parseInstr h input).Normal ∧
    ∀ ins rest, parseInstr h input = .ok (ins, rest) →
      rest.length < input.length ∧
      ∃ pre, input = pre ++ rest ∧ ∀ rest', parseInstr h (pre ++ rest') = .ok (ins, rest') := by
  refine ⟨parseInstr_normal h input, fun ins rest hp => ⟨parseInstr_consumes h input ins rest hp, ?_⟩⟩
  obtain ⟨pre, a, _, b⟩ := parseInstr_local h input ins rest hp
  exact ⟨pre, a, b⟩

/-- `sequences()` returns the list or an error on every input (never panics, always terminates) -/
theorem sequences_total (h : Params) (bs : Bytes) : (sequences h bs).Normal :=
  seqLoop_normal h _ _ _ bs bs none [] (by omega)

/-! ## the header -/

/-- **Accepted headers are valid**: whatever `LineProgramHeader::parse` accepts (versions 2–5,
either format, any bytes) has min_inst_len, max_ops, line_range, opcode_base in 1..255, line_base
in −128..127, version in 2..5, `standard_opcode_lengths` of length opcode_base − 1, max_ops = 1
before version 4, and a supported address size (its own for version 5, the caller's before). So
the hypothesis `h.Valid` of the theorems above holds of every parsed header. -/
theorem header_valid (e : Endian) (asz : Nat) (cd cn : Option Bytes) (input : Bytes) (hd : Header)
    (hasz : asz = 1 ∨ asz = 2 ∨ asz = 4 ∨ asz = 8)
    (hp : parseHeader e asz cd cn input = .ok hd) : hd.p.Valid :=
  (parseHeader_valid e asz cd cn input hd hasz hp).1

/-- `DebugLine::program` / `LineProgramHeader::parse` return a header or an error on every input
(versions 2–5 incl. the v5 entry-format tables): no panic — the two `path_name.unwrap()` are safe
because a format without exactly one `DW_LNCT_path` is rejected — and no non-termination. -/
theorem header_total (e : Endian) (sec : Bytes) (off asz : Nat) (cd cn : Option Bytes) :
    (program e sec off asz cd cn).Normal :=
  program_normal e sec off asz cd cn

/-- **Header round trip, versions 2–4.** For every well-formed abstract header
(`HeaderV4.WF`: valid parameters, non-empty NUL-free directory and file names, `u64` file
attributes, lengths that fit their fields), either format, either byte order, any
`standard_opcode_lengths`: parsing its §6.2.4 encoding (followed by anything) returns exactly its
parameters, its include directories, its file table (name, directory index, time, size), its
program bytes, and the caller's `comp_dir`/`comp_name` as directory 0 / file 0. (Version 5:
`header_roundtrip_v5`.) -/
theorem header_roundtrip (hs : HeaderV4) (hwf : hs.WF) (cd cn : Option Bytes)
    (bytes trailing : Bytes) (henc : encodeHeaderV4 hs = .ok bytes) :
    parseHeader hs.p.endian hs.p.addrSize cd cn (bytes ++ trailing) = .ok (hs.expected cd cn) :=
  parseHeader_encodeV4 hs hwf cd cn bytes trailing henc

/-- and the table lookups on what was read back: directory/file index 0 is the compilation
directory / primary file, index `i ≥ 1` the `i`-th entry (versions 2–4) -/
theorem header_lookup_v4 (hs : HeaderV4) (cd cn : Option Bytes) (hver : hs.p.version ≤ 4) (i : Nat) :
    (hs.expected cd cn).directory 0 = cd.map .string ∧
    (hs.expected cd cn).directory (i + 1) = (hs.dirs.map AttrVal.string)[i]? ∧
    ((hs.expected cd cn).file 0).map (·.path) = cn.map .string ∧
    (hs.expected cd cn).file (i + 1) = (hs.expected cd cn).files[i]? := by
  simp [Header.directory, Header.file, HeaderV4.expected, hver]
  cases cn <;> simp

/-- non-vacuity: a version-3, 64-bit-format, big-endian header with two directories and two files -/
def hdrEx : HeaderV4 where
  p := { hdr4 with endian := .big, format := .dwarf64, version := 3, addrSize := 4 }
  dirs := [[0x2f, 0x61], [0x62]]
  files := [([0x78, 0x2e, 0x63], 1, 0, 0), ([0x79], 2, 0x1234, 300)]
  program := [0, 1, 1]

example : hdrEx.WF := by decide +kernel
example : (encodeHeaderV4 hdrEx).isOk = true := by decide +kernel

/-- **Header round trip, version 5.** For every well-formed abstract version-5 header
(`HeaderV5.WF`: valid parameters; `directory_entry_format` and `file_name_entry_format` with up to
255 fields, any content types that fit `u16` — known, unknown, vendor —, exactly one
`DW_LNCT_path`; any number of entries, each written field by field in the announced form, over
*all* forms the line reader accepts: block1/2/4/block, data1/2/4/8/16, udata, sdata, flag,
sec_offset, string, strp, strp_sup, GNU_strp_alt, line_strp, strx, GNU_str_index, strx1–4; either
format and byte order): parsing the §6.2.4 encoding returns exactly the parameters (address size
from the header itself), both format tables, the directory of every entry (its `DW_LNCT_path`
value), the file of every entry (fields applied left to right: path, directory index, timestamp,
size, MD5, source; unknown content types skipped) and the program bytes; `comp_dir`/`comp_name`
are ignored. The field semantics (`FileAcc.update`) is shared between Model and Spec; what the
theorem adds is that the byte-level decoding of formats, counts and every form is exact. -/
theorem header_roundtrip_v5 (hs : HeaderV5) (hwf : hs.WF) (asz : Nat) (cd cn : Option Bytes)
    (bytes trailing : Bytes) (henc : encodeHeaderV5 hs = .ok bytes) :
    parseHeader hs.p.endian asz cd cn (bytes ++ trailing) = .ok hs.expected :=
  parseHeader_encodeV5 hs hwf asz cd cn bytes trailing henc

/-- non-vacuity: directories (path as `line_strp`, plus an unknown vendor content type as `udata`),
files with path/`string`, directory index/`udata`, MD5/`data16`, size/`data2`, timestamp/`sdata` -/
def hdrEx5 : HeaderV5 where
  p := hdrVliw
  dirFormat := [(0x2002, 0x0f), (1, 0x1f)]
  dirs := [[.udata 7, .lineStrp 0], [.udata 300, .lineStrp 0x1234]]
  fileFormat := [(1, 0x08), (2, 0x0f), (5, 0x1e), (4, 0x05), (3, 0x0d)]
  files := [[.string [0x61, 0x2e, 0x63], .udata 1, .data16 (List.replicate 16 0xab), .data2 515, .sdata 99],
            [.string [0x62], .udata 0, .data16 (List.replicate 16 1), .data2 0, .sdata (-1)]]
  program := [0, 1, 1]

example : hdrEx5.WF := by decide +kernel
example : hdrEx5.expected.files.map (fun f => (f.dirIndex, f.size, f.timestamp)) = [(1, 515, 99), (0, 0, 0)] := by
  decide +kernel

end Gimli.Props.C04
