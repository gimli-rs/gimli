import Gimli.Lemmas.Index
import Gimli.Lemmas.Aranges
import Gimli.Lemmas.Package
import Gimli.Lemmas.Names
import Gimli.Lemmas.NamesEntries
import Gimli.Lemmas.Pub
import Gimli.Model.Loader
/-!
# C17 — Accelerated lookups and section plumbing agree with exhaustive scans

Every theorem is about the Model functions of
`Gimli/Model/{Index,Aranges,Pub,Names,Indexed,Loader}.lean` which the driver executes and which the
correspondence run ties to `src/read/{index,aranges,lookup,names,str,addr,dwarf,mod}.rs` and
`src/common.rs`.  The exhaustive scans the lookups are compared with
are `Spec.Index.scan` (`Gimli/Spec/Index.lean`) and `scanTuples`, `scanBucket`, `scanHash`,
`scanSeries`, `scanSets`, which stand with the encodings of the abstract tables and their lemmas in
`Gimli/Lemmas/{Aranges,Names,NamesEntries,Pub}.lean`.

Quantifiers: every table size `2^k`, every list of signatures / tuples / names of any length,
both byte orders, both DWARF formats, every address size.
-/
namespace Gimli.Props.C17
open Gimli Gimli.Ints Gimli.Index Gimli.Spec.Index

/-! ## the package hash index (`.debug_cu_index` / `.debug_tu_index`) -/

/-- **The number-theoretic core**: with an odd stride the probe sequence of a `2^k`-slot table
visits every slot exactly once in its first `2^k` steps (injective, hence onto). -/
theorem odd_stride_visits_every_slot (k id : Nat) :
    (∀ i j, i < 2 ^ k → j < 2 ^ k → probe k id i = probe k id j → i = j) ∧
    (∀ p, p < 2 ^ k → ∃ i, i < 2 ^ k ∧ probe k id i = p) :=
  ⟨fun i j hi hj h => probe_inj k (id % 2 ^ k) (stride k id) i j (stride_odd k id) hi hj h,
   fun p hp => probe_surj' k id p hp⟩

/-- **`find` agrees with the exhaustive scan (main theorem).**  Take any list `kvs` of
`(signature, row)` pairs with non-zero, pairwise distinct signatures that fits a table of `2^k`
slots (`kvs.length ≤ 2^k`: every load factor, *including the completely full table*).  Then
1. inserting them with the standard's double hashing (`Spec.Index.build`) succeeds — this is
   where "an odd stride visits every slot" is needed — and
2. for every parsed index `ix` whose `hash_ids`/`hash_rows` arrays hold the resulting slot
   table (either byte order) and EVERY `id` — including 0, the unused-slot marker, which is never
   present (`fix: UnitIndex::find reported the ID 0 as present`) —: `UnitIndex::find` returns
   exactly what a linear scan of `kvs` returns; `some row` iff `(id, row)` is listed, `none` iff
   `id` is absent. -/
theorem index_find_iff_present (k : Nat) (kvs : List (Nat × Nat))
    (hnz : ∀ kv, kv ∈ kvs → kv.1 ≠ 0)
    (hdist : kvs.Pairwise (fun a b => a.1 ≠ b.1))
    (hroom : kvs.length ≤ 2 ^ k) :
    ∃ t, build k kvs = some t ∧
      ∀ (e : Endian) (ix : UnitIndex), Encodes e k t ix → ∀ id,
        find e ix id = scan kvs id ∧
        (∀ row, find e ix id = some row ↔ (id, row) ∈ kvs) ∧
        (find e ix id = none ↔ ∀ row, (id, row) ∉ kvs) := by
  obtain ⟨t, ht⟩ := build_succeeds k kvs hroom
  obtain ⟨hinv, hc, _⟩ := build_spec k kvs t hnz hdist ht
  refine ⟨t, ht, fun e ix henc id => ?_⟩
  have hiff : ∀ row, find e ix id = some row ↔ (id, row) ∈ kvs := by
    intro row
    by_cases hid : id = 0
    · -- the key 0 is never stored and never found
      subst hid
      rw [find_zero]
      exact ⟨fun h => (nomatch h), fun hm => absurd rfl (hnz (0, row) hm)⟩
    rw [find_eq_lookup e k t ix henc id hid, lookup_iff k t hinv id hid row, hc id row hid]
  refine ⟨Option.ext fun row => by rw [hiff row, scan_iff kvs hdist id row], hiff, ?_⟩
  rw [Option.eq_none_iff_forall_ne_some]
  exact ⟨fun h row hm => h row ((hiff row).mpr hm), fun h row hf => h row ((hiff row).mp hf)⟩

/-- **The same, stated on the bytes of a `.debug_cu_index` / `.debug_tu_index` section.**  If the
section is a 16-byte header followed by the signatures and then the row numbers of the slot table
built from `kvs` (signatures `< 2^64`, rows `< 2^32`), and `UnitIndex::parse` accepts it with
`slot_count = 2^k`, then `find` on the parsed index is the linear scan of `kvs`, for every `id`
(0 included). -/
theorem index_find_on_bytes (k : Nat) (kvs : List (Nat × Nat))
    (hnz : ∀ kv, kv ∈ kvs → kv.1 ≠ 0 ∧ kv.1 < 2 ^ 64 ∧ kv.2 < 2 ^ 32)
    (hdist : kvs.Pairwise (fun a b => a.1 ≠ b.1)) (hroom : kvs.length ≤ 2 ^ k) :
    ∃ t, build k kvs = some t ∧
      ∀ (e : Endian) (hdr tail input : Bytes) (ix : UnitIndex), hdr.length = 16 →
        input = hdr ++ encIds e t ++ encRows e t ++ tail → Index.parse e input = .ok ix →
        ix.slotCount = 2 ^ k → ∀ id, find e ix id = scan kvs id := by
  obtain ⟨t, ht, hfind⟩ := index_find_iff_present k kvs (fun kv h => (hnz kv h).1) hdist hroom
  refine ⟨t, ht, ?_⟩
  intro e hdr tail input ix hhdr hin hp hslots id
  obtain ⟨hinv, _, hsl⟩ := build_spec k kvs t (fun kv h => (hnz kv h).1) hdist ht
  exact (hfind e ix (encodes_of_parse e input ix hp k t hinv.len hslots
    (slots_fit t kvs hsl fun kv h => (hnz kv h).2) hdr tail hhdr hin) id).1

/-- **The key 0 is never found** — on any index whatsoever (any bytes, any slot count): 0 marks an
unused slot and cannot be a present key.  (Regression of the repaired finding C17-1: without
`fix: UnitIndex::find reported the ID 0 as present`, `find(0)` returns `Some(0)`, the row field
of the first unused slot on its probe sequence, and `DwarfPackage::find_cu(DwoId(0))` fails
with `InvalidIndexRow(0)` instead of returning `None`.) -/
theorem find_zero_id_absent (e : Endian) (ix : UnitIndex) :
    find e ix 0 = none ∧ (findN e ix 0).2 = 0 :=
  ⟨find_zero e ix, by rw [findN, if_pos (Or.inr rfl)]⟩

/-- regression for C17-1 (a one-slot table whose only slot is unused): `find(0)` is `None` -/
theorem find_zero_id_witness :
    ∃ ix, Index.parse .little
        [2, 0, 0, 0, 0, 0, 0, 0, 0, 0, 0, 0, 1, 0, 0, 0, 0, 0, 0, 0, 0, 0, 0, 0, 0, 0, 0, 0] = .ok ix ∧
      ix.slotCount = 1 ∧ find .little ix 0 = none := by
  refine ⟨_, rfl, rfl, by decide⟩

/-- **`find` terminates within `slot_count` probes for ANY index** — whatever the bytes of the
hash arrays are (full tables without an empty slot, tables not built by insertion, zero slots,
slot counts that are not powers of two).  `findN` is `find` together with the number of slots it
read; the correspondence run compares that number with the reads the real `find` performs. -/
theorem find_terminates (e : Endian) (ix : UnitIndex) (id : Nat) :
    (findN e ix id).2 ≤ ix.slotCount ∧ find e ix id = (findN e ix id).1 := by
  refine ⟨?_, rfl⟩
  unfold findN
  split
  · exact Nat.zero_le _
  · exact findLoop_probes_le _ _ _ _ _ _ _

/-- a slot count accepted by `UnitIndex::parse` is 0 or a power of two above the unit count
(so the table always has an unused slot and the mask arithmetic of `find` is a reduction
mod `2^k`) -/
theorem parse_slot_count (e : Endian) (input : Bytes) (ix : UnitIndex)
    (h : Index.parse e input = .ok ix) :
    ix.slotCount = 0 ∨ ((∃ k, ix.slotCount = 2 ^ k) ∧ ix.unitCount < ix.slotCount) :=
  ((parse_ensures e input).2 ix h).1

/-- **Layout of an accepted index**: a 16-byte header, `slot_count` 8-byte signatures,
`slot_count` 4-byte row numbers, `section_count ≤ 8` column kinds, then the two row-major
`unit_count × section_count` matrices — these are the arrays `find` and `sections` index into. -/
theorem index_parse_layout (e : Endian) (input : Bytes) (ix : UnitIndex) (hne : input ≠ [])
    (h : Index.parse e input = .ok ix) :
    ∃ hdr kindsB trailing,
      input = hdr ++ ix.hashIds ++ ix.hashRows ++ kindsB ++ ix.offsets ++ ix.sizes ++ trailing ∧
      hdr.length = 16 ∧ ix.hashIds.length = ix.slotCount * 8 ∧ ix.hashRows.length = ix.slotCount * 4 ∧
      kindsB.length = 4 * ix.sectionCount ∧ ix.sections.length = ix.sectionCount ∧
      ix.sectionCount ≤ 8 ∧ (ix.version = 2 ∨ ix.version = 5) ∧
      ix.offsets.length = ix.unitCount * ix.sectionCount * 4 ∧
      ix.sizes.length = ix.unitCount * ix.sectionCount * 4 :=
  ((parse_ensures e input).2 ix h).2 hne

/-- **`sections(row)` = row `row-1` of the two matrices, column by column.**  If the
`offsets` and `sizes` arrays of the index are the row-major encodings of two
`unit_count × section_count` matrices of `u32`s, then for every valid `row` the iterator yields
exactly `(kind[c], offsets[row-1][c], sizes[row-1][c])` for `c = 0 … section_count-1`. -/
theorem sections_row_col (e : Endian) (ix : UnitIndex) (offs szs : List (List Nat)) (row : Nat)
    (hk : ix.sections.length = ix.sectionCount)
    (hro : offs.length = ix.unitCount) (hrs : szs.length = ix.unitCount)
    (hco : ∀ r, r ∈ offs → r.length = ix.sectionCount ∧ ∀ v, v ∈ r → v < 2 ^ 32)
    (hcs : ∀ r, r ∈ szs → r.length = ix.sectionCount ∧ ∀ v, v ∈ r → v < 2 ^ 32)
    (hoff : ix.offsets = encMatrix e offs) (hsz : ix.sizes = encMatrix e szs)
    (h1 : 1 ≤ row) (h2 : row ≤ ix.unitCount) :
    Index.sections e ix row =
      .ok (ix.sections.zip ((offs.getD (row - 1) []).zip (szs.getD (row - 1) []))) :=
  sections_matrix e ix offs szs row hk hro hrs hco hcs hoff hsz h1 h2

/-- rows outside `1 ..= unit_count` are rejected -/
theorem sections_bad_row (e : Endian) (ix : UnitIndex) (row : Nat)
    (h : row = 0 ∨ ix.unitCount < row) : Index.sections e ix row = .err .rInvalidIndexRow := by
  unfold Index.sections
  rw [if_pos h]

/-! ## `.debug_aranges` -/

open Gimli.Aranges in
/-- **Padding rule.** For every format and every address size (any positive one, in particular
1, 2, 4, 8): `0 ≤ pad < tuple` and `(header + pad) mod tuple = 0`, where `tuple = 2·address_size`
and `header` is the header size of the format (12 / 24 bytes). -/
theorem aranges_padding (f : Format) (addressSize : Nat) (h : 0 < addressSize) :
    padding f addressSize < 2 * addressSize ∧
      (headerLength f + padding f addressSize) % (2 * addressSize) = 0 := by
  unfold padding
  rw [Nat.mul_comm addressSize 2]
  exact paddingFor_spec (headerLength f) (2 * addressSize) (by omega)

open Gimli.Aranges in
/-- … and that is the padding `ArangeHeader::parse` skips: an accepted set is
`header ++ padding ++ entries`, followed by the next sets; its length field covers exactly that. -/
theorem aranges_header_layout (e : Endian) (input : Bytes) (h : Header) (rest : Bytes)
    (hp : parseHeader e input = .ok (h, rest)) :
    ∃ hdr pad, input = hdr ++ pad ++ h.entries ++ rest ∧
      hdr.length = headerLength h.format ∧ pad.length = padding h.format h.addressSize ∧
      (h.addressSize = 1 ∨ h.addressSize = 2 ∨ h.addressSize = 4 ∨ h.addressSize = 8) ∧
      h.length + initialLengthSize h.format = (hdr ++ pad ++ h.entries).length :=
  (parseHeader_ensures e input).2 (h, rest) hp

open Gimli.Aranges in
/-- **The entry iterator returns exactly the tuples present.**  For every list of tuples `ts`
(values fitting the address size; any number of null tuples and tombstones anywhere), followed by
less than a tuple of junk, draining `ArangeEntryIter` yields the linear scan `scanTuples`: one
item per tuple that is neither null nor a tombstone (`begin ≥ 2^(8·size) − 2`), in order, with
`end = begin + length`, or `AddressOverflow` where that sum does not fit the address size. -/
theorem aranges_entries_exact (e : Endian) (addressSize : Nat)
    (has : addressSize = 1 ∨ addressSize = 2 ∨ addressSize = 4 ∨ addressSize = 8)
    (ts : List (Nat × Nat)) (tail : Bytes) (htail : tail.length < 2 * addressSize)
    (hb : ∀ t, t ∈ ts → t.1 < 2 ^ (8 * addressSize) ∧ t.2 < 2 ^ (8 * addressSize))
    (fuel : Nat) (hf : ts.length < fuel) :
    entries e addressSize fuel (encTuples e addressSize ts ++ tail) = scanTuples addressSize ts := by
  cases fuel with
  | zero => omega
  | succ F =>
    rw [entries_succ]
    exact yield_nextLoop e addressSize has tail htail ts (fun t ht => pow256 _ ▸ hb t ht) _ F
      (length_lt_encTuples e has ts tail) (Nat.le_of_lt_succ hf)

/-! ## `.debug_names` -/

open Gimli.Names in
/-- **Layout arithmetic of `NameIndex::new`**: after the header come, in this order, the CU list,
the local TU list, the foreign TU list (8 bytes per signature whatever the format), the bucket
array, the hash array (present only when `bucket_count ≠ 0`), the string-offset array, the
entry-offset array, the abbreviation table (`abbrev_table_size` bytes) and the entry pool. -/
theorem names_layout (h : Header) (ix : Names.Index) (hn : Names.Index.new h = .ok ix) :
    ∃ abbrevTable,
      h.content = ix.cuList ++ ix.localTuList ++ ix.foreignTuList ++ ix.bucketData ++
        ix.hashTableData ++ ix.nameTableData ++ ix.entryOffsetData ++ abbrevTable ++ ix.entryPool ∧
      ix.cuList.length = h.cuCount * h.format.wordSize ∧
      ix.localTuList.length = h.localTuCount * h.format.wordSize ∧
      ix.foreignTuList.length = h.foreignTuCount * 8 ∧
      ix.bucketData.length = h.bucketCount * 4 ∧
      ix.hashTableData.length = (if h.bucketCount = 0 then 0 else h.nameCount * 4) ∧
      ix.nameTableData.length = h.nameCount * h.format.wordSize ∧
      ix.entryOffsetData.length = h.nameCount * h.format.wordSize ∧
      abbrevTable.length = h.abbrevTableSize ∧
      parseAbbrevs (abbrevTable.length + 1) abbrevTable = .ok ix.abbrevs ∧
      ix.format = h.format ∧ ix.bucketCount = h.bucketCount ∧ ix.nameCount = h.nameCount ∧
      ix.cuCount = h.cuCount ∧ ix.localTuCount = h.localTuCount ∧ ix.foreignTuCount = h.foreignTuCount :=
  (new_ensures h).2 ix hn

open Gimli.Names in
/-- **The bucket iterator returns exactly the names in the bucket, and stops by the modulo
rule.**  For every well-formed hash table — `groups[b]` = the hashes (all `≡ b mod
bucket_count`) of the names of bucket `b` in name-table order, the hash array their
concatenation, the bucket array the 1-based index of each non-empty group's first name and 0 for
an empty group (`EncodesTable`) — and every bucket `b`: `find_by_bucket(b)` is `None` iff no
name of the whole table hashes into `b`, and otherwise, drained, yields exactly the pairs
`(index, hash)` an exhaustive scan of the whole hash array finds with `hash % bucket_count = b`,
in order. -/
theorem bucket_iter_exact (e : Endian) (bc : Nat) (groups : List (List Nat)) (ix : Names.Index)
    (hwf : WellFormed bc groups) (henc : EncodesTable e groups ix) (b : Nat) (hb : b < bc) :
    ix.bucket e b =
      .ok (if scanBucket bc b groups.flatten = [] then none
           else some ((scanBucket bc b groups.flatten).map .item)) := by
  obtain ⟨hbl, pre, post, cells, tl, hs, hB, hh, hcell, hbc, rfl⟩ := henc.bucket hwf hb
  rw [bucket_eq hh hcell hbc hB, hs, scanBucket_bucket hB]
  cases hgb : groups[b] with
  | nil => rfl
  | cons a t => rfl

open Gimli.Names in
/-- **`find_by_hash` returns exactly the names with that hash**: for every well-formed hash
table with at least one bucket and every 32-bit hash value (present or absent, colliding with
other names of its bucket or not), draining the hash iterator yields the indexes an exhaustive
scan of the whole hash array finds with that hash, in order. -/
theorem hash_iter_exact (e : Endian) (bc : Nat) (groups : List (List Nat)) (ix : Names.Index)
    (hwf : WellFormed bc groups) (henc : EncodesTable e groups ix) (hbc : 0 < bc) (hash : Nat) :
    ix.findByHash e hash = .ok ((scanHash hash groups.flatten).map .item) := by
  obtain ⟨hbl, pre, post, cells, tl, hs, hB, hh, hcell, hbc', rfl⟩ := henc.bucket hwf (Nat.mod_lt hash hbc)
  rw [findByHash_eq hh hbc' hcell hB, hs, scanHash_bucket hB]

open Gimli.Names in
/-- **The name abbreviation table parses back to the abbreviations it encodes** (ULEB code, ULEB
tag, `(name, form)` pairs ended by `0 0`; non-zero codes/tags/names/forms that fit their 64/16-bit
readers), whether or not the table carries the terminating 0 — this is the table
`NameEntry::parse` resolves entry codes against. -/
theorem name_abbrevs_exact (abbrevs : List Abbrev) (h : ∀ a, a ∈ abbrevs → a.Ok)
    (tail : Bytes) (htail : tail = [] ∨ ∃ junk, tail = 0 :: junk) (fuel : Nat)
    (hf : abbrevs.length < fuel) :
    parseAbbrevs fuel (encAbbrevs abbrevs ++ tail) = .ok abbrevs := by
  induction abbrevs generalizing fuel with
  | nil =>
    cases fuel with
    | zero => omega
    | succ f => exact parseAbbrevs_end f tail htail
  | cons a abbrevs ih =>
    cases fuel with
    | zero => omega
    | succ f =>
      rw [encAbbrevs, List.flatMap_cons, List.append_assoc, parseAbbrevs_abbrev a (h a List.mem_cons_self)]
      show parseAbbrevs f (encAbbrevs abbrevs ++ tail) >>= _ = _
      rw [ih (fun b hb => h b (List.mem_cons_of_mem _ hb)) f (Nat.lt_of_succ_lt_succ hf)]
      rfl

open Gimli.Names in
/-- **`name_entries(i)` returns exactly the entries of name `i`.**  If slot `i` of the
entry-offset array points at a series of entries in the pool — each entry the ULEB abbreviation
code of an abbreviation that `NameAbbreviations::get` resolves to itself, followed by one value
per attribute specification in a form of the supported set (flag, flag_present, data1/2/4/8,
udata, ref1/2/4/8, ref_udata) that fits the form — terminated by a 0 code, then draining the
entry iterator yields the exhaustive scan of the series: every entry, in order, at its pool
offset, with the abbreviation's tag and the attribute list `(name, form, value)`. -/
theorem name_entries_exact (e : Endian) (ix : Names.Index) (offsets : List Nat) (i : Nat)
    (hi : i < offsets.length)
    (hoff : ix.entryOffsetData = offsets.flatMap fun v => toBytes e ix.format.wordSize v)
    (hb : ∀ v, v ∈ offsets → v < 2 ^ (8 * ix.format.wordSize))
    (pre post : Bytes) (es : List AbsEntry) (hes : ∀ en, en ∈ es → en.Ok ix.abbrevs)
    (hpool : ix.entryPool = pre ++ (encSeries e es ++ 0 :: post)) (hoi : offsets[i] = pre.length) :
    ix.nameEntries e i = .ok (scanSeries e pre.length es) := by
  have hlen : es.length < (encSeries e es ++ 0 :: post).length + 1 := by
    have := length_le_encSeries e es
    rw [List.length_append]; omega
  rw [Index.nameEntries, hoff, offsetAt_table e ix.format offsets i hi hb, hoi, Out.bind_ok, hpool,
    C17.skipTo_append, Out.bind_ok,
    entrySeries_enc e ix.abbrevs es hes post _ _ pre.length List.length_append.symm hlen]
  rfl

open Gimli.Names in
/-- **Compile-unit and type-unit references resolve through the right list**: index `i` of the
CU list is `cus[i]`; a type-unit index below `local_type_unit_count` is the local TU offset
`ltus[i]`, an index `local_type_unit_count + j` is the foreign signature `ftus[j]` (8 bytes
whatever the format). -/
theorem name_units_exact (e : Endian) (ix : Names.Index) (cus ltus ftus : List Nat)
    (hcu : ix.cuList = cus.flatMap fun v => toBytes e ix.format.wordSize v)
    (hltu : ix.localTuList = ltus.flatMap fun v => toBytes e ix.format.wordSize v)
    (hftu : ix.foreignTuList = ftus.flatMap fun v => toBytes e 8 v)
    (hlc : ix.localTuCount = ltus.length)
    (hbc : ∀ v, v ∈ cus → v < 2 ^ (8 * ix.format.wordSize))
    (hbl : ∀ v, v ∈ ltus → v < 2 ^ (8 * ix.format.wordSize))
    (hbf : ∀ v, v ∈ ftus → v < 2 ^ 64) :
    (∀ i (hi : i < cus.length), ix.compileUnit e i = .ok cus[i]) ∧
    (∀ i (hi : i < ltus.length), ix.typeUnit e i = .ok (.local_ ltus[i])) ∧
    (∀ j (hj : j < ftus.length), ix.typeUnit e (ltus.length + j) = .ok (.foreign ftus[j])) := by
  refine ⟨fun i hi => ?_, fun i hi => ?_, fun j hj => ?_⟩
  · rw [Index.compileUnit, hcu]; exact offsetAt_table e ix.format cus i hi hbc
  · rw [Index.typeUnit, if_neg (by omega), Index.localTypeUnit, hltu, offsetAt_table e ix.format ltus i hi hbl]
    rfl
  · rw [Index.typeUnit, if_pos (by omega), hlc, Nat.add_sub_cancel_left,
      foreignTypeUnit_table e ix ftus j hj hftu hbf]
    rfl

open Gimli.Names in
/-- **Parent chains**: `name_entry(offset)` for the pool offset a `DW_IDX_parent` attribute carries
parses back exactly the entry encoded there. -/
theorem name_parent_entry_exact (e : Endian) (ix : Names.Index) (pre post : Bytes) (en : AbsEntry)
    (h : en.Ok ix.abbrevs) (hpool : ix.entryPool = pre ++ (encEntry e en ++ post)) :
    ix.nameEntry e pre.length = .ok (entryOf pre.length en) := by
  rw [Names.Index.nameEntry, hpool, C17.skipTo_append, Out.bind_ok, reads_entry e ix.abbrevs en h _ _]
  rfl

open Gimli.Names in
/-- **The five attribute accessors** read the first attribute with their `DW_IDX` name and accept
exactly the value class that name has: `die_offset`/`parent` an offset (`parent` also
`flag_present` = "parent not indexed"), `type_hash`/`compile_unit`/`type_unit` an unsigned value
(an index `< 2^32` that is then resolved through the unit lists); no such attribute gives `None`. -/
theorem name_accessors_exact (e : Endian) (ix : Names.Index) (en : Names.Entry) :
    (firstAttr en 3 = none → en.dieOffset = .ok none) ∧
    (∀ f v, firstAttr en 3 = some ⟨3, f, .offset v⟩ → en.dieOffset = .ok (some v)) ∧
    (firstAttr en 4 = none → en.parent = .ok none) ∧
    (∀ f v, firstAttr en 4 = some ⟨4, f, .offset v⟩ → en.parent = .ok (some (some v))) ∧
    (∀ f, firstAttr en 4 = some ⟨4, f, .flag true⟩ → en.parent = .ok (some none)) ∧
    (∀ f v, firstAttr en 5 = some ⟨5, f, .unsigned v⟩ → en.typeHash = .ok (some v)) ∧
    (firstAttr en 1 = none → en.compileUnit e ix = .ok none) ∧
    (∀ f v, firstAttr en 1 = some ⟨1, f, .unsigned v⟩ → v < 2 ^ 32 →
      en.compileUnit e ix = (ix.compileUnit e v).map some) ∧
    (firstAttr en 2 = none → en.typeUnit e ix = .ok none) ∧
    (∀ f v, firstAttr en 2 = some ⟨2, f, .unsigned v⟩ → v < 2 ^ 32 →
      en.typeUnit e ix = (ix.typeUnit e v).map some) := by
  refine ⟨fun h => ?_, fun f v h => ?_, fun h => ?_, fun f v h => ?_, fun f h => ?_, fun f v h => ?_,
    fun h => ?_, fun f v h hv => ?_, fun h => ?_, fun f v h hv => ?_⟩
  · rw [Entry.dieOffset, h]
  · rw [Entry.dieOffset, h]
  · rw [Entry.parent, h]
  · rw [Entry.parent, h]
  · rw [Entry.parent, h]
  · rw [Entry.typeHash, h]
  · rw [Entry.compileUnit, h]
  · rw [Entry.compileUnit, h]; exact if_pos hv
  · rw [Entry.typeUnit, h]
  · rw [Entry.typeUnit, h]; exact if_pos hv

/-! ## `.debug_pubnames` / `.debug_pubtypes` -/

open Gimli.Pub in
/-- **The public-name tables return exactly the entries present.**  For every list of
well-formed sets (either format per set; non-zero DIE offsets; NUL-free names; any number of
entries, including none), draining `LookupEntryIter` over their encoding (header, entries,
zero-offset terminator, set after set) yields the exhaustive scan: every entry of every set, in
order, each with the unit offset of its own set. -/
theorem pub_entries_exact (e : Endian) (sets : List PubSet) (hv : AllValid e sets) (fuel : Nat)
    (hf : totalEntries sets < fuel) :
    items e fuel (start (encSets e sets)) = scanSets e sets := by
  cases fuel with
  | zero => exact absurd hf (Nat.not_lt_zero _)
  | succ F =>
    -- `next` on the start state: no current set, the loop's fuel exceeds the number of sets
    exact (items_succ e F _).trans <| yield_nextLoop e sets hv none (Or.inl rfl) _ F
      (Nat.lt_succ_of_le (Nat.le_succ_of_le (encSets_length_ge e sets))) (Nat.le_of_lt_succ hf)

/-! ## package units, indexed tables -/

/-- **A unit fetched from a package equals the unit in its standalone object.**  Let the index
row of a unit list each section kind at most once, and let every kind either have no column (the
standalone object has no such section) or a column `(kind, offset, size)` that points at the
standalone section's bytes inside the package section (`pkg kind = pre ++ standalone kind ++
post`, `offset = |pre|`, `size = |standalone kind|`).  Then the ten `dwp_range` calls of
`DwarfPackage::sections` succeed and return exactly the standalone sections. -/
theorem dwp_slice (pkg : SecKind → Bytes) (cols : List (SecKind × Nat × Nat))
    (standalone : SecKind → Bytes) (huniq : (cols.map (·.1)).Nodup)
    (h : ∀ k, k ∈ sliceOrder → Contributes pkg cols standalone k) :
    packageSlices pkg cols sliceOrder = .ok (sliceOrder.map fun k => (k, standalone k)) :=
  packageSlices_standalone pkg cols standalone huniq sliceOrder h

/-- **`find_cu` / `find_tu` end to end: a unit fetched from a package equals the unit in its
standalone object, and an id that is not in the package gives `None`.**  The package index holds
the hash table built by insertion from `kvs` (any load factor, colliding signatures) and the
matrices `offs` / `szs`; the column kinds are distinct.  Then for every id: if the exhaustive
scan of `kvs` does not list it, `find_cu` returns `None`; if it lists it at a valid row whose
matrix entries point at the unit's standalone sections inside the package sections, `find_cu`
returns exactly those standalone sections (and empty ones for the kinds without a column). -/
theorem dwp_find_cu_exact (k : Nat) (kvs : List (Nat × Nat))
    (hnz : ∀ kv, kv ∈ kvs → kv.1 ≠ 0) (hdist : kvs.Pairwise (fun a b => a.1 ≠ b.1))
    (hroom : kvs.length ≤ 2 ^ k) :
    ∃ t, build k kvs = some t ∧
      ∀ (e : Endian) (ix : UnitIndex), Encodes e k t ix →
        ∀ (offs szs : List (List Nat)),
          ix.sections.length = ix.sectionCount → ix.sections.Nodup →
          offs.length = ix.unitCount → szs.length = ix.unitCount →
          (∀ r, r ∈ offs → r.length = ix.sectionCount ∧ ∀ v, v ∈ r → v < 2 ^ 32) →
          (∀ r, r ∈ szs → r.length = ix.sectionCount ∧ ∀ v, v ∈ r → v < 2 ^ 32) →
          ix.offsets = encMatrix e offs → ix.sizes = encMatrix e szs →
          ∀ (pkg standalone : SecKind → Bytes) (id : Nat),
            (scan kvs id = none → findUnit e ix pkg id = .ok none) ∧
            (∀ row, scan kvs id = some row → 1 ≤ row → row ≤ ix.unitCount →
              (∀ kd, kd ∈ sliceOrder → Contributes pkg
                (ix.sections.zip ((offs.getD (row - 1) []).zip (szs.getD (row - 1) []))) standalone kd) →
              findUnit e ix pkg id = .ok (some (row, sliceOrder.map fun kd => (kd, standalone kd)))) := by
  obtain ⟨t, ht, hfind⟩ := index_find_iff_present k kvs hnz hdist hroom
  exact ⟨t, ht, fun e ix henc => Index.findUnit_exact e kvs ix fun id => (hfind e ix henc id).1⟩

/-- `sliceOrder` covers every section kind an index can name -/
theorem dwp_slice_all_kinds (k : SecKind) : k ∈ sliceOrder := by cases k <;> decide

open Gimli.Indexed in
/-- **Indexed string offsets return exactly the table entry**: for a table of offsets `vals`
located at `base` in `.debug_str_offsets` (anything before and after), `get_str_offset(base, i)`
is `vals[i]`, for either format and byte order. -/
theorem indexed_string_exact (e : Endian) (f : Format) (pre post : Bytes) (vals : List Nat) (i : Nat)
    (hi : i < vals.length) (hb : ∀ v, v ∈ vals → v < 2 ^ (8 * f.wordSize))
    (hsz : i * f.wordSize < 2 ^ 64) :
    getStrOffset e f (pre ++ vals.flatMap (fun v => toBytes e f.wordSize v) ++ post) pre.length i =
      .ok vals[i] := by
  rw [getStrOffset, List.append_assoc, C17.skipTo_append, Out.bind_ok, if_neg (Nat.not_le.mpr hsz),
    C17.skipTo_table _ f.wordSize vals (fun a _ => toBytes_length e f.wordSize a) post i hi, Out.bind_ok,
    reads_word e f (pow256 _ ▸ hb _ (List.getElem_mem hi)) _]
  rfl

open Gimli.Indexed in
/-- **Indexed addresses return exactly the table entry**, for every address size 1/2/4/8. -/
theorem indexed_address_exact (e : Endian) (sz : Nat) (hs : sz = 1 ∨ sz = 2 ∨ sz = 4 ∨ sz = 8)
    (pre post : Bytes) (vals : List Nat) (i : Nat)
    (hi : i < vals.length) (hb : ∀ v, v ∈ vals → v < 2 ^ (8 * sz)) (hsz : i * sz < 2 ^ 64) :
    getAddress e sz (pre ++ vals.flatMap (fun v => toBytes e sz v) ++ post) pre.length i =
      .ok vals[i] := by
  rw [getAddress, List.append_assoc, C17.skipTo_append, Out.bind_ok, if_neg (Nat.not_le.mpr hsz),
    C17.skipTo_table _ sz vals (fun a _ => toBytes_length e sz a) post i hi, Out.bind_ok,
    reads_address_fixed e hs (pow256 _ ▸ hb _ (List.getElem_mem hi)) _]
  rfl

open Gimli.Indexed in
/-- **String form resolution.** `attr_string` of a `DW_FORM_strx` index `i` is the string whose
`.debug_str` offset is entry `i` of the unit's `.debug_str_offsets` table (the table found at the
unit's `str_offsets_base`); `strp`, `line_strp` and `strp_sup` read `.debug_str`,
`.debug_line_str` and the supplementary file's `.debug_str` respectively (an error when there is
no supplementary file). -/
theorem attr_string_exact (c : Ctx) (spre s spost : Bytes) (hs : ∀ b, b ∈ s → b ≠ 0) :
    (∀ (pre post : Bytes) (vals : List Nat) (i : Nat),
      c.debugStrOffsets = pre ++ vals.flatMap (fun v => toBytes c.endian c.format.wordSize v) ++ post →
      c.strOffsetsBase = pre.length → ∀ (hi : i < vals.length),
      (∀ v, v ∈ vals → v < 2 ^ (8 * c.format.wordSize)) → i * c.format.wordSize < 2 ^ 64 →
      c.debugStr = spre ++ (s ++ 0 :: spost) → vals[i] = spre.length →
      attrString c (.debugStrOffsetsIndex i) = .ok s) ∧
    (c.debugStr = spre ++ (s ++ 0 :: spost) → attrString c (.debugStrRef spre.length) = .ok s) ∧
    (c.debugLineStr = spre ++ (s ++ 0 :: spost) → attrString c (.debugLineStrRef spre.length) = .ok s) ∧
    (c.supDebugStr = some (spre ++ (s ++ 0 :: spost)) → attrString c (.debugStrRefSup spre.length) = .ok s) ∧
    (c.supDebugStr = none → attrString c (.debugStrRefSup spre.length) = .err .rExpectedStringAttributeValue) := by
  have hg := getStr_at spre s spost hs
  refine ⟨fun pre post vals i hso hbase hi hb hsz hstr hoff => ?_, fun h => ?_, fun h => ?_, fun h => ?_,
    fun h => ?_⟩
  · rw [attrString, hso, hbase, indexed_string_exact c.endian c.format pre post vals i hi hb hsz,
      Out.bind_ok, hstr, hoff, hg]
  · rw [attrString, h, hg]
  · rw [attrString, h, hg]
  · rw [attrString, h]; exact hg
  · rw [attrString, h]

open Gimli.Indexed in
/-- **Address form resolution.** `attr_address` of a `DW_FORM_addrx` index `i` is entry `i` of the
unit's table in `.debug_addr` (at `addr_base`), of `DW_FORM_addr` the value itself, of any other
form `None`. -/
theorem attr_address_exact (c : Ctx)
    (hs : c.addressSize = 1 ∨ c.addressSize = 2 ∨ c.addressSize = 4 ∨ c.addressSize = 8)
    (pre post : Bytes) (vals : List Nat) (i : Nat)
    (had : c.debugAddr = pre ++ vals.flatMap (fun v => toBytes c.endian c.addressSize v) ++ post)
    (hbase : c.addrBase = pre.length) (hi : i < vals.length)
    (hb : ∀ v, v ∈ vals → v < 2 ^ (8 * c.addressSize)) (hsz : i * c.addressSize < 2 ^ 64) (a : Nat) :
    attrAddress c (.debugAddrIndex i) = .ok (some vals[i]) ∧ attrAddress c (.addr a) = .ok (some a) ∧
      attrAddress c .other = .ok none :=
  ⟨by rw [attrAddress, had, hbase, indexed_address_exact c.endian c.addressSize hs pre post vals i hi hb hsz]; rfl,
    rfl, rfl⟩

/-! ## loader wiring -/

open Gimli.Loader in
/-- **Each section type loaded through the section loader receives that section's data and no
other** (finite tables mirroring `DwarfSections::load`, `Dwarf::from_sections`,
`DwarfPackageSections::load`, `Section::id`, `SectionId::name`; decided by evaluation).
1. every field of `DwarfSections` is loaded with the `SectionId` whose ELF name is the field's
   name, and no id is requested twice;
2. every slot of `Dwarf` (including both halves of `locations` and `ranges`) ends up holding what
   the loader returned for the slot type's own id, for every loader;
3. `Dwarf::lookup_offset_id` reports a marker under its own id exactly for the sections it
   consults, and under no other id;
4. the same for the 13 fields of `DwarfPackageSections` (`cu_index` ↦ `.debug_cu_index`, …). -/
theorem loader_wiring :
    (∀ p, p ∈ dwarfSectionsFields → p.2.name = "." ++ p.1) ∧
    (dwarfSectionsFields.map (·.2)).Nodup ∧
    (∀ (α : Type) (loader : SectionId → α),
      dwarfLoad loader = dwarfSlots.map fun (slot, id, _) => (slot, some (loader id))) ∧
    (∀ p, p ∈ dwarfSlots → p.2.1.name = "." ++ p.2.2) ∧
    (∀ m, lookupMarker m = if m ∈ lookupOrder.map (·.2) then some m else none) ∧
    (∀ p, p ∈ packageFields → p.2.name = "." ++ p.1 ∨ p.2.name = ".debug_" ++ p.1) ∧
    (packageFields.map (·.2)).Nodup := by
  refine ⟨by decide +kernel, by decide +kernel, fun α loader => ?_, by decide +kernel, fun m => ?_,
    by decide +kernel, by decide +kernel⟩
  · -- the loader is arbitrary; what is evaluated is that every slot's source field is in the
    -- field table, with the slot type's own id
    have hsrc : ∀ s, s ∈ dwarfSlots → dwarfSectionsFields.find? (·.1 = s.2.2) = some (s.2.2, s.2.1) := by
      decide +kernel
    refine List.map_congr_left fun (slot, id, src) hs => ?_
    have : (load dwarfSectionsFields loader).find? (·.1 = src) =
        (dwarfSectionsFields.find? (·.1 = src)).map fun (f, id) => (f, loader id) := List.find?_map ..
    show (slot, ((load dwarfSectionsFields loader).find? (·.1 = src)).map (·.2)) = _
    rw [this, hsrc _ hs]
    rfl
  · have hall : ∀ m, m ∈ SectionId.all →
        lookupMarker m = if m ∈ lookupOrder.map (·.2) then some m else none := by decide +kernel
    exact hall m (by cases m <;> decide)

/-! ## non-vacuity -/

example : build 2 [(5, 1), (9, 2), (13, 3), (0x100000001, 4)] =
    some [(0x100000001, 4), (5, 1), (9, 2), (13, 3)] := by decide
example : Aranges.padding .dwarf32 8 = 4 ∧ Aranges.padding .dwarf64 8 = 8 ∧
    Aranges.padding .dwarf32 4 = 4 ∧ Aranges.padding .dwarf64 2 = 0 := by decide
example : Aranges.scanTuples 4 [(0x1000, 0x10), (0, 0), (0xffffffff, 5), (0xfffffff0, 0x20), (7, 1)] =
    [.item ⟨0x1000, 0x1010, 0x10⟩, .error .rAddressOverflow, .item ⟨7, 8, 1⟩] := by decide

example : Index.dwpRange [1, 2, 3, 4, 5] 1 3 = .ok [2, 3, 4] := by decide
example : Indexed.getStrOffset .little .dwarf32 [9, 9, 1, 0, 0, 0, 2, 0, 0, 0] 2 1 = .ok 2 := by decide

example : Names.WellFormed 2 [[4, 6, 4], [7]] := ⟨rfl, by decide, by decide⟩
example : Names.scanBucket 2 0 [4, 6, 4, 7] = [(0, 4), (1, 6), (2, 4)] ∧
    Names.scanHash 4 [4, 6, 4, 7] = [0, 2] ∧ Names.bucketArray [[4, 6, 4], [7]] 0 = [1, 4] := by decide

example : Pub.AllValid .little [⟨.dwarf32, 0x10, 0x99, [(0x20, [97, 98]), (0x30, [])]⟩, ⟨.dwarf64, 1, 2, []⟩] := by
  intro s hs
  rcases List.mem_cons.mp hs with rfl | hs
  · exact ⟨by decide, by decide, by decide, by decide⟩
  · rcases List.mem_singleton.mp hs with rfl
    exact ⟨by decide, by decide, by decide, by decide⟩

end Gimli.Props.C17
