import Gimli.Lemmas.WLists.Table
/-!
# C16 — Written range and location lists read back as the same lists

Property theorems only (helper lemmas: `Gimli/Lemmas/WLists/Expr.lean`, `Gimli/Lemmas/WLists.lean`,
`Gimli/Lemmas/WLists/Table.lean`).
Every theorem is about the Model functions of `Gimli/Model/WLists.lean` (the writer:
`src/write/range.rs`, `src/write/loc.rs`, the list part of `src/write/unit.rs`), which the driver
executes and the correspondence run ties to
the Rust code, composed with C08's Model of the reader (`Gimli/Model/Lists.lean`) and C08's
theorems about it. The Spec is `Gimli/Spec/WLists.lean` (meaning of a list as built) on top of
`Gimli/Spec/Lists.lean`.

Quantifiers: every unit (any number of lists, any entries, any field values, any expressions of
the modelled operation kinds, duplicates), both list families, every byte order / DWARF format,
address sizes 1, 2, 4, 8, unit `DW_AT_low_pc` absent / any value. `Machine` collects what the Rust
types and a 64-bit address space guarantee (fields are `u64`s, a `Range` carries no expression,
expressions are shorter than 2^64 bytes).
-/
namespace Gimli.Props.C16
open Gimli Gimli.Ints Gimli.Lists Gimli.WLists Gimli.Spec.Lists Gimli.Spec.WLists

/-! ## "serialised in the encoding required by the unit's version and read back, through the
unit's base address, as the same ranges and (range, expression) pairs" -/

/-- **Round trip, DWARF 5.** A unit written at any position (`p`: its offset in `.debug_info`, the
current lengths of `.debug_rnglists` / `.debug_loclists`, whose contents `priorR` / `priorL` — the
tables of earlier units — are arbitrary). If writing the unit succeeds, then for every `add`ed
range list and every `add`ed location list: the offset handed to its `RangeListRef` /
`LocationListRef` attribute exists, and the reader (`Dwarf::ranges` / `Dwarf::locations` at that
offset of the section, C08's Model), started with the unit's base address, yields exactly the
ranges — for location lists the (range, expression bytes) pairs — the list as built means
(`Spec.WLists.meaning`), in order, with no error. Nothing else is assumed about the lists. -/
theorem list_roundtrip (m : Mode) (u : UnitIn) (p : Pos) (priorR priorL : Bytes) (out : UnitOut)
    (hv : u.cfg.version = 5) (he : ∀ o ∈ u.eoff, o < 2 ^ 64)
    (hmr : ∀ l ∈ u.rng, ∀ x ∈ l, Machine .rng u.cfg (unitEOff u) p.uoff x)
    (hml : ∀ l ∈ u.loc, ∀ x ∈ l, Machine .loc u.cfg (unitEOff u) p.uoff x)
    (hpr : p.rngStart = priorR.length) (hpl : p.locStart = priorL.length)
    (hw : writeUnitAt m u p = .ok out) :
    (∀ (j : Nat) (hj : j < u.rng.length), ∃ off evs, out.rngOffs[j]? = some off ∧
      cookedAt .rng u.cfg false out.debugRanges (priorR ++ out.debugRnglists) off (unitBase u.lowPc) [] 0 = .ok evs ∧
      evs.map denot = meaning u.cfg.addrSize (dataBytes .rng u.cfg (unitEOff u) p.uoff) (unitBase u.lowPc) u.rng[j]) ∧
    (∀ (j : Nat) (hj : j < u.loc.length), ∃ off evs, out.locOffs[j]? = some off ∧
      cookedAt .loc u.cfg false out.debugLoc (priorL ++ out.debugLoclists) off (unitBase u.lowPc) [] 0 = .ok evs ∧
      evs.map denot = meaning u.cfg.addrSize (dataBytes .loc u.cfg (unitEOff u) p.uoff) (unitBase u.lowPc) u.loc[j]) := by
  have hleg : ¬ u.cfg.version ≤ 4 := by omega
  have h := unit_roundtrip m u p priorR priorL out.debugRanges out.debugLoc out he hmr hml hpr hpl hw
  simp only [hleg, if_false] at h
  exact h

/-- **Round trip, DWARF 2–4** (`.debug_ranges` / `.debug_loc`): the same statement, at full strength.
(By repo fix 58a3924 the writer rejects an entry whose first word is the all-ones base-address marker,
`prev5_ones_begin_rejected`, so acceptance implies that no entry has one; without the fix that is a
hypothesis the statement needs — finding C16-1.) -/
theorem list_roundtrip_prev5 (m : Mode) (u : UnitIn) (p : Pos) (priorR priorL : Bytes)
    (out : UnitOut)
    (hv : 2 ≤ u.cfg.version ∧ u.cfg.version ≤ 4) (he : ∀ o ∈ u.eoff, o < 2 ^ 64)
    (hmr : ∀ l ∈ u.rng, ∀ x ∈ l, Machine .rng u.cfg (unitEOff u) p.uoff x)
    (hml : ∀ l ∈ u.loc, ∀ x ∈ l, Machine .loc u.cfg (unitEOff u) p.uoff x)
    (hpr : p.rngStart = priorR.length) (hpl : p.locStart = priorL.length)
    (hw : writeUnitAt m u p = .ok out) :
    (∀ (j : Nat) (hj : j < u.rng.length), ∃ off evs, out.rngOffs[j]? = some off ∧
      cookedAt .rng u.cfg false (priorR ++ out.debugRanges) out.debugRnglists off (unitBase u.lowPc) [] 0 = .ok evs ∧
      evs.map denot = meaning u.cfg.addrSize (dataBytes .rng u.cfg (unitEOff u) p.uoff) (unitBase u.lowPc) u.rng[j]) ∧
    (∀ (j : Nat) (hj : j < u.loc.length), ∃ off evs, out.locOffs[j]? = some off ∧
      cookedAt .loc u.cfg false (priorL ++ out.debugLoc) out.debugLoclists off (unitBase u.lowPc) [] 0 = .ok evs ∧
      evs.map denot = meaning u.cfg.addrSize (dataBytes .loc u.cfg (unitEOff u) p.uoff) (unitBase u.lowPc) u.loc[j]) := by
  have h := unit_roundtrip m u p priorR priorL out.debugRnglists out.debugLoclists out he hmr hml hpr hpl hw
  simp only [hv.2, if_true] at h
  exact h

/-- **Base address presence is derived from the root entry**: `have_base_address` is true exactly
when the root DIE has a `DW_AT_low_pc` other than `Address::Constant(0)`; when it is false the
reader's base address for the unit is 0 (so address pairs read back unchanged). -/
theorem have_base_address_derivation (low : Option Addr) :
    (haveBaseAddress low = true ↔ ∃ a, low = some a ∧ a ≠ .const 0) ∧
    (haveBaseAddress low = false → unitBase low = 0) := by
  refine ⟨?_, haveBase_false_base low⟩
  match low with
  | none => exact ⟨nofun, nofun⟩
  | some (.const 0) => exact ⟨nofun, fun ⟨_, h, hne⟩ => absurd (Option.some.inj h).symm hne⟩
  | some (.const (n + 1)) => exact ⟨fun _ => ⟨_, rfl, nofun⟩, fun _ => rfl⟩
  | some (.symbol s a) => exact ⟨fun _ => ⟨_, rfl, nofun⟩, fun _ => rfl⟩

/-- **Emitted bytes, DWARF 5**: the table is the header (`unit_length` of the chosen format,
version 5, address size, segment selector size 0, offset entry count 0) followed by the Spec
encoding (`Spec.Lists.encodeList`: `DW_RLE_*` / `DW_LLE_*` codes, ULEB128 operands, ULEB128 counted
expression) of every list of the table as built, each at the offset handed back for it. -/
theorem emitted_v5 (m : Mode) (k : Kind) (c : Cfg) (eo : EOff) (uoff : Nat) (ub : Bool) (start : Nat)
    (tbl : List WList) (bytes : Bytes) (offs : List Nat) (hv : c.version = 5) (he : U64EOff eo)
    (hm : ∀ l ∈ tbl, ∀ x ∈ l, Machine k c eo uoff x) (hne : tbl ≠ [])
    (hw : writeTable m k c eo uoff ub start tbl = .ok (bytes, offs)) :
    ∃ len body, bytes = len ++ headerBody c ++ body ∧
      writeInitialLength c.endian c.format (8 + body.length) = .ok len ∧
      offs.length = tbl.length ∧
      ∀ (i : Nat) (hi : i < tbl.length), ∃ pre post,
        body = pre ++ encodeList k c .coded (tbl[i].map (asBuilt (dataBytes k c eo uoff))) ++ post ∧
        offs[i]? = some (start + (initialLengthSize c.format + 8) + pre.length) := by
  obtain ⟨len, body, hb, hlen, hl, hat⟩ := writeTable_coded (by omega) he hm hne hw
  exact ⟨len, body, hb, hlen, hl, fun i hi => (hat i hi).imp fun _ h => h.imp fun _ h => ⟨h.1, h.2.1⟩⟩

/-! ## "Lists that cannot be represented unambiguously in the chosen encoding — empty ranges,
pairs that need or conflict with a base address, default locations before v5 — are rejected with
an error" -/

/-- **Rejections, DWARF 2–4, entry by entry** (`mk` = the all-ones marker of the address size,
`hb` = `have_base_address` when the entry is reached: the unit has a base address, or a
`BaseAddress` entry precedes in the list). Each named error is returned for exactly the entries it
is meant for:
* `OffsetPair`: `InvalidRange` iff empty (`begin = end`) or `begin` is the marker;
  `MissingBaseAddress` iff neither and there is no base address;
* `StartEnd`: `InvalidRange` iff `begin = end` or `begin` is the constant marker;
  `UnexpectedBaseAddress` iff neither and there is a base address;
* `StartLength`: `InvalidRange` iff the end address overflows, the length is 0 or `begin` is the
  constant marker; `UnexpectedBaseAddress` iff none of these and there is a base address;
* `DefaultLocation`: always `InvalidRange`. -/
theorem rejections (mk : Nat) (k : Kind) (c : Cfg) (eo : EOff) (uoff : Nat) (hb : Bool) :
    (∀ b e x, writeEntryBare mk k c eo uoff hb (.offsetPair b e x) = .err .wInvalidRange ↔
      (b = e ∨ b = mk)) ∧
    (∀ b e x, writeEntryBare mk k c eo uoff hb (.offsetPair b e x) = .err .wMissingBaseAddress ↔
      ¬ (b = e ∨ b = mk) ∧ hb = false) ∧
    (∀ b e x, writeEntryBare mk k c eo uoff hb (.startEnd b e x) = .err .wInvalidRange ↔
      (b = e ∨ b = .const mk)) ∧
    (∀ b e x, writeEntryBare mk k c eo uoff hb (.startEnd b e x) = .err .wUnexpectedBaseAddress ↔
      ¬ (b = e ∨ b = .const mk) ∧ hb = true) ∧
    (∀ b len x, writeEntryBare mk k c eo uoff hb (.startLength b len x) = .err .wInvalidRange ↔
      (endOf b len = .err .wInvalidRange ∨ len = 0 ∨ b = .const mk)) ∧
    (∀ b len x, writeEntryBare mk k c eo uoff hb (.startLength b len x) = .err .wUnexpectedBaseAddress ↔
      ((∃ e, endOf b len = .ok e) ∧ len ≠ 0 ∧ b ≠ .const mk ∧ hb = true)) ∧
    (∀ x, writeEntryBare mk k c eo uoff hb (.defaultLocation x) = .err .wInvalidRange) := by
  have OP := fun b e x => writePairBare_err (mk := mk) (k := k) (c := c) (eo := eo) (uoff := uoff)
    hb true (.const b) (.const e) x
  simp only [Addr.const.injEq, Bool.not_true, if_true] at OP
  have SE : ∀ (b e : Addr) x,
      (writePairBare mk k c eo uoff hb false b e x = .err .wInvalidRange ↔ (b = e ∨ b = .const mk)) ∧
      (writePairBare mk k c eo uoff hb false b e x = .err .wUnexpectedBaseAddress ↔
        ¬ (b = e ∨ b = .const mk) ∧ hb = true) := fun b e x => writePairBare_err hb false b e x
  -- `StartLength`: the end address is computed first; `begin = end` means the length is 0
  have SL : ∀ b len x,
      (writeEntryBare mk k c eo uoff hb (.startLength b len x) = .err .wInvalidRange ↔
        (endOf b len = .err .wInvalidRange ∨ len = 0 ∨ b = .const mk)) ∧
      (writeEntryBare mk k c eo uoff hb (.startLength b len x) = .err .wUnexpectedBaseAddress ↔
        ((∃ e, endOf b len = .ok e) ∧ len ≠ 0 ∧ b ≠ .const mk ∧ hb = true)) := by
    intro b len x
    rw [writeEntryBare_startLength]
    rcases Out.Normal.ok_or_err (endOf_normal b len) with ⟨e, hend⟩ | ⟨er, hend⟩
    · have hiff := endOf_eq_iff hend
      rw [hend, Out.bind_ok, (SE b e x).1, (SE b e x).2, hiff]
      exact ⟨⟨.inr, fun h => h.resolve_left nofun⟩,
        ⟨fun h => ⟨⟨e, rfl⟩, fun h0 => h.1 (.inl h0), fun h0 => h.1 (.inr h0), h.2⟩,
          fun h => ⟨fun h0 => h0.elim h.2.1 h.2.2.1, h.2.2.2⟩⟩⟩
    · cases endOf_err hend
      rw [hend]
      exact ⟨⟨fun _ => .inl rfl, fun _ => rfl⟩, ⟨nofun, fun ⟨⟨_, h⟩, _⟩ => nomatch h⟩⟩
  exact ⟨fun b e x => writeEntryBare_offsetPair .. ▸ (OP b e x).1,
    fun b e x => writeEntryBare_offsetPair .. ▸ (OP b e x).2, fun b e x => (SE b e x).1,
    fun b e x => (SE b e x).2, fun b len x => (SL b len x).1, fun b len x => (SL b len x).2, fun _ => rfl⟩

/-- **The all-ones begin is rejected** (DWARF 2–4, repo fix 58a3924 for finding C16-1): for a
supported address size, whatever the state, an `OffsetPair` / `StartEnd` / `StartLength` entry whose
first word would be the base-address marker (`OnesBegin`) is rejected with `InvalidRange` — it is
never emitted and read back as a base-address selection. -/
theorem prev5_ones_begin_rejected (m : Mode) (mk : Nat) (k : Kind) (c : Cfg) (eo : EOff) (uoff : Nat)
    (hb : Bool) (x : WEntry) (hs : ValidSize c.addrSize) (hmk : marker m c.addrSize = .ok mk)
    (hones : OnesBegin c x) :
    writeEntryBare mk k c eo uoff hb x = .err .wInvalidRange := by
  cases marker_valid hmk hs
  obtain ⟨r1, _, r3, _, r5, _, _⟩ := rejections (addrMod c.addrSize - 1) k c eo uoff hb
  -- `OnesBegin` says that `begin` is the marker: the last alternative of each `InvalidRange` iff
  cases x with
  | baseAddress a => exact hones.elim
  | offsetPair b e x => exact (r1 b e x).mpr (.inr hones)
  | startEnd b e x => exact (r3 b e x).mpr (.inr hones)
  | startLength b len x => exact (r5 b len x).mpr (.inr (.inr hones))
  | defaultLocation x => exact hones.elim

/-- the end address of a `StartLength` entry overflows exactly when `begin + length` leaves 64
bits (constant) resp. `addend + length` leaves `i64` (symbol) -/
theorem start_length_overflow_cases (b len : Nat) (s : Nat) (a : Int) :
    (endOf (.const b) len = .err .wInvalidRange ↔ 2 ^ 64 ≤ b + len) ∧
    (endOf (.symbol s a) len = .err .wInvalidRange ↔ ¬ (len < 2 ^ 63 ∧ a + (len : Int) < 2 ^ 63)) := by
  constructor
  · simp only [endOf]
    split
    · exact ⟨nofun, fun h => by omega⟩
    · exact ⟨fun _ => by omega, fun _ => rfl⟩
  · simp only [endOf]
    split
    · exact ⟨nofun, fun h => absurd ‹_› h⟩
    · exact ⟨fun _ => ‹_›, fun _ => rfl⟩

/-- **A rejected list rejects the lists written after one another**: if `one` accepts the lists
before list `i` and rejects list `i` with error `E` — because its first entry that is not accepted
is rejected with `E` (`rejected_list_head` / `rejected_list_tail`) — then `writeLists one`, the loop
over the lists of a table, returns `E`. -/
theorem rejected_table (one : WList → Out Bytes) (E : Err) : ∀ (tbl : List WList) (start i : Nat)
    (hi : i < tbl.length), (∀ (j : Nat) (hj : j < i), ∃ bs, one (tbl[j]'(by omega)) = .ok bs) →
    one tbl[i] = .err E → writeLists one start tbl = .err E
  | [], _, i, hi, _, _ => absurd hi (Nat.not_lt_zero _)
  | l :: ls, start, 0, _, _, h => by
    rw [List.getElem_cons_zero] at h
    rw [writeLists, h]; rfl
  | l :: ls, start, i + 1, hi, hpre, h => by
    obtain ⟨bs, hbs⟩ := hpre 0 (Nat.succ_pos _)
    rw [List.getElem_cons_zero] at hbs
    rw [List.getElem_cons_succ] at h
    rw [writeLists, hbs, Out.bind_ok, rejected_table one E ls (start + bs.length) i
      (Nat.lt_of_succ_lt_succ hi) (fun j hj => hpre (j + 1) (Nat.succ_lt_succ hj)) h]; rfl

/-- a list whose first entry is rejected is rejected with that error -/
theorem rejected_list_head (mk : Nat) (k : Kind) (c : Cfg) (eo : EOff) (uoff : Nat) (hb : Bool)
    (x : WEntry) (xs : WList) (E : Err) (h : writeEntryBare mk k c eo uoff hb x = .err E) :
    writeEntriesBare mk k c eo uoff hb (x :: xs) = .err E := by
  rw [writeEntriesBare, h]; rfl

/-- after an accepted entry the list is rejected exactly when the rest is, in the state the entry
leaves (`have_base_address` becomes true after a `BaseAddress` entry) -/
theorem rejected_list_tail (mk : Nat) (k : Kind) (c : Cfg) (eo : EOff) (uoff : Nat) (hb hb' : Bool)
    (x : WEntry) (xs : WList) (bs : Bytes) (E : Err)
    (h : writeEntryBare mk k c eo uoff hb x = .ok (bs, hb')) :
    (writeEntriesBare mk k c eo uoff hb (x :: xs) = .err E ↔ writeEntriesBare mk k c eo uoff hb' xs = .err E) ∧
    (hb' = true ↔ hb = true ∨ ∃ a, x = .baseAddress a) := by
  constructor
  · simp only [writeEntriesBare, h, Out.bind_ok]
    cases writeEntriesBare mk k c eo uoff hb' xs with
    | err _ => exact Iff.rfl
    | _ => exact ⟨nofun, nofun⟩
  · have hx := (writeEntryBare_ok h).2
    cases x with
    | baseAddress a => exact ⟨fun _ => .inr ⟨a, rfl⟩, fun _ => hx.1⟩
    | offsetPair b e x => exact ⟨fun _ => .inl hx.1, fun _ => hx.2.1⟩
    | startEnd b e x | startLength b e x =>
      rw [hx.1, hx.2.1]
      exact ⟨nofun, fun h => h.elim nofun fun ⟨_, h⟩ => nomatch h⟩
    | defaultLocation x => exact hx.elim

/-- **DWARF 5 rejects nothing of this kind**: every entry kind, empty ranges included, has an
unambiguous `DW_RLE_*` / `DW_LLE_*` encoding; `write_rnglists` / `write_loclists` never return
`InvalidRange`, `MissingBaseAddress` or `UnexpectedBaseAddress`. -/
theorem v5_never_rejects (k : Kind) (c : Cfg) (eo : EOff) (uoff : Nat) (x : WEntry) (er : Err)
    (h : writeEntryCoded k c eo uoff x = .err er) :
    er ≠ .wInvalidRange ∧ er ≠ .wMissingBaseAddress ∧ er ≠ .wUnexpectedBaseAddress := by
  have key := (writeEntryCoded_clean k c eo uoff x).not_listErr h
  exact ⟨fun h => key (.inl h), fun h => key (.inr (.inl h)), fun h => key (.inr (.inr h))⟩

/-- **Symbolic addresses are never accepted by the default writer** (`Writer::write_address` of an
`Address::Symbol` is `Err(InvalidAddress)`): every entry either writer accepts has constant
addresses only — so the value `Spec.WLists.addrVal` assigns to a symbol is never used, and
collisions of relocated symbols with the `(0,0)` terminator or the all-ones marker can only arise
with a relocating `Writer`, which is outside the Model. -/
theorem accepted_no_symbol (mk : Nat) (k : Kind) (c : Cfg) (eo : EOff) (uoff : Nat) (hb : Bool)
    (x : WEntry) :
    (∀ r, writeEntryBare mk k c eo uoff hb x = .ok r → NoSymbol x) ∧
    (∀ bs, writeEntryCoded k c eo uoff x = .ok bs → NoSymbol x) := by
  constructor
  · intro r h
    have hx := (writeEntryBare_ok (bs := r.1) (hb' := r.2) h).2
    cases x with
    | baseAddress a => exact hx.2.imp fun _ h => h.1
    | offsetPair b e x => trivial
    | startEnd b e x =>
      obtain ⟨_, _, vb, ve, hb, he, _⟩ := hx
      exact ⟨⟨vb, hb⟩, ve, he⟩
    | startLength b len x => exact hx.2.2.imp fun _ h => h.1
    | defaultLocation x => trivial
  · intro bs h
    cases x with
    | baseAddress a =>
      obtain ⟨_, h1, _⟩ := Out.bind_eq_ok h
      exact (writeAddress_ok h1).2.imp fun _ h => h.1
    | offsetPair b e x => trivial
    | startEnd b e x =>
      obtain ⟨_, h1, _⟩ := Out.bind_eq_ok h
      obtain ⟨_, vb, ve, _, hb, he, _⟩ := writeAddrPair_ok h1
      exact ⟨⟨vb, hb⟩, ve, he⟩
    | startLength b len x =>
      obtain ⟨_, h1, _⟩ := Out.bind_eq_ok h
      exact (writeAddress_ok h1).2.imp fun _ h => h.1
    | defaultLocation x => trivial

/-- **Emitted bytes, DWARF 2–4**: the table is the concatenation, without any header, of the Spec encoding of every distinct list in
the bare format: each entry as the address-or-offset pair / base-address selection `toBare` names
(location entries followed by the 2-byte counted expression), then the `(0, 0)` pair; each list at
the offset handed back for it. -/
theorem emitted_prev5 (m : Mode) (k : Kind) (c : Cfg) (eo : EOff) (uoff : Nat) (ub : Bool)
    (start : Nat) (tbl : List WList) (bytes : Bytes) (offs : List Nat)
    (hv : 2 ≤ c.version ∧ c.version ≤ 4) (he : U64EOff eo)
    (hm : ∀ l ∈ tbl, ∀ x ∈ l, Machine k c eo uoff x)
    (hw : writeTable m k c eo uoff ub start tbl = .ok (bytes, offs)) :
    offs.length = tbl.length ∧
    ∀ (i : Nat) (hi : i < tbl.length), ∃ pre post,
      bytes = pre ++ encodeList k c .bare (tbl[i].map (toBare (dataBytes k c eo uoff))) ++ post ∧
      offs[i]? = some (start + pre.length) := by
  have h := writeTable_bare hv.2 he hm hw 0 fun _ => rfl
  exact ⟨h.1, fun i hi => (h.2 i hi).imp fun _ h => h.imp fun _ h => ⟨h.1, h.2.1⟩⟩

/-! ## "equal lists share one identifier and one emitted copy" -/

/-- **De-duplication.** For any sequence of `add` calls on a fresh table: two calls return the same
id exactly when their lists are equal; the table holds no list twice and nothing but the lists
added; the id returned for a list designates that list. -/
theorem dedup (lists : List WList) :
    (addAll [] lists).2.length = lists.length ∧
    (addAll [] lists).1.Nodup ∧
    (∀ t ∈ (addAll [] lists).1, t ∈ lists) ∧
    (∀ (i : Nat) (hi : i < lists.length), ∃ id, (addAll [] lists).2[i]? = some id ∧
      (addAll [] lists).1[id]? = some lists[i]) ∧
    (∀ (i j : Nat) (hi : i < lists.length) (hj : j < lists.length),
      (addAll [] lists).2[i]? = (addAll [] lists).2[j]? ↔ lists[i] = lists[j]) := by
  obtain ⟨h1, _, h3, h4, h5⟩ := addAll_spec lists [] List.nodup_nil
  refine ⟨h3, h1, fun t ht => (h5 t ht).resolve_left List.not_mem_nil, h4, fun i j hi hj => ?_⟩
  rw [addAll_eq]
  exact IndexSet.insertAll_eq_iff lists [] List.nodup_nil i j hi hj

/-- **One emitted copy.** The table is written once per distinct list: as many offsets as the
table has lists, every `add` is handed the offset of its table slot, so two `add`s of equal lists
get the same offset (`dedup` + this). -/
theorem dedup_one_copy (m : Mode) (k : Kind) (c : Cfg) (eo : EOff) (uoff : Nat) (ub : Bool)
    (start : Nat) (lists : List WList) (bytes : Bytes) (offs : List Nat)
    (hv : 2 ≤ c.version ∧ c.version ≤ 5)
    (hw : writeTable m k c eo uoff ub start (addAll [] lists).1 = .ok (bytes, offs)) :
    offs.length = (addAll [] lists).1.length ∧
    ∀ (i j : Nat) (hi : i < lists.length) (hj : j < lists.length), lists[i] = lists[j] →
      (handOver offs (addAll [] lists).2)[i]? = (handOver offs (addAll [] lists).2)[j]? := by
  constructor
  · rcases writeTable_ok hw with ⟨h, _, rfl⟩ | ⟨_, mk, _, hl⟩ | ⟨_, len, body, hl, _⟩
    · rw [h]; rfl
    · exact (writeLists_at _ _ _ _ _ hl).1
    · exact (writeLists_at _ _ _ _ _ hl).1
  · intro i j hi hj heq
    have := ((dedup lists).2.2.2.2 i j hi hj).mpr heq
    simp only [handOver, List.getElem?_map, this]

/-- **Different lists, different offsets**: the lists of a table start at strictly increasing
offsets, so two `add`s are handed the same offset exactly when their lists are equal. -/
theorem dedup_distinct_offsets (m : Mode) (k : Kind) (c : Cfg) (eo : EOff) (uoff : Nat) (ub : Bool)
    (start : Nat) (lists : List WList) (bytes : Bytes) (offs : List Nat)
    (hw : writeTable m k c eo uoff ub start (addAll [] lists).1 = .ok (bytes, offs))
    (hlen : offs.length = (addAll [] lists).1.length)
    (i j : Nat) (hi : i < lists.length) (hj : j < lists.length) :
    (handOver offs (addAll [] lists).2)[i]? = (handOver offs (addAll [] lists).2)[j]? ↔ lists[i] = lists[j] := by
  obtain ⟨a, hal, ha1, ha2⟩ := addAll_slot lists i hi
  obtain ⟨b, hbl, hb1, hb2⟩ := addAll_slot lists j hj
  have hpw := List.pairwise_iff_getElem.mp (writeTable_increasing hw)
  rw [← hlen] at hal hbl
  rw [handOver_at ha1 (List.getElem?_eq_getElem hal), handOver_at hb1 (List.getElem?_eq_getElem hbl),
    ← (dedup lists).2.2.2.2 i j hi hj, ha1, hb1, Option.some.injEq, Option.some.injEq]
  -- offsets increase strictly with the slot, so equal offsets sit in the same slot
  refine ⟨fun h => ?_, fun h => by subst h; rfl⟩
  rcases Nat.lt_trichotomy a b with hlt | heq | hgt
  · have := hpw a b hal hbl hlt; omega
  · exact heq
  · have := hpw b a hbl hal hgt; omega

/-! ## "the pre-v5 format is ambiguous around (0,0) terminators and the all-ones base marker" -/

/-- **No accepted entry is the terminator** (DWARF 2–4). Whatever entry `write_ranges` /
`write_loc` accept (in either state), the reader does not take its bytes for the end-of-list pair
`(0, 0)`: the two words it starts with are not both zero. -/
theorem prev5_no_terminator (m : Mode) (mk : Nat) (k : Kind) (c : Cfg) (eo : EOff) (uoff : Nat) (hb hb' : Bool)
    (x : WEntry) (bs rest r : Bytes) (hu : U64Entry x) (hmk : marker m c.addrSize = .ok mk)
    (h : writeEntryBare mk k c eo uoff hb x = .ok (bs, hb')) :
    parseRaw k c .bare (bs ++ rest) ≠ .ok (none, r) := by
  obtain ⟨hs, w1, w2, tail, h1, h2, hz, rfl⟩ := writeEntryBare_words hmk h hu
  rw [List.append_assoc]
  exact parseRaw_words k c w1 w2 (tail ++ rest) hs h1 h2 hz r

/-- **No accepted entry is read as another kind** (DWARF 2–4): every accepted entry reads back as
exactly the entry it was written as — a `BaseAddress` entry as a base-address selection, every
other entry as the address-or-offset pair `(begin, end)` (for `StartLength`: `end = begin +
length`, no wrap) with its expression bytes; in particular no accepted `OffsetPair` / `StartEnd` /
`StartLength` entry is read as a base-address selection. (By repo fix 58a3924;
without it the all-ones begin has to be excluded — finding C16-1.) -/
theorem prev5_ambiguity (m : Mode) (mk : Nat) (k : Kind) (c : Cfg) (eo : EOff) (uoff : Nat) (hb hb' : Bool)
    (x : WEntry) (bs rest : Bytes) (hm : Machine k c eo uoff x) (he : U64EOff eo) (hv : c.version ≤ 4)
    (hmk : marker m c.addrSize = .ok mk) (h : writeEntryBare mk k c eo uoff hb x = .ok (bs, hb')) :
    parseRaw k c .bare (bs ++ rest) = .ok (some (toBare (dataBytes k c eo uoff) x), rest) ∧
    ((∃ a, toBare (dataBytes k c eo uoff) x = .baseAddress a) ↔ ∃ a, x = .baseAddress a) := by
  obtain ⟨hs, e1, w1, _⟩ := writeEntryBare_enc hmk h hm he hv 0 (fun _ => rfl)
  refine ⟨by rw [e1]; exact parseRaw_enc_bare k c _ rest hs w1, ?_⟩
  cases x with
  | baseAddress a => exact ⟨fun _ => ⟨_, rfl⟩, fun _ => ⟨_, rfl⟩⟩
  | _ => exact ⟨(fun ⟨_, h⟩ => nomatch h), (fun ⟨_, h⟩ => nomatch h)⟩

/-! ## "start/length ranges: no overflow" (with the repair `fix: overflow computing the end of a
start/length range or location`) -/

/-- **`StartLength` never wraps or panics** (DWARF 2–4, constant begin): the writer returns a value
or an error; `InvalidRange` when `begin + length` leaves 64 bits; and when the entry is accepted
the end address written is the exact sum `begin + length`, which fits the address size. In DWARF 5
the length is emitted as it is (ULEB128), no sum is computed (`emitted_v5`). -/
theorem start_length_no_overflow (m : Mode) (mk : Nat) (k : Kind) (c : Cfg) (eo : EOff) (uoff : Nat) (hb : Bool)
    (b len : Nat) (x : WExpr) (hbu : b < 2 ^ 64) (hlu : len < 2 ^ 64) (hx : ∀ op ∈ x, U64Op op)
    (hmk : marker m c.addrSize = .ok mk) :
    (writeEntryBare mk k c eo uoff hb (.startLength (.const b) len x)).Normal ∧
    (2 ^ 64 ≤ b + len →
      writeEntryBare mk k c eo uoff hb (.startLength (.const b) len x) = .err .wInvalidRange) ∧
    (∀ bs hb', writeEntryBare mk k c eo uoff hb (.startLength (.const b) len x) = .ok (bs, hb') →
      b + len < addrMod c.addrSize ∧ len ≠ 0 ∧
      ∃ tail, bs = encAddr c b ++ encAddr c (b + len) ++ tail) := by
  refine ⟨writeEntryBare_normal mk k c eo uoff hb _, fun hov => ?_, fun bs hb' h => ?_⟩
  · rw [writeEntryBare, endOf, if_neg (by omega)]; rfl
  · obtain ⟨_, _, _, vb, hvb, hsum, p⟩ := writeEntryBare_ok h
    cases hvb
    exact ⟨p.lt2 hsum, fun h0 => p.ne (by rw [h0]; rfl), p.data.imp fun _ hd => hd.2⟩

/-- **The writer returns normally**: writing a unit's lists yields a value or an error, for every
unit, position and arithmetic mode. (The only panic in the modelled code — the all-ones marker
computation `!0 >> (64 - address_size * 8)` for an address size outside 1..8 with overflow checks
on — is unreachable since `Unit::write` rejects such sizes first.) -/
theorem writer_total (m : Mode) (u : UnitIn) (p : Pos) : (writeUnitAt m u p).Normal := by
  unfold writeUnitAt
  by_cases hs : u.cfg.addrSize = 1 ∨ u.cfg.addrSize = 2 ∨ u.cfg.addrSize = 4 ∨ u.cfg.addrSize = 8
  · have hm : (marker m u.cfg.addrSize).Normal := marker_normal m _ (.inl (validSize_bounds hs))
    rw [if_neg (not_not_intro hs)]
    refine Out.Normal.ite trivial ((writeTable_normal _ _ _ _ _ _ _ _ hm).bind fun _ _ =>
      (writeTable_normal _ _ _ _ _ _ _ _ hm).bind fun _ _ => Out.Normal.bind ?_ fun _ _ => trivial)
    cases u.lowPc with
    | none => trivial
    | some a => exact (writeAddress_clean _ a).normal
  · rw [if_pos hs]; trivial

/-- **Unsupported address sizes and versions are rejected before anything is written** -/
theorem unit_config_rejections (m : Mode) (u : UnitIn) (p : Pos) :
    (¬ ValidSize u.cfg.addrSize → writeUnitAt m u p = .err .wUnsupportedWordSize) ∧
    (ValidSize u.cfg.addrSize → ¬ (2 ≤ u.cfg.version ∧ u.cfg.version ≤ 5) →
      writeUnitAt m u p = .err .wUnsupportedVersion) := by
  unfold writeUnitAt ValidSize
  exact ⟨fun h => if_pos h, fun h hv => by rw [if_neg (not_not_intro h), if_pos hv]⟩

/-! ## the witnesses of finding C16-1, and non-vacuity of the hypotheses -/

private def cfg4 : Cfg := { endian := .little, format := .dwarf32, version := 4, addrSize := 4 }
private def cfg5 : Cfg := { endian := .big, format := .dwarf64, version := 5, addrSize := 8 }

/-- `[StartEnd(0xffffffff, 5), StartEnd(0x10, 0x20)]` in a unit without base address -/
private def uBad : UnitIn :=
  { cfg := cfg4, lowPc := none, eoff := [],
    rng := [[.startEnd (.const 0xffffffff) (.const 5) [], .startEnd (.const 0x10) (.const 0x20) []]],
    loc := [] }

private def uBadLoc : UnitIn :=
  { cfg := cfg4, lowPc := some (.const 0x1000), eoff := [], rng := [],
    loc := [[.offsetPair 0xffffffff 1 [.raw [0xf4, 0xb5, 0x65, 0x5e]]]] }

/-- **The witnesses of finding C16-1 are rejected** (repo fix 58a3924). The DWARF 4
units with the range list `[StartEnd(0xffff_ffff, 5), StartEnd(0x10, 0x20)]` (no base address;
it means `[0x10, 0x20)` and without the fix reads back as `[0x15, 0x25)`) and with the location list
`[OffsetPair(0xffff_ffff, 1, expr)]` (base address 0x1000; it means `[0xfff, 0x1001)` and without the
fix reads back as an error) are refused with `InvalidRange`, in both arithmetic modes. -/
theorem prev5_ones_begin_regression :
    writeUnit .debug uBad = .err .wInvalidRange ∧ writeUnit .release uBad = .err .wInvalidRange ∧
    writeUnit .debug uBadLoc = .err .wInvalidRange ∧ writeUnit .release uBadLoc = .err .wInvalidRange ∧
    meaning 4 (dataBytes .rng uBad.cfg (unitEOff uBad) 0) (unitBase uBad.lowPc) uBad.rng[0]! =
      [.range 0x10 0x20 []] ∧
    meaning 4 (dataBytes .loc uBadLoc.cfg (unitEOff uBadLoc) 0) (unitBase uBadLoc.lowPc) uBadLoc.loc[0]! =
      [.range 0xfff 0x1001 [0xf4, 0xb5, 0x65, 0x5e]] := by
  refine ⟨by decide +kernel, by decide +kernel, by decide +kernel, by decide +kernel, by decide +kernel, by decide +kernel⟩

/-- a DWARF 5 unit with base address 0x1000, two range lists (one added twice) and a location list
with a `DW_OP_call4` / `DW_OP_convert` / `DW_OP_call_ref` expression, an empty range, a default
location and a start/length entry whose end wraps -/
private def uGood : UnitIn :=
  { cfg := cfg5, lowPc := some (.const 0x1000), eoff := [33, 35],
    rng := [[.baseAddress (.const 0x2000), .offsetPair 1 5 [], .startEnd (.const 7) (.const 7) []],
            [.startLength (.const 0xffff_ffff_ffff_fff0) 0x20 []],
            [.baseAddress (.const 0x2000), .offsetPair 1 5 [], .startEnd (.const 7) (.const 7) []]],
    loc := [[.offsetPair 0xffff_ffff_ffff_ffff 8 [.call 0, .convert (some 1), .callRef 1, .addr (.const 77)],
             .defaultLocation [.raw [0x50]], .startLength (.const 0x10) 4 [.constu 0x1234]]] }

example : uGood.cfg.version = 5 ∧ (∀ o ∈ uGood.eoff, o < 2 ^ 64) ∧
    (∀ l ∈ uGood.rng, ∀ x ∈ l, Machine .rng uGood.cfg (unitEOff uGood) 0 x) ∧
    (∀ l ∈ uGood.loc, ∀ x ∈ l, Machine .loc uGood.cfg (unitEOff uGood) 0 x) ∧
    (writeUnit .debug uGood).isOk = true := by decide +kernel

example : (writeUnit .debug uGood).map (fun o => (o.rngIds, o.rngOffs, o.locOffs)) =
    .ok ([0, 1, 0], [20, 50, 20], [20]) := by decide +kernel

example : meaning 8 (dataBytes .rng cfg5 (unitEOff uGood) 0) 0x1000 uGood.rng[0]! = [.range 0x2001 0x2005 []] := by
  decide +kernel

/-- a DWARF 3 unit whose lists are accepted: offset pairs after a base address entry, address pairs
in a unit without base address -/
private def uOld : UnitIn :=
  { cfg := { cfg4 with version := 3 }, lowPc := some (.const 0), eoff := [],
    rng := [[.startEnd (.const 0x10) (.const 0x20) [], .baseAddress (.const 0x1000), .offsetPair 1 5 []]],
    loc := [[.startLength (.const 0x10) 4 [.raw [0x51, 0x52]]]] }

example : (2 ≤ uOld.cfg.version ∧ uOld.cfg.version ≤ 4) ∧
    (∀ l ∈ uOld.rng, ∀ x ∈ l, Machine .rng uOld.cfg (unitEOff uOld) 0 x ∧ ¬ OnesBegin uOld.cfg x) ∧
    (∀ l ∈ uOld.loc, ∀ x ∈ l, Machine .loc uOld.cfg (unitEOff uOld) 0 x ∧ ¬ OnesBegin uOld.cfg x) ∧
    (writeUnit .debug uOld).isOk = true := by decide +kernel

example : (writeUnit .release uOld).map (fun o => (o.debugRanges, o.debugLoc)) =
    .ok ([0x10, 0, 0, 0, 0x20, 0, 0, 0, 0xff, 0xff, 0xff, 0xff, 0, 0x10, 0, 0, 1, 0, 0, 0, 5, 0, 0, 0,
          0, 0, 0, 0, 0, 0, 0, 0],
         [0x10, 0, 0, 0, 0x14, 0, 0, 0, 2, 0, 0x51, 0x52, 0, 0, 0, 0, 0, 0, 0, 0]) := by decide +kernel

-- the rejections fire on concrete entries (`0xffff_ffff` = the marker of address size 4)
example : marker .debug cfg4.addrSize = .ok 0xffff_ffff := by decide +kernel
example : writeEntryBare 0xffff_ffff .rng cfg4 (fun _ => none) 0 false (.offsetPair 1 2 []) =
    .err .wMissingBaseAddress := by decide +kernel
example : writeEntryBare 0xffff_ffff .rng cfg4 (fun _ => none) 0 true (.startEnd (.const 1) (.const 2) []) =
    .err .wUnexpectedBaseAddress := by decide +kernel
example : writeEntryBare 0xffff_ffff .rng cfg4 (fun _ => none) 0 false (.startLength (.const (2 ^ 64 - 1)) 2 []) =
    .err .wInvalidRange := by decide +kernel
example : writeExprLen cfg4 65535 = .ok [0xff, 0xff] ∧ writeExprLen cfg4 65536 = .err .wValueTooLarge := by decide +kernel
-- an all-ones begin (hypothesis of `prev5_ones_begin_rejected`) is rejected, its neighbour is accepted
example : OnesBegin cfg4 (.offsetPair 0xffff_ffff 20 []) ∧
    writeEntryBare 0xffff_ffff .rng cfg4 (fun _ => none) 0 true (.offsetPair 0xffff_ffff 20 []) =
      .err .wInvalidRange ∧
    (writeEntryBare 0xffff_ffff .rng cfg4 (fun _ => none) 0 true (.offsetPair 0xffff_fffe 20 [])).isOk = true := by
  decide +kernel
-- the only panic of the table writers (address size 0 with overflow checks) is cut off by `Unit::write`
example : writeTable .debug .rng { cfg4 with addrSize := 0 } (fun _ => none) 0 false 0 [[.baseAddress (.const 1)]] =
    .panic "attempt to shift right with overflow" := by decide +kernel
example : writeUnit .debug { uBad with cfg := { cfg4 with addrSize := 0 }, rng := [[.baseAddress (.const 1)]] } =
    .err .wUnsupportedWordSize := by decide +kernel

end Gimli.Props.C16
