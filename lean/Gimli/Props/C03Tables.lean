import Gimli.Lemmas.Attr
import Gimli.Tables.AttrSize
/-!
# C03 — the Model's size and legacy-offset tables equal the tables read from the Rust source

`Gimli/Tables/AttrSize.lean` is rewritten on every `./check` run by `tools/tables_c03.py` from the
arms of `get_attribute_size` (src/read/abbrev.rs) and `allow_section_offset` (src/read/unit.rs) and
the constants of src/constants.rs. The theorems below tie `Attr.getAttributeSize` and
`Attr.allowSectionOffset` — the functions every C03 theorem about sizes, skipping and the legacy
data4/data8 rule is stated over — to those arms: moving a form to another arm, changing a size,
adding or dropping an arm breaks them directly (no sampling involved).
-/
namespace Gimli.Props.C03
open Gimli Gimli.Attr Gimli.Tables.AttrSize

/-- the meaning of an arm's right-hand side -/
def interp : Tables.AttrSize.Kind → Encoding → Option Nat
  | .addr, e => some e.addressSize
  | .word, e => some e.format.wordSize
  | .refaddr, e => some (if e.version = 2 then e.addressSize else e.format.wordSize)
  | .variable, _ => none
  | .fixed n, _ => some n

/-- the extractor understood every arm of both functions -/
theorem size_table_fresh : stale = [] := by decide

/-- every form named in an arm of `get_attribute_size` gets, in the Model, the size that arm
computes — for every encoding -/
theorem size_table_matches :
    ∀ row ∈ sizeArms, ∀ enc : Encoding, getAttributeSize (Form.ofCode row.2.1) enc = interp row.2.2 enc := by
  unfold sizeArms
  repeat (refine List.forall_mem_cons.mpr ⟨fun _ => rfl, ?_⟩)
  exact fun _ h => nomatch h

/-- a form that gets a size is named in an arm: the table lists every form of every arm of the
Model's `match` but the last -/
theorem size_none_of_unlisted (f : Form) (hc : f.code ∉ sizeArms.map (·.2.1)) (enc : Encoding) :
    getAttributeSize f enc = none := by
  cases f <;> first | rfl | exact absurd (by decide +kernel) hc

/-- every other form code — known to the Model or not — takes the `_ => None` arm -/
theorem size_table_default (c : Nat) (hc : c ∉ sizeArms.map (·.2.1)) (enc : Encoding) :
    getAttributeSize (Form.ofCode c) enc = none :=
  size_none_of_unlisted _ ((Form.code_ofCode c).symm ▸ hc) enc

/-- `allow_section_offset` is exactly the two arm lists -/
theorem offset_table_matches (name version : Nat) :
    allowSectionOffset name version =
      (decide (name ∈ offsetAlways.map (·.2)) ||
        (decide (name ∈ offsetV2V3.map (·.2)) && (decide (version = 2) || decide (version = 3)))) := by
  -- the Model's arms, in the order it lists them
  have model : allowSectionOffset name version =
      (decide (name ∈ [0x02, 0x10, 0x19, 0x2a, 0x2c, 0x40, 0x43, 0x79, 0x46, 0x48, 0x4a, 0x4d, 0x55]) ||
        (decide (name ∈ [0x38]) && (decide (version = 2) || decide (version = 3)))) := by
    simp only [allowSectionOffset, List.mem_cons, List.mem_nil_iff, or_false, Bool.decide_or,
      Bool.decide_and, Bool.or_assoc]
  -- the table's arms are the same sets, in whatever order the source has them
  have same : ∀ {A B : List Nat}, (∀ a ∈ A, a ∈ B) → (∀ b ∈ B, b ∈ A) →
      decide (name ∈ A) = decide (name ∈ B) :=
    fun h₁ h₂ => decide_eq_decide.mpr ⟨h₁ name, h₂ name⟩
  rw [model]
  exact congr (congrArg Bool.or (same (by decide) (by decide)))
    (congrArg (· && _) (same (by decide) (by decide)))

end Gimli.Props.C03
