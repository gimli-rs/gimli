import Gimli.Lemmas.CfiLookup
import Gimli.Lemmas.CfiEntryEncoded
import Gimli.Spec.Frame
import Gimli.Tables.EhPe
/-!
# C05 — CIE/FDE decoding and address lookup agree with the section contents

The property theorems; what they are assembled from is in
`Gimli/Lemmas/{CfiPointer,CfiEntryTotal,CfiEntryEncoded,CfiHdr,CfiLookup}.lean`.
Every theorem is about the Model functions of `Gimli/Model/CfiEntry.lean`, which the
correspondence check ties to `src/read/cfi.rs` and `src/constants.rs`
(`lean/Gimli/Drv/C05.lean` ↔ `harness/src/prop/c05.rs`).

Quantifiers: every encoding byte, every base-address set, every byte string / section / table
(`Bytes = List UInt8`, any length), every address, both byte orders, both overflow modes where
stated.
-/
namespace Gimli.Props.C05
open Gimli Gimli.CfiEntry Gimli.Spec.Frame

/-! ## (1) the pointer-encoding accept/reject table -/

/-- **All 256 encoding bytes.** The accept/reject table regenerated from the Rust source of
`DwEhPe::is_valid_encoding` (`Gimli/Tables/EhPe.lean`, rewritten by every `./check` run) equals the
Model's `isValidEncoding` row by row, and both equal the LSB definition `validEncoding`:
`DW_EH_PE_omit`, or a defined value format (low nibble) with a defined application (bits 4–6),
with or without the indirect bit. -/
theorem ehpe_valid_table :
    ∀ b : Fin 256, Tables.EhPe.validTable[b.val]? = some (isValidEncoding b.val) ∧
      (isValidEncoding b.val = true ↔ validEncoding b.val) :=
  -- the table is evaluated as a whole; that the Model is the LSB definition holds of every number
  have htable : Tables.EhPe.validTable = (List.range 256).map isValidEncoding := by decide +kernel
  fun b => ⟨by rw [htable, List.getElem?_map, List.getElem?_range b.isLt]; rfl, isValidEncoding_iff b.val⟩

/-- the masks and arm lists the table was evaluated from are the LSB ones (format = low nibble,
application = bits 4–6, indirect = bit 7, omit = 0xff), and the Model's accessors
`format`/`application`/`is_indirect`/`is_absent` are those bit fields -/
theorem ehpe_fields :
    Tables.EhPe.formatMask = 0x0f ∧ Tables.EhPe.applicationMask = 0x70 ∧ Tables.EhPe.omitByte = 0xff ∧
    Tables.EhPe.indirectBit = 0x80 ∧
    ∀ b : Fin 256, peFormat b.val = b.val &&& 0x0f ∧ peApplication b.val = b.val &&& 0x70 ∧
      (peIndirect b.val = true ↔ b.val &&& 0x80 ≠ 0) ∧ (peAbsent b.val = true ↔ b.val = 0xff) := by
  decide +kernel

/-! ## (2) encoded pointers -/

/-- **What a pointer field means, for every valid encoding.** For every valid encoding byte other
than `omit` and the (unsupported) `aligned` application, every base set, offset, address size 1..8,
byte order and input: if the base its application needs is absent the result is the
corresponding `…BaseIsUndefined` / `FuncRelativePointerInBadContext` error — before a single
byte is read —, otherwise it is `base + operand` modulo the address size, flagged indirect iff
bit 7 is set, where the operand is what `parse_encoded_value` decodes in the format of the low
nibble; for `pcrel` the base is the section address plus the offset *of the field itself*. -/
theorem encoded_pointer_decode (m : Mode) (e : Endian) (enc : Nat) (p : PeParams) (r : Rd)
    (hv : isValidEncoding enc = true) (ho : enc ≠ 0xff) (hal : peApplication enc ≠ 0x50)
    (h1 : 1 ≤ p.asz) (h8 : p.asz ≤ 8) :
    parseEncodedPointer m e enc p r =
      (match neededBase enc p r.off with
      | none => .err (missingBaseErr enc)
      | some b => (parseEncodedValue e enc p.asz r >>= fun xr =>
          pure (Ptr.new enc ((b + xr.1) % 2 ^ 64 % 2 ^ (8 * p.asz)), xr.2))) :=
  pep_semantics m e enc p r hv ho hal h1 h8

/-- an absent needed base is an error, whatever the input -/
theorem encoded_pointer_missing_base (m : Mode) (e : Endian) (enc : Nat) (p : PeParams) (r : Rd)
    (hv : isValidEncoding enc = true) (ho : enc ≠ 0xff) (hal : peApplication enc ≠ 0x50)
    (h1 : 1 ≤ p.asz) (h8 : p.asz ≤ 8) (hb : neededBase enc p r.off = none) :
    parseEncodedPointer m e enc p r = .err (missingBaseErr enc) := by
  rw [encoded_pointer_decode m e enc p r hv ho hal h1 h8]
  simp only [hb]

/-- **Encode then decode is the identity** for every valid format × application × indirect
combination — all nine value formats, `sleb128` included (through C09's `signed_roundtrip`) — and
every base set. The operand `x` is any 64-bit pattern that fits the format (`encodeOperand`: the
signed formats hold the two's-complement reading of the pattern); the decoded pointer is
`base + x` modulo the address size and exactly the operand's bytes are consumed. -/
theorem encoded_pointer_roundtrip (m : Mode) (e : Endian) (enc : Nat) (p : PeParams)
    (off x b : Nat) (bytes rest : Bytes)
    (hv : isValidEncoding enc = true) (ho : enc ≠ 0xff) (hal : peApplication enc ≠ 0x50)
    (h1 : 1 ≤ p.asz) (h8 : p.asz ≤ 8)
    (hb : neededBase enc p off = some b)
    (hx : encodeOperand e enc p.asz x = some bytes) :
    parseEncodedPointer m e enc p ⟨off, bytes ++ rest⟩ =
      .ok (Ptr.new enc ((b + x) % 2 ^ 64 % 2 ^ (8 * p.asz)), ⟨off + bytes.length, rest⟩) :=
  pep_roundtrip m e enc p off x b bytes rest hv ho hal h1 h8 hb hx

/-- every target address below `2^(8·asz)` has an operand reaching it from any base -/
theorem encoded_pointer_operand_exists (asz b t : Nat) (h8 : asz ≤ 8) (ht : t < 2 ^ (8 * asz)) :
    (b + operandFor asz b t) % 2 ^ 64 % 2 ^ (8 * asz) = t ∧ operandFor asz b t < 2 ^ (8 * asz) := by
  have hM : 0 < 2 ^ (8 * asz) := Nat.pow_pos (by decide)
  have hdvd : 2 ^ (8 * asz) ∣ 2 ^ 64 := Nat.pow_dvd_pow 2 (by omega)
  unfold operandFor
  refine ⟨?_, Nat.mod_lt _ hM⟩
  rw [Nat.mod_mod_of_dvd _ hdvd, Nat.add_mod, Nat.mod_mod]
  have hbm : b % 2 ^ (8 * asz) < 2 ^ (8 * asz) := Nat.mod_lt _ hM
  generalize b % 2 ^ (8 * asz) = c at hbm
  generalize 2 ^ (8 * asz) = M at *
  rw [Nat.add_mod_mod]
  have : c + (t + M - c) = t + M := by omega
  rw [this, Nat.add_mod_right, Nat.mod_eq_of_lt ht]

/-! ## (3) the `.eh_frame_hdr` binary search -/

/-- **Binary search is correct, for every table size and content.** Let the parsed header `h`
have a table of `n = fde_count ≥ 1` rows in a fixed-size encoding (`size` = 2, 4 or 8 bytes per
field — the only ones `lookup` supports), all `n` rows present in the section
(`n · 2·size ≤` bytes after the header), every initial-location field decoding to a direct
pointer `key i`, and the rows sorted by it. Then `lookup a` returns exactly the FDE-address field
(`rowVal`) of some row `idx` such that `key idx` is the greatest initial location `≤ a` — or of the
first row when every initial location is above `a`. -/
theorem hdr_search_correct (m : Mode) (e : Endian) (h : Hdr) (bases : Bases) (a size : Nat)
    (key : Nat → Nat)
    (henc : tableEntrySize h.tableEnc = some size)
    (hn : 1 ≤ h.fdeCount)
    (htbl : h.fdeCount * (size * 2) ≤ h.table.bs.length) (hbig : h.table.bs.length < 2 ^ 64)
    (hkey : ∀ i, i < h.fdeCount →
      rowKey m e h.tableEnc (h.params bases) h.table.off h.table.bs size i = .ok (.direct (key i)))
    (hsorted : ∀ i j, i ≤ j → j < h.fdeCount → key i ≤ key j) :
    ∃ idx, idx < h.fdeCount ∧
      lookup m e h bases a = rowVal m e h.tableEnc (h.params bases) h.table.off h.table.bs size idx ∧
      ((key idx ≤ a ∧ ∀ j, j < h.fdeCount → key j ≤ a → key j ≤ key idx) ∨
       (idx = 0 ∧ ∀ j, j < h.fdeCount → a < key j)) :=
  lookup_correct m e h bases a size key henc hn htbl hbig hkey hsorted

/-- **… and terminates within ⌈log₂ n⌉ rounds, on any bytes whatsoever.** The `while len > 1` loop
run with fuel `k` on `len ≤ 2^k` rows never runs out of fuel and never panics (errors of a
truncated or undecodable table are returned): each round replaces `len` by `len/2` or
`len − len/2`. (`SizeOk`: the address size is 1..8, or overflow checks are off — `ones_sized`
overflows otherwise, see `wrappingAddSized`.) -/
theorem hdr_search_terminates (m : Mode) (e : Endian) (enc : Nat) (p : PeParams) (rowSize a : Nat)
    (hs : SizeOk m p.asz) (k len : Nat) (r : Rd) (hk : len ≤ 2 ^ k) :
    (lookupLoop m e enc p rowSize a k len r).Normal :=
  lookupLoop_normal m e enc p rowSize a hs k len r hk

/-- `EhHdrTable::lookup` itself (fuel 64, `fde_count` is a `u64`) always returns a pointer or an
error -/
theorem hdr_lookup_total (m : Mode) (e : Endian) (h : Hdr) (bases : Bases) (a : Nat)
    (hs : SizeOk m h.asz) (hc : h.fdeCount < 2 ^ 64) : (lookup m e h bases a).Normal :=
  lookup_normal m e h bases a hs hc

/-- **`.eh_frame_hdr` round trip.** `encodeHdr` (Spec/Frame.lean: version 1, the three encoding
bytes, `eh_frame_ptr`, `fde_count`, the rows) parses to exactly the header it encodes: the
`eh_frame_ptr` pointer (any valid encoding, base present), the count, the table encoding and the
table bytes at their offset — for every operand format, sleb128 included. -/
theorem hdr_roundtrip (m : Mode) (e : Endian) (bases : Bases) (asz : Nat) (h : AHdr)
    (hw : h.WF e bases asz) :
    parseHdr m e bases asz (encodeHdr e asz h) = .ok (h.expect e bases asz) :=
  parseHdr_encoded m e bases asz h hw

/-- **Binary search over an encoded table.** For an abstract header with a non-empty table in a
fixed-size direct encoding (2/4/8-byte entries, every application with its base present) whose
rows are sorted by the *decoded* initial location (`hdrKey`: base + operand modulo the address
size, pc-relative rows each from their own offset): the header parses, and `lookup a` returns the
decoded FDE address (`hdrVal`) of the row with the greatest initial location `≤ a`, or of the
first row when all are above `a`. -/
theorem hdr_search_on_encoded (m : Mode) (e : Endian) (bases : Bases) (asz : Nat) (h : AHdr) (a size : Nat)
    (hw : h.WF e bases asz) (hs : tableEntrySize h.tblEnc = some size) (hdirect : peIndirect h.tblEnc = false)
    (hne : 1 ≤ h.rows.length) (hbig : (h.tableBytes e asz).length < 2 ^ 64)
    (hok : ∀ i r, h.rows[i]? = some r → h.RowOk e bases asz (h.tableOff e asz) size i r)
    (hsorted : ∀ i j, i ≤ j → j < h.rows.length →
      hdrKey bases asz h (h.tableOff e asz) size i ≤ hdrKey bases asz h (h.tableOff e asz) size j) :
    parseHdr m e bases asz (encodeHdr e asz h) = .ok (h.expect e bases asz) ∧
    ∃ idx, idx < h.rows.length ∧
      lookup m e (h.expect e bases asz) bases a = .ok (.direct (hdrVal bases asz h (h.tableOff e asz) size idx)) ∧
      ((hdrKey bases asz h (h.tableOff e asz) size idx ≤ a ∧
          ∀ j, j < h.rows.length → hdrKey bases asz h (h.tableOff e asz) size j ≤ a →
            hdrKey bases asz h (h.tableOff e asz) size j ≤ hdrKey bases asz h (h.tableOff e asz) size idx) ∨
       (idx = 0 ∧ ∀ j, j < h.rows.length → a < hdrKey bases asz h (h.tableOff e asz) size j)) := by
  refine ⟨parseHdr_encoded m e bases asz h hw, ?_⟩
  have hrows := fun i (hi : i < h.rows.length) =>
    rows_encoded m e bases asz h (h.tableOff e asz) size hs hok i _ (List.getElem?_eq_getElem hi)
  have htl : (h.tableBytes e asz).length = size * 2 * h.rows.length :=
    C17.flatMap_length_of _ _ _ (rowBytes_length e bases asz h _ size hs hok)
  obtain ⟨idx, hidx, hlk, hprop⟩ := lookup_correct m e (h.expect e bases asz) bases a size
    (hdrKey bases asz h (h.tableOff e asz) size) hs hne (by simp [AHdr.expect, htl, Nat.mul_comm]) hbig
    (fun i hi => by
      rw [hdrKey, List.getElem?_eq_getElem hi, ← ptr_new_direct _ _ hdirect]
      exact (hrows i hi).1)
    hsorted
  refine ⟨idx, hidx, ?_, hprop⟩
  rw [hlk, hdrVal, List.getElem?_eq_getElem hidx, ← ptr_new_direct _ _ hdirect]
  exact (hrows idx hidx).2

/-! ## (4) linear search -/

/-- `fde_for_address` is a scan of what the entries iterator yields: CIEs are skipped, each FDE
is parsed against the CIE its pointer designates and tested with `contains`; the first error
(of the iterator or of an FDE) and the first hit end the scan. For every section, any bytes. -/
theorem linear_lookup_is_scan (c : Cfg) (bases : Bases) (sec : Bytes) (a : Nat) :
    fdeForAddress c bases sec a =
      scan c bases sec a (entriesOf c bases sec).1 (entriesOf c bases sec).2 :=
  fdeForAddressLoop_eq_scan c bases sec a (sec.length + 1) ⟨0, sec⟩

/-- **Linear lookup succeeds iff some FDE covers the address, returning the first such.**
If iterating the section ends normally, every FDE it yields parses (`parseAll = ok fs`, `fs` in
section order) and no FDE runs into the top of its address space (`NoWrap`), then
`fde_for_address a` is the first FDE of `fs` with `initial ≤ a < initial + len`, and
`NoUnwindInfoForAddress` when there is none. -/
theorem linear_lookup_first (c : Cfg) (bases : Bases) (sec : Bytes) (a : Nat) (fs : List Fde)
    (hend : (entriesOf c bases sec).2 = .ok ())
    (hparse : parseAll c bases sec (entriesOf c bases sec).1 = .ok fs)
    (hwrap : ∀ f, f ∈ fs → NoWrap f) :
    fdeForAddress c bases sec a =
      match fs.find? (fun f => decide (covers f.initial f.range a)) with
      | some f => .ok f
      | none => .err .rNoUnwindInfoForAddress := by
  rw [linear_lookup_is_scan, hend]
  exact scan_eq_find c bases sec a _ fs hparse hwrap

/-- the two directions spelled out -/
theorem linear_lookup_iff (c : Cfg) (bases : Bases) (sec : Bytes) (a : Nat) (fs : List Fde)
    (hend : (entriesOf c bases sec).2 = .ok ())
    (hparse : parseAll c bases sec (entriesOf c bases sec).1 = .ok fs)
    (hwrap : ∀ f, f ∈ fs → NoWrap f) :
    ((∃ f, fdeForAddress c bases sec a = .ok f) ↔ ∃ f, f ∈ fs ∧ covers f.initial f.range a) ∧
    (fdeForAddress c bases sec a = .err .rNoUnwindInfoForAddress ↔
      ∀ f, f ∈ fs → ¬ covers f.initial f.range a) := by
  rw [linear_lookup_first c bases sec a fs hend hparse hwrap]
  cases hf : fs.find? (fun f => decide (covers f.initial f.range a)) with
  | some f =>
    have hmem := List.mem_of_find?_eq_some hf
    have hcov := List.find?_some hf
    simp only [decide_eq_true_eq] at hcov
    constructor
    · exact ⟨fun _ => ⟨f, hmem, hcov⟩, fun _ => ⟨f, rfl⟩⟩
    · constructor
      · intro h; simp at h
      · intro h; exact absurd hcov (h f hmem)
  | none =>
    rw [List.find?_eq_none] at hf
    constructor
    · constructor
      · rintro ⟨f, h⟩; simp at h
      · rintro ⟨f, hm, hc⟩; have := hf f hm; simp [hc] at this
    · constructor
      · intro _ f hm; have := hf f hm; simpa using this
      · intro _; rfl

/-! ## (5) entries round trip -/

/-- **Iterating an encoded section yields its entries, with their encoded fields.**
`encodeFrameSection` (Spec/Frame.lean) lays out abstract CIEs — versions 1/3/4, 32/64-bit lengths,
empty augmentation or `z` followed by any sequence of `L`, `P`, `R`, `S` with their arguments
(any valid pointer encodings, the personality pointer with any base set), address/segment size
bytes in `.debug_frame` version 4, trailing augmentation padding, any instruction bytes — and
FDEs (CIE pointer relative in `.eh_frame`, absolute in `.debug_frame`; address fields in the CIE's
`R` encoding or as plain addresses; augmentation data with the LSDA pointer in the `L` encoding),
zero length fields of either format between the entries (`.debug_frame` only, where the reader
skips them), optionally followed by a zero length field of either format (the `.eh_frame`
terminator). For every such list that satisfies the layout side conditions `EntriesWF` the
iterator yields exactly `expectEntries`: each CIE with all its fields (every data alignment
factor in `i64`, every pointer format incl. sleb128), each FDE with its offset, length, format and
the CIE offset its pointer designates — and then ends with `Ok(None)`. -/
theorem entries_roundtrip (c : Cfg) (bases : Bases) (es : List AEntry) (term : Option Format)
    (hwf : EntriesWF c bases 0 es) :
    entriesOf c bases (encodeFrameSection c.eh c.e es term) = (expectEntries c bases 0 es, .ok ()) := by
  unfold entriesOf encodeFrameSection
  apply entries_encoded c bases term es 0 _ _ hwf
  have := encodeEntries_length c es 0
  simp only [List.length_append]
  omega

/-- **Each FDE is bound to the CIE its pointer designates, and parses to its encoded fields.**
In a well-formed encoded section, an FDE laid out at `off` that names the CIE entry `ci` of the
section (at its layout offset `totalSize es1`) parses — through `cie_from_offset` at the offset the
pointer resolves to — to `fd.expect`: that very CIE record, the initial location and range decoded
in the CIE's `R` encoding against the given bases (pc-relative to the field's own offset), the
LSDA pointer (function-relative to the initial location), and the instruction bytes. -/
theorem fde_bound_roundtrip (c : Cfg) (bases : Bases) (es1 es2 : List AEntry) (ci : ACie)
    (term : Option Format)
    (fd : AFde) (off : Nat)
    (hwf : EntriesWF c bases 0 (es1 ++ .cie ci :: es2))
    (hfd : fd.WF c bases (ci.expect c bases (totalSize c.eh c.e es1)) off) :
    parseRest c bases (encodeFrameSection c.eh c.e (es1 ++ .cie ci :: es2) term)
        (fd.expectPartial c (ci.expect c bases (totalSize c.eh c.e es1)) off) =
      .ok (fd.expect c bases (ci.expect c bases (totalSize c.eh c.e es1)) off) :=
  parseRest_encoded c bases _ _ fd off (cieFromOffset_section c bases es1 es2 ci term hwf) hfd

/-! ## (6) the three lookup paths agree -/

/-- **Lookup through the `.eh_frame_hdr` table = exhaustive scan.** If the table indexes the
section's FDEs (`Indexes`: rows sorted, complete, pointing at the FDEs `fs`, whose ranges are
non-empty, non-wrapping and pairwise disjoint), `table.fde_for_address a` (binary search,
`pointer_to_offset`, `fde_from_offset`, `contains` re-check) returns the FDE of `fs` covering `a`,
and `NoUnwindInfoForAddress` when none does. -/
theorem hdr_lookup_iff_scan (c : Cfg) (bases : Bases) (h : Hdr) (frame : Bytes) (fs : List Fde)
    (size : Nat) (key : Nat → Nat) (g : Nat → Fde) (a : Nat)
    (hi : Indexes c bases h frame fs size key g) :
    hdrFdeForAddress c bases h frame a =
      match fs.find? (fun f => decide (covers f.initial f.range a)) with
      | some f => .ok f
      | none => .err .rNoUnwindInfoForAddress := by
  obtain ⟨idx, hidx, hlk, hprop⟩ :=
    lookup_correct c.m c.e h bases a size key hi.henc hi.hn hi.htbl hi.hbig hi.hkey hi.hsorted
  obtain ⟨P, B, hB, hP, hBP, hfo, hinit, hnw, hpos⟩ := hi.hrow idx hidx
  -- the search lands on row `idx`; what is left is whether `g idx` covers `a` (`Indexes.find?_eq`)
  unfold hdrFdeForAddress
  rw [hlk, hP, hi.find?_eq hidx hprop]
  simp only [Out.bind_ok, pointerToOffset, Ptr.toDirect, hB, hBP, if_true, Out.pure_eq, hfo,
    contains_eq_covers c.m (g idx) a hnw]
  by_cases hc : covers (g idx).initial (g idx).range a <;> simp [hc]

/-- **The three paths agree.** For a section that iterates and parses to the FDE list `fs`
(no wrap) and a table indexing it: linear search and table search return the same result for
every address — the first (= only) FDE of `fs` covering it, else `NoUnwindInfoForAddress` —, and
both `unwind_info_for_address` entry points are that lookup followed by the row search of the
unwind machine (`rowFor`: any function, C06 models it) in the FDE found. -/
theorem three_paths_agree {Row : Type} (rowFor : Fde → Nat → Out Row)
    (c : Cfg) (bases : Bases) (h : Hdr) (frame : Bytes) (fs : List Fde)
    (size : Nat) (key : Nat → Nat) (g : Nat → Fde) (a : Nat)
    (hend : (entriesOf c bases frame).2 = .ok ())
    (hparse : parseAll c bases frame (entriesOf c bases frame).1 = .ok fs)
    (hwrap : ∀ f, f ∈ fs → NoWrap f)
    (hi : Indexes c bases h frame fs size key g) :
    hdrFdeForAddress c bases h frame a = fdeForAddress c bases frame a ∧
    unwindInfoForAddress rowFor c bases frame a = (fdeForAddress c bases frame a >>= fun f => rowFor f a) ∧
    hdrUnwindInfoForAddress rowFor c bases h frame a = unwindInfoForAddress rowFor c bases frame a := by
  have h1 : hdrFdeForAddress c bases h frame a = fdeForAddress c bases frame a := by
    rw [hdr_lookup_iff_scan c bases h frame fs size key g a hi,
      linear_lookup_first c bases frame a fs hend hparse hwrap]
  refine ⟨h1, rfl, ?_⟩
  unfold hdrUnwindInfoForAddress unwindInfoForAddress
  rw [h1]

/-! ## (7) totality -/

/-- `parse_encoded_pointer` returns a pointer or an error — never panics (in particular the two
`unreachable!()` arms are unreachable) and terminates — for every encoding byte, base set, offset
and input -/
theorem encoded_pointer_total (m : Mode) (e : Endian) (enc : Nat) (p : PeParams) (r : Rd)
    (hs : SizeOk m p.asz) : (parseEncodedPointer m e enc p r).Normal :=
  pep_normal m e enc p r hs

/-- **Iteration always ends.** `section.entries(bases)` over any bytes yields finitely many items
(each consumed at least 4 bytes: `entries_progress`) and then `Ok(None)` or one error — it never
panics and never loops, including the `.debug_frame` zero-length skipping. (`SizeOk`: the
caller's address size is 1..8 or overflow checks are off; sizes read from version-4 CIEs are
always 1, 2, 4 or 8.) -/
theorem entries_total (c : Cfg) (bases : Bases) (sec : Bytes) (hs : SizeOk c.m c.asz) :
    (entriesOf c bases sec).2.Normal :=
  entries_normal c bases hs _ _ (by simp)

/-- each yielded item consumed at least the 4 bytes of its length field -/
theorem entries_progress (c : Cfg) (bases : Bases) (hs : SizeOk c.m c.asz) (r : Rd) (en : Entry) (r' : Rd)
    (h : next c bases (r.bs.length + 1) r = .ok (some en, r')) : r'.bs.length + 4 ≤ r.bs.length :=
  (next_normal c bases hs (r.bs.length + 1) r (by omega)).2 en r' h

/-- fully parsing any FDE the iterator yields (CIE lookup at the designated offset, addresses,
augmentation data) returns an FDE or an error -/
theorem fde_parse_total (c : Cfg) (bases : Bases) (sec : Bytes) (p : PartialFde)
    (hs : SizeOk c.m c.asz) : (parseRest c bases sec p).Normal :=
  (parseRest_ensures c bases sec p hs).1

/-- `fde_for_address` (linear) returns an FDE or an error for every section and address -/
theorem linear_lookup_total (c : Cfg) (bases : Bases) (sec : Bytes) (a : Nat) (hs : SizeOk c.m c.asz) :
    (fdeForAddress c bases sec a).Normal :=
  fdeForAddress_normal c bases sec a hs

/-- `EhFrameHdr::parse` returns a header or an error on any bytes -/
theorem hdr_parse_total (m : Mode) (e : Endian) (bases : Bases) (asz : Nat) (sec : Bytes)
    (hs : SizeOk m asz) : (parseHdr m e bases asz sec).Normal :=
  parseHdr_normal m e bases asz sec hs

/-- `EhHdrTable::fde_for_address` returns an FDE or an error for every header, section, address -/
theorem hdr_fde_for_address_total (c : Cfg) (bases : Bases) (h : Hdr) (frame : Bytes) (a : Nat)
    (hs : SizeOk c.m c.asz) (hh : SizeOk c.m h.asz) (hc : h.fdeCount < 2 ^ 64) :
    (hdrFdeForAddress c bases h frame a).Normal :=
  hdrFdeForAddress_normal c bases h frame a hs hh hc

/-! ## the recorded finding C05-1, as a theorem -/

/-- witness CIE/FDE: 8-byte addresses, FDE `[0xffff_ffff_ffff_fff0, 2^64)` -/
def topCie : Cie :=
  { offset := 0, length := 12, format := .dwarf32, version := 1, aug := none, asz := 8,
    caf := 1, daf := -8, rar := 16, instr := ⟨16, []⟩ }
def topFde : Fde :=
  { offset := 16, length := 20, format := .dwarf32, cie := topCie,
    initial := 0xffff_ffff_ffff_fff0, range := 0x10, lsda := none, instr := ⟨40, []⟩ }

/-- **Counter-example to the unrestricted lookup clause (known finding C05-1).** An FDE whose range
ends exactly at the top of its address space is excluded by `NoWrap` in `linear_lookup_first`
for a reason: `contains` (and with it all three lookup paths) answers *false* for an address the
FDE covers, because `end_address()` wraps to 0. -/
theorem top_of_address_space_not_covered :
    covers topFde.initial topFde.range 0xffff_ffff_ffff_fff8 ∧
    topFde.contains .debug 0xffff_ffff_ffff_fff8 = .ok false ∧
    topFde.contains .release 0xffff_ffff_ffff_fff8 = .ok false ∧ ¬ NoWrap topFde := by
  refine ⟨by decide +kernel, by decide +kernel, by decide +kernel, ?_⟩
  unfold NoWrap; decide +kernel

/-! ## non-vacuity: the hypotheses above are met by concrete non-trivial inputs -/

/-- a small `.eh_frame_hdr`: version 1, `eh_frame_ptr` udata4, count udata4 = 3, table udata4 -/
def exHdr : Bytes := [1, 0x03, 0x03, 0x03, 0x00, 0x10, 0, 0, 3, 0, 0, 0,
  0x10, 0, 0, 0, 0x20, 0x10, 0, 0,
  0x20, 0, 0, 0, 0x40, 0x10, 0, 0,
  0x30, 0, 0, 0, 0x60, 0x10, 0, 0]

example : ∃ h, parseHdr .debug .little {} 8 exHdr = .ok h ∧ h.fdeCount = 3 ∧
    tableEntrySize h.tableEnc = some 4 ∧ h.fdeCount * (4 * 2) ≤ h.table.bs.length ∧
    rowKey .debug .little h.tableEnc (h.params {}) h.table.off h.table.bs 4 0 = .ok (.direct 0x10) ∧
    rowKey .debug .little h.tableEnc (h.params {}) h.table.off h.table.bs 4 1 = .ok (.direct 0x20) ∧
    rowKey .debug .little h.tableEnc (h.params {}) h.table.off h.table.bs 4 2 = .ok (.direct 0x30) ∧
    lookup .debug .little h {} 0x2f = .ok (.direct 0x1040) ∧
    lookup .debug .little h {} 0x30 = .ok (.direct 0x1060) ∧
    lookup .debug .little h {} 0x05 = .ok (.direct 0x1020) := by
  refine ⟨_, rfl, ?_⟩
  decide +kernel

/-- a one-CIE one-FDE `.debug_frame` (4-byte addresses): iteration, full FDE parse and lookup -/
def exSec : Bytes := [12, 0, 0, 0, 0xff, 0xff, 0xff, 0xff, 1, 0, 1, 0x7c, 16, 0, 0, 0,
  12, 0, 0, 0, 0, 0, 0, 0, 0x00, 0x10, 0, 0, 0x20, 0, 0, 0]
def exCfg : Cfg := { eh := false, e := .little, asz := 4, m := .debug }

example : (entriesOf exCfg {} exSec).2 = .ok () ∧ (entriesOf exCfg {} exSec).1.length = 2 ∧
    (parseAll exCfg {} exSec (entriesOf exCfg {} exSec).1).map
      (fun fs => fs.map (fun f => (f.initial, f.range, f.cie.offset, f.cie.daf, f.cie.asz))) =
        .ok [(0x1000, 0x20, 0, -4, 4)] ∧
    (fdeForAddress exCfg {} exSec 0x101f).map (·.offset) = .ok 16 ∧
    (fdeForAddress exCfg {} exSec 0x1020).map (·.offset) = .err .rNoUnwindInfoForAddress := by
  decide +kernel

example : isValidEncoding 0x9b = true ∧ neededBase 0x9b ⟨{ sect := some 0x4000 }, none, 8⟩ 0x10 = some 0x4010 ∧
    encodeOperand .little 0x9b 8 (sext 4 0xffff_fff0) = some [0xf0, 0xff, 0xff, 0xff] ∧
    parseEncodedPointer .debug .little 0x9b ⟨{ sect := some 0x4000 }, none, 8⟩ ⟨0x10, [0xf0, 0xff, 0xff, 0xff, 7]⟩ =
      .ok (.indirect 0x4000, ⟨0x14, [7]⟩) := by
  decide +kernel

/-- an abstract `.eh_frame`: CIE `zPLR` (personality pcrel|sdata4, LSDA funcrel|udata2 indirect,
FDE addresses pcrel|sdata4) and one FDE of it; `EntriesWF` holds and the iterator returns both -/
def exCie : ACie :=
  { format := .dwarf32, version := 1,
    args := [.pers 0x1b 0x100, .lsda 0xc2, .fdeEnc 0x1b], augPad := [0xaa],
    asz := 8, caf := 1, daf := -8, rar := 16, instr := [0x0c, 0x07, 0x08, 0] }
def exCfgEh : Cfg := { eh := true, e := .little, asz := 8, m := .debug }
def exBases : Bases := { ehFrame := { sect := some 0x2000, text := some 0x1000 } }
def exFde : AFde :=
  { format := .dwarf32, initOp := sext 4 0xffff_f000, range := 0x40, lsdaOp := 0x12, augPad := [], instr := [0, 0] }

def exSecEh : Bytes := encodeFrameSection true .little [.cie exCie, .fde (exCie.expect exCfgEh exBases 0) exFde] (some .dwarf32)

example : exSecEh.length = 55 ∧ (entriesOf exCfgEh exBases exSecEh).1.length = 2 ∧
    (entriesOf exCfgEh exBases exSecEh).2 = .ok () ∧
    (parseAll exCfgEh exBases exSecEh (entriesOf exCfgEh exBases exSecEh).1).map
      (fun fs => fs.map (fun f => (f.offset, f.cie.offset, f.initial, f.range))) = .ok [(30, 0, 0x1026, 0x40)] ∧
    (parseAll exCfgEh exBases exSecEh (entriesOf exCfgEh exBases exSecEh).1).map
      (fun fs => fs.map (fun f => (f.lsda.map (·.pointer),
        f.cie.aug.map (fun a => a.personality.map (fun p => p.2.pointer))))) = .ok [(some 0x1038, some (some 0x2113))] := by
  decide +kernel

/-- the side conditions of `entries_roundtrip` / `fde_bound_roundtrip` hold for it -/
example : EntriesWF exCfgEh exBases 0 [.cie exCie, .fde (exCie.expect exCfgEh exBases 0) exFde] := by
  refine ⟨⟨by decide, by decide, by decide, by decide, by decide, by decide, ?_, by decide +kernel, by decide +kernel⟩,
    (by show idSize exCfgEh.eh exCie.format + (ACie.fields exCfgEh.eh exCfgEh.e exCie).length < 0xffff_fff0; decide +kernel),
    ⟨(by show idSize exCfgEh.eh exFde.format + (AFde.fields exCfgEh.e (ACie.expect exCfgEh exBases exCie 0) exFde).length < 0xffff_fff0; decide +kernel), by decide +kernel, by decide +kernel, by decide, ?_, ?_, by decide +kernel⟩, trivial⟩
  · intro arg h
    simp only [exCie, List.mem_cons, List.not_mem_nil, or_false] at h
    rcases h with h | h | h <;> subst h <;> unfold ArgWF <;> decide +kernel
  · show PtrOk _ _ _ _ _ ∧ _
    unfold PtrOk
    decide +kernel
  · show PtrOk _ _ _ _ _
    unfold PtrOk
    decide +kernel

/-! ### a table indexing a section (non-vacuity of `Indexes`) -/

def ixCie : ACie :=
  { format := .dwarf32, version := 1, args := [], augPad := [], asz := 8, caf := 1, daf := -8, rar := 16,
    instr := [0, 0, 0] }
def ixCfg : Cfg := { eh := true, e := .little, asz := 8, m := .debug }
def ixF0 : AFde := { format := .dwarf32, initOp := 0x1000, range := 0x20, lsdaOp := 0, augPad := [], instr := [0] }
def ixF1 : AFde := { format := .dwarf32, initOp := 0x1040, range := 0x10, lsdaOp := 0, augPad := [], instr := [] }
def ixC : Cie := ixCie.expect ixCfg {} 0
def ixSec : Bytes := encodeFrameSection true .little [.cie ixCie, .fde ixC ixF1, .fde ixC ixF0] (some .dwarf32)

/-- eh_frame at 0x2000; table rows sorted by initial location: (0x1000 -> FDE at 40), (0x1040 -> FDE at 16) -/
def ixHdrBytes : Bytes := [1, 0x03, 0x03, 0x03, 0x00, 0x20, 0, 0, 2, 0, 0, 0,
  0x00, 0x10, 0, 0, 0x28, 0x20, 0, 0,
  0x40, 0x10, 0, 0, 0x10, 0x20, 0, 0]
def ixHdr : Hdr := match parseHdr .debug .little {} 8 ixHdrBytes with
  | .ok h => h
  | _ => ⟨0, .direct 0, 0, 0, ⟨0, []⟩⟩
def ixKey (i : Nat) : Nat := if i = 0 then 0x1000 else 0x1040
def ixG (i : Nat) : Fde := match fdeFromOffset ixCfg {} ixSec (if i = 0 then 40 else 16) with
  | .ok f => f
  | _ => default
def ixFs : List Fde := match parseAll ixCfg {} ixSec (entriesOf ixCfg {} ixSec).1 with
  | .ok fs => fs
  | _ => []

theorem ixFacts : (ixG 0).initial = 0x1000 ∧ (ixG 0).range = 0x20 ∧ (ixG 1).initial = 0x1040 ∧ (ixG 1).range = 0x10 ∧
    ixHdr.fdeCount = 2 := by decide +kernel

theorem ixRows {i : Nat} (hi : i < ixHdr.fdeCount) : i = 0 ∨ i = 1 := by
  rw [ixFacts.2.2.2.2] at hi
  omega

/-- the hypotheses of `hdr_lookup_iff_scan` / `three_paths_agree` are satisfiable: a CIE, two FDEs (out of
address order in the section) and a sorted two-row table pointing at them -/
theorem ixIndexes : Indexes ixCfg {} ixHdr ixSec ixFs 4 ixKey ixG where
  henc := by decide +kernel
  hn := by decide +kernel
  htbl := by decide +kernel
  hbig := by decide +kernel
  hkey := by
    intro i hi
    rcases ixRows hi with rfl | rfl <;> decide +kernel
  hsorted := by
    intro i j hij _
    unfold ixKey
    split <;> split <;> omega
  hrow := by
    intro i hi
    rcases ixRows hi with rfl | rfl
    · refine ⟨0x2028, 0x2000, ?_⟩
      unfold NoWrap
      decide +kernel
    · refine ⟨0x2010, 0x2000, ?_⟩
      unfold NoWrap
      decide +kernel
  hall := by decide +kernel
  hmem := by
    intro i hi
    rcases ixRows hi with rfl | rfl <;> decide +kernel
  hdisj := by
    intro i j x hi hj hci hcj
    obtain ⟨a0, a1, b0, b1, _⟩ := ixFacts
    unfold covers at hci hcj
    rcases ixRows hi with rfl | rfl <;> rcases ixRows hj with rfl | rfl
    · rfl
    · rw [a0, a1] at hci; rw [b0, b1] at hcj; omega
    · rw [b0, b1] at hci; rw [a0, a1] at hcj; omega
    · rfl

example : (entriesOf ixCfg {} ixSec).2 = .ok () ∧
    parseAll ixCfg {} ixSec (entriesOf ixCfg {} ixSec).1 = .ok ixFs ∧ ∀ f, f ∈ ixFs → NoWrap f := by
  refine ⟨by decide +kernel, by decide +kernel, ?_⟩
  have h : ixFs = [ixG 1, ixG 0] := by decide +kernel
  intro f hf
  rw [h] at hf
  simp only [List.mem_cons, List.not_mem_nil, or_false] at hf
  rcases hf with h | h <;> subst h <;> (unfold NoWrap; decide +kernel)

/-! ### the hypotheses of `hdr_roundtrip` / `hdr_search_on_encoded` are satisfiable -/

/-- the abstract form of `exHdr` -/
def exAHdr : AHdr :=
  { ptrEnc := 0x03, cntEnc := 0x03, tblEnc := 0x03, ptrOp := 0x1000,
    rows := [(0x10, 0x1020), (0x20, 0x1040), (0x30, 0x1060)] }

example : encodeHdr .little 8 exAHdr = exHdr := by decide +kernel

example : exAHdr.WF .little {} 8 := by
  refine ⟨by decide, by decide +kernel, by decide +kernel, ?_, by decide +kernel⟩
  unfold PtrOk; decide +kernel

example : tableEntrySize exAHdr.tblEnc = some 4 ∧ peIndirect exAHdr.tblEnc = false ∧
    ∀ i r, exAHdr.rows[i]? = some r → exAHdr.RowOk .little {} 8 (exAHdr.tableOff .little 8) 4 i r := by
  refine ⟨by decide, by decide, ?_⟩
  intro i r hi
  have hlt : i < 3 := by
    rcases Nat.lt_or_ge i 3 with h | h
    · exact h
    · have : exAHdr.rows[i]? = none := List.getElem?_eq_none (by simpa [exAHdr] using h)
      rw [this] at hi; simp at hi
  have : i = 0 ∨ i = 1 ∨ i = 2 := by omega
  rcases this with h | h | h <;> subst h <;>
    (simp only [exAHdr, List.getElem?_cons_zero, List.getElem?_cons_succ, Option.some.injEq] at hi; subst hi;
     unfold AHdr.RowOk PtrOk; decide +kernel)

/-! ### `.debug_frame` with zero length fields, a two-byte data alignment factor and sleb128 pointers -/

/-- a `.debug_frame`: CIE (64-bit length, version 4, address size 4, data alignment factor −1000 in two SLEB128
bytes, `zR` with pc-relative sleb128 FDE addresses), a 32-bit and a 64-bit zero length field, an FDE, a zero
length field at the end -/
def dfCie : ACie :=
  { format := .dwarf64, version := 4, args := [.fdeEnc 0x19], augPad := [],
    asz := 4, caf := 4, daf := -1000, rar := 300, instr := [0, 0] }
def dfCfg : Cfg := { eh := false, e := .big, asz := 8, m := .debug }
def dfBases : Bases := { ehFrame := { sect := some 0x8000 } }
def dfFde : AFde :=
  { format := .dwarf32, initOp := Leb.ofI64 (-0x7000), range := 0x123, lsdaOp := 0, augPad := [0xbb], instr := [0] }
def dfEntries : List AEntry := [.cie dfCie, .zero .dwarf32, .zero .dwarf64, .fde (dfCie.expect dfCfg dfBases 0) dfFde]
def dfSec : Bytes := encodeFrameSection false .big dfEntries (some .dwarf32)

example : dfSec.length = 71 ∧ (entriesOf dfCfg dfBases dfSec).2 = .ok () ∧
    (entriesOf dfCfg dfBases dfSec).1.length = 2 ∧
    (parseAll dfCfg dfBases dfSec (entriesOf dfCfg dfBases dfSec).1).map
      (fun fs => fs.map (fun f => (f.offset, f.cie.offset, f.cie.daf, f.initial, f.range))) =
        .ok [(51, 0, -1000, 0x103b, 0x123)] := by
  decide +kernel

/-- the side conditions of `entries_roundtrip` hold for it (zero length fields between entries, sleb128 operands,
two-byte data alignment factor) -/
example : EntriesWF dfCfg dfBases 0 dfEntries := by
  refine ⟨⟨by decide, by decide, by decide, by decide, by decide +kernel, by decide, ?_, by decide +kernel, by decide +kernel⟩,
    (by show idSize dfCfg.eh dfCie.format + (ACie.fields dfCfg.eh dfCfg.e dfCie).length < 2 ^ 64; decide +kernel),
    rfl, rfl,
    ⟨(by show idSize dfCfg.eh dfFde.format + (AFde.fields dfCfg.e (ACie.expect dfCfg dfBases dfCie 0) dfFde).length < 0xffff_fff0; decide +kernel),
     by decide +kernel, by decide +kernel, by decide, ?_, ?_, by decide +kernel⟩, trivial⟩
  · intro arg h
    simp only [dfCie, List.mem_cons, List.not_mem_nil, or_false] at h
    subst h; unfold ArgWF; decide +kernel
  · show PtrOk _ _ _ _ _ ∧ _
    unfold PtrOk
    decide +kernel
  · trivial

example : isValidEncoding 0x19 = true ∧ encodeOperand .little 0x19 8 (Leb.ofI64 (-0x7000)) = some [0x80, 0xa0, 0x7e] ∧
    parseEncodedPointer .debug .little 0x19 ⟨{ sect := some 0x8000 }, none, 8⟩ ⟨0x3b, [0x80, 0xa0, 0x7e, 9]⟩ =
      .ok (.direct 0x103b, ⟨0x3e, [9]⟩) := by
  decide +kernel

end Gimli.Props.C05
