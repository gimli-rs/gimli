import Gimli.Props.C12Expr
import Gimli.Props.C12Cfi
import Gimli.Props.C12Lists
/-!
# C12 — composition: the expression component inside the CFI and list components

C12Cfi (`Props/C12Cfi.lean`) and C12Lists (`Props/C12Lists.lean`) treat the conversion of
expressions as a parameter. Here the parameter is instantiated with the Model of
`write::Expression::from` (`Model/ConvOp.lean`) followed by the expression writer (`Model/WOp.lean`).

## CFI

`cfi.rs` converts the expression of `DW_CFA_def_cfa_expression` / `DW_CFA_expression` /
`DW_CFA_val_expression` with `Expression::from(x, encoding, None, convert_address,
&NoConvertDebugInfoRef)` and writes it with no unit offsets and no fix-ups: `cfiEnv`, `cfiConvertExpr`.

* `compose_cfi_refs_rejected`: every operation that refers to a DIE or to `.debug_addr` makes the
  conversion fail — a CFI expression never silently loses a reference;
* `compose_cfi_op_same`: every other operation that converts (not a branch, not `entry_value`)
  is written as an operation the reader decodes to **literally the same operation**;
* `compose_cfi_expr_decodes`: a converted expression decodes (C07) without error into as many
  operations as the input, position by position the conversion of the input's.

**Byte identity.** C12Cfi's `ExprIdentity` ("the converter returns the bytes it was given") is
*false* of the real converter (`compose_identity_fails`: `DW_OP_const1u 5` becomes `DW_OP_lit5`).
convert∘write is the identity on exactly the expressions that are already in the writer's
encoding, `Canonical` (on a concrete expression: evaluate the converter, as the examples below do by `rfl`); everything else is re-encoded with the same
meaning: a constant in a longer form than `lit`/`constu` ULEB128, a register or base register 0..31
in the `regx`/`bregx` form, `pick 0/1`, `deref_size` of the address size, `call2`,
`GNU_push_tls_address`, a `DW_OP_GNU_*` opcode in DWARF 5 (or the standard one before), WASM kind 3,
and any non-minimal LEB128 operand.
The hypothesis cannot simply be replaced by "same decoded operations" **without changing C12Cfi's
proofs**: C06's unwind rules (`Spec.Unwind`, `rulesAt`) carry an expression as its *bytes*, and the
conclusion `rulesAt rowsOut pc = rulesAt rowsIn pc` is equality of those rules — re-encoded
expressions give rules that are equal only up to the meaning of their expressions, a relation C06's
Spec does not have. What *is* true without any hypothesis on the converter is restated here:
`compose_cfi_rows` and `compose_convert_write_rows` — C12Cfi's convert→unwind and
convert→write→decode→unwind theorems for **any** expression converter (in particular the real
one), for every table whose expression operands are canonical for it; no global identity assumption.

## Lists

C12Lists is already parametric in the re-encoding (`gdata`); `compose_lists_data` instantiates it:
with the real converter the location description of every converted entry is the re-encoded
expression, and that decodes to the conversion of the input's operations (`convert_expr_decode`).
-/
namespace Gimli.Props.C12
open Gimli Gimli.ConvOp
open Gimli.Op (Encoding)

/-! ## the CFI instance -/

/-- `Expression::from(x, encoding, None, convert_address, &NoConvertDebugInfoRef)` -/
def cfiEnv (ca : Nat → Option WOp.Addr) : ConvOp.Env where
  unitRef _ := .error .invalidUnitRef
  infoRef _ := .error .invalidDebugInfoRef
  convAddr := ca
  addrIndex := none

/-- expression bytes ↦ the bytes the converted expression is written as in a CFI instruction
(`expression.write(w, None, encoding, None)`), or the error -/
def cfiConvertExpr (ca : Nat → Option WOp.Addr) (e : Endian) (enc : Encoding) (bs : Bytes) :
    ConvFrame.CRes Bytes :=
  match ConvOp.convert (cfiEnv ca) e enc bs with
  | .error (.read x) => .fail (.read x)
  | .error .invalidAddress => .fail .invalidAddress
  | .error c => .fail (.other c.name)
  | .ok ws =>
    match WOp.exprWrite e enc none false 0 ws with
    | .ok (out, _) => .ok out
    | .err x => .fail (.write x)
    | .panic w => .panic w
    | .diverge => .diverge

/-- the executable `convert_address`: `|a| Some(Address::Constant(a))` -/
def idAddr : Nat → Option WOp.Addr := fun a => some (.constant a)

/-- an operation that refers to a DIE or to `.debug_addr` -/
def hasRef : Op.Operation → Bool
  | .deref bt _ _ => bt != 0
  | .registerOffset _ _ bt => bt != 0
  | .typedLiteral _ _ => true
  | .convert bt => bt != 0
  | .reinterpret bt => bt != 0
  | .call _ => true
  | .variableValue _ => true
  | .implicitPointer _ _ => true
  | .parameterRef _ => true
  | .addressIndex _ => true
  | .constantIndex _ => true
  | _ => false

/-- **references in a CFI expression are errors**, never dropped or rewritten -/
theorem compose_cfi_refs_rejected (ca : Nat → Option WOp.Addr) (enc : Encoding) (offsets : List Nat) (endOff : Nat)
    (sub : Bytes → CR (List WOp.Operation)) (r : Op.Operation) (hr : hasRef r = true) :
    ∃ c, convertOp (cfiEnv ca) enc offsets endOff sub r = .error c := by
  cases r <;> try cases hr
  case call d => cases d <;> exact ⟨_, rfl⟩
  case deref bt _ _ | registerOffset _ _ bt | convert bt | reinterpret bt =>
    -- a base type is looked up with `convert_unit_ref`, which `NoConvertDebugInfoRef` answers with an error
    have hbt : bt ≠ 0 := bne_iff_ne.mp hr
    exact ⟨.invalidUnitRef, by simp [convertOp, cfiEnv, hbt, bind, Except.bind]⟩
  case typedLiteral | variableValue | implicitPointer | parameterRef | addressIndex | constantIndex =>
    exact ⟨_, rfl⟩

/-- **every other operation is written as literally the same operation**: in a CFI expression, with
the executable `convert_address`, a decoded operation (not a branch, not `entry_value`) that converts
is written as bytes the reader decodes to that very operation. (Branches and `entry_value`:
`convert_branch_target`, and this theorem applied to the body.) -/
theorem compose_cfi_op_same (enc : Encoding) (offsets : List Nat) (endOff : Nat)
    (sub : Bytes → CR (List WOp.Operation)) (r : Op.Operation) (w : WOp.Operation)
    (hnb : isBranch r = false) (hne : ∀ x, r ≠ .entryValue x) (hr : RWf enc r)
    (h : convertOp (cfiEnv idAddr) enc offsets endOff sub r = .ok w) (disp : Int) (body : Bytes) (refv : Nat) :
    WOp.image enc (fun _ => none) disp body refv w = some r := by
  -- rule by rule: a rule that needs a reference did not fire in this environment, every other rule builds
  -- the operation whose image is `r` again
  cases convertOp_converts (cfiEnv idAddr) enc offsets endOff sub r w h with
  | simple hs => exact hs
  | branch | skip => cases hnb
  | entryValue => exact absurd rfl (hne _)
  | address ha => cases ha; rfl
  | piece =>
    -- `DW_OP_piece`: the writer takes bytes, and the decoded size is a whole number of bytes
    rename_i bits
    have hb : bits / 8 * 8 = bits := Nat.div_mul_cancel (Nat.dvd_of_mod_eq_zero (show _ ∧ bits % 8 = 0 from hr).2)
    exact congrArg (fun n => some (Op.Operation.piece n none)) hb
  | derefType _ hu | registerType _ hu | convert _ hu | reinterpret _ hu => cases hu
  | call hu | parameterRef hu | typedLiteral hu | callRef hu | variableValue hu | implicitPointer hu => cases hu
  | addressIndex hf | constantIndex hf => cases hf
  | _ => rfl

/-- **a converted CFI expression decodes to the converted operations**: if `cfiConvertExpr`
succeeds with `out`, the input decoded (C07) without error into `ins`; the writer operations are
position by position the conversion of `ins`; and `out` decodes without error into exactly their
images — as many operations as the input has, boundaries at the writer's offsets. -/
theorem compose_cfi_expr_decodes (ca : Nat → Option WOp.Addr) (hca : ∀ a v, ca a = some (.constant v) → v < 2 ^ 64)
    (e : Endian) (enc : Encoding) (bs out : Bytes) (h : cfiConvertExpr ca e enc bs = .ok out)
    (hlen : out.length < 2 ^ 64) :
    ∃ ins ws offsOut,
      Op.iterAll e enc bs.length (bs.length + 1) bs = (ins, none) ∧
      AllPairs (fun p w => convertOp (cfiEnv ca) enc (inputOffsets ins bs.length) p.2
        (subAt (cfiEnv ca) e enc maxEntryValueDepth) p.1 = .ok w) ins ws ∧
      WOp.exprOffsets enc none ws 0 = .ok offsOut ∧
      Op.iterAll e enc out.length ws.length out =
        (WOp.expectedDecode e enc none false offsOut 0 0 ws, none) := by
  unfold cfiConvertExpr at h
  cases hc : ConvOp.convert (cfiEnv ca) e enc bs with
  | error c => rw [hc] at h; cases c <;> cases h
  | ok ws =>
    simp only [hc] at h
    cases hw : WOp.exprWrite e enc none false 0 ws with
    | err x => rw [hw] at h; cases h
    | panic w => rw [hw] at h; cases h
    | diverge => rw [hw] at h; cases h
    | ok p =>
      obtain ⟨o, fx⟩ := p
      rw [hw] at h
      cases h
      have henv : EnvRanges (cfiEnv ca) := ⟨fun a v h => hca a v h, fun f i v h => by cases h⟩
      obtain ⟨ins, offsOut, h1, h2, h3, h4⟩ := convert_expr_decode_opt (cfiEnv ca) henv e enc bs ws hc none false 0
        out fx hw nofun hlen ws.length (Nat.le_refl _)
      exact ⟨ins, ws, offsOut, h1, h2, h3, h4⟩

/-! ## byte identity -/

/-- an expression the CFI conversion writes back byte for byte -/
def Canonical (ca : Nat → Option WOp.Addr) (e : Endian) (enc : Encoding) (bs : Bytes) : Prop :=
  cfiConvertExpr ca e enc bs = .ok bs

/-- the frame-table conversion environment with the real expression converter -/
def cfiFrameEnv (caf : Nat) (daf : Int) (ca : Nat → Option WOp.Addr) (e : Endian) (enc : Encoding) : ConvFrame.Env :=
  { caf := caf, daf := daf, convertExpr := cfiConvertExpr ca e enc }

/-- **`ExprIdentity` is false of the real converter**: `DW_OP_const1u 5` is written as `DW_OP_lit5` -/
theorem compose_identity_fails (caf : Nat) (daf : Int) :
    ¬ ConvFrame.ExprIdentity (cfiFrameEnv caf daf idAddr .little ⟨8, .dwarf32, 4⟩) := by
  intro h
  have := h [0x08, 0x05] [0x35] (by rfl)
  cases this

/-- every expression operand of the instruction is written back byte for byte by `env`: for `cfiFrameEnv` it is `Canonical`
of each operand, by `rfl`; the lemmas of Lemmas/ConvFrame take the weaker `ConvFrame.InstrOk` -/
def CanonInstr (env : ConvFrame.Env) (i : Cfi.Instr) : Prop :=
  ∀ ex, instrExpr i = some ex → env.convertExpr ex = .ok ex

theorem CanonInstr.instrOk {env : ConvFrame.Env} {i : Cfi.Instr} (hc : CanonInstr env i)
    (hl : ConvFrame.exprLen i < 2 ^ 64) : ConvFrame.InstrOk env i :=
  ⟨hl, fun ex he ex' hx => by rw [hc ex he] at hx; cases hx; rfl⟩

open Gimli.Cfi Gimli.WCfi Gimli.ConvCfi Gimli.ConvFrame Gimli.Unwind Gimli.Spec.Unwind Gimli.Spec.WCfi in
/-- **`compose_cfi_rows`: C12Cfi's `convert_rows` without the identity assumption.** For *any*
expression converter (in particular the real one, `cfiFrameEnv`): if every expression operand of
the CIE and FDE programs is written back byte for byte (`CanonInstr`), the converted table assigns
to every address of the FDE's range the same rules as the input table. -/
theorem compose_cfi_rows (env : ConvFrame.Env) (p : Params)
    (hc : p.codeAlign = env.caf) (hd : p.dataAlign = env.daf)
    (ci fi : List Instr) (hcc : ∀ i ∈ ci, CanonInstr env i) (hcf : ∀ i ∈ fi, CanonInstr env i)
    (hlc : ∀ i ∈ ci, exprLen i < 2 ^ 64) (hlf : ∀ i ∈ fi, exprLen i < 2 ^ 64)
    (cw fw : List (Nat × WInstr)) (lastc lastf : Nat)
    (hcie : convertProg env 0 ci = .ok (cw, lastc)) (hfde : convertProg env 0 fi = .ok (fw, lastf))
    (initial len : Nat) (rowsIn : List TableRow)
    (hin : table p none none ci none fi none initial len = (rowsIn, .ok ())) :
    ∃ rowsOut, wTable p (cw.map (·.2)) fw initial len = (rowsOut, .ok ()) ∧
      ∀ pc, pc < fdeEnd p initial len → rulesAt rowsOut pc = rulesAt rowsIn pc := by
  exact convertProg_table env p hc hd ci fi (fun i hi => (hcc i hi).instrOk (hlc i hi))
    (fun i hi => (hcf i hi).instrOk (hlf i hi)) cw fw lastc lastf hcie hfde initial len rowsIn hin

open Gimli.Cfi Gimli.WCfi Gimli.ConvCfi Gimli.ConvFrame Gimli.Unwind Gimli.Spec.Unwind Gimli.Spec.WCfi in
/-- **`compose_convert_write_rows`: C12Cfi's convert → write → decode → unwind theorem for the real
expression converter** (any converter): no global `ExprIdentity`; instead every expression operand
that occurs in the table is canonical for the converter. Then C06's decoder reads the written CIE
and FDE instruction streams to the end and C06's call-frame semantics of the decoded output assigns
to every address of the FDE's range the same rules as the input table. -/
theorem compose_convert_write_rows (env : ConvFrame.Env) (p : Params)
    (hc : p.codeAlign = env.caf) (hd : p.dataAlign = env.daf)
    (ci fi : List Instr) (hcc : ∀ i ∈ ci, CanonInstr env i) (hcf : ∀ i ∈ fi, CanonInstr env i)
    (hlc : ∀ i ∈ ci, exprLen i < 2 ^ 64) (hlf : ∀ i ∈ fi, exprLen i < 2 ^ 64)
    (cw fw : List (Nat × WInstr)) (lastc lastf : Nat)
    (hcie : convertProg env 0 ci = .ok (cw, lastc)) (hfde : convertProg env 0 fi = .ok (fw, lastf))
    (initial len : Nat) (rowsIn : List TableRow)
    (hin : table p none none ci none fi none initial len = (rowsIn, .ok ()))
    (cc fc : DecodeCfg) (hcv : Instr.negateRaState ∈ ci → cc.vendor = .aarch64)
    (hfv : Instr.negateRaState ∈ fi → fc.vendor = .aarch64)
    (cb fb : Bytes) (n1 n2 ciePos fdePos : Nat)
    (hwc : instrsWrite p.dataAlign (cw.map (·.2)) = .ok cb)
    (hwf : fdeInstrsWrite fc.endian p.codeAlign p.dataAlign 0 fw = .ok fb) :
    (decodeAll cc ciePos (cb ++ List.replicate n1 0)).2 = .ok () ∧
    (decodeAll fc fdePos (fb ++ List.replicate n2 0)).2 = .ok () ∧
    ∃ rowsOut,
      table p none none (decodeAll cc ciePos (cb ++ List.replicate n1 0)).1 none
        (decodeAll fc fdePos (fb ++ List.replicate n2 0)).1 none initial len = (rowsOut, .ok ()) ∧
      ∀ pc, pc < fdeEnd p initial len → rulesAt rowsOut pc = rulesAt rowsIn pc := by
  exact convertProg_write_rows env p hc hd ci fi (fun i hi => (hcc i hi).instrOk (hlc i hi))
    (fun i hi => (hcf i hi).instrOk (hlf i hi)) cw fw lastc lastf hcie hfde initial len rowsIn hin
    cc fc hcv hfv cb fb n1 n2 ciePos fdePos hwc hwf

/-! ## the list instance -/

/-- the expression conversion of C12Lists instantiated with `Expression::from` + the expression
writer: the converted expression is handed to C16's list writer as the bytes it is written as -/
def listsConvertExpr (env : ConvOp.Env) (e : Endian) (enc : Encoding) (offs : Nat → Option Nat) (d : Bytes) :
    ConvLists.CR WLists.WExpr :=
  match ConvOp.convert env e enc d with
  | .error c => .error (.expr c.name)
  | .ok ws =>
    match WOp.exprWrite e enc (some offs) true 0 ws with
    | .ok (out, _) => .ok [.raw out]
    | _ => .error (.expr "write")

/-- **`compose_lists_data`: what C12Lists calls "the re-encoded form" of a location description.**
With the real converter, `gdata` of an expression that converts and writes is the written
expression `out`, and `out` decodes (C07) without error into exactly the images of the converted
operations, which are position by position the conversion of the input's operations
(`convert_expr_decode`): same operations, references mapped, branches to the same operation. So
C12Lists' `convert_list_meaning` / `convert_write_read` read: same ranges, each with a location
description that means the same. -/
theorem compose_lists_data (env : ConvOp.Env) (henv : EnvRanges env) (e : Endian) (enc : Encoding)
    (offs : Nat → Option Nat) (hoffs : ∀ en o, offs en = some o → o < 2 ^ 64)
    (c : Lists.Cfg) (eo : WLists.EOff) (uoff : Nat) (d : Bytes) (ws : List WOp.Operation) (out : Bytes)
    (fx : List WOp.Fixup) (hconv : ConvOp.convert env e enc d = .ok ws)
    (hw : WOp.exprWrite e enc (some offs) true 0 ws = .ok (out, fx)) (hlen : out.length < 2 ^ 64) :
    ConvLists.gdata .loc (listsConvertExpr env e enc offs) (WLists.dataBytes .loc c eo uoff) d = out ∧
    ∃ ins offsOut,
      Op.iterAll e enc d.length (d.length + 1) d = (ins, none) ∧
      AllPairs (fun p w => convertOp env enc (inputOffsets ins d.length) p.2
        (subAt env e enc maxEntryValueDepth) p.1 = .ok w) ins ws ∧
      WOp.exprOffsets enc (some offs) ws 0 = .ok offsOut ∧
      Op.iterAll e enc out.length ws.length out =
        (WOp.expectedDecode e enc (some offs) true offsOut 0 0 ws, none) := by
  refine ⟨?_, convert_expr_decode env henv e enc d ws hconv offs true 0 out fx hw hoffs hlen ws.length (Nat.le_refl _)⟩
  simp [ConvLists.gdata, ConvLists.convData, listsConvertExpr, hconv, hw, WLists.dataBytes_raw]

/-! ## non-vacuity -/

-- canonical: `lit5`, `fbreg 16`, `breg7 -8; deref`; not canonical: `const1u 5`, `constu` with a padded
-- ULEB128, `deref_size 8` on an 8-byte target, `regx 3`
example : Canonical idAddr .little ⟨8, .dwarf32, 4⟩ [0x35] := by rfl
example : Canonical idAddr .little ⟨8, .dwarf32, 4⟩ [0x91, 0x10] := by rfl
example : Canonical idAddr .little ⟨8, .dwarf32, 4⟩ [0x77, 0x78, 0x06] := by rfl
example : cfiConvertExpr idAddr .little ⟨8, .dwarf32, 4⟩ [0x08, 0x05] = .ok [0x35] := by rfl
example : cfiConvertExpr idAddr .little ⟨8, .dwarf32, 4⟩ [0x10, 0xa0, 0x00] = .ok [0x10, 0x20] := by rfl
example : cfiConvertExpr idAddr .little ⟨8, .dwarf32, 4⟩ [0x94, 0x08] = .ok [0x06] := by rfl
example : cfiConvertExpr idAddr .little ⟨8, .dwarf32, 4⟩ [0x90, 0x03] = .ok [0x53] := by rfl
-- a reference in a CFI expression is an error
example : cfiConvertExpr idAddr .little ⟨8, .dwarf32, 4⟩ [0xf7, 0x0e] = .fail (.other "InvalidUnitRef") := by rfl
example : CanonInstr (cfiFrameEnv 1 (-8) idAddr .little ⟨8, .dwarf32, 4⟩) (.defCfaExpression [0x77, 0x78, 0x06]) := by
  intro ex h; cases h; rfl

end Gimli.Props.C12
