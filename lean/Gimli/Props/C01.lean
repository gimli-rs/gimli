import Gimli.Lemmas.Leb
import Gimli.Lemmas.Ints
import Gimli.Lemmas.Macros
/-!
# C01 — untrusted input never panics, aborts, overflows the stack or hangs

`Out.Normal r` means `r` is `ok _` or `err _`: not `panic` (overflow-checked arithmetic, index
out of range, unwrap) and not `diverge` (fuel exhausted = non-termination).
The `*_total` theorems hold for every input; `unsignedLoop_total` and `signedLoop_total` are about
the internal loops of the LEB128 readers, from any accumulator and shift.
-/
namespace Gimli.Props.C01
open Gimli Gimli.Leb Gimli.Ints

theorem unsignedLoop_total (bs : Bytes) : ∀ r s, (unsignedLoop bs r s).Normal :=
  Leb.unsignedLoop_normal bs

/-- `leb128::read::unsigned` returns a value or an error on every byte string -/
theorem uleb_total (bs : Bytes) : (Leb.unsigned bs).Normal :=
  Leb.unsigned_normal bs

theorem signedLoop_total (bs : Bytes) : ∀ r s, (signedLoop bs r s).Normal :=
  Leb.signedLoop_normal bs

/-- `leb128::read::signed` -/
theorem sleb_total (bs : Bytes) : (Leb.signed bs).Normal :=
  Leb.signed_normal bs

/-- `leb128::read::u16` -/
theorem u16leb_total (bs : Bytes) : (Leb.u16 bs).Normal :=
  Leb.u16_normal bs

/-- `leb128::read::skip` -/
theorem skipleb_total (bs : Bytes) : (Leb.skip bs).Normal :=
  Leb.skip_normal bs

/-- fixed-width reads -/
theorem fixed_total (e : Endian) (n : Nat) (bs : Bytes) : (readFixed e n bs).Normal :=
  Ints.readFixed_normal e n bs

/-- `read_address`, for *any* size argument (invalid sizes are an error, not a panic) -/
theorem address_total (e : Endian) (size : Nat) (bs : Bytes) : (readAddress e size bs).Normal :=
  Ints.readAddress_normal e size bs

theorem initial_length_total (e : Endian) (ob : Nat) (bs : Bytes) : (readInitialLength e ob bs).Normal :=
  Ints.readInitialLength_normal e ob bs

/-! ## `.debug_macinfo` / `.debug_macro`: `MacroIter` -/

/-- a single `MacroIter::next` call returns a value or an error on every input, in both section
kinds, formats and byte orders -/
theorem macro_next_total (e : Endian) (f : Format) (isMacro : Bool) (bs : Bytes) :
    (Macros.next e f isMacro bs).1.Normal :=
  Macros.next_normal e f isMacro bs

/-- **step bound, errors ignored**: a caller that keeps calling `next()` whatever it returns sees
`Ok(None)` after at most `len + 1` calls (every call that is not `Ok(None)` consumes at least the
type byte, including the calls that fail) -/
theorem macro_iter_bounded (e : Endian) (f : Format) (isMacro : Bool) (bs : Bytes) :
    ∃ k, (Macros.iter e f isMacro).callsUntilDone (bs.length + 1) bs = some k ∧ k ≤ bs.length + 1 :=
  Iter.bounded_of_measure (Macros.iter e f isMacro) List.length
    (fun s h => Macros.next_decreases e f isMacro s h) (bs.length + 1) bs (Nat.lt_succ_self _)

example : (Macros.iter .little .dwarf32 false).callsUntilDone 3 [1, 0x80] = some 2 := by decide

end Gimli.Props.C01
