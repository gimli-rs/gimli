import Gimli.Lemmas.ConvFrame
import Gimli.Props.C14
/-!
# C12, frame-table component — `FrameTable::from` preserves the unwind rows and the CIE
parameters, or fails

Helper lemmas: `Gimli/Lemmas/ConvFrame.lean`.

* **Model** (`Gimli/Model/ConvFrame.lean`, tied to `src/write/cfi.rs` `mod convert` by the
  byte-exact request `c12-cfi`): `CallFrameInstruction::from` (`convertInstr`), the instruction
  loops of `CommonInformationEntry::from` / `FrameDescriptionEntry::from` (`convertProg`),
  `convertCie`, `convertFde`, `FrameTable::from` (`convertTable`), on C05's Model of the entries and
  C06's Model of the instruction iterator; the output is C14's writer table.
* **Meaning of the input**: C06's declarative call-frame semantics (`Spec.Unwind.step`, `table`).
* **Meaning of the output**: C14's `Spec.WCfi.wStep` / `wTable` — the rows meant by writer
  instructions supplied at code offsets — which C14's `rows_roundtrip` ties to what the writer emits
  and the reader decodes.

How rows are compared (`rulesAt`): as the map *address ↦ rules* over the FDE's range
`[initial, end)`, the rules of the first row containing the address.  This is exactly what the
conversion preserves and why nothing stronger holds:
* `DW_CFA_nop` (padding or not) is dropped; it creates no row and changes no rule.
* `DW_CFA_advance_loc*` are not converted one to one: they only accumulate `delta × code
  alignment factor` into the code offset of the next instruction.  Consecutive advances are merged
  (input rows `[a,b) [b,c)` with equal rules ↦ one output row `[a,c)`), an advance of 0 (or under a
  code alignment factor 0) leaves an *empty* input row that has no output counterpart, and advances
  after the last instruction of an FDE are dropped (the last row then ends at the FDE's end anyway).
* `remember_state` / `restore_state` / `restore` are converted one to one and mean the same on both
  sides: the implicit stack and the initial rules (the register rules after the CIE's program) are
  part of the state that the simulation keeps equal; states remembered by the CIE stay poppable by
  the FDE on both sides.
* In a CIE, `advance_loc` only moves a location that the FDE resets; the converted CIE carries the
  same instructions without offsets.
The statement is for input tables that the reader can evaluate to the end (`table … = (rows, ok)`);
for an input that is itself invalid (e.g. `restore_state` on an empty stack, an advance beyond the
address space) nothing is claimed beyond totality.

Expressions are opaque: `ExprIdentity` assumes that the expression converter returns the bytes it
was given when it succeeds. The real converter does not satisfy it (`compose_identity_fails` in
`Props/C12Compose.lean`); the statements for the real converter, on tables whose expression
operands it writes back unchanged, are `compose_cfi_rows` and `compose_convert_write_rows` there.
-/
namespace Gimli.Props.C12
open Gimli Gimli.Cfi Gimli.WCfi Gimli.ConvCfi Gimli.ConvFrame Gimli.Unwind Gimli.Spec.Unwind Gimli.Spec.WCfi

/-- **convert_instr_meaning.** For every decoded instruction, every pair of alignment factors
(any `u64` / `i64`, including 0, 256, ±128, 2^32, …), every running code offset: if
`CallFrameInstruction::from` succeeds then either the instruction was a `Nop` (dropped, offset
unchanged), or an `AdvanceLoc` (dropped; the offset grows by exactly `delta × code alignment
factor`, inside `u32` — never wrapped), or it became one writer instruction whose operands are in
the range of the writer's types and whose meaning (`wStep`: unfactored offsets) equals, in every
state, C06's call-frame semantics of the input instruction under the input's data alignment factor
(factored operands multiplied back exactly, not modulo 2^64; unsigned operands that would read as
negative, and products outside `i32`, are `ValueTooLarge`).  `SetLoc` never converts
(`UnsupportedCfiInstruction`).  Otherwise the conversion is an error (`cfi_convert_total`). -/
theorem convert_instr_meaning (env : Env) (hex : ExprIdentity env) (off : Nat) (i : Instr)
    (w : Option WInstr) (off' : Nat) (hl : exprLen i < 2 ^ 64)
    (h : convertInstr env off i = .ok (w, off')) :
    (i = .nop ∧ w = none ∧ off' = off) ∨
    (∃ d, i = .advanceLoc d ∧ w = none ∧ off' = off + d * env.caf ∧ d * env.caf < 2 ^ 32 ∧ off' < 2 ^ 32) ∨
    (∃ wi, w = some wi ∧ off' = off ∧ wi.InRange ∧ (wi = .negateRaState → i = .negateRaState) ∧
      ∀ (p : Params), p.dataAlign = env.daf → ∀ s : State, wStep s wi = step p s i) :=
  (convertInstr_spec env hex off i w off' hl h).imp_right <| .imp_right
    fun ⟨wi, hw, ho, hr, hu⟩ => ⟨wi, hw, ho, hr, fun hn => unfactored_negateRaState (hn ▸ hu),
      fun _ hp s => (step_unfactored (hp ▸ hu) hr s).symm⟩

theorem convert_setloc_unsupported (env : Env) (off a : Nat) :
    convertInstr env off (.setLoc a) = .fail .unsupportedCfiInstruction := rfl

/-- **convert_rows.** Whole tables: take any CIE program and any FDE program (as decoded by the
reader), any alignment factors and address size, any initial address and length.  If both programs
convert and the reader can evaluate the input table to the end, then the converted table — the
converted CIE instructions, and the converted FDE instructions at their accumulated code offsets —
evaluates to the end as well, and assigns to every address of the FDE's range the same rules (CFA
rule, register rules, args_size) as the input table. -/
theorem convert_rows (env : Env) (hex : ExprIdentity env) (p : Params)
    (hc : p.codeAlign = env.caf) (hd : p.dataAlign = env.daf)
    (ci fi : List Instr) (hlc : ∀ i ∈ ci, exprLen i < 2 ^ 64) (hlf : ∀ i ∈ fi, exprLen i < 2 ^ 64)
    (cw fw : List (Nat × WInstr)) (lastc lastf : Nat)
    (hcie : convertProg env 0 ci = .ok (cw, lastc)) (hfde : convertProg env 0 fi = .ok (fw, lastf))
    (initial len : Nat) (rowsIn : List TableRow)
    (hin : table p none none ci none fi none initial len = (rowsIn, .ok ())) :
    ∃ rowsOut, wTable p (cw.map (·.2)) fw initial len = (rowsOut, .ok ()) ∧
      ∀ pc, pc < fdeEnd p initial len → rulesAt rowsOut pc = rulesAt rowsIn pc :=
  convertProg_table env p hc hd ci fi (fun i hi => hex.instrOk (hlc i hi)) (fun i hi => hex.instrOk (hlf i hi))
    cw fw lastc lastf hcie hfde initial len rowsIn hin

/-- `convert_write_rows` under the per-instruction side conditions `InstrOk` -/
theorem convertProg_write_rows (env : Env) (p : Params)
    (hc : p.codeAlign = env.caf) (hd : p.dataAlign = env.daf)
    (ci fi : List Instr) (hoc : ∀ i ∈ ci, InstrOk env i) (hof : ∀ i ∈ fi, InstrOk env i)
    (cw fw : List (Nat × WInstr)) (lastc lastf : Nat)
    (hcie : convertProg env 0 ci = .ok (cw, lastc)) (hfde : convertProg env 0 fi = .ok (fw, lastf))
    (initial len : Nat) (rowsIn : List TableRow)
    (hin : table p none none ci none fi none initial len = (rowsIn, .ok ()))
    (cc fc : DecodeCfg) (hcv : Instr.negateRaState ∈ ci → cc.vendor = .aarch64)
    (hfv : Instr.negateRaState ∈ fi → fc.vendor = .aarch64)
    (cb fb : Bytes) (n1 n2 ciePos fdePos : Nat)
    (hwc : instrsWrite p.dataAlign (cw.map (·.2)) = .ok cb)
    (hwf : fdeInstrsWrite fc.endian p.codeAlign p.dataAlign 0 fw = .ok fb) :
    (decodeAll cc ciePos (cb ++ List.replicate n1 0)).2 = .ok () ∧
    (decodeAll fc fdePos (fb ++ List.replicate n2 0)).2 = .ok () ∧
    ∃ rowsOut,
      table p none none (decodeAll cc ciePos (cb ++ List.replicate n1 0)).1 none
        (decodeAll fc fdePos (fb ++ List.replicate n2 0)).1 none initial len = (rowsOut, .ok ()) ∧
      ∀ pc, pc < fdeEnd p initial len → rulesAt rowsOut pc = rulesAt rowsIn pc := by
  obtain ⟨rowsOut, hw, hrows⟩ := convertProg_table env p hc hd ci fi hoc hof cw fw lastc lastf hcie hfde
    initial len rowsIn hin
  obtain ⟨hcr, hcn⟩ := convertProg_inRange_ok env ci 0 cw lastc hoc (by decide) hcie
  obtain ⟨hfr, hfn⟩ := convertProg_inRange_ok env fi 0 fw lastf hof (by decide) hfde
  have h := C14.rows_roundtrip cc fc p (cw.map (·.2)) fw
    (by intro i hi; obtain ⟨x, hx, rfl⟩ := List.mem_map.mp hi; exact (progInRange_iff.mp hcr x hx).2)
    (by intro i hi hneg; obtain ⟨x, hx, rfl⟩ := List.mem_map.mp hi; exact hcv (hcn ⟨x, hx, hneg⟩))
    hfr (progVendorOk_iff.mpr fun x hx hneg => hfv (hfn ⟨x, hx, hneg⟩))
    cb fb n1 n2 ciePos fdePos initial len hwc hwf
  exact ⟨h.1, h.2.1, rowsOut, by rw [h.2.2, hw], hrows⟩

/-- **convert_write_rows: convert → write → decode → unwind = the input rows.**  If moreover the
writer (C14's Model) emits the converted CIE and FDE programs, then whatever padding follows them
and wherever they lie in the output section, C06's decoder reads both streams to the end and C06's
call-frame semantics of the decoded output assigns to every address of the FDE's range the same
rules as the input table.  (`NegateRaState` needs the AArch64 vendor setting on the reading side.) -/
theorem convert_write_rows (env : Env) (hex : ExprIdentity env) (p : Params)
    (hc : p.codeAlign = env.caf) (hd : p.dataAlign = env.daf)
    (ci fi : List Instr) (hlc : ∀ i ∈ ci, exprLen i < 2 ^ 64) (hlf : ∀ i ∈ fi, exprLen i < 2 ^ 64)
    (cw fw : List (Nat × WInstr)) (lastc lastf : Nat)
    (hcie : convertProg env 0 ci = .ok (cw, lastc)) (hfde : convertProg env 0 fi = .ok (fw, lastf))
    (initial len : Nat) (rowsIn : List TableRow)
    (hin : table p none none ci none fi none initial len = (rowsIn, .ok ()))
    (cc fc : DecodeCfg) (hcv : Instr.negateRaState ∈ ci → cc.vendor = .aarch64)
    (hfv : Instr.negateRaState ∈ fi → fc.vendor = .aarch64)
    (cb fb : Bytes) (n1 n2 ciePos fdePos : Nat)
    (hwc : instrsWrite p.dataAlign (cw.map (·.2)) = .ok cb)
    (hwf : fdeInstrsWrite fc.endian p.codeAlign p.dataAlign 0 fw = .ok fb) :
    (decodeAll cc ciePos (cb ++ List.replicate n1 0)).2 = .ok () ∧
    (decodeAll fc fdePos (fb ++ List.replicate n2 0)).2 = .ok () ∧
    ∃ rowsOut,
      table p none none (decodeAll cc ciePos (cb ++ List.replicate n1 0)).1 none
        (decodeAll fc fdePos (fb ++ List.replicate n2 0)).1 none initial len = (rowsOut, .ok ()) ∧
      ∀ pc, pc < fdeEnd p initial len → rulesAt rowsOut pc = rulesAt rowsIn pc :=
  convertProg_write_rows env p hc hd ci fi (fun i hi => hex.instrOk (hlc i hi)) (fun i hi => hex.instrOk (hlf i hi))
    cw fw lastc lastf hcie hfde initial len rowsIn hin cc fc hcv hfv cb fb n1 n2 ciePos fdePos hwc hwf

/-- **convert_cie_params.** If `CommonInformationEntry::from` succeeds, the writer's CIE has the
input's format, version, address size, return address register, LSDA / FDE pointer encodings
(`DW_EH_PE_absptr` when the input has none), signal-trampoline flag and personality (same encoding,
the address as converted by `convert_address`), and both alignment factors — which therefore fit
`u8` / `i8`: a factor that does not fit is an error, never a truncated value (256 ↦ 0). -/
theorem convert_cie_params (cx : ConvFrame.Ctx) (cie : CfiEntry.Cie) (w : WCie) (h : convertCie cx cie = .ok w) :
    w.format = cie.format ∧ w.version = cie.version ∧ w.addressSize = cie.asz ∧
    w.codeAlign = cie.caf ∧ cie.caf < 256 ∧ w.dataAlign = cie.daf ∧ -128 ≤ cie.daf ∧ cie.daf < 128 ∧
    w.raReg = UInt16.ofNat cie.rar ∧
    w.lsdaEncoding = cie.aug.bind (·.lsda) ∧
    w.fdeAddressEncoding = (cie.aug.bind (·.fdeEnc)).getD 0 ∧
    w.signalTrampoline = (cie.aug.map (·.signal)).getD false ∧
    (match cie.aug.bind (·.personality) with
      | some (enc, ptr) => ∃ a, cx.convertAddr ptr.pointer = some a ∧ w.personality = some (enc, a)
      | none => w.personality = none) := by
  unfold convertCie at h
  obtain ⟨caf, hcaf, h⟩ := CRes.bind_eq_ok h
  obtain ⟨daf, hdaf, h⟩ := CRes.bind_eq_ok h
  obtain ⟨pers, hpers, h⟩ := CRes.bind_eq_ok h
  obtain ⟨ws, _, h⟩ := CRes.bind_eq_ok h
  cases h
  have hcaf := CRes.ofWrite_eq_ok hcaf
  have hdaf := CRes.ofWrite_eq_ok hdaf
  unfold narrowU8 at hcaf
  unfold narrowI8 at hdaf
  split at hcaf <;> cases hcaf
  split at hdaf <;> cases hdaf
  refine ⟨rfl, rfl, rfl, rfl, ‹_›, rfl, ‹_ ∧ _›.1, ‹_ ∧ _›.2, rfl, rfl, rfl, rfl, ?_⟩
  cases hp : cie.aug.bind (·.personality) with
  | none => rw [hp] at hpers; cases hpers; rfl
  | some ep =>
    obtain ⟨enc, ptr⟩ := ep
    rw [hp] at hpers
    obtain ⟨a, ha, h⟩ := CRes.bind_eq_ok hpers
    cases h
    unfold convAddr at ha
    split at ha <;> cases ha
    exact ⟨_, ‹_›, rfl⟩

/-- **cfi_convert_total.** `CallFrameInstruction::from` and the instruction loops return a value or a
`ConvertError` for every input (given an expression converter that does): no panic, no wrap-around
— every product and sum is checked. -/
theorem cfi_convert_total (env : Env) (hx : ∀ ex, (env.convertExpr ex).Normal) :
    (∀ off i, (convertInstr env off i).Normal) ∧ (∀ is off, (convertProg env off is).Normal) :=
  ⟨convertInstr_normal env hx, convertProg_normal env hx⟩

/-! ## non-vacuity and the arithmetic at the boundaries -/

def envId (caf : Nat) (daf : Int) : Env := { caf := caf, daf := daf, convertExpr := fun ex => .ok ex }

example : ExprIdentity (envId 4 (-8)) := by intro ex ex' h; cases h; rfl
example : convertInstr (envId 4 (-8)) 0 (.offset 16 2) = .ok (some (.offset 16 (-16)), 0) := by rfl
example : convertInstr (envId 4 (-8)) 8 (.advanceLoc 3) = .ok (none, 20) := by rfl
example : convertInstr (envId (2 ^ 32) (-8)) 0 (.advanceLoc 1) = .fail (.write .wValueTooLarge) := by rfl
example : convertInstr (envId 0 (-8)) 8 (.advanceLoc 3) = .ok (none, 8) := by rfl
example : convertInstr (envId 1 (2 ^ 31)) 0 (.defCfaSf 7 1) = .fail (.write .wValueTooLarge) := by rfl
example : convertInstr (envId 1 (-1)) 0 (.valOffset 3 (2 ^ 63)) = .fail (.write .wValueTooLarge) := by rfl
example : convertProg (envId 4 (-8)) 0 [.advanceLoc 1, .nop, .advanceLoc 2, .defCfaOffset 16, .advanceLoc 5] =
    .ok ([(12, .cfaOffset 16)], 32) := by rfl

end Gimli.Props.C12
