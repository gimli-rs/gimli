import Gimli.Lemmas.Lists
/-!
# C08 — Range and location lists resolve to the standard's address ranges

Property theorems only (helper lemmas: `Gimli/Lemmas/Lists/Raw.lean`, `Gimli/Lemmas/Lists.lean`).
Every theorem is about the Model functions of `Gimli/Model/Lists.lean`, which the driver executes
and the correspondence run ties to `src/read/{rnglists,loclists,addr,dwarf,reader}.rs`; the Spec is `Gimli/Spec/Lists.lean`.

Quantifiers: every byte string (any length), both list families (`Kind`), both on-disk formats
(`Fmt`), every byte order / DWARF format / version, every base address, every `.debug_addr`
content and `DW_AT_addr_base`; address sizes as stated per theorem.
-/
namespace Gimli.Props.C08
open Gimli Gimli.Ints Gimli.Lists Gimli.Spec.Lists

/-! ## "For any input whatsoever every yielded range is non-empty and begins below the tombstone
addresses" -/

/-- **Any input.** Whatever the bytes at the list offset, the configuration, the initial base
address, the address table and `addr_base` are: every range the cooked range-list / location-list
iterator yields has `begin < end` and `begin <` the tombstone threshold `min_tombstone` of the
address size. (No hypothesis at all — not even a valid address size.) -/
theorem yielded_nonempty_any_input (k : Kind) (c : Cfg) (f : Fmt) (addr : Bytes) (ab base : Nat)
    (bs : Bytes) (evs : List (Ev Item)) (h : cookedAll k c f addr ab base bs = .ok evs) :
    ∀ it, Ev.item it ∈ evs → it.b < it.e ∧ it.b < minTombstone c.addrSize := by
  obtain ⟨raw, _, h⟩ := Out.bind_eq_ok h
  exact cook_items c addr ab raw base evs h

/-- the same through the public entry points (`RangeLists::ranges`, `LocationLists::locations`,
`locations_dwo`: section and format selected by version / split file type, any offset) -/
theorem yielded_nonempty_any_input_at (k : Kind) (c : Cfg) (dwo : Bool) (legacy v5 : Bytes)
    (offset base : Nat) (addr : Bytes) (ab : Nat) (evs : List (Ev Item))
    (h : cookedAt k c dwo legacy v5 offset base addr ab = .ok evs) :
    ∀ it, Ev.item it ∈ evs → it.b < it.e ∧ it.b < minTombstone c.addrSize :=
  (ens_cookedAt k c dwo legacy v5 offset base addr ab).2 evs h

/-- the threshold is `-2` as an address of the unit's address size: the yielded ranges start below
both tombstone values `-1` and `-2` -/
theorem tombstone_threshold (s : Nat) (hs : 1 ≤ s ∧ s ≤ 8) :
    minTombstone s = 2 ^ (8 * s) - 2 ∧ minTombstone s = tombstone s :=
  ⟨minTombstone_eq s hs, minTombstone_spec s hs⟩

/-- the address helpers of `ReaderAddress for u64`, exactly: `wrapping_add_sized` is the sum modulo
`2^(8·size)`, `add_sized` is the sum when it is a `size`-byte address and `AddressOverflow` otherwise -/
theorem address_arithmetic (a len s : Nat) (hs : s ≤ 8) :
    wrappingAddSized a len s = (a + len) % 2 ^ (8 * s) ∧
    addSized a len s = (if a + len < 2 ^ (8 * s) then .ok (a + len) else .err .rAddressOverflow) :=
  ⟨wrappingAddSized_eq a len s hs, addSized_eq a len s hs⟩

/-! ## "Raw iteration exposes every encoded entry unchanged" -/

/-- **Raw round trip.** For every well-formed list `l` (every entry kind of the family and format,
every field value that fits its encoding), raw iteration over `encodeList l` followed by anything
returns exactly the entries of `l`, in order, unchanged, and stops at the terminator. -/
theorem raw_roundtrip (k : Kind) (c : Cfg) (f : Fmt) (hs : ValidSize c.addrSize) (l : List Entry)
    (rest : Bytes) (hw : ∀ x ∈ l, WfEntry k c f x) :
    rawAll k c f (encodeList k c f l ++ rest) = .ok (l.map .item) :=
  rawAll_encodeList k c f hs l rest hw

/-- the same through `raw_ranges` / `raw_locations` / `raw_locations_dwo` at the list's offset
inside a section (`pre` = whatever precedes the list) -/
theorem raw_roundtrip_at (k : Kind) (c : Cfg) (dwo : Bool) (hs : ValidSize c.addrSize)
    (l : List Entry) (pre rest other : Bytes)
    (hw : ∀ x ∈ l, WfEntry k c (sectionFormat k c.version dwo).2 x) :
    let sec := pre ++ encodeList k c (sectionFormat k c.version dwo).2 l ++ rest
    rawAt k c dwo (if (sectionFormat k c.version dwo).1 then sec else other)
      (if (sectionFormat k c.version dwo).1 then other else sec) pre.length = .ok (l.map .item) := by
  intro sec
  rw [rawAt_at ((select_section _ sec other).trans (List.append_assoc ..))]
  exact rawAll_encodeList k c _ hs l rest hw

/-! ## "the entries yielded … are exactly the address ranges and expressions the standard defines
relative to the unit's base address" -/

/-- **Resolution refines the Spec** (entry level): for every sequence of raw entries (any values),
the cooked iterator's results are, one for one and in order, what `Spec.resolveList` says the list
denotes relative to `base` and the address table stored at `addr_base` — restricted to the entries
the Spec keeps; an `Err` result stands exactly where the Spec leaves an entry undefined (address
index outside the table), after which resolution continues with the unchanged base address. -/
theorem resolve_refines_entries (c : Cfg) (addr : Bytes) (ab : Nat) (hs : ValidSize c.addrSize)
    (hlen : addr.length < 2 ^ 64) (l : List Entry) (base : Nat) :
    ∃ evs, cook c addr ab base (l.map .item) = .ok evs ∧
      evs.map denot = resolveList c.addrSize (tableOf c.endian c.addrSize addr ab) base l :=
  cook_refines c addr ab hs hlen l base

/-- **Resolution refines the Spec** (byte level): cooked iteration over the encoding of a
well-formed list = the Spec's resolution of the list. (In the lemma modules: `Lists.cookedAll_encodeList`.) -/
theorem resolve_refines (k : Kind) (c : Cfg) (f : Fmt) (addr : Bytes) (ab base : Nat)
    (hs : ValidSize c.addrSize) (hlen : addr.length < 2 ^ 64) (l : List Entry) (rest : Bytes)
    (hw : ∀ x ∈ l, WfEntry k c f x) :
    ∃ evs, cookedAll k c f addr ab base (encodeList k c f l ++ rest) = .ok evs ∧
      evs.map denot = resolveList c.addrSize (tableOf c.endian c.addrSize addr ab) base l :=
  cookedAll_encodeList k c f addr ab base hs hlen l rest hw

/-- the same through the public entry points `ranges` / `locations` / `locations_dwo` at the
list's offset inside the section the unit's version and the file type select -/
theorem resolve_refines_at (k : Kind) (c : Cfg) (dwo : Bool) (addr : Bytes) (ab base : Nat)
    (hs : ValidSize c.addrSize) (hlen : addr.length < 2 ^ 64) (l : List Entry)
    (pre rest other : Bytes) (hw : ∀ x ∈ l, WfEntry k c (sectionFormat k c.version dwo).2 x) :
    let sec := pre ++ encodeList k c (sectionFormat k c.version dwo).2 l ++ rest
    ∃ evs, cookedAt k c dwo (if (sectionFormat k c.version dwo).1 then sec else other)
        (if (sectionFormat k c.version dwo).1 then other else sec) pre.length base addr ab = .ok evs ∧
      evs.map denot = resolveList c.addrSize (tableOf c.endian c.addrSize addr ab) base l := by
  intro sec
  rw [cookedAt_at base addr ab ((select_section _ sec other).trans (List.append_assoc ..))]
  exact resolve_refines k c _ addr ab base hs hlen l rest hw

/-! ## offset tables and the address table -/

/-- **`get_offset base i`** (`DW_FORM_rnglistx` / `DW_FORM_loclistx`) is `base +` the word stored at
`base + i·wordsize`, exactly when that word lies inside the section and the sum fits 64 bits;
an error otherwise — never a wrapped product or sum. -/
theorem offset_table_lookup (c : Cfg) (sec : Bytes) (base i : Nat) (hlen : sec.length < 2 ^ 64) :
    getOffset c sec base i =
      if base + i * c.format.wordSize + c.format.wordSize ≤ sec.length then
        let off := fromBytes c.endian ((sec.drop (base + i * c.format.wordSize)).take c.format.wordSize)
        if 2 ^ 64 ≤ base + off then .err .rUnsupportedOffset else .ok (base + off)
      else if sec.length < base then .err .rUnexpectedEof
      else if 2 ^ 64 ≤ i * c.format.wordSize then .err .rUnsupportedOffset
      else .err .rUnexpectedEof := by
  simp only [getOffset, readWord_eq_fixed]
  exact read_slot c.endian c.format.wordSize sec base i hlen _

/-- **`get_address base i`** (`DW_FORM_addrx`, `DW_RLE_*x`, `DW_LLE_*x`) is the address stored at
`base + i·address_size`, exactly when that slot lies inside `.debug_addr`; an error otherwise. -/
theorem addr_table_lookup (c : Cfg) (sec : Bytes) (base i : Nat) (hs : ValidSize c.addrSize)
    (hlen : sec.length < 2 ^ 64) :
    getAddress c sec base i =
      if base + i * c.addrSize + c.addrSize ≤ sec.length then
        .ok (fromBytes c.endian ((sec.drop (base + i * c.addrSize)).take c.addrSize))
      else if sec.length < base then .err .rUnexpectedEof
      else if 2 ^ 64 ≤ i * c.addrSize then .err .rUnsupportedOffset
      else .err .rUnexpectedEof :=
  getAddress_cases c sec base i hs hlen

/-- hence it agrees with the Spec's address table -/
theorem addr_table_is_spec_table (c : Cfg) (sec : Bytes) (base i : Nat) (hs : ValidSize c.addrSize)
    (hlen : sec.length < 2 ^ 64) :
    match tableOf c.endian c.addrSize sec base i with
    | some a => getAddress c sec base i = .ok a
    | none => ∃ e, getAddress c sec base i = .err e := by
  rcases getAddress_lookup c sec base i hs hlen with ⟨a, ht, hg⟩ | ⟨ht, hg⟩ <;> rw [ht] <;> exact hg

/-! ## "the per-entry and per-unit range helpers built on them" -/

/-- **`die_ranges` / `unit_ranges`, no `DW_AT_ranges`.** For a DIE whose `DW_AT_low_pc` is an
address, whose `DW_AT_high_pc` is an address or a constant and which has no `DW_AT_ranges`
(`Benign`; attributes other than these three are skipped) the
result is the single range `low_pc .. high_pc`, or `low_pc .. low_pc + size` for a constant
`DW_AT_high_pc` — an `AddressOverflow` error when that sum leaves 64 bits, never a wrapped end —
kept (`keepSingle`) exactly when it is non-empty and begins below the tombstones, as for a range
list entry; nothing without `DW_AT_low_pc` or without `DW_AT_high_pc`. (Later duplicates override
earlier ones.) -/
theorem die_ranges_cases (u : UnitCtx) (secs : Sections) (attrs : Attrs)
    (hb : ∀ a ∈ attrs, Benign a) :
    dieRangesCore u secs attrs =
      let acc := attrs.foldl accStep {}
      match acc.lowPc with
      | none => .ok (.single none)
      | some b =>
        match acc.size with
        | some sz =>
          if 2 ^ 64 ≤ b + sz then .err .rAddressOverflow
          else .ok (.single (keepSingle u.cfg.addrSize (some (b, b + sz))))
        | none => .ok (.single (keepSingle u.cfg.addrSize (acc.highPc.map fun e => (b, e)))) := by
  have h := dieRangesLoop_benign u secs attrs [] {} hb
  rw [List.append_nil] at h
  unfold dieRangesCore
  rw [h]
  rfl

/-- **`DW_AT_ranges` wins**: when the first `DW_AT_ranges` of a DIE (`pre` holds none, `Benign`)
designates a list (a section offset, or an index whose offset-table slot can be read), the result is
that list — resolved with the unit's `low_pc` as base address and the unit's `addr_base` — whatever
`low_pc`/`high_pc` say. -/
theorem die_ranges_ranges_wins (u : UnitCtx) (secs : Sections) (pre post : Attrs) (v : AttrVal)
    (o : Nat) (hb : ∀ a ∈ pre, Benign a) (ho : attrRangesOffset u secs v = .ok (some o)) :
    dieRangesCore u secs (pre ++ (.ranges, v) :: post) =
      (do let evs ← unitRangesAt u secs o; pure (.list evs)) := by
  unfold dieRangesCore
  rw [dieRangesLoop_benign u secs pre _ _ hb, dieRangesLoop]
  simp only [ho, Out.bind_ok]
  cases unitRangesAt u secs o <;> rfl

/-- the filter on the single range: exactly the ranges that are non-empty and start below the
tombstone threshold of the unit's address size survive, unchanged -/
theorem keep_single_iff (s : Nat) (r : Option (Nat × Nat)) (b e : Nat) :
    keepSingle s r = some (b, e) ↔ r = some (b, e) ∧ b < e ∧ b < minTombstone s := by
  constructor
  · exact keepSingle_some s r b e
  · rintro ⟨rfl, h1, h2⟩
    exact if_pos ⟨h2, h1⟩

/-- the usual shapes, spelled out -/
theorem die_ranges_low_high_addr (u : UnitCtx) (secs : Sections) (b e : Nat) :
    dieRangesCore u secs [(.lowPc, .addr b), (.highPc, .addr e)] =
      .ok (.single (if b < minTombstone u.cfg.addrSize ∧ b < e then some (b, e) else none)) :=
  rfl

theorem die_ranges_low_size (u : UnitCtx) (secs : Sections) (b sz : Nat) :
    dieRangesCore u secs [(.lowPc, .addr b), (.highPc, .udata sz)] =
      if 2 ^ 64 ≤ b + sz then .err .rAddressOverflow
      else .ok (.single (if b < minTombstone u.cfg.addrSize ∧ b < b + sz then some (b, b + sz) else none)) :=
  rfl

/-- indexed `DW_AT_low_pc` (`DW_FORM_addrx`): the address-table entry of the unit -/
theorem die_ranges_lowx_size (u : UnitCtx) (secs : Sections) (i b sz : Nat)
    (hi : getAddress u.cfg secs.debugAddr u.addrBase i = .ok b) :
    dieRangesCore u secs [(.lowPc, .addrx i), (.highPc, .udata sz)] =
      if 2 ^ 64 ≤ b + sz then .err .rAddressOverflow
      else .ok (.single (if b < minTombstone u.cfg.addrSize ∧ b < b + sz then some (b, b + sz) else none)) := by
  simp only [dieRangesCore, dieRangesLoop, attrAddress, hi, Out.bind_ok, Out.pure_eq, keepSingle]

/-- `attr_ranges_offset`: a section offset is used as it is — except in a GNU split-DWARF v4
`.dwo` file, where it is relative to `DW_AT_GNU_ranges_base` — and an index goes through the offset
table at `DW_AT_rnglists_base`; `attr_locations_offset` never adds a base to a section offset. -/
theorem attr_offset_rules (u : UnitCtx) (secs : Sections) (o i : Nat) :
    attrRangesOffset u secs (.secOffset o) =
        .ok (some (if u.dwo ∧ u.cfg.version < 5 then (o + u.rnglistsBase) % 2 ^ 64 else o)) ∧
      attrLocationsOffset u secs (.secOffset o) = .ok (some o) ∧
      attrRangesOffset u secs (.listx i) =
        (do let x ← getOffset u.cfg secs.debugRnglists u.rnglistsBase i; pure (some x)) ∧
      attrLocationsOffset u secs (.listx i) =
        (do let x ← getOffset u.cfg secs.debugLoclists u.loclistsBase i; pure (some x)) :=
  ⟨rfl, rfl, rfl, rfl⟩

/-- **dwo base rules**: without base attributes a unit's `rnglists_base` / `loclists_base` is 0,
except in a DWARF 5 `.dwo` file where it is the size of the first table header (12 / 20 bytes);
`addr_base` and `low_pc` default to 0. -/
theorem dwo_base_rules (c : Cfg) (dwo : Bool) (secs : Sections) :
    unitBases c dwo secs [] =
      .ok ⟨c, dwo, 0, 0, defaultListsBase c dwo, defaultListsBase c dwo⟩ ∧
    defaultListsBase c false = 0 ∧
    (c.version < 5 → defaultListsBase c dwo = 0) ∧
    (c.version ≥ 5 → defaultListsBase c true = match c.format with | .dwarf32 => 12 | .dwarf64 => 20) := by
  refine ⟨rfl, ?_, ?_, ?_⟩
  · simp [defaultListsBase]
  · intro h; have : ¬ c.version ≥ 5 := by omega
    simp [defaultListsBase, this]
  · intro h; simp only [defaultListsBase, h, and_self, if_true]; cases c.format <;> rfl

/-- **base rules, any root DIE**: a unit's `addr_base` / `rnglists_base` / `loclists_base` is the
value of the last `DW_AT_addr_base`|`DW_AT_GNU_addr_base` / `DW_AT_rnglists_base`|`DW_AT_GNU_ranges_base`
/ `DW_AT_loclists_base` attribute given as a section offset, and otherwise 0 resp. the default of
`dwo_base_rules` -/
theorem unit_bases_rules (c : Cfg) (dwo : Bool) (secs : Sections) (root : Attrs) (u : UnitCtx)
    (h : unitBases c dwo secs root = .ok u) :
    u.addrBase = (lastSec .addrBase root).getD 0 ∧
    u.rnglistsBase = (lastSec .rnglistsBase root).getD (defaultListsBase c dwo) ∧
    u.loclistsBase = (lastSec .loclistsBase root).getD (defaultListsBase c dwo) ∧
    u.cfg = c ∧ u.dwo = dwo := by
  -- only a base attribute with a section offset makes `basesStep` touch a base
  have h1 := foldl_basesStep .addrBase (·.addrBase)
    (fun _ (m, v) => by cases m <;> first | rfl | (cases v <;> rfl)) root (initialUnit c dwo, none)
  have h2 := foldl_basesStep .rnglistsBase (·.rnglistsBase)
    (fun _ (m, v) => by cases m <;> first | rfl | (cases v <;> rfl)) root (initialUnit c dwo, none)
  have h3 := foldl_basesStep .loclistsBase (·.loclistsBase)
    (fun _ (m, v) => by cases m <;> first | rfl | (cases v <;> rfl)) root (initialUnit c dwo, none)
  have h4 := foldl_basesStep_cfg root (initialUnit c dwo, none)
  unfold unitBases at h
  generalize root.foldl basesStep (initialUnit c dwo, none) = r at h h1 h2 h3 h4
  obtain ⟨u0, low⟩ := r
  -- resolving `DW_AT_low_pc` at the end changes `low_pc` only
  obtain ⟨lp, rfl⟩ : ∃ lp, u = { u0 with lowPc := lp } := by
    cases low with
    | none => cases h; exact ⟨_, rfl⟩
    | some v =>
      obtain ⟨oa, _, h⟩ := Out.bind_eq_ok h
      cases oa <;> cases h <;> exact ⟨_, rfl⟩
  exact ⟨h1, h2, h3, h4⟩

/-- **Every range `die_ranges` / `unit_ranges` yields is non-empty and begins below the
tombstones** — through a range list (`DW_AT_ranges`) and as the single `low_pc .. high_pc` range
alike, for every DIE, unit, section contents and configuration. (Holds on the tree with the `fix:`
acb6706 for finding C08-1; without it the single range is yielded unfiltered, e.g.
`DW_AT_low_pc = -1`, `DW_AT_high_pc = 0` yields `[2^64-1, 2^64-1)`.) -/
theorem die_ranges_nonempty (u : UnitCtx) (secs : Sections) (attrs : Attrs) (evs : List (Ev Item))
    (h : dieRanges u secs attrs = .ok evs) :
    ∀ it, Ev.item it ∈ evs → it.b < it.e ∧ it.b < minTombstone u.cfg.addrSize := by
  obtain ⟨r, hc, h⟩ := Out.bind_eq_ok h
  cases h
  exact (ens_dieRangesCore u secs attrs).2 r hc

/-- the witness of C08-1 yields nothing -/
example : dieRanges ⟨⟨.little, .dwarf32, 4, 8⟩, false, 0, 0, 0, 0⟩ ⟨[], [], [], [], []⟩
    [(.lowPc, .addr (2 ^ 64 - 1)), (.highPc, .udata 0)] = .ok [] := by decide +kernel

/-- `die_ranges` / `unit_ranges` return a value or an error for every DIE, unit and section
contents (no panic, no non-termination) -/
theorem die_ranges_total (u : UnitCtx) (secs : Sections) (attrs : Attrs) :
    (dieRangesCore u secs attrs).Normal :=
  (ens_dieRangesCore u secs attrs).1

/-- everything `attr_locations` yields (location lists reached from a `DW_AT_location`-like
attribute, `.dwo` dispatch included) is non-empty and begins below the tombstones -/
theorem attr_locations_nonempty (u : UnitCtx) (secs : Sections) (v : AttrVal) (evs : List (Ev Item))
    (h : attrLocations u secs v = .ok (some evs)) :
    ∀ it, Ev.item it ∈ evs → it.b < it.e ∧ it.b < minTombstone u.cfg.addrSize := by
  obtain ⟨oo, _, h⟩ := Out.bind_eq_ok h
  cases oo with
  | none => cases h
  | some o =>
    obtain ⟨evs', hu, h⟩ := Out.bind_eq_ok h
    cases h
    exact (ens_cookedAt ..).2 _ hu

/-- a split unit inherits `low_pc` and `addr_base` from its skeleton unit, and the ranges base only
in GNU split DWARF (version < 5) -/
theorem copy_relocated_rules (self other : UnitCtx) :
    (copyRelocated self other).lowPc = other.lowPc ∧
    (copyRelocated self other).addrBase = other.addrBase ∧
    (copyRelocated self other).loclistsBase = self.loclistsBase ∧
    (copyRelocated self other).rnglistsBase =
      (if self.cfg.version < 5 then other.rnglistsBase else self.rnglistsBase) :=
  ⟨rfl, rfl, rfl, rfl⟩

/-! ## totality and termination within the input length -/

/-- **The raw iterator terminates**: for every byte string, at most `len` calls of `next()` return
something other than `Ok(None)` (so `len + 1` calls always reach the end), none panics. -/
theorem raw_terminates (k : Kind) (c : Cfg) (f : Fmt) (bs : Bytes) :
    ∃ evs, rawAll k c f bs = .ok evs ∧ evs.length ≤ bs.length :=
  rawFuel_ok k c f (bs.length + 1) bs (Nat.lt_succ_self _)

/-- an `Err` is reported at most once and is the last thing the raw iterator returns -/
theorem raw_error_is_last (k : Kind) (c : Cfg) (f : Fmt) (bs : Bytes) (evs : List (Ev Entry))
    (h : rawAll k c f bs = .ok evs) :
    ∃ items : List Entry, evs = items.map .item ∨ ∃ e, evs = items.map .item ++ [.error e] :=
  (rawFuel_run k c f _ bs evs h).shape

/-- **The cooked iterator terminates** the same way, for every input and configuration -/
theorem cooked_terminates (k : Kind) (c : Cfg) (f : Fmt) (addr : Bytes) (ab base : Nat) (bs : Bytes) :
    ∃ evs, cookedAll k c f addr ab base bs = .ok evs ∧ evs.length ≤ bs.length :=
  cookedAll_ok k c f addr ab base bs

/-- every parse step returns a value or an error and consumes at least one byte -/
theorem parse_entry_total (k : Kind) (c : Cfg) (f : Fmt) (bs : Bytes) (hne : bs ≠ []) :
    match parseRaw k c f bs with
    | .ok (_, rest) => rest.length < bs.length
    | .err _ => True
    | .panic _ => False
    | .diverge => False := by
  cases bs with
  | nil => exact absurd rfl hne
  | cons t r =>
    have h := ens_parseRaw k c f t r
    rcases h.1.ok_or_err with ⟨p, hp⟩ | ⟨e, hp⟩ <;> rw [hp]
    · exact Nat.lt_succ_of_le (h.2 p hp).1
    · trivial

/-! ## non-vacuity -/

private def cfg5 : Cfg := { endian := .little, format := .dwarf32, version := 5, addrSize := 4 }
private def cfg4 : Cfg := { endian := .big, format := .dwarf32, version := 4, addrSize := 2 }

example : ValidSize cfg5.addrSize ∧
    ∀ x ∈ [Entry.baseAddress 0x1000, .offsetPair 1 5 [], .startLength 0xffff_fff0 0x20 [],
      .startxEndx 0 1 []], WfEntry .rng cfg5 .coded x := by decide +kernel
example : ∀ x ∈ [Entry.pair 1 5 [0x9c], .baseAddress 0x100, .pair 0 3 []], WfEntry .loc cfg4 .bare x := by
  decide +kernel
example : ∀ x ∈ [Entry.defaultLocation [0x50], .startxLength 1 0xffff_ffff [0x51, 0x52]],
    WfEntry .loc cfg4 .coded x := by decide +kernel
example : encodeList .rng cfg5 .coded [.baseAddress 0x1000, .offsetPair 1 5 []] =
    [5, 0, 0x10, 0, 0, 4, 1, 5, 0] := by decide +kernel
example : rawAll .rng cfg5 .coded [5, 0, 0x10, 0, 0, 4, 1, 5, 0, 0xaa] =
    .ok [.item (.baseAddress 0x1000), .item (.offsetPair 1 5 [])] := by decide +kernel
example : cookedAll .rng cfg5 .coded [] 0 0 [5, 0, 0x10, 0, 0, 4, 1, 5, 4, 7, 7, 0] =
    .ok [.item ⟨0x1001, 0x1005, []⟩] := by decide +kernel
example : resolveList 4 (fun _ => none) 0 [.baseAddress 0xffff_fffe, .offsetPair 1 5 [], .startEnd 3 3 [],
    .startxEndx 0 1 [], .startLength 0xffff_fff0 0x20 []] = [.undefined] := by decide +kernel

end Gimli.Props.C08
