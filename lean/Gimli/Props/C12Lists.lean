import Gimli.Lemmas.ConvLists
import Gimli.Lemmas.WLists.Table
/-!
# C12, range / location list component — conversion preserves the ranges and location
expressions, or fails

Property theorems only (helper lemmas: `Gimli/Lemmas/ConvLists.lean`). They are about the Model
`Gimli/Model/ConvLists.lean` of `RangeList::from` / `LocationList::from` (src/write/range.rs,
src/write/loc.rs, `mod convert`), which the driver (`Drv/C12Lists.lean`) executes and the
correspondence run (`harness/src/prop/c12lists.rs`) ties to `write::Dwarf::from`; the input side is
C08's reader Model and Spec (`Model/Lists.lean`, `Spec/Lists.lean`), the output side C16's writer
Model and Spec (`Model/WLists.lean`, `Spec/WLists.lean`).

"Meaning" of a list is C08's `resolveList`: the ranges — for location lists the (range,
expression bytes) pairs — it denotes relative to the unit's base address and `.debug_addr`, entries
that denote nothing (empty, inverted, tombstone) dropped. Parameters: `ca` = `convert_address`
(`IdConv ca`: the executable case `|a| Some(Address::Constant(a))`), `ce` = the expression conversion
(`Expression::from`, C12's expression component), `enc` = the bytes a converted expression is
written as; `gdata k ce enc d` = the input expression bytes `d` after conversion and re-encoding.
-/
namespace Gimli.Props.C12
open Gimli Gimli.Ints Gimli.Lists Gimli.WLists Gimli.ConvLists Gimli.Spec.Lists Gimli.Spec.WLists

/-! ## (a) the converted list means what the input list means — or the conversion is an error -/

/-- **Conversion preserves the meaning of a list.** For every sequence of results of the raw
list iterator (any entry kinds, any values; `hb` = the unit has a non-zero `low_pc`, `base` = that
`low_pc`), every byte order / format / version / valid address size, any `.debug_addr` contents and
`addr_base`: if `RangeList::from` / `LocationList::from` succeeds, then the raw iterator returned no
`Err`, and the list it produced means — as C16's writer Spec reads it — exactly what the input list
means, with every location description replaced by its converted and re-encoded form. (If it does
not succeed it is an error: the result type has nothing else.) -/
theorem convert_list_meaning (k : Kind) (c : Cfg) (ca : Nat → Option Addr) (ce : Bytes → CR WExpr)
    (addr : Bytes) (ab : Nat) (enc : WExpr → Bytes)
    (hid : IdConv ca) (hs : ValidSize c.addrSize) (hlen : addr.length < 2 ^ 64)
    (evs : List (Ev Entry)) (hb : Bool) (base : Nat) (hbase : hb = false → base = 0)
    (hfit : ∀ x, Ev.item x ∈ evs → RawFits c x) (out : WList)
    (h : convertEntries k c ca ce addr ab hb evs = .ok out) :
    ∃ l : List Entry, evs = l.map .item ∧
      meaning c.addrSize enc base out =
        (resolveList c.addrSize (tableOf c.endian c.addrSize addr ab) base l).map
          (mapDenotData (gdata k ce enc)) := by
  obtain ⟨l, rfl⟩ := convertEntries_ok_items evs hb out h
  refine ⟨l, rfl, ?_⟩
  exact (convertEntries_meaning enc hid hs hlen l hb base out hbase
    (fun x hx => hfit x (List.mem_map_of_mem hx)) h).symm

/-- the same when the expression conversion is faithful (converted expressions are written as the
bytes they were read from — e.g. every expression in a range list, where there is none):
literally the same ranges and (range, expression) pairs -/
theorem convert_list_meaning_faithful (k : Kind) (c : Cfg) (ca : Nat → Option Addr) (ce : Bytes → CR WExpr)
    (addr : Bytes) (ab : Nat) (enc : WExpr → Bytes)
    (hid : IdConv ca) (hs : ValidSize c.addrSize) (hlen : addr.length < 2 ^ 64)
    (hg : ∀ d, gdata k ce enc d = d)
    (evs : List (Ev Entry)) (hb : Bool) (base : Nat) (hbase : hb = false → base = 0)
    (hfit : ∀ x, Ev.item x ∈ evs → RawFits c x) (out : WList)
    (h : convertEntries k c ca ce addr ab hb evs = .ok out) :
    ∃ l : List Entry, evs = l.map .item ∧
      meaning c.addrSize enc base out =
        resolveList c.addrSize (tableOf c.endian c.addrSize addr ab) base l := by
  obtain ⟨l, hl, hm⟩ := convert_list_meaning k c ca ce addr ab enc hid hs hlen evs hb base hbase hfit out h
  refine ⟨l, hl, ?_⟩
  rw [hm]
  have : mapDenotData (gdata k ce enc) = id := by
    funext d; cases d <;> simp [mapDenotData, hg]
  rw [this, List.map_id]

/-- **Conversion preserves the meaning of a list, from the sections**: for every unit (any
encoding, `low_pc`, `addr_base`), every content of the list sections and of `.debug_addr`, every
offset: if `convert_range_list` / `convert_location_list` succeeds, then the reader resolves the
input list at that offset without error, and the converted list means exactly what the reader
yields for the input (location descriptions re-encoded). No hypothesis on the input bytes. -/
theorem convert_list_meaning_at (k : Kind) (u : UnitCtx) (secs : Sections) (ca : Nat → Option Addr)
    (ce : Bytes → CR WExpr) (enc : WExpr → Bytes) (hid : IdConv ca) (hs : ValidSize u.cfg.addrSize)
    (hlen : secs.debugAddr.length < 2 ^ 64) (offset : Nat) (out : WList)
    (h : convertList k u secs ca ce offset = .ok out) :
    ∃ evsIn : List (Ev Item),
      cookedAt k u.cfg (decide (k = .loc) && u.dwo)
        (legacySec k secs) (v5Sec k secs) offset u.lowPc secs.debugAddr u.addrBase = .ok evsIn ∧
      meaning u.cfg.addrSize enc u.lowPc out =
        (evsIn.map denot).map (mapDenotData (gdata k ce enc)) := by
  unfold convertList at h
  obtain ⟨evs, h1, h2⟩ := Except.bind_eq_ok h
  have hraw := liftRead_ok h1
  have hfit := rawAt_fits _ _ _ _ _ _ evs hraw
  obtain ⟨l, hl, hm⟩ := convert_list_meaning k u.cfg ca ce secs.debugAddr u.addrBase enc hid hs hlen evs
    (decide (u.lowPc ≠ 0)) u.lowPc (by simp) hfit out h2
  obtain ⟨evsIn, hin1, hin2⟩ := cook_refines u.cfg secs.debugAddr u.addrBase hs hlen l u.lowPc
  refine ⟨evsIn, ?_, by rw [hm, hin2]⟩
  rw [cookedAt_raw, hraw, hl]
  exact hin1

/-- **`have_base_address` agrees between converter and writer**: the converter starts with
`from_unit.low_pc != 0`, the writer with "the root has a `DW_AT_low_pc` other than
`Address::Constant(0)`"; for a unit whose `low_pc` attribute (if any) is converted by the identity
these are the same flag, and when it is false the reader's base address is 0. -/
theorem have_base_agrees (low : Option Nat) :
    haveBaseAddress (low.map .const) = decide (unitBase (low.map .const) ≠ 0) ∧
    (haveBaseAddress (low.map .const) = false → unitBase (low.map .const) = 0) := by
  refine ⟨?_, haveBase_false_base _⟩
  cases low with
  | none => rfl
  | some v => cases v <;> rfl

/-! ## (b) convert → write → read resolves to the same ranges / pairs -/

/-- **Round trip through the writer.** Let the converted list `out` be one of the lists added to a
unit's table (`lists[j]`), and let the table be written by C16's writer Model into a section after
arbitrary earlier content `prior` (`ub` = the writer's `have_base_address`, equal to the converter's
start flag `hb`, see `have_base_agrees`). If writing succeeds, then reading the offset handed to the
attribute with C08's reader Model, through the same base address, yields exactly what reading the
INPUT list yields (`evsIn`: the reader's results on the input entries), location descriptions
re-encoded, with no error on either side. Holds for DWARF 5 and for DWARF 2–4. -/
theorem convert_write_read (m : Mode) (k : Kind) (c : Cfg) (ca : Nat → Option Addr) (ce : Bytes → CR WExpr)
    (addr : Bytes) (ab : Nat) (eo : EOff) (uoff : Nat) (ub : Bool) (prior : Bytes)
    (lists : List WList) (r : Bytes × List Nat)
    (hv : 2 ≤ c.version ∧ c.version ≤ 5) (hs : ValidSize c.addrSize) (hid : IdConv ca)
    (hlen : addr.length < 2 ^ 64) (he : U64EOff eo)
    (hm : ∀ l ∈ lists, ∀ x ∈ l, Machine k c eo uoff x)
    (evs : List (Ev Entry)) (base : Nat) (hbase : ub = false → base = 0)
    (hfit : ∀ x, Ev.item x ∈ evs → RawFits c x) (j : Nat) (hj : j < lists.length)
    (hc : convertEntries k c ca ce addr ab ub evs = .ok lists[j])
    (hw : writeTable m k c eo uoff ub prior.length (addAll [] lists).1 = .ok r) :
    ∃ (l : List Entry) (evsIn evsOut : List (Ev Item)) (off : Nat),
      evs = l.map .item ∧
      cook c addr ab base evs = .ok evsIn ∧
      (handOver r.2 (addAll [] lists).2)[j]? = some off ∧
      cookedAt k c false (prior ++ r.1) (prior ++ r.1) off base [] 0 = .ok evsOut ∧
      evsOut.map denot = (evsIn.map denot).map (mapDenotData (gdata k ce (dataBytes k c eo uoff))) := by
  obtain ⟨l, hl, hmean⟩ := convert_list_meaning k c ca ce addr ab (dataBytes k c eo uoff) hid hs hlen
    evs ub base hbase hfit lists[j] hc
  obtain ⟨evsIn, hin1, hin2⟩ := cook_refines c addr ab hs hlen l base
  obtain ⟨off, evsOut, h1, h2, h3⟩ := lists_roundtrip m k c eo uoff ub prior (prior ++ r.1) lists r
    hs he hm hw base (fun _ => hbase) j hj
  rw [ite_self] at h2
  exact ⟨l, evsIn, evsOut, off, hl, by rw [hl]; exact hin1, h1, h2, by rw [h3, hmean, hin2]⟩

/-! ## (c) nothing is silently dropped or merged -/

/-- **Shape of the converted list.** A successful conversion converts every input entry, one for
one and in order (`ws`), and returns them all except the entries `isEmptyEntry` names: a
`StartLength` of length 0, a `StartEnd` or `OffsetPair` with `begin == end`. Nothing is merged,
reordered or truncated; base-address entries, default locations, tombstone and inverted ranges are
kept as they are. -/
theorem convert_keeps_entries (k : Kind) (c : Cfg) (ca : Nat → Option Addr) (ce : Bytes → CR WExpr)
    (addr : Bytes) (ab : Nat) (l : List Entry) (hb : Bool) (out : WList)
    (h : convertEntries k c ca ce addr ab hb (l.map .item) = .ok out) :
    ∃ ws : List WEntry, ws.length = l.length ∧
      (∀ p ∈ l.zip ws, ∃ h h', convertEntry k c ca ce addr ab h p.1 = .ok (p.2, h')) ∧
      out = ws.filter (fun w => !isEmptyEntry w) := by
  induction l generalizing hb out with
  | nil =>
    cases h
    exact ⟨[], rfl, (fun _ hp => by rw [List.zip_nil_left] at hp; cases hp), rfl⟩
  | cons x xs ih =>
    rw [List.map_cons] at h
    obtain ⟨w, hb', ws, h1, h2, rfl⟩ := convertEntries_cons_ok h
    obtain ⟨ws', hlen, hf, rfl⟩ := ih hb' ws h2
    refine ⟨w :: ws', congrArg (· + 1) hlen, ?_, ?_⟩
    · rw [List.zip_cons_cons]
      exact List.forall_mem_cons.mpr ⟨⟨hb, hb', h1⟩, hf⟩
    cases hw : isEmptyEntry w <;> rw [List.filter_cons, hw] <;> rfl

/-- **What is dropped denotes nothing**: an entry the conversion filters out contributes no range
to the meaning of any list, whatever the base address, address size and what follows — this is
C08's Spec: an empty range is not kept (`Keep` requires `begin < end`). -/
theorem dropped_entries_denote_nothing (s : Nat) (enc : WExpr → Bytes) (w : WEntry)
    (h : isEmptyEntry w = true) (base : Nat) (ws : WList) :
    meaning s enc base (w :: ws) = meaning s enc base ws := by
  rw [meaning, List.map_cons, resolveList_cons, contrib_empty s enc w h]
  rfl

/-- the kinds are mapped as the entry names say (for the identity `convert_address`): in
particular a base-address entry stays one and keeps its address, and the `have_base_address` flag
is raised exactly by base-address entries -/
theorem convert_entry_kinds (k : Kind) (c : Cfg) (ca : Nat → Option Addr) (ce : Bytes → CR WExpr)
    (addr : Bytes) (ab : Nat) (hid : IdConv ca) (hb hb' : Bool) (x : Entry) (w : WEntry)
    (h : convertEntry k c ca ce addr ab hb x = .ok (w, hb')) :
    match x with
    | .pair b e _ => hb' = hb ∧ if hb then ∃ d, w = .offsetPair b e d else ∃ d, w = .startEnd (.const b) (.const e) d
    | .baseAddress a => hb' = true ∧ w = .baseAddress (.const a)
    | .baseAddressx _ => hb' = true ∧ ∃ a, w = .baseAddress (.const a)
    | .startxEndx _ _ _ => hb' = hb ∧ ∃ b e d, w = .startEnd (.const b) (.const e) d
    | .startxLength _ len _ => hb' = hb ∧ ∃ b d, w = .startLength (.const b) len d
    | .offsetPair b e _ => hb' = hb ∧ ∃ d, w = .offsetPair b e d
    | .defaultLocation _ => hb' = hb ∧ ∃ d, w = .defaultLocation d
    | .startEnd b e _ => hb' = hb ∧ ∃ d, w = .startEnd (.const b) (.const e) d
    | .startLength b len _ => hb' = hb ∧ ∃ d, w = .startLength (.const b) len d := by
  have hx := convertEntry_ok hid h
  cases x with
  | pair b e d =>
    obtain ⟨h1, x', _, rfl⟩ := hx
    exact ⟨h1, by cases hb <;> exact ⟨x', rfl⟩⟩
  | baseAddress a => exact hx
  | baseAddressx i => exact ⟨hx.1, hx.2.imp fun _ h => h.2⟩
  | startxEndx b e d =>
    obtain ⟨h1, b0, e0, x', _, _, _, rfl⟩ := hx
    exact ⟨h1, b0, e0, x', rfl⟩
  | startxLength b l d =>
    obtain ⟨h1, b0, x', _, _, rfl⟩ := hx
    exact ⟨h1, b0, x', rfl⟩
  | offsetPair b e d | defaultLocation d | startEnd b e d | startLength b l d =>
    exact ⟨hx.1, hx.2.imp fun _ h => h.2⟩

/-! ## (d) totality and the errors -/

/-- **The conversion returns normally**: for every sequence of raw-iterator results, every
configuration, any `.debug_addr` bytes, it yields a list or a `ConvertError` — it never panics or
diverges (as long as the expression conversion does not). -/
theorem convert_total (k : Kind) (c : Cfg) (ca : Nat → Option Addr) (ce : Bytes → CR WExpr)
    (addr : Bytes) (ab : Nat) (hce : ∀ d, ce d ≠ .error .crash) (evs : List (Ev Entry)) (hb : Bool) :
    convertEntries k c ca ce addr ab hb evs ≠ .error .crash := by
  induction evs generalizing hb with
  | nil => exact nofun
  | cons ev rest ih =>
    cases ev with
    | error e => exact nofun
    | item x =>
      exact bind_no_crash (convertEntry_no_crash hce hb x) fun p =>
        bind_no_crash (ih p.2) fun _ => nofun

/-- **Errors are passed on, not swallowed**: an `Err` of the raw iterator (the list is cut off or
malformed) fails the conversion with that error as soon as it is reached; so does an index outside
`.debug_addr` and an address `convert_address` refuses. -/
theorem convert_errors (k : Kind) (c : Cfg) (ca : Nat → Option Addr) (ce : Bytes → CR WExpr)
    (addr : Bytes) (ab : Nat) (hb : Bool) :
    (∀ e rest, convertEntries k c ca ce addr ab hb (.error e :: rest) = .error (.read e)) ∧
    (∀ x rest er, convertEntry k c ca ce addr ab hb x = .error er →
      convertEntries k c ca ce addr ab hb (.item x :: rest) = .error er) ∧
    (∀ i e, getAddress c addr ab i = .err e →
      convertEntry k c ca ce addr ab hb (.baseAddressx i) = .error (.read e)) ∧
    (∀ a, ca a = none → convertEntry k c ca ce addr ab hb (.baseAddress a) = .error .invalidAddress) := by
  refine ⟨fun e rest => rfl, ?_, ?_, ?_⟩
  · intro x rest er h
    simp [convertEntries, h, bind, Except.bind]
  · intro i e h
    simp [convertEntry, unitAddress, h, liftRead, bind, Except.bind]
  · intro a h
    simp [convertEntry, convAddr, h, bind, Except.bind]

/-! ## non-vacuity -/

private def cfg4 : Cfg := { endian := .little, format := .dwarf32, version := 4, addrSize := 4 }
private def cfg5 : Cfg := { endian := .little, format := .dwarf32, version := 5, addrSize := 4 }
private def idc : Nat → Option Addr := fun a => some (.const a)
private def ceRaw : Bytes → CR WExpr := fun d => .ok [.raw d]

example : IdConv idc := fun _ => rfl
example : ∀ x ∈ [Entry.pair 0x10 0x20 [], .baseAddress 0x1000, .pair 1 1 [], .pair 3 9 []], RawFits cfg4 x := by decide +kernel
-- DWARF 4, low_pc = 0: address pair → StartEnd; after the base address entry → OffsetPair; the empty pair is dropped
example : convertEntries .rng cfg4 idc ceRaw [] 0 false
    ([Entry.pair 0x10 0x20 [], .baseAddress 0x1000, .pair 1 1 [], .pair 3 9 []].map .item) =
    .ok [.startEnd (.const 0x10) (.const 0x20) [], .baseAddress (.const 0x1000), .offsetPair 3 9 []] := by decide +kernel
-- DWARF 5 with indexed entries resolved through `.debug_addr` (two 4-byte slots), a failing index is an error
example : convertEntries .loc cfg5 idc ceRaw [0, 0x10, 0, 0, 0x40, 0x10, 0, 0] 0 true
    ([Entry.startxEndx 0 1 [0x50], .startxLength 1 0 [0x51], .defaultLocation [0x52]].map .item) =
    .ok [.startEnd (.const 0x1000) (.const 0x1040) [.raw [0x50]], .defaultLocation [.raw [0x52]]] := by decide +kernel
example : convertEntries .rng cfg5 idc ceRaw [0, 0x10, 0, 0] 0 false [.item (.baseAddressx 1)] =
    .error (.read .rUnexpectedEof) := by decide +kernel
example : convertEntries .rng cfg4 (fun _ => none) ceRaw [] 0 false [.item (.pair 1 2 [])] =
    .error .invalidAddress := by decide +kernel
example : convertEntries .rng cfg4 (fun a => some (.symbol 0 a)) ceRaw [] 0 true [.item (.pair 1 2 [])] =
    .error .invalidRangeRelativeAddress := by decide +kernel
example : ∀ d, gdata .loc ceRaw (dataBytes .loc cfg5 (fun _ => none) 0) d = d := by
  intro d; simp [gdata, convData, ceRaw, dataBytes_raw]

end Gimli.Props.C12
