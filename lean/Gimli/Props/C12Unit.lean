import Gimli.Lemmas.ConvUnit
import Gimli.Lemmas.WUnit
/-!
# C12, unit / attribute component — read → write conversion keeps the entry forest and the
meaning of every attribute, or fails

Further helpers: `Gimli/Lemmas/ConvUnit.lean`; input forest: `Gimli/Spec/ConvUnit.lean`.
Every theorem is about the Model of `Gimli/Model/ConvUnit.lean`, which the driver executes for the
`c12unit` op and which the correspondence run compares with `write::Dwarf::from` + `Dwarf::write`
on the listing `gimli::read` produces from the output.

Quantifiers: every forest (any shape, depth, size), every attribute list, every value of every
`read::AttributeValue` kind under every form, every version; the sub-conversions owned by other
parts of the crate (expressions, lists, line program / file table, section lookups of the reader)
are arbitrary functions (`Ctx`).

Where the code really differs from the property the theorem is named `…_partial` and a
counterexample theorem pins the witness: the tag of the root entry is not converted
(`root_tag_not_converted`, finding C12U-1), and a second top-level entry — which a unit must not
have, but which the reader accepts — is re-parented under the root (`second_top_level_entry_reparented`).
-/
namespace Gimli.Props.C12
open Gimli Gimli.Attr Gimli.WUnit Gimli.ConvUnit

/-! ## (a) the forest -/

/-- **The entries below the root are created with exactly the input forest's shape, tags and
order — or the conversion is an error.**  `root` is the root entry, `f` the forest of the entries
below it (any well-formed forest), `ids` the reserved ids.  If `ConvertUnit::convert` succeeds,
the `add_reserved(id, parent, tag)` calls it made are, in order, exactly the depth-first listing
of `f` with every entry's parent being the id of its parent in `f` (the root's id 0 for the
top-level ones): no entry dropped, added, re-parented or reordered, every tag kept.
Partial only in that the root's *own* tag is outside the statement (`root_tag_not_converted`). -/
theorem convert_forest_partial (cx : ConvUnit.Ctx) (ids : Nat → Option Nat) (root : RItem) (f : IForest)
    (out : OutUnit) (hwf : f.WF) (hid : f.HasIds ids) (hroot : root.depth = 0)
    (hch : root.children = false → f = .nil)
    (h : convertUnit cx ids (root :: f.items 1) = .ok out) :
    out.entries.map Created.shape = f.flatten 0 := by
  rw [convertUnit] at h
  obtain ⟨ras, _, h⟩ := Except.bind_eq_ok h
  obtain ⟨es, hes, h⟩ := Except.bind_eq_ok h
  cases h
  rw [convertEntries_shape _ _ _ _ _ hes]
  cases hc : root.children with
  | true =>
    simp only [if_true, hroot]
    have := (runStack_forest_pop ids f 1 [((0 : Int), 0)] hwf hid).1
    simpa [popParents, top] using this
  | false =>
    have := hch hc
    subst this
    simp [IForest.items, runStack, IForest.flatten]

theorem idxOf?_of_nodup : ∀ (l : List Nat) (n x : Nat), l.Nodup → l[n]? = some x → l.idxOf? x = some n :=
  fun _ _ _ => IndexSet.idxOf?_eq_of_nodup

/-- the ids: `reserve_unit` numbers the entries in section order, the root first — the id of the
entry at position `n` of the stream is `n` (for pairwise distinct offsets, which section offsets
of distinct entries are) -/
theorem reserved_ids_are_positions (items : List RItem) (hnd : (items.map (·.off)).Nodup) (n : Nat)
    (it : RItem) (h : items[n]? = some it) : reserveIds items it.off = some n :=
  idxOf?_of_nodup _ n it.off hnd (by rw [List.getElem?_map, h]; rfl)

/-- **Counterexample (finding C12U-1): the root's tag is not converted.** Whatever tag the input
root has, the root of the output unit is the entry `Unit::new` created, a
`DW_TAG_compile_unit`: `convertUnit` does not even read `root.tag`. -/
theorem root_tag_not_converted (cx : ConvUnit.Ctx) (ids : Nat → Option Nat) (root : RItem) (rest : List RItem)
    (tag : Nat) : convertUnit cx ids ({ root with tag := tag } :: rest) = convertUnit cx ids (root :: rest) := by
  simp [convertUnit]

/-- a context in which the section lookups succeed; no file table, no line program, no cross-unit
reference -/
def exCtx : ConvUnit.Ctx :=
  { version := 4, convAddr := some, addrAt := .ok, strAt := fun _ => .ok [], lineStrAt := fun _ => .ok [],
    strOffsetAt := .ok, strId := fun _ => 0, lineStrId := fun _ => 0, lineProgram := none,
    fileId := fun _ => none, convExpr := fun b => .ok [.raw b], locOffsetAt := .ok, convLocList := .ok,
    rngOffsetFromRaw := id, rngOffsetAt := .ok, convRngList := .ok, unitRef := some,
    infoRef := fun _ => none }

/-- two entries at depth 0 -/
def exTwoRoots : List RItem :=
  [{ off := 11, depth := 0, tag := 0x11, children := false, attrs := [] },
   { off := 12, depth := 0, tag := 0x2e, children := false, attrs := [] }]

/-- **Counterexample: a second top-level entry is re-parented.** A unit has one root, but the
reader accepts more top-level entries (C02); the conversion makes a later depth-0 entry a *child*
of the root (`entry.parent.unwrap_or(self.unit.root())`). -/
theorem second_top_level_entry_reparented :
    ((convertUnit exCtx (reserveIds exTwoRoots) exTwoRoots).toOption.map
      (fun o => o.entries.map Created.shape)) = some [(1, 0, 0x2e)] := by
  decide

/-! ## (c) idempotence, structural part -/

/-- **A second conversion creates the same entries again.** Let `f` be the input forest and `f'`
the forest a reader finds in the written output of the first conversion; `f'` has the shape of
`f` (that is `convert_forest_partial` for the conversion, C11's `offsets_exact` and read-back
oracle for write + read: same (id, parent, tag) listing — ids are positions in both).  Then
converting `f'` makes exactly the `add_reserved` calls the first conversion made: the forest is a
fixed point from the first output on.  (Attribute-level idempotence — `convert(read(write(v)))
= v` for every value kind — needs a Model of re-reading a converted value under an arbitrary
attribute name and is established by the differential run only: `c12-dwarf` converts twice and
compares the outputs byte for byte.) -/
theorem convert_forest_idempotent (cx cx' : ConvUnit.Ctx) (ids ids' : Nat → Option Nat) (root root' : RItem)
    (f f' : IForest) (out out' : OutUnit)
    (hwf : f.WF) (hid : f.HasIds ids) (hroot : root.depth = 0) (hch : root.children = false → f = .nil)
    (hwf' : f'.WF) (hid' : f'.HasIds ids') (hroot' : root'.depth = 0) (hch' : root'.children = false → f' = .nil)
    (hsame : f'.flatten 0 = f.flatten 0)
    (h : convertUnit cx ids (root :: f.items 1) = .ok out)
    (h' : convertUnit cx' ids' (root' :: f'.items 1) = .ok out') :
    out'.entries.map Created.shape = out.entries.map Created.shape := by
  rw [convert_forest_partial cx ids root f out hwf hid hroot hch h,
    convert_forest_partial cx' ids' root' f' out' hwf' hid' hroot' hch' h', hsame]

/-! ## (b) the attributes -/

/-- **What is dropped on purpose, exactly.** `filter_attributes` keeps an attribute iff its name
is not one of `DW_AT_sibling`, `DW_AT_str_offsets_base`, `DW_AT_addr_base`, `DW_AT_rnglists_base`,
`DW_AT_loclists_base`, `DW_AT_dwo_name`, `DW_AT_GNU_addr_base`, `DW_AT_GNU_ranges_base`,
`DW_AT_GNU_dwo_name`, `DW_AT_GNU_dwo_id`; order is kept; the sibling flag is set iff a
`DW_AT_sibling` was present. -/
theorem skip_list_exact (attrs : List RAttr) :
    (filterAttrs attrs).2 = attrs.filter (fun a => ¬ a.name ∈ SKIPPED) ∧
    ((filterAttrs attrs).1 = true ↔ ∃ a ∈ attrs, a.name = 0x01) := by
  simp [filterAttrs]

/-- `DebuggingInformationEntry::set` adds the name if it is new and never removes one -/
theorem attrSet_names (name : Nat) (v : AttrVal) (n : Nat) : ∀ (l : List (Nat × AttrVal)),
    n ∈ (attrSet name v l).map (·.1) ↔ n ∈ l.map (·.1) ∨ n = name := by
  intro l
  induction l with
  | nil => simp [attrSet]
  | cons p xs ih =>
    obtain ⟨m, w⟩ := p
    rw [attrSet]
    split
    · subst m
      simp only [List.map_cons, List.mem_cons]
      exact ⟨.inl, fun h => h.elim id .inl⟩
    · simp only [List.map_cons, List.mem_cons, ih, or_assoc]

/-- … and of the remaining ones `convert_attributes` drops `DW_AT_GNU_locviews` and nothing else:
if it succeeds, every other attribute was converted and `set` under its own name — the names of
the output are the names of the input (minus the skip list), each once, in first-occurrence order. -/
theorem converted_names (cx : ConvUnit.Ctx) : ∀ (l : List RAttr) (acc out : List (Nat × AttrVal)),
    convertAttrs cx l acc = .ok out →
    ∀ n, (n ∈ out.map (·.1) ↔ n ∈ acc.map (·.1) ∨ ∃ a ∈ l, a.name = n ∧ n ≠ DW_AT_GNU_locviews) := by
  intro l
  induction l with
  | nil => intro acc out h; cases h; simp only [List.not_mem_nil, false_and, exists_false, or_false, implies_true]
  | cons a rest ih =>
    intro acc out h n
    rw [convertAttrs] at h
    simp only [List.mem_cons, exists_eq_or_imp]
    split at h
    · -- `DW_AT_GNU_locviews` is dropped
      rename_i hn
      have key : (a.name = n ∧ n ≠ DW_AT_GNU_locviews) ↔ False := ⟨fun h => h.2 (h.1 ▸ hn), False.elim⟩
      rw [ih acc out h n, key, false_or]
    · rename_i hn
      obtain ⟨v, -, h⟩ := Except.bind_eq_ok h
      have key : (a.name = n ∧ n ≠ DW_AT_GNU_locviews) ↔ n = a.name :=
        ⟨fun h => h.1.symm, fun h => ⟨h.symm, h ▸ hn⟩⟩
      rw [ih _ out h n, attrSet_names, key, or_assoc]

/-- the kinds whose value the conversion carries over unchanged -/
def directOut (form : Form) (v : Value) : Option AttrVal :=
  match v.kind, v.payload with
  | .block, .bytes b => some (.block b)
  | .data1, .num x => some (.data1 x)
  | .data2, .num x => some (.data2 x)
  | .data4, .num x => some (.data4 x)
  | .data8, .num x => some (.data8 x)
  | .data16, .num x => some (.data16 x)
  | .sdata, .int x => some (.sdata x)
  | .udata, .num x => some (.udata x)
  | .flag, .flag b => some (if form = .flagPresent then .flagPresent else .flag b)
  | .debugInfoRefSup, .num x => some (.debugInfoRefSup x)
  | .debugMacinfoRef, .num x => some (.debugMacinfoRef x)
  | .debugMacroRef, .num x => some (.debugMacroRef x)
  | .debugTypesRef, .num x => some (.debugTypesRef x)
  | .debugStrRefSup, .num x => some (.debugStrRefSup x)
  | .string, .bytes s => some (.string s)
  | .encoding, .num x | .decimalSign, .num x | .endianity, .num x | .accessibility, .num x
  | .visibility, .num x | .virtuality, .num x | .language, .num x | .addressClass, .num x
  | .identifierCase, .num x | .callingConvention, .num x | .inline, .num x | .ordering, .num x =>
    some (.constClass x)
  | .dwoId, .num x => some (.udata x)
  | _, _ => none

/-- **Constants, blocks, inline strings, flags, signatures, supplementary and macro offsets are
carried over exactly** — the same variant with the same payload (never a truncated, widened or
re-signed number: `Data4(x)` stays `Data4(x)`), for every name and form, with no way to fail. -/
theorem convert_attr_meaning_direct (cx : ConvUnit.Ctx) (a : RAttr) (w : AttrVal)
    (hf : a.form ≠ .implicitConst) (hd : directOut a.form (normalise a.name a.raw) = some w) :
    convertValue cx a = .ok w := by
  unfold convertValue
  rw [if_neg hf]
  generalize normalise a.name a.raw = v at hd ⊢
  obtain ⟨k, p⟩ := v
  -- along the arms of `directOut`; its last arm (`none`) contradicts `hd`
  revert hd
  fun_cases directOut a.form ⟨k, p⟩ <;> intro hd <;> cases hd
  all_goals rename_i hp hk; cases hp; cases hk; try rfl
  -- left: the flag arm, `DW_FORM_flag_present` or not
  split <;> rfl

/-- `DW_FORM_implicit_const` keeps its constant -/
theorem convert_attr_meaning_implicit (cx : ConvUnit.Ctx) (a : RAttr) (hf : a.form = .implicitConst) (v : Int)
    (hr : a.raw = ⟨.sdata, .int v⟩) : convertValue cx a = .ok (.implicitConst v) := by
  simp [convertValue, hf, hr]

/-- **References are never retargeted; a dangling reference is an error.** A `UnitRef` becomes a
reference to exactly the id that `entry_ids` (here `cx.unitRef`, any function) holds for the
referenced offset, and `InvalidUnitRef` when it holds none.  Same for `DebugInfoRef` across units
(`cx.infoRef`).  Which entry that id names is not part of this statement. -/
theorem convert_attr_meaning_ref (cx : ConvUnit.Ctx) (a : RAttr) (hf : a.form ≠ .implicitConst) (off : Nat) :
    ((normalise a.name a.raw) = ⟨.unitRef, .num off⟩ →
      convertValue cx a = match cx.unitRef off with
        | some id => .ok (.unitRef id) | none => .error .invalidUnitRef) ∧
    ((normalise a.name a.raw) = ⟨.debugInfoRef, .num off⟩ →
      convertValue cx a = match cx.infoRef off with
        | some (u, id) => .ok (.debugInfoRef u id) | none => .error .invalidDebugInfoRef) := by
  constructor <;> intro h <;> unfold convertValue <;> rw [if_neg hf, h] <;> dsimp only
  · cases cx.unitRef off <;> rfl
  · cases cx.infoRef off with
    | none => rfl
    | some p => cases p; rfl

/-- **Strings keep their bytes whatever form carried them**: `DW_FORM_strp`, the indexed forms
(`strx*`, through `.debug_str_offsets`) and `DW_FORM_line_strp` all end as a reference to the
table entry holding exactly the bytes the reader resolves (`cx.strAt`), and a failing lookup is an
error; an inline string stays inline. -/
theorem convert_attr_meaning_string (cx : ConvUnit.Ctx) (a : RAttr) (hf : a.form ≠ .implicitConst) (x : Nat) :
    ((normalise a.name a.raw) = ⟨.debugStrRef, .num x⟩ →
      convertValue cx a = (cx.strAt x).map (fun s => .stringRef (cx.strId s))) ∧
    ((normalise a.name a.raw) = ⟨.debugStrOffsetsIndex, .num x⟩ →
      convertValue cx a = (cx.strOffsetAt x >>= cx.strAt).map (fun s => .stringRef (cx.strId s))) ∧
    ((normalise a.name a.raw) = ⟨.debugLineStrRef, .num x⟩ →
      convertValue cx a = (cx.lineStrAt x).map (fun s => .lineStringRef (cx.lineStrId s))) := by
  refine ⟨?_, ?_, ?_⟩ <;> intro h <;> unfold convertValue <;> rw [if_neg hf, h] <;> dsimp only
  · cases cx.strAt x <;> rfl
  · cases cx.strOffsetAt x with
    | error e => rfl
    | ok o => simp only [bind, Except.bind]; cases cx.strAt o <;> rfl
  · cases cx.lineStrAt x <;> rfl

/-- **Addresses go through `convert_address` exactly once, directly or through `.debug_addr`;
`None` is `InvalidAddress`.** -/
theorem convert_attr_meaning_address (cx : ConvUnit.Ctx) (a : RAttr) (hf : a.form ≠ .implicitConst) (x : Nat) :
    ((normalise a.name a.raw) = ⟨.addr, .num x⟩ →
      convertValue cx a = match cx.convAddr x with
        | some y => .ok (.address y) | none => .error .invalidAddress) ∧
    ((normalise a.name a.raw) = ⟨.debugAddrIndex, .num x⟩ →
      convertValue cx a = cx.addrAt x >>= fun v => match cx.convAddr v with
        | some y => .ok (.address y) | none => .error .invalidAddress) := by
  constructor <;> intro h <;> unfold convertValue <;> rw [if_neg hf, h] <;> dsimp only
  · cases cx.convAddr x <;> rfl
  · cases cx.addrAt x with
    | error e => rfl
    | ok v => simp only [bind, Except.bind]; cases cx.convAddr v <;> rfl

/-- **A file index is mapped through the converted file table or is `InvalidFileIndex`**; index 0
before DWARF 5 means "no file" and stays that. -/
theorem convert_attr_meaning_file (cx : ConvUnit.Ctx) (a : RAttr) (hf : a.form ≠ .implicitConst) (x : Nat)
    (h : (normalise a.name a.raw) = ⟨.fileIndex, .num x⟩) :
    convertValue cx a =
      if x = 0 ∧ cx.version ≤ 4 then .ok (.fileIndex none)
      else match cx.fileId x with
        | some id => .ok (.fileIndex (some (fileRaw cx.version id)))
        | none => .error .invalidFileIndex := by
  simp only [convertValue, hf, if_false, h, convertFileIndex]
  by_cases h0 : x = 0 ∧ cx.version ≤ 4
  · simp only [h0, and_self, if_true]; rfl
  · simp only [h0, if_false]
    cases cx.fileId x <;> rfl

/-- **A section offset whose section is unknown, and the `*_base` metadata kinds, are
`InvalidAttributeValue`** — never copied as a number. -/
theorem convert_attr_untyped_offset_is_error (cx : ConvUnit.Ctx) (a : RAttr) (hf : a.form ≠ .implicitConst) (p : Payload)
    (k : Kind) (hk : k = .secOffset ∨ k = .debugAddrBase ∨ k = .debugLocListsBase ∨ k = .debugRngListsBase ∨
      k = .debugStrOffsetsBase) (h : (normalise a.name a.raw) = ⟨k, p⟩) :
    convertValue cx a = .error .invalidAttributeValue := by
  unfold convertValue
  rw [if_neg hf, h]
  rcases hk with rfl | rfl | rfl | rfl | rfl <;> rfl

/-! ## (b') converted, written, read back -/

/-- what the reader of the written form must report for a directly carried value: the input's
own payload -/
def expectedFormVal (form : Form) (v : Value) : Option FormVal :=
  match v.kind, v.payload with
  | .block, .bytes b | .string, .bytes b => some (.bytes b)
  | .data1, .num x | .data2, .num x | .data4, .num x | .data8, .num x | .data16, .num x | .udata, .num x
  | .debugInfoRefSup, .num x | .debugMacinfoRef, .num x | .debugMacroRef, .num x | .debugTypesRef, .num x
  | .debugStrRefSup, .num x | .dwoId, .num x
  | .encoding, .num x | .decimalSign, .num x | .endianity, .num x | .accessibility, .num x
  | .visibility, .num x | .virtuality, .num x | .language, .num x | .addressClass, .num x
  | .identifierCase, .num x | .callingConvention, .num x | .inline, .num x | .ordering, .num x => some (.num x)
  | .sdata, .int x => some (.int x)
  | .flag, .flag b => some (.num (if form = .flagPresent then 1 else if b then 1 else 0))
  | _, _ => none

theorem decoded_direct (wcx : WUnit.Ctx) (form : Form) (v : Value) (w : AttrVal) (fv : FormVal)
    (hd : directOut form v = some w) (he : expectedFormVal form v = some fv) : decodedFull wcx w = some fv := by
  obtain ⟨k, p⟩ := v
  revert hd
  fun_cases directOut form ⟨k, p⟩ <;> intro hd <;> cases hd
  all_goals rename_i hp hk; cases hp; cases hk; cases he; try rfl
  split <;> rfl

/-- **Convert, write, read back: the reader gets the input's own payload** — for every kind the
conversion carries over directly (constants of every width *and sign*, blocks, inline strings,
flags, signatures, supplementary and macro offsets, the enumeration classes), under every
encoding: the bytes `AttributeValue::write` emits for the converted value, read with the primitive
readers of the form `AttributeValue::form` chose (`WUnit.readFormFull`: the C09 readers incl.
`Leb.signed` — C11 `attr_bytes_decode`), give back exactly the payload the input attribute had,
and consume exactly those bytes.  (References, strings in tables and addresses: the value is an
id or a relocated address, see `convert_attr_meaning_ref/string/address` and C11's
`unit_refs_resolve` / `fixups_resolve` / `string_offset_resolves`.) -/
theorem convert_attr_write_read (cx : ConvUnit.Ctx) (wcx : WUnit.Ctx) (a : RAttr) (w : AttrVal) (fv : FormVal)
    (pos : Nat) (em : Emit) (rest : Bytes) (hf : a.form ≠ .implicitConst)
    (hd : directOut a.form (normalise a.name a.raw) = some w)
    (he : expectedFormVal a.form (normalise a.name a.raw) = some fv)
    (hr : w.InRangeFull wcx) (hemit : attrEmit wcx pos w = .ok em)
    (hso : ∀ o ∈ wcx.strOffsets, o < 2 ^ 64) (hlo : ∀ o ∈ wcx.lineStrOffsets, o < 2 ^ 64)
    (hlp : ∀ o, wcx.lineProgram = some o → o < 2 ^ 64) :
    convertValue cx a = .ok w ∧
      readFormFull wcx.endian wcx.enc (attrForm wcx.enc w).1 (attrForm wcx.enc w).2 (em.bytes ++ rest) =
        .ok (fv, rest) :=
  ⟨convert_attr_meaning_direct cx a w hf hd,
   attr_bytes_decode_full wcx pos w em fv rest hemit hr (decoded_direct wcx a.form _ w fv hd he) hso hlo hlp⟩

/-- the same for `DW_FORM_implicit_const`: the constant of the input abbreviation comes back —
from the output abbreviation in DWARF 5, as a signed LEB128 in the entry before -/
theorem convert_implicit_write_read (cx : ConvUnit.Ctx) (wcx : WUnit.Ctx) (a : RAttr) (v : Int)
    (pos : Nat) (em : Emit) (rest : Bytes) (hf : a.form = .implicitConst) (hraw : a.raw = ⟨.sdata, .int v⟩)
    (hlo : -(2 : Int) ^ 63 ≤ v) (hhi : v < 2 ^ 63) (hemit : attrEmit wcx pos (.implicitConst v) = .ok em)
    (hso : ∀ o ∈ wcx.strOffsets, o < 2 ^ 64) (hlo' : ∀ o ∈ wcx.lineStrOffsets, o < 2 ^ 64)
    (hlp : ∀ o, wcx.lineProgram = some o → o < 2 ^ 64) :
    convertValue cx a = .ok (.implicitConst v) ∧
      readFormFull wcx.endian wcx.enc (attrForm wcx.enc (.implicitConst v)).1 (attrForm wcx.enc (.implicitConst v)).2
        (em.bytes ++ rest) = .ok (.int v, rest) :=
  ⟨convert_attr_meaning_implicit cx a hf v hraw,
   attr_bytes_decode_full wcx pos _ em _ rest hemit ⟨trivial, hlo, hhi⟩ rfl hso hlo' hlp⟩

/-! ## (d) totality, and failing only for a reason -/

/-- **The conversion of a unit fails only because the unit has no root entry or because the
conversion of one particular attribute of one particular entry failed, and then with that
attribute's error** — never for the shape of the forest, the number of entries or their order.
(The Model functions are total: no input makes `convertUnit` panic or diverge.) -/
theorem convert_fails_only_on_attr (cx : ConvUnit.Ctx) (ids : Nat → Option Nat) (items : List RItem) (e : CErr)
    (h : convertUnit cx ids items = .error e) :
    items = [] ∨ ∃ it ∈ items, ∃ a ∈ it.attrs, convertValue cx a = .error e := by
  cases items with
  | nil => exact Or.inl rfl
  | cons root rest =>
    right
    rw [convertUnit] at h
    rcases Except.bind_eq_error h with h | ⟨ras, _, h⟩
    · obtain ⟨a, ha, he⟩ := convertAttrs_error cx _ _ e h
      simp only [filterAttrs, List.mem_filter] at ha
      exact ⟨root, List.mem_cons_self .., a, ha.1, he⟩
    · rcases Except.bind_eq_error h with h | ⟨es, _, h⟩
      · obtain ⟨it, hit, r⟩ := convertEntries_error cx ids rest _ e h
        exact ⟨it, List.mem_cons_of_mem _ hit, r⟩
      · cases h

/-! ## non-vacuity -/

/-- two entries below the root, the first with one child -/
def exForest : IForest :=
  .node 1 0x2e true 21 [] (.node 2 0x34 false 22 [] .nil .nil) (.node 3 0x24 false 23 [] .nil .nil)

example : exForest.WF ∧ exForest.flatten 0 = [(1, 0, 0x2e), (2, 1, 0x34), (3, 0, 0x24)] := by
  refine ⟨?_, by decide⟩
  simp [exForest, IForest.WF]

example : exForest.HasIds (fun off => if 21 ≤ off ∧ off ≤ 23 then some (off - 20) else none) := by
  simp [exForest, IForest.HasIds]

example : directOut .data4 ⟨.data4, .num 7⟩ = some (.data4 7) ∧
    expectedFormVal .data4 ⟨.data4, .num 7⟩ = some (.num 7) ∧ (AttrVal.data4 7).InRange ∧
    expectedFormVal .sdata ⟨.sdata, .int (-3)⟩ = some (.int (-3)) := by decide

end Gimli.Props.C12
