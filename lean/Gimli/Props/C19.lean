import Gimli.Lemmas.FilterGraph
/-!
# C19 — Filtered conversion output is dependency-closed, complete and minimal

Theorems about the Model in `Gimli/Model/Filter.lean` (the functions the driver executes for the
`flt-conv` correspondence). `Deps` is `FilterDependencies`; `Deps.Reachable d` is the Spec set
`Reach` (least set containing the valid required offsets and closed under recorded edges into
valid offsets) of the graph `d` denotes.
-/
namespace Gimli.Props.C19
open Gimli Gimli.Filter Gimli.Spec

/-- **`worklist_terminates`** — for every graph and required list, `get_reachable` run with fuel
`number of map entries + 2` returns a list: the worklist never diverges (each iteration pops one
list; a list is pushed only when an entry is removed from the map, which can happen at most once
per entry). More fuel gives the same answer. -/
theorem worklist_terminates (d : Deps) :
    (∃ out, getReachable d = .ok out) ∧
    (∀ out, getReachable d = .ok out → ∀ k, getReachableFuel (fuelFor d + k) d = .ok out) := by
  constructor
  · obtain ⟨out, h⟩ := loop_terminates (fuelFor d) ⟨d.edges, [], [d.required]⟩
      (by simp only [fuelFor, List.length_cons, List.length_nil]; omega)
    exact ⟨_, getReachable_eq_ok.2 ⟨out, h, rfl⟩⟩
  · intro out h k
    obtain ⟨r, hl, rfl⟩ := getReachable_eq_ok.1 h
    rw [getReachableFuel, loop_fuel_mono _ _ _ hl k]
    rfl

/-- **`reachable_sound`** — everything `get_reachable` returns is in `Reach`: it is a valid offset
connected to a valid required offset by a chain of recorded edges through valid offsets.
For ALL graphs and required lists. -/
theorem reachable_sound (d : Deps) (out : List Off) (h : getReachable d = .ok out) :
    ∀ x, x ∈ out → d.Reachable x :=
  fun x => ((getReachable_spec h).2.2 x).1

/-- **`reachable_complete`** — all of `Reach` is returned. For ALL graphs and required lists. -/
theorem reachable_complete (d : Deps) (out : List Off) (h : getReachable d = .ok out) :
    ∀ x, d.Reachable x → x ∈ out :=
  fun x => ((getReachable_spec h).2.2 x).2

/-- **`reachable_nodup_sorted`** — the returned list has no duplicates and is sorted ascending
(hence strictly ascending). -/
theorem reachable_nodup_sorted (d : Deps) (out : List Off) (h : getReachable d = .ok out) :
    out.Nodup ∧ out.Pairwise (· ≤ ·) ∧ out.Pairwise (· < ·) := by
  obtain ⟨hn, hsort, _⟩ := getReachable_spec h
  exact ⟨hn, hsort, (hsort.and hn).imp fun h => Nat.lt_of_le_of_ne h.1 h.2⟩

/-! ## the graph `read_entry` builds and the closure clauses of the property

`units` is the abstract section (per unit: header and raw entries in read order), `records units`
the entries with the parent that the `FilterUnit` stack yields. The closure clauses assume only
that the DIE offsets are distinct (`Distinct`), which holds for every section that can be read:
offsets strictly increase within a unit and units do not overlap; `run_correct` states its further
hypotheses itself. -/

/-- `x` is the offset of a DIE the filter has read -/
def IsEntry (recs : List Rec) (x : Off) : Prop := ∃ r, r ∈ recs ∧ r.off = x
/-- `x` must be kept whatever else is: the user asked for it, or the root DIE of a unit (which is
always converted) references it (`roots` = `rootReqs units rootAttrs`, fix f623d29) -/
def Required (recs : List Rec) (roots : List Off) (x : Off) : Prop :=
  (∃ r, r ∈ recs ∧ r.off = x ∧ r.e.required = true) ∨ x ∈ roots
/-- the property's relations: `x` keeps `y` if `y` is referenced by `x` (attribute, any expression
operation incl. nested ones, any location-list entry), is the parent of `x`, or is a member-like child
of the non-namespace entry `x` -/
def Dep (recs : List Rec) (x y : Off) : Prop := DepOwn recs x y ∨ DepChild recs x y

/-- the Spec closure over the abstract relations -/
def Closure (recs : List Rec) (roots : List Off) : Off → Prop :=
  Reach (IsEntry recs) (Dep recs) (Required recs roots)

/-- the graph stored in `FilterDependencies` denotes exactly the abstract relations -/
theorem reachable_iff_closure (m : Mode) (units : List (UnitHdr × List Entry)) (ras : List (List AttrRef))
    (d : Deps) (hb : buildDeps m units ras = .ok d) (hd : Distinct units) (x : Off) :
    d.Reachable x ↔ Closure (records units) (rootReqs units ras) x := by
  have G := buildDeps_graph_of_ok hb hd
  exact ⟨Reach.imp (fun y => (G.keys y).1) (fun y z => (G.edges y z).1) fun y => (G.req y).1,
    Reach.imp (fun y => (G.keys y).2) (fun y z => (G.edges y z).2) fun y => (G.req y).2⟩

/-- **`closure_exact`** — the offsets reserved by the filter are exactly the least set that
contains the required entries and the DIEs referenced by a unit root DIE, and is closed under "parent of", "referenced by" and "member-like child of a non-namespace entry": nothing is missing and nothing that
is not connected to a required entry by such a chain is kept. For ALL forests, reference graphs
and required sets. -/
theorem closure_exact (m : Mode) (units : List (UnitHdr × List Entry)) (ras : List (List AttrRef))
    (d : Deps) (out : List Off)
    (hb : buildDeps m units ras = .ok d) (hr : getReachable d = .ok out) (hd : Distinct units) (x : Off) :
    x ∈ out ↔ Closure (records units) (rootReqs units ras) x := by
  rw [← reachable_iff_closure m units ras d hb hd]
  exact (getReachable_spec hr).2.2 x

/-- **`closure_props`** — the clauses of the property, for every record `r` of the section:
1. a required entry is kept;
2. the parent of a kept entry is kept (hence all its ancestors);
3. every reference of a kept entry (attribute, expression operation — `DW_OP_implicit_pointer`,
   `DW_OP_GNU_variable_value` and operations nested in `DW_OP_entry_value` included —, every raw
   location-list entry) whose target is a DIE is kept;
4. every member-like child (`has_die_back_edge`) of a kept entry whose tag is not
   `DW_TAG_namespace` is kept;
5. everything kept is in the closure of the required entries and root references (nothing
   unconnected);
6. every DIE referenced by a unit root DIE (which is always converted) is kept (fix f623d29). -/
theorem closure_props (m : Mode) (units : List (UnitHdr × List Entry)) (ras : List (List AttrRef))
    (d : Deps) (out : List Off)
    (hb : buildDeps m units ras = .ok d) (hr : getReachable d = .ok out) (hd : Distinct units) :
    (∀ r, r ∈ records units → r.e.required = true → r.off ∈ out) ∧
    (∀ r, r ∈ records units → r.off ∈ out → ∀ po, r.parentOff = some po → po ∈ out) ∧
    (∀ r, r ∈ records units → r.off ∈ out → ∀ t, t ∈ r.refDeps → IsEntry (records units) t → t ∈ out) ∧
    (∀ r c, r ∈ records units → c ∈ records units → r.off ∈ out →
        c.parentOff = some r.off → c.backEdge = true → c.off ∈ out) ∧
    (∀ x, x ∈ out → Closure (records units) (rootReqs units ras) x) ∧
    (∀ t, t ∈ rootReqs units ras → IsEntry (records units) t → t ∈ out) := by
  have E := closure_exact m units ras d out hb hr hd
  refine ⟨?_, ?_, ?_, ?_, fun x hx => (E x).1 hx, fun t ht hv => (E _).2 (.req (Or.inr ht) hv)⟩
  · intro r hr' hq
    exact (E _).2 (.req (Or.inl ⟨r, hr', rfl, hq⟩) ⟨r, hr', rfl⟩)
  · intro r hr' hk po hp
    exact (E _).2 (.step ((E _).1 hk) (Or.inl ⟨r, hr', rfl, Rec.mem_ownDeps.2 (.inr hp)⟩) (records_parentOff hr' hp))
  · intro r hr' hk t ht hv
    exact (E _).2 (.step ((E _).1 hk) (Or.inl ⟨r, hr', rfl, Rec.mem_ownDeps.2 (.inl ht)⟩) hv)
  · intro r c _ hc hk hp hbk
    exact (E _).2 (.step ((E _).1 hk) (Or.inr ⟨c, hc, rfl, hbk, hp⟩) ⟨c, hc, rfl⟩)

/-- `entry_ids` of the unfiltered conversion: every root and every DIE -/
def allIds (units : List (UnitHdr × List Entry)) : List Off :=
  units.map (·.1.rootOff) ++ (records units).map Rec.off

/-- `entry_ids` of the filtered conversion: every root and the reserved offsets -/
def keptIds (units : List (UnitHdr × List Entry)) (out : List Off) : List Off :=
  units.map (·.1.rootOff) ++ out

/-- **`no_dangling`** — for EVERY DIE of the output, the unit roots included: an attribute that the
unfiltered conversion can convert (all its references resolve in the full `entry_ids`) is converted
by the filtered conversion too. Every reference to a DIE — from the attribute itself, from any
operation of its expression (`DW_OP_implicit_pointer`, `DW_OP_GNU_variable_value` and operations
nested in `DW_OP_entry_value`s included: up to `MAX_ENTRY_VALUE_DEPTH` = 64 levels they are
recorded, and a deeper one makes the unfiltered conversion fail with `UnsupportedOperation`, so the
hypothesis excludes it) or from any entry of its location list (entries the cooked iterator skips
included) — targets a kept DIE, so `convert_unit_ref` / `convert_debug_info_ref` (`convAttr`) never
fail for a missing entry; `run` has no write step, so nothing is stated about `write()` here (the
split path has one, `splitWriteOk`: `split_write_never_fails`).
First part: the attributes of a kept entry. Second part: the attributes of the root DIE of the
`i`-th unit (always converted; its references are required since fix f623d29). FULL STRENGTH: no
hypothesis on the kind of reference (former findings C19-1, C19-2, C19-3 are repaired:
`implicit_pointer_regression`, `skipped_loc_regression`, `root_ref_regression`). -/
theorem no_dangling (m : Mode) (units : List (UnitHdr × List Entry)) (ras : List (List AttrRef))
    (d : Deps) (out : List Off)
    (hb : buildDeps m units ras = .ok d) (hr : getReachable d = .ok out) (hd : Distinct units) :
    (∀ (r : Rec), r ∈ records units → r.off ∈ out → ∀ a, a ∈ r.e.attrs →
      convAttr (allIds units) r.unit a = none → convAttr (keptIds units out) r.unit a = none) ∧
    (∀ (i : Nat) (ue : UnitHdr × List Entry) (ra : List AttrRef), units[i]? = some ue → ras[i]? = some ra →
      ∀ a, a ∈ ra →
      convAttr (allIds units) ue.1 a = none → convAttr (keptIds units out) ue.1 a = none) := by
  obtain ⟨_, _, C3, _, _, C6⟩ := closure_props m units ras d out hb hr hd
  -- a recorded target that resolves in the full table resolves in the kept table
  have keep : ∀ t, (IsEntry (records units) t → t ∈ out) → t ∈ allIds units → t ∈ keptIds units out :=
    fun t hk hall => (List.mem_append.1 hall).elim (List.mem_append_left _) fun h1 =>
      let ⟨r', hr', ho⟩ := List.mem_map.1 h1
      List.mem_append_right _ (hk ⟨r', hr', ho⟩)
  constructor
  · intro r hrec hk a ha hfull
    exact convAttr_keep _ _ r.unit a
      (fun t ht => keep t (C3 r hrec hk t (List.mem_flatMap.2 ⟨a, ha, ht⟩))) hfull
  · intro i ue ra hu hra a ha hfull
    exact convAttr_keep _ _ ue.1 a
      (fun t ht => keep t (C6 t (mem_rootReqs units ras i ue ra hu hra a ha t ht))) hfull

/-- **`conversion_monotone`** — reference resolution is monotone in `entry_ids`: an attribute that
the filtered conversion (fewer ids) converts is converted by the unfiltered one as well, so
filtering can only turn a convertible attribute into a `ConvertError`, never the reverse; together
with `no_dangling` the two conversions agree on every attribute of every output DIE. -/
theorem conversion_monotone (ids ids' : List Off) (hsub : ∀ x, x ∈ ids → x ∈ ids') (u : UnitHdr)
    (a : AttrRef) (h : convAttr ids u a = none) : convAttr ids' u a = none := by
  exact convAttr_keep ids ids' u a (fun t _ => hsub t) h

/-- **`convert_parent_links`** — `ConvertUnit::read_entry` (its own depth stack, on which only
reserved entries are pushed) gives every reserved entry exactly the parent that the `FilterUnit`
stack found for it (the unit root if it has none), and outputs exactly the reserved entries in
read order — provided the reserved set is closed under "parent of" (clause 2 of `closure_props`)
and the entries lie below the root (`depth > 0`). For ALL entry sequences and reserved sets. -/
theorem convert_parent_links (ids : List Off) (u : UnitHdr) (es : List Entry)
    (res : List (Off × Option Off))
    (hdepth : ∀ e, e ∈ es → 0 < e.depth)
    (hclosed : ∀ ep, ep ∈ withParents [] es → ids.contains (u.base + ep.1.off) = true →
        ∀ p, ep.2 = some p → ids.contains (u.base + p.off) = true)
    (h : convertEntries ids u [(0, u.rootOff)] es [] = .ok res) :
    res = filterLinks ids u [] es := by
  exact convertEntries_filterLinks ids u es res hdepth hclosed h

/-- **`partition_by_unit`** — `new_with_filter` splits the sorted reachable list into per-unit
slices exactly: if the units are listed in ascending, non-overlapping order and every offset lies
in some unit, then the slice reserved for a unit is precisely the offsets inside that unit,
nothing is left over (`debug_assert_eq!(end, offsets.len())` holds, in debug and release), and an
offset is reserved in unit `u` iff `u` contains it. -/
theorem partition_by_unit (m : Mode) (units : List UnitHdr) (offs : List Off)
    (hsorted : offs.Pairwise (· ≤ ·))
    (hunits : units.Pairwise (fun u v => u.endOff ≤ v.base))
    (hcover : ∀ o, o ∈ offs → ∃ u, u ∈ units ∧ u.containsOff o = true) :
    partition units offs = (units.map (fun u => offs.filter u.containsOff), []) ∧
    reserve m units offs = .ok (units.map (fun u => offs.filter u.containsOff)) ∧
    (∀ (o : Off) (u : UnitHdr), o ∈ offs.filter u.containsOff ↔ o ∈ offs ∧ u.containsOff o = true) := by
  have h := partition_sorted units offs hsorted hunits hcover
  refine ⟨h, ?_, fun o u => List.mem_filter⟩
  simp [reserve, h]

theorem closure_covered {units : List (UnitHdr × List Entry)} (wf : WellFormed units) {roots : List Off}
    {x : Off} (h : Closure (records units) roots x) :
    ∃ u, u ∈ units.map (·.1) ∧ u.containsOff x = true := by
  obtain ⟨r, hr, rfl⟩ := h.valid'
  exact wf.covered hr

/-- **`pipeline_total`** — on every well-formed section, for every required set and in both build
modes, the filter pass returns a graph (`add_edge`'s `unwrap` and `add_entry`'s `debug_assert!`
never fire), `get_reachable` returns exactly the closure, `new_with_filter` reserves exactly the
closure offsets of each unit with nothing left over (`debug_assert_eq!(end, offsets.len())` holds),
and the outcome of the Model's `run` is the conversion of exactly those entries: `converted` or a
`ConvertError` from `convert_unit_ref`/`convert_debug_info_ref`, never a panic or fuel exhaustion.
`ras` are the reference attributes of the unit root DIEs. -/
theorem pipeline_total (m : Mode) (units : List (UnitHdr × List Entry)) (ras : List (List AttrRef))
    (wf : WellFormed units) :
    ∃ d out, buildDeps m units ras = .ok d ∧ getReachable d = .ok out ∧
      (∀ x, x ∈ out ↔ Closure (records units) (rootReqs units ras) x) ∧
      reserve m (units.map (·.1)) out = .ok ((units.map (·.1)).map (fun u => out.filter u.containsOff)) ∧
      run m units ras =
        (match convertUnits (units.map (·.1.rootOff) ++
            ((units.map (·.1)).map (fun u => out.filter u.containsOff)).flatten) units ras with
         | .ok us => .converted ((units.map (·.1)).map (fun u => out.filter u.containsOff)) us
         | .error e => .convErr e) := by
  obtain ⟨d, hb, _⟩ := buildDeps_graph m units ras wf.distinct
  obtain ⟨⟨out, hr⟩, _⟩ := worklist_terminates d
  have hE := closure_exact m units ras d out hb hr wf.distinct
  obtain ⟨_, hres, _⟩ := partition_by_unit m (units.map (·.1)) out
    (reachable_nodup_sorted d out hr).2.1 wf.ascending fun o ho => closure_covered wf ((hE o).1 ho)
  refine ⟨d, out, hb, hr, hE, hres, ?_⟩
  simp only [run, hb, hr, hres]
  cases convertUnits _ units ras <;> rfl

/-- **`run_correct`** — the whole Model pipeline (`run`: filter pass, `get_reachable`, reservation
by unit, conversion with skipping) on a well-formed section whose entries lie below the root and
never share an offset with a unit root: the outcome is never a panic or fuel exhaustion; it is
either a `ConvertError` raised by reference resolution, or `converted parts us` where
`parts` are exactly the closure offsets of each unit (the least set containing the required entries
and the DIEs referenced by unit roots, closed under parent / reference / member-like child of a non-namespace entry, sorted) and `us`
lists, per unit, exactly those entries in read order, each with the parent it has in the input
(the unit root for top-level entries). For ALL forests, reference graphs, required sets, modes. -/
theorem run_correct (m : Mode) (units : List (UnitHdr × List Entry)) (ras : List (List AttrRef))
    (wf : WellFormed units)
    (hdepth : ∀ ue, ue ∈ units → ∀ e, e ∈ ue.2 → 0 < e.depth)
    (hroot : ∀ r, r ∈ records units → ∀ ue, ue ∈ units → r.off ≠ ue.1.rootOff) :
    ∃ out : List Off, (∀ x, x ∈ out ↔ Closure (records units) (rootReqs units ras) x) ∧
      out.Pairwise (· < ·) ∧
      ((∃ e, run m units ras = .convErr e) ∨
       run m units ras =
        .converted ((units.map (·.1)).map (fun u => out.filter u.containsOff))
          (units.map (fun ue => filterLinks
            (units.map (·.1.rootOff) ++ ((units.map (·.1)).map (fun u => out.filter u.containsOff)).flatten)
            ue.1 [] ue.2))) := by
  obtain ⟨d, out, hb, hr, hE, _, hrun⟩ := pipeline_total m units ras wf
  refine ⟨out, hE, (reachable_nodup_sorted d out hr).2.2, ?_⟩
  rw [hrun]
  generalize hids : (units.map (·.1.rootOff) ++
    ((units.map (·.1)).map (fun u => out.filter u.containsOff)).flatten) = ids
  cases hc : convertUnits ids units ras with
  | error e => exact Or.inl ⟨e, rfl⟩
  | ok us =>
    obtain ⟨_, C2, _⟩ := closure_props m units ras d out hb hr wf.distinct
    refine .inr (congrArg _ (convertUnits_links ids (· ∈ out) units ras us (fun ue hue =>
      ⟨hdepth ue hue, fun e he => ?_, fun r hrec => C2 r (List.mem_flatMap.2 ⟨ue, hue, hrec⟩)⟩) hc))
    -- the id table holds the unit roots and the kept offsets of each unit; an entry is not a root
    obtain ⟨r, hrec, ho⟩ := unitRecs_of_mem he
    rw [← ho, List.contains_iff_mem, ← hids, List.mem_append, mem_flatten_filter]
    refine ⟨fun h => h.elim (fun hroot' => ?_) (·.1),
      fun hx => .inr ⟨hx, wf.covered (List.mem_flatMap.2 ⟨ue, hue, hrec⟩)⟩⟩
    obtain ⟨ve, hve, hv⟩ := List.mem_map.1 hroot'
    exact (hroot r (List.mem_flatMap.2 ⟨ue, hue, hrec⟩) ve hve hv.symm).elim

/-! ## split DWARF: the first unit of the split section is the one converted -/

/-- `runSplit` once the filter pass and `get_reachable` have returned -/
theorem runSplit_eq {m : Mode} {ue : UnitHdr × List Entry} {rest : List (UnitHdr × List Entry)}
    {ras : List (List AttrRef)} {d : Deps} {out : List Off}
    (hb : buildDeps m (ue :: rest) ras = .ok d) (hr : getReachable d = .ok out) :
    runSplit m (ue :: rest) ras =
      match convertUnits (ue.1.rootOff :: out.filter ue.1.containsOff) [ue] ras with
      | .error e => .convErr e
      | .ok us =>
        if splitWriteOk (ue.1.rootOff :: out.filter ue.1.containsOff) ue.1 ue.2 (ras.headD []) (us.headD [])
        then .converted [out.filter ue.1.containsOff] us else .writeErr := by
  simp only [runSplit, hb, hr]
  rfl

/-- **`split_converts_first_unit`** — split DWARF with ANY number of units in the split section: the
filter walks them all, so reachability ranges over the whole section, and the filtered split
conversion (`new_split` + `convert_split_with_filter`) converts the FIRST unit: when it succeeds
its output is exactly the reachable entries of the first unit, in read order, each with its input
parent — which is the output of the unfiltered `convert_split` (all entries of the first unit)
restricted to the reachable offsets — whatever other units follow. -/
theorem split_converts_first_unit (m : Mode) (ue : UnitHdr × List Entry) (rest : List (UnitHdr × List Entry))
    (ras : List (List AttrRef)) (parts : List (List Off)) (us : List (List (Off × Option Off)))
    (h : runSplit m (ue :: rest) ras = .converted parts us)
    (hd : Distinct (ue :: rest))
    (hdepth : ∀ e, e ∈ ue.2 → 0 < e.depth)
    (hroot : ∀ e, e ∈ ue.2 → ue.1.base + e.off ≠ ue.1.rootOff)
    (hinside : ∀ e, e ∈ ue.2 → ue.1.inBounds e.off = true) :
    ∃ out : List Off, parts = [out.filter ue.1.containsOff] ∧
      (∀ x, x ∈ out ↔ Closure (records (ue :: rest)) (rootReqs (ue :: rest) ras) x) ∧
      us = [filterLinks (ue.1.rootOff :: out.filter ue.1.containsOff) ue.1 [] ue.2] ∧
      (∀ offs usAll, runSplitUnfiltered (ue :: rest) ras = .converted offs usAll →
        us = usAll.map (fun l => l.filter (fun p => out.contains p.1))) := by
  obtain ⟨d, hb, _⟩ := buildDeps_graph m (ue :: rest) ras hd
  obtain ⟨⟨out, hr⟩, _⟩ := worklist_terminates d
  obtain ⟨_, C2, _⟩ := closure_props m (ue :: rest) ras d out hb hr hd
  rw [runSplit_eq hb hr] at h
  cases hc : convertUnits (ue.1.rootOff :: out.filter ue.1.containsOff) [ue] ras with
  | error e => rw [hc] at h; cases h
  | ok us' =>
    simp only [hc] at h
    split at h
    case isFalse => cases h
    cases h
    -- which entry offsets of the first unit are in the two id tables
    have hids : ∀ e, e ∈ ue.2 → (ue.1.rootOff :: out.filter ue.1.containsOff).contains (ue.1.base + e.off) =
        out.contains (ue.1.base + e.off) := fun e he => by
      simp [hroot e he, containsOff_entry ue.1 e.off (hinside e he)]
    have hall : ∀ e, e ∈ ue.2 →
        (ue.1.rootOff :: ue.2.map (fun e => ue.1.base + e.off)).contains (ue.1.base + e.off) = true :=
      fun e he => List.contains_iff_mem.2 (List.mem_cons_of_mem _ (List.mem_map_of_mem he))
    have hlinks := convertUnits_links _ (· ∈ out) [ue] ras us (List.forall_mem_singleton.2
      ⟨hdepth, fun e he => by rw [hids e he, List.contains_iff_mem],
        fun r hr' => C2 r (List.mem_flatMap.2 ⟨ue, List.mem_cons_self, hr'⟩)⟩) hc
    refine ⟨out, rfl, closure_exact m (ue :: rest) ras d out hb hr hd, hlinks, fun offs usAll hu => ?_⟩
    rw [runSplitUnfiltered] at hu
    split at hu
    · cases hu
    · next ua hca =>
      cases hu
      rw [hlinks, convertUnits_links _ (fun _ => True) [ue] ras usAll (List.forall_mem_singleton.2
        ⟨hdepth, fun e he => iff_true_intro (hall e he), fun _ _ _ _ _ => trivial⟩) hca]
      exact congrArg (· :: []) (filterLinks_filter _ _ ue.1 [] ue.2 out.contains fun e he => by
        rw [hids e he, hall e he, Bool.true_and])

/-- **`split_write_never_fails`** — "writing never fails for a missing reference", split path: on a
well-formed split section (any number of units, any required set, any root attributes, both
modes) the filtered split conversion never ends in `writeErr`: since fix aa527e6 only offsets
inside the converted unit are reserved, every reserved offset is a DIE of that unit and is added,
so every reference that the conversion resolved is resolved by `write` too (former finding C19-4;
`split_foreign_ref_regression`). -/
theorem split_write_never_fails (m : Mode) (ue : UnitHdr × List Entry) (rest : List (UnitHdr × List Entry))
    (ras : List (List AttrRef)) (wf : WellFormed (ue :: rest)) :
    runSplit m (ue :: rest) ras ≠ .writeErr := by
  obtain ⟨d, hb, _⟩ := buildDeps_graph m (ue :: rest) ras wf.distinct
  obtain ⟨⟨out, hr⟩, _⟩ := worklist_terminates d
  have hE := closure_exact m (ue :: rest) ras d out hb hr wf.distinct
  rw [runSplit_eq hb hr]
  cases hc : convertUnits (ue.1.rootOff :: out.filter ue.1.containsOff) [ue] ras with
  | error e => exact Outcome.noConfusion
  | ok us =>
    obtain ⟨r, rs, hra, hce, _, rfl⟩ := convertUnits_cons_ok hc
    -- a reserved offset is a kept offset inside the first unit, hence a DIE of that unit
    have hok := splitWriteOk_of_converted (fun t ht => (List.mem_cons.1 ht).imp_right fun ht' => by
      obtain ⟨hto, htc⟩ := List.mem_filter.1 ht'
      obtain ⟨rc, hrec, rfl⟩ := ((hE t).1 hto).valid'
      obtain ⟨hu, he⟩ := wf.mem_first hrec htc
      rw [Rec.off, hu]
      exact List.mem_map_of_mem (f := fun e => ue.1.base + e.off) he) hra hce
    simp only [List.headD_cons, hok, if_true]
    exact Outcome.noConfusion

/-! ## the tag tables regenerated from the Rust source -/

/-- the extractor understood `has_die_back_edge` and the `read_entry` condition -/
theorem table_fresh : Tables.FilterTags.stale = [] := by decide +kernel

/-- **`entry_value_depth_pinned`** — `MAX_ENTRY_VALUE_DEPTH` as extracted from `src/write/op.rs` is 64,
and the extractor found both uses of it (`table_fresh`): the filter scans an operation nested in
`k` `DW_OP_entry_value`s iff `k ≤ 64`, which is exactly when `Expression::from` does not reject
the expression for its nesting — the two bounds coincide, so a reference is either recorded or
sits in an expression that cannot be converted (filtered or not). -/
theorem entry_value_depth_pinned :
    Tables.FilterTags.maxEntryValueDepth = 64 ∧
    (∀ k, scansDepth k = true ↔ k ≤ 64) ∧
    (∀ ids u k v, scansDepth k = false →
      convOp ids u (.nestedUnitRef k v) = some .unsupportedOperation ∧
      convOp ids u (.nestedInfoRef k v) = some .unsupportedOperation ∧
      convOp ids u (.nestedPlain k) = some .unsupportedOperation ∧
      opDeps u (.nestedUnitRef k v) = [] ∧ opDeps u (.nestedInfoRef k v) = []) := by
  have h64 : Tables.FilterTags.maxEntryValueDepth = 64 := by decide +kernel
  refine ⟨h64, fun k => ?_, fun ids u k v hk => ?_⟩
  · rw [scansDepth, decide_eq_true_eq, h64]
  · simp [convOp, opDeps, hk]

/-- the "standalone" tags (types, namespaces, modules, imports, …: not kept alive by their parent),
written by hand from the intent documented in the source -/
def standaloneTags : List Nat :=
  [0x01, 0x47, 0x24, 0x02, 0x26, 0x36, 0x03, 0x04, 0x0f, 0x1f, 0x10, 0x37, 0x42, 0x12, 0x13, 0x16,
   0x17, 0x3b, 0x35, 0x44, 0x1a, 0x46, 0x29, 0x4b, 0x38, 0x20, 0x40, 0x15, 0x2d, 0x43, 0x2b, 0x39,
   0x3d, 0x08, 0x3a, 0x1e]

/-- **`backedge_table_pinned`** — the tables extracted from the Rust source are exactly: the 36
standalone tags give no back edge, `DW_TAG_subprogram` gives one iff it is a declaration, every
other tag gives one; the only parent tag that never keeps a child alive is `DW_TAG_namespace`.
A change of the lists in `src/write/unit.rs` makes this theorem fail on the next run. -/
theorem backedge_table_pinned :
    Tables.FilterTags.noBackEdge.map (·.2) = standaloneTags ∧
    Tables.FilterTags.declBackEdge.map (·.2) = [0x2e] ∧
    Tables.FilterTags.defaultBackEdge = true ∧
    Tables.FilterTags.noChildEdgeParent.map (·.2) = [0x39] := by decide +kernel

theorem hasBackEdge_eq (t : Nat) (decl : Bool) :
    hasBackEdge t decl = if t ∈ standaloneTags then false else if t = 0x2e then decl else true := by
  obtain ⟨hn, hd, hdef, _⟩ := backedge_table_pinned
  simp only [hasBackEdge, tagIn_eq_true, hn, hd, hdef, List.mem_singleton]

/-- **`member_like_have_back_edge`** — the member-like tags the property names (parameters,
members, local variables, blocks and the like) have a back edge, whatever `DW_AT_declaration`
says: formal_parameter, member, variable, lexical_block, inlined_subroutine, enumerator,
unspecified_parameters, inheritance, template type/value parameter, label, subrange_type, variant,
variant_part, call_site, call_site_parameter, GNU_call_site(_parameter) — and so does every tag
that is not in the standalone list (unknown and vendor tags included). -/
theorem member_like_have_back_edge :
    (∀ t, t ∈ [0x05, 0x0d, 0x34, 0x0b, 0x1d, 0x28, 0x18, 0x1c, 0x2f, 0x30, 0x0a, 0x21, 0x19, 0x33,
        0x48, 0x49, 0x4109, 0x410a] → ∀ decl, hasBackEdge t decl = true) ∧
    (∀ t decl, t ∉ standaloneTags → t ≠ 0x2e → hasBackEdge t decl = true) :=
  ⟨by decide +kernel, fun t decl h1 h2 => by rw [hasBackEdge_eq, if_neg h1, if_neg h2]⟩

/-- **`standalone_have_no_back_edge`** — types, namespaces, modules and imports are kept only when
something references them (or a descendant is kept); a `DW_TAG_subprogram` is kept by its parent
iff it is a declaration; a namespace keeps none of its children alive. -/
theorem standalone_have_no_back_edge :
    (∀ t, t ∈ standaloneTags → ∀ decl, hasBackEdge t decl = false) ∧
    (∀ decl, hasBackEdge 0x2e decl = decl) ∧
    parentAllowsChildEdge 0x39 = false ∧
    (∀ t, t ≠ 0x39 → parentAllowsChildEdge t = true) := by
  obtain ⟨_, _, _, hc⟩ := backedge_table_pinned
  refine ⟨fun t ht decl => by rw [hasBackEdge_eq, if_pos ht], by decide +kernel, by decide +kernel,
    fun t ht => ?_⟩
  rw [parentAllowsChildEdge, Bool.not_eq_true', Bool.eq_false_iff]
  exact fun h => ht (List.mem_singleton.1 (hc ▸ tagIn_eq_true.1 h))

/-! ### the hypotheses are satisfiable / the statements are not vacuous -/

/-- a graph with a cycle, an edge to an offset that is not a DIE (99) and an unreachable entry -/
def exDeps : Deps :=
  { edges := [(10, [20, 99]), (20, [30, 10]), (30, [20]), (40, [10])], required := [20, 77] }

example : getReachable exDeps = .ok [10, 20, 30] := by decide +kernel
example : exDeps.Reachable 30 :=
  .step (x := 20) (.req (show 20 ∈ exDeps.required by decide) (show exDeps.edges.contains 20 = true by decide))
    ⟨[30, 10], by decide, by decide⟩ (show exDeps.edges.contains 30 = true by decide)

/-- unit 0 (header 11 bytes, root DIE 4 bytes): `15` namespace ⊃ `23` structure_type (required) ⊃
`31` member with a `DW_FORM_ref_addr` to `65`; `39` subprogram definition (not kept by anything);
unit 1: `65` base_type, `73` variable -/
def exUnit0 : List Entry :=
  [ ⟨15, 1, true, 0x39, false, [], false⟩,
    ⟨23, 2, true, 0x13, false, [], true⟩,
    ⟨31, 3, false, 0x0d, false, [.infoRef 65], false⟩,
    ⟨39, 1, false, 0x2e, false, [.unitRef 23], false⟩ ]

def exForest : List (UnitHdr × List Entry) :=
  [ (⟨0, 11, 36⟩, exUnit0),
    (⟨50, 11, 20⟩,
      [ ⟨15, 1, false, 0x24, false, [], false⟩,
        ⟨23, 1, false, 0x34, false, [], false⟩ ]) ]

example : Distinct exForest := by unfold Distinct; decide +kernel
example : run .debug exForest =
    .converted [[15, 23, 31], [65]] [[(15, some 11), (23, some 15), (31, some 23)], [(65, some 61)]] := by
  decide +kernel
example : (buildDeps .release exForest).isOk = true := by decide +kernel
/-- … and of `run_correct` -/
example : ∀ r, r ∈ records exForest → ∀ ue, ue ∈ exForest → r.off ≠ ue.1.rootOff := by decide +kernel
example : ∀ ue, ue ∈ exForest → ∀ e, e ∈ ue.2 → 0 < e.depth := by decide +kernel

example : WellFormed exForest := ⟨by unfold Distinct; decide, by decide, by decide⟩
/-- … and `partition_by_unit`'s hypotheses hold for the example's units and result -/
example : [(⟨0, 11, 36⟩ : UnitHdr), ⟨50, 11, 20⟩].Pairwise (fun u v => u.endOff ≤ v.base) := by decide +kernel

example : (convertEntries [11, 15, 23, 31, 65] ⟨0, 11, 36⟩ [(0, 11)] exUnit0 []).toOption =
    some (filterLinks [11, 15, 23, 31, 65] ⟨0, 11, 36⟩ [] exUnit0) := by decide +kernel

/-- former finding C19-1 (repaired by 6341b4d): a required subprogram (`15`) whose location
expression has a `DW_OP_implicit_pointer` to the root-level variable `23`, which nothing else keeps -/
def exImplicitPointer : List (UnitHdr × List Entry) :=
  [ (⟨0, 11, 20⟩,
      [ ⟨15, 1, false, 0x2e, false, [.expr [.implicitRef 23, .nestedUnitRef 64 23]], true⟩,
        ⟨23, 1, false, 0x34, false, [], false⟩ ]) ]

/-- **`implicit_pointer_regression`** — the repaired filter records the edge: `23` is reserved and
the filtered conversion succeeds (without the repair it ends in `InvalidDebugInfoRef`) -/
theorem implicit_pointer_regression :
    run .debug exImplicitPointer = .converted [[15, 23]] [[(15, some 11), (23, some 11)]] := by decide +kernel

/-- former finding C19-2 (repaired by 34014b9): the same with a `DW_OP_call4` inside a location-list
entry whose range is empty (`begin = end`), which the cooked `LocListIter` skips (and the
conversion drops after converting its expression) -/
def exSkippedLoc : List (UnitHdr × List Entry) :=
  [ (⟨0, 11, 20⟩,
      [ ⟨15, 1, false, 0x2e, false, [.loclist [(false, [.unitRef 23])]], true⟩,
        ⟨23, 1, false, 0x34, false, [], false⟩ ]) ]

/-- **`skipped_loc_regression`** — the repaired filter walks the raw entries: `23` is reserved and
the filtered conversion succeeds (without the repair it ends in `InvalidUnitRef`) -/
theorem skipped_loc_regression :
    run .debug exSkippedLoc = .converted [[15, 23]] [[(15, some 11), (23, some 11)]] := by decide +kernel

/-- fix 8679173: a reference nested in 64 `DW_OP_entry_value`s is recorded and converted (see
`exImplicitPointer`), one nested in 65 is not recorded and the conversion of the expression fails
for its nesting, filtered or not -/
def exDeepNesting : List (UnitHdr × List Entry) :=
  [ (⟨0, 11, 20⟩,
      [ ⟨15, 1, false, 0x2e, false, [.expr [.nestedUnitRef 65 23]], true⟩,
        ⟨23, 1, false, 0x34, false, [], false⟩ ]) ]

theorem entry_value_nesting_regression :
    run .debug exDeepNesting = .convErr .unsupportedOperation ∧
    (convertUnits (allIds exDeepNesting) exDeepNesting []).toBool = false := by decide +kernel

/-- former finding C19-3 (repaired by f623d29): the unit root DIE (always converted) references the
DIE `15`, which nothing else keeps -/
def exRootRef : List (UnitHdr × List Entry) :=
  [ (⟨0, 11, 20⟩,
      [ ⟨15, 1, false, 0x24, false, [], false⟩,
        ⟨23, 1, false, 0x34, false, [], true⟩ ]) ]

/-- **`root_ref_regression`** — the repaired `FilterUnit::new` requires what the root references:
`15` is reserved and the filtered conversion succeeds (without the repair it ends in
`InvalidUnitRef` on the root); without the root attribute `15` is dropped -/
theorem root_ref_regression :
    run .debug exRootRef [[.unitRef 15]] = .converted [[15, 23]] [[(15, some 11), (23, some 11)]] ∧
    run .debug exRootRef [] = .converted [[23]] [[(23, some 11)]] := by decide +kernel

example : rootReqs exRootRef [[.unitRef 15, .infoRef 999]] = [15, 999] := by decide +kernel

/-- a split section of two units: the split compilation unit (`15` subprogram ⊃ `23` parameter,
`31` variable) and a second unit whose required DIE `65` references `31` -/
def exSplit : List (UnitHdr × List Entry) :=
  [ (⟨0, 11, 28⟩,
      [ ⟨15, 1, true, 0x2e, false, [], false⟩,
        ⟨23, 2, false, 0x05, false, [], false⟩,
        ⟨31, 1, false, 0x34, false, [], false⟩ ]),
    (⟨50, 11, 12⟩, [ ⟨15, 1, false, 0x13, false, [.infoRef 31], true⟩ ]) ]

/-- the filtered split conversion keeps `31` of the first unit (referenced from the second) and
nothing of the second unit; seed C19-d (taking the last unit) would yield `65` instead -/
example : runSplit .debug exSplit = .converted [[31]] [[(31, some 11)]] := by decide +kernel
example : WellFormed exSplit := ⟨by unfold Distinct; decide, by decide, by decide⟩
example : runSplitUnfiltered exSplit = .converted [[15, 23, 31]] [[(15, some 11), (23, some 15), (31, some 11)]] := by
  decide +kernel
/-- former finding C19-4 (repaired by aa527e6): the first unit references a DIE of the second by
section offset — the offset is not reserved, so the conversion reports the reference (as the
unfiltered `convert_split` does) instead of `write()` failing -/
def exSplitForeignRef : List (UnitHdr × List Entry) := [ (⟨0, 11, 12⟩, [ ⟨15, 1, false, 0x2e, false, [.infoRef 65], true⟩ ]),
    (⟨50, 11, 12⟩, [ ⟨15, 1, false, 0x13, false, [], false⟩ ]) ]

theorem split_foreign_ref_regression :
    runSplit .debug exSplitForeignRef = .convErr .invalidDebugInfoRef ∧
    runSplitUnfiltered exSplitForeignRef = .convErr .invalidDebugInfoRef := by decide +kernel

end Gimli.Props.C19
