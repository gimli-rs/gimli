import Gimli.Model.ConvCfi
import Gimli.Model.ConvLine
import Gimli.Lemmas.ConvFrame
/-!
# C12 — read-to-write conversion preserves meaning or fails; never silently alters

Per-component theorems of the form "either an error, or the meaning is preserved". This file:
the arithmetic of frame-table conversion (alignment factors, factored offsets, advances) and the
address handling of line-program conversion (`DW_LNE_set_address` inside a sequence) on an
address-only instruction set. The components themselves are in the sibling files: `C12Cfi` (frame
tables), `C12Expr` and `C12Vtable` (expressions), `C12Lists` (range and location lists), `C12Unit`
(forest and attributes), `C12Line` and `C12LineRows` (line programs, all registers), `C12Compose`
(the expression converter inside the frame-table and list components). The composition over a whole
`Dwarf` is established by the differential run and its semantic-dump oracle (see props/C12.json).
-/
namespace Gimli.Props.C12
open Gimli Gimli.ConvCfi Gimli.ConvLine

/-! ## frame tables -/

/-- alignment factors are never silently narrowed: a code alignment factor converts iff it fits
the writer's `u8` (unchecked, 256 becomes 0) -/
theorem cfi_code_factor_narrow (caf : Nat) :
    (narrowU8 caf = .ok caf ∧ caf < 256) ∨ (narrowU8 caf = .err .wValueTooLarge ∧ 256 ≤ caf) := by
  unfold narrowU8; by_cases h : caf < 256 <;> simp [h] <;> omega

theorem cfi_data_factor_narrow (daf : Int) :
    (narrowI8 daf = .ok daf ∧ -128 ≤ daf ∧ daf < 128) ∨
      (narrowI8 daf = .err .wValueTooLarge ∧ ¬ (-128 ≤ daf ∧ daf < 128)) := by
  unfold narrowI8; by_cases h : -128 ≤ daf ∧ daf < 128 <;> simp [h]

/-- **a converted data offset is the exact product** `factored * data_alignment_factor` (what the
reader means by the operand), within `i32`; otherwise the conversion fails — never a truncated or
wrapped offset -/
theorem cfi_data_offset_exact (daf f off : Int) (h : dataOffset daf f = .ok off) :
    off = f * daf ∧ inI32 off :=
  (ConvFrame.dataOffset_ensures daf f).2 _ h

theorem cfi_data_offset_total (daf f : Int) :
    (∃ off, dataOffset daf f = .ok off) ∨ dataOffset daf f = .err .wValueTooLarge := by
  unfold dataOffset narrowI32
  by_cases h1 : inI64 (f * daf) <;> by_cases h2 : inI32 (f * daf) <;> simp [h1, h2]

/-- **writing re-factors exactly**: if the writer accepts an offset under factor `d`, the factored
operand it emits means the same offset again (`f' * d = off`); offsets that are not multiples of the
factor, a zero factor and the `i32::MIN / -1` overflow are errors -/
theorem cfi_refactor_exact (off d f' : Int) (h : factoredDataOffset off d = .ok f') :
    f' * d = off ∧ d ≠ 0 :=
  have ⟨h1, _, h3⟩ := (WCfi.data_ok_iff off d f').mp h
  ⟨h3.symm, h1⟩

/-- composition: reader meaning → converter → writer → reader meaning is the identity on data
offsets, for every factored operand and every alignment factor, whenever both steps succeed -/
theorem cfi_data_offset_roundtrip (daf f off f' : Int)
    (h1 : dataOffset daf f = .ok off) (h2 : factoredDataOffset off daf = .ok f') :
    f' * daf = f * daf := by
  rw [(cfi_refactor_exact off daf f' h2).1, (cfi_data_offset_exact daf f off h1).1]

/-- code offsets: the converted location is the exact sum, or the conversion fails -/
theorem cfi_advance_exact (caf offset delta off' : Nat) (h : advance caf offset delta = .ok off') :
    off' = offset + delta * caf ∧ off' < 2 ^ 32 :=
  have ⟨hsum, _, hlt⟩ := (ConvFrame.advance_ensures caf offset delta).2 _ h
  ⟨hsum, hlt⟩

/-- and the writer's advance re-factors exactly (or rejects a decreasing / unaligned offset or a
zero factor) -/
theorem cfi_code_delta_exact (prev off factor d : Nat) (h : factoredCodeDelta prev off factor = .ok d) :
    d * factor = off - prev ∧ prev ≤ off ∧ factor ≠ 0 :=
  have ⟨h1, h2, h3⟩ := (WCfi.code_ok_iff prev off factor d).mp h
  ⟨h3.symm, h1, h2⟩

/-! ## line programs: `DW_LNE_set_address` inside a sequence, tombstones -/

/-- what relates the reader on the source program (`addr`, `tomb`, `opn`), the converter (`rel`,
`fa`, `tomb`, `p`, `opn`), the writer (`prev`) and the reader on the written program (`cur`, not
tombstoned, same `opn`) -/
structure LInv (T rel fa : Nat) (tomb : Bool) (p : Option Nat) (prev cur addr : Nat) (opn : Bool) : Prop where
  live : tomb = false → addr = fa + rel
  frozen : tomb = true → addr = fa
  none_ : p = none → prev ≤ rel ∧ cur + (rel - prev) = addr
  some_ : ∀ a, p = some a → cur ≤ a ∧ a < T ∧ addr = a + rel
  le : cur ≤ addr
  closed : opn = false → cur = 0 ∧ prev = 0

theorem isTomb_false {T addr a : Nat} (h : isTomb T addr a = false) : addr ≤ a ∧ a < T := by
  simp [isTomb] at h; omega

theorem isTomb_of {T cur a : Nat} (h1 : cur ≤ a) (h2 : a < T) : isTomb T cur a = false := by
  simp [isTomb]; omega


theorem LInv.fresh (T : Nat) : LInv T 0 0 false none 0 0 0 false :=
  ⟨by simp, by simp, by simp, by simp, by omega, by simp⟩

theorem line_addresses_aux (T : Nat) (is : List Ins) :
    ∀ (rel fa : Nat) (tomb : Bool) (p : Option Nat) (prev cur addr : Nat) (opn : Bool),
      LInv T rel fa tomb p prev cur addr opn →
      readRows T cur false opn (emit prev (convert T rel fa tomb p opn is)) = readRows T addr tomb opn is := by
  have fresh := LInv.fresh T
  induction is with
  | nil => intro rel fa tomb p prev cur addr opn _; simp [convert, emit, readRows]
  | cons i is ih =>
    intro rel fa tomb p prev cur addr opn inv
    cases i with
    | setAddress a =>
      have hfa : (if tomb then fa else fa + rel) = addr := by
        cases tomb
        · simp [inv.live rfl]
        · simp [inv.frozen rfl]
      simp only [convert, readRows, hfa]
      cases ht : isTomb T addr a with
      | true =>
        simp only [if_true]
        refine ih rel addr true p prev cur addr opn ?_
        exact ⟨by simp, by simp, inv.none_, inv.some_, inv.le, inv.closed⟩
      | false =>
        simp only [Bool.false_eq_true, if_false]
        have ⟨h1, h2⟩ := isTomb_false ht
        have := inv.le
        refine ih 0 a false (some a) prev cur a opn ?_
        exact ⟨by simp, by simp, by simp, fun b hb => by simp at hb; subst hb; omega,
          by omega, inv.closed⟩
    | advance d =>
      simp only [convert, readRows]
      cases tomb
      · simp only [Bool.false_eq_true, if_false]
        refine ih (rel + d) fa false p prev cur (addr + d) opn ?_
        have h1 := inv.live rfl
        have hle := inv.le
        refine ⟨fun _ => by omega, by simp, ?_, ?_, by omega, inv.closed⟩
        · intro hp
          have := inv.none_ hp
          omega
        · intro b hb
          have := inv.some_ b hb
          omega
      · simp only [if_true]
        exact ih rel fa true p prev cur addr opn inv
    | row =>
      cases tomb
      · -- a reported row
        have h1 := inv.live rfl
        cases p with
        | none =>
          have ⟨h2, h3⟩ := inv.none_ rfl
          simp only [convert, emit, readRows, Bool.false_eq_true, if_false]
          rw [h3]
          congr 1
          refine ih rel fa false none rel addr addr true ?_
          exact ⟨fun _ => h1, by simp, fun _ => by omega, by simp, by omega, by simp⟩
        | some a =>
          have ⟨h2, h3, h4⟩ := inv.some_ a rfl
          simp only [convert, emit, readRows, Bool.false_eq_true, if_false, isTomb_of h2 h3]
          rw [show a + (rel - 0) = addr by omega]
          congr 1
          refine ih rel fa false none rel addr addr true ?_
          exact ⟨fun _ => h1, by simp, fun _ => by omega, by simp, by omega, by simp⟩
      · -- a skipped row
        simp only [convert, readRows, if_true]
        exact ih rel fa true p prev cur addr opn inv
    | endSeq =>
      by_cases hskip : (tomb && !opn) = true
      · -- the whole sequence is a tombstone: nothing was written for it
        have hopn : opn = false := by
          cases opn with
          | false => rfl
          | true => rw [Bool.not_true, Bool.and_false] at hskip; cases hskip
        have ⟨hc, hp⟩ := inv.closed hopn
        subst hc; subst hp
        simp only [convert, readRows, hskip, if_true]
        subst hopn
        exact ih 0 0 false none 0 0 0 false fresh
      · simp only [convert, readRows, hskip, Bool.false_eq_true, if_false]
        cases p with
        | none =>
          have ⟨h2, h3⟩ := inv.none_ rfl
          simp only [emit, readRows, Bool.false_and, Bool.false_eq_true, if_false]
          rw [h3]
          congr 1
          exact ih 0 0 false none 0 0 0 false fresh
        | some a =>
          have ⟨h2, h3, h4⟩ := inv.some_ a rfl
          simp only [emit, readRows, Bool.false_and, Bool.false_eq_true, if_false, isTomb_of h2 h3]
          rw [show a + (rel - 0) = addr by omega]
          congr 1
          exact ih 0 0 false none 0 0 0 false fresh

/-- **line rows keep their addresses through conversion**, for EVERY program — any number of
sequences, any placement and value of `DW_LNE_set_address` (at the start of a sequence, in the
middle, several in a row, directly before the end; valid, lower than the current address, or a
tombstone value), tombstones that last to the end of their sequence, any advances: reading the
program written from the converted events yields exactly the rows, at exactly the addresses, that
reading the source program yields — rows the reader skips are not brought back, rows it reports
are not lost, every sequence that reported rows is ended where the reader ends it. (Without the
`fix:`es the rows after a mid-sequence set_address are converted with one wrong offset, an end
address given by set_address is dropped, rows after a lower address reappear, and a sequence
whose tail is tombstoned loses its end — an assertion failure in debug builds;
`harness/corpus/C12.txt` keeps such programs.) -/
theorem line_addresses_preserved (T : Nat) (is : List Ins) :
    readRows T 0 false false (emit 0 (convert T 0 0 false none false is)) = readRows T 0 false false is :=
  line_addresses_aux T is 0 0 false none 0 0 0 false (.fresh T)

/-- regression: rows, then a tombstone that lasts to the end of the sequence, then a sequence at a
lower address (without the `fix:` the first sequence has no end row) -/
theorem line_addresses_tombstoned_tail :
    let is := [Ins.setAddress 0x2000, .row, .advance 8, .setAddress 0x10, .row, .endSeq,
               .setAddress 0x1000, .row, .endSeq]
    readRows (2 ^ 64 - 2) 0 false false is
      = [(0x2000, false), (0x2008, true), (0x1000, false), (0x1000, true)] := by decide +kernel

/-! non-vacuity -/
example : readRows (2 ^ 64 - 2) 0 false false [.setAddress 0x2000, .row, .advance 4, .row, .setAddress 0x10, .row, .setAddress 0x2800, .advance 4, .row, .endSeq, .setAddress (2 ^ 64 - 1), .row, .endSeq]
    = [(0x2000, false), (0x2004, false), (0x2804, false), (0x2804, true)] := by decide +kernel
example : dataOffset (-8) 2 = .ok (-16) := by decide +kernel
example : factoredDataOffset (-16) (-8) = .ok 2 := by decide +kernel
example : dataOffset 128 (2 ^ 40) = .err .wValueTooLarge := by decide +kernel

end Gimli.Props.C12
