import Gimli.Lemmas.Leb
import Gimli.Lemmas.Ints
/-!
# C09 — Primitive codecs: LEB128, sized integers and lengths are exact

Property theorems only (helper lemmas live in `Gimli/Lemmas`). Every theorem is about the
Model functions of `Gimli/Model/{Leb,Ints}.lean`, which the correspondence check ties to
`src/leb128.rs`, `src/endianity.rs`, `src/read/reader.rs`, `src/write/writer.rs`.

Quantifiers: every byte string (`Bytes = List UInt8`, any length), every value, both byte
orders, every size argument.
-/
namespace Gimli.Props.C09
open Gimli Gimli.Spec Gimli.Leb Gimli.Ints

/-! ## unsigned LEB128 -/

/-- **Exact value, exact consumption, never wrapped.** If the 64-bit reader accepts, then the
consumed prefix is exactly one LEB128 number of at most 10 bytes, the result is its
mathematical value `Σ (bᵢ mod 128)·128^i`, and that value is below 2^64. -/
theorem uleb_sound (bs : Bytes) (v : Nat) (rest : Bytes) (h : Leb.unsigned bs = .ok (v, rest)) :
    ∃ pre, bs = pre ++ rest ∧ IsLebEnc pre ∧ pre.length ≤ 10 ∧ v = ulebVal pre ∧ v < 2 ^ 64 :=
  unsigned_sound bs v rest h

/-- **Completeness.** Every encoding of at most 10 bytes whose value fits in 64 bits is
accepted, whatever follows it. -/
theorem uleb_complete (pre rest : Bytes) (henc : IsLebEnc pre) (hlen : pre.length ≤ 10)
    (hfit : ulebVal pre < 2 ^ 64) : Leb.unsigned (pre ++ rest) = .ok (ulebVal pre, rest) :=
  unsigned_complete pre rest henc hlen hfit

/-- **Rejection instead of wrapping.** An encoding whose value does not fit in 64 bits — or
which is longer than 10 bytes (zero padded; the reader is stricter than "fits" here, never
laxer) — is reported as `BadUnsignedLeb128`. -/
theorem uleb_reject (pre rest : Bytes) (henc : IsLebEnc pre)
    (hbad : 10 < pre.length ∨ 2 ^ 64 ≤ ulebVal pre) :
    Leb.unsigned (pre ++ rest) = .err .rBadUnsignedLeb128 :=
  unsigned_reject pre rest henc hbad

/-- **Write then read is the identity**, and what follows the number is untouched. -/
theorem uleb_roundtrip (v : Nat) (hv : v < 2 ^ 64) (rest : Bytes) :
    Leb.unsigned (encodeU v ++ rest) = .ok (v, rest) :=
  unsigned_roundtrip v hv rest

/-- **Reported size = emitted size**, between 1 and 10 bytes. -/
theorem uleb_size_eq (v : Nat) (hv : v < 2 ^ 64) :
    sizeU v = (encodeU v).length ∧ 1 ≤ sizeU v ∧ sizeU v ≤ 10 := by
  obtain ⟨_, _, h10, h1, hsz⟩ := encodeU_spec v hv
  omega

/-- the writer always produces a single well-formed number meaning `v` -/
theorem uleb_encode_wf (v : Nat) (hv : v < 2 ^ 64) : IsLebEnc (encodeU v) ∧ ulebVal (encodeU v) = v := by
  obtain ⟨h1, h2, _⟩ := encodeU_spec v hv
  exact ⟨h1, h2⟩

/-- `read_uleb128_u32` accepts exactly the 64-bit results below 2^32 (no truncation). -/
theorem u32_narrow (bs : Bytes) (v : Nat) (rest : Bytes) :
    readUlebU32 bs = .ok (v, rest) ↔ Leb.unsigned bs = .ok (v, rest) ∧ v < 2 ^ 32 :=
  readUlebU32_iff bs v rest

/-! ## the 16-bit unsigned reader (`leb128::read::u16`, used for `DW_FORM_indirect` form codes) -/

/-- exact value < 2^16, exact consumption of at most 3 bytes -/
theorem u16leb_sound (bs : Bytes) (v : Nat) (rest : Bytes) (h : Leb.u16 bs = .ok (v, rest)) :
    ∃ pre, bs = pre ++ rest ∧ IsLebEnc pre ∧ pre.length ≤ 3 ∧ v = ulebVal pre ∧ v < 2 ^ 16 :=
  u16_sound bs v rest h

theorem u16leb_complete (pre rest : Bytes) (henc : IsLebEnc pre) (hlen : pre.length ≤ 3)
    (hfit : ulebVal pre < 2 ^ 16) : Leb.u16 (pre ++ rest) = .ok (ulebVal pre, rest) :=
  u16_complete pre rest henc hlen hfit

/-- values that do not fit 16 bits (or encodings longer than 3 bytes) are rejected, not truncated -/
theorem u16leb_reject (pre rest : Bytes) (henc : IsLebEnc pre)
    (hbad : 3 < pre.length ∨ 2 ^ 16 ≤ ulebVal pre) :
    Leb.u16 (pre ++ rest) = .err .rBadUnsignedLeb128 :=
  u16_reject pre rest henc hbad

/-! ## signed LEB128 -/

/-- **Exact value, exact consumption, never wrapped.** If the signed 64-bit reader accepts, the
consumed prefix is exactly one LEB128 number of at most 10 bytes and the result is its two's
complement value (sign-extended from bit 6 of the last group), which lies in the `i64` range. -/
theorem sleb_sound (bs : Bytes) (v : Int) (rest : Bytes) (h : Leb.signed bs = .ok (v, rest)) :
    ∃ pre, bs = pre ++ rest ∧ IsLebEnc pre ∧ pre.length ≤ 10 ∧ v = slebVal pre ∧
      -(2 : Int) ^ 63 ≤ v ∧ v < 2 ^ 63 :=
  signed_sound bs v rest h

/-- every encoding of at most 10 bytes whose value is in the `i64` range is accepted -/
theorem sleb_complete (pre rest : Bytes) (henc : IsLebEnc pre) (hlen : pre.length ≤ 10)
    (hlo : -(2 : Int) ^ 63 ≤ slebVal pre) (hhi : slebVal pre < 2 ^ 63) :
    Leb.signed (pre ++ rest) = .ok (slebVal pre, rest) :=
  signed_complete pre rest henc (sfits_of_range pre henc hlen hlo hhi)

/-- out-of-range values (and encodings longer than 10 bytes) are `BadSignedLeb128` -/
theorem sleb_reject (pre rest : Bytes) (henc : IsLebEnc pre)
    (hbad : 10 < pre.length ∨ slebVal pre < -(2 : Int) ^ 63 ∨ 2 ^ 63 ≤ slebVal pre) :
    Leb.signed (pre ++ rest) = .err .rBadSignedLeb128 :=
  signed_reject pre rest henc hbad

/-- write then read is the identity for every `i64` -/
theorem sleb_roundtrip (v : Int) (hlo : -(2 : Int) ^ 63 ≤ v) (hhi : v < 2 ^ 63) (rest : Bytes) :
    Leb.signed (encodeS v ++ rest) = .ok (v, rest) :=
  signed_roundtrip v hlo hhi rest

/-- reported size = emitted size, between 1 and 10 bytes -/
theorem sleb_size_eq (v : Int) (hlo : -(2 : Int) ^ 63 ≤ v) (hhi : v < 2 ^ 63) :
    sizeS v = (encodeS v).length ∧ 1 ≤ sizeS v ∧ sizeS v ≤ 10 := by
  obtain ⟨_, _, h10, h1, hsz⟩ := encodeS_spec v hlo hhi
  omega

example : Leb.signed [0x7f] = .ok (-1, []) := by decide
example : slebVal [0x80, 0x7f] = -128 ∧ IsLebEnc [0x80, 0x7f] := by decide
example : encodeS (-12345) = [0xc7, 0x9f, 0x7f] := by decide

/-! ## fixed-width integers, either byte order -/

/-- a successful `n`-byte read consumes exactly `n` bytes and returns their positional value -/
theorem fixed_sound (e : Endian) (n : Nat) (bs : Bytes) (v : Nat) (rest : Bytes)
    (h : readFixed e n bs = .ok (v, rest)) :
    n ≤ bs.length ∧ rest = bs.drop n ∧ v = fromBytes e (bs.take n) ∧ v < 2 ^ (8 * n) := by
  obtain ⟨a, b, c, d⟩ := readFixed_ok e n bs v rest h
  exact ⟨a, b, c, by rw [← pow256]; exact d⟩

/-- and it fails (with end-of-input, never a short read) when fewer bytes remain -/
theorem fixed_eof (e : Endian) (n : Nat) (bs : Bytes) (h : bs.length < n) :
    readFixed e n bs = .err .rUnexpectedEof :=
  readFixed_eof e n bs h

/-- write∘read = id for every width (u8/u16/u32/u64/u128 are n = 1,2,4,8,16) and both orders -/
theorem fixed_roundtrip (e : Endian) (n v : Nat) (rest : Bytes) (hv : v < 2 ^ (8 * n)) :
    readFixed e n (toBytes e n v ++ rest) = .ok (v, rest) ∧ (toBytes e n v).length = n :=
  ⟨readFixed_toBytes e n v rest (by rw [pow256]; exact hv), toBytes_length e n v⟩

/-- `write_udata` succeeds iff the size is 1/2/4/8 and the value fits — never truncates. -/
theorem udata_fits (e : Endian) (v size : Nat) (hv : v < 2 ^ 64) :
    (∃ bs, writeUdata e v size = .ok bs) ↔
      (size = 1 ∨ size = 2 ∨ size = 4 ∨ size = 8) ∧ v < 2 ^ (8 * size) :=
  writeUdata_ok_iff e v size hv

/-- and what it emits has the advertised size and reads back as the value -/
theorem udata_roundtrip (e : Endian) (v size : Nat) (bs rest : Bytes)
    (h : writeUdata e v size = .ok bs) (hv : v < 2 ^ 64) :
    bs.length = size ∧ readFixed e size (bs ++ rest) = .ok (v, rest) :=
  writeUdata_roundtrip e v size bs rest h hv

/-- `write_sdata`: sizes 1/2/4 accept exactly the signed range of that size (no truncation, no
wrap-around), size 8 accepts every `i64`, other sizes are errors -/
theorem sdata_fits (e : Endian) (val : Int) (size : Nat)
    (hlo : -(2 : Int) ^ 63 ≤ val) (hhi : val < 2 ^ 63) :
    (∃ bs, writeSdata e val size = .ok bs) ↔
      (size = 1 ∨ size = 2 ∨ size = 4 ∨ size = 8) ∧
        -(2 : Int) ^ (8 * size - 1) ≤ val ∧ val < 2 ^ (8 * size - 1) :=
  writeSdata_ok_iff e val size hlo hhi

/-- `read_uint(n)` for every `n` in 0..8 and both byte orders: exact consumption, positional value -/
theorem uint_exact (e : Endian) (n : Nat) (bs : Bytes) (hn : n ≤ 8) :
    readUint e n bs =
      if n ≤ bs.length then .ok (fromBytes e (bs.take n), bs.drop n) else .err .rUnexpectedEof :=
  readUint_eq e n bs hn

/-! ## initial lengths, addresses -/

/-- `read_initial_length`, all cases: `< 0xffff_fff0` → (value, 32-bit) consuming 4 bytes;
`0xffff_ffff` → the following 64-bit value consuming 12 (an error if it does not fit the
offset type); every other value is the reserved-length error; short input is end-of-input. -/
theorem initial_length_cases (e : Endian) (offBits : Nat) (bs : Bytes) :
    readInitialLength e offBits bs =
      if bs.length < 4 then .err .rUnexpectedEof
      else
        let w := fromBytes e (bs.take 4)
        if w < 0xffff_fff0 then .ok ((w, .dwarf32), bs.drop 4)
        else if w = 0xffff_ffff then
          if bs.length < 12 then .err .rUnexpectedEof
          else
            let v := fromBytes e ((bs.drop 4).take 8)
            if v < 2 ^ offBits then .ok ((v, .dwarf64), bs.drop 12) else .err .rUnsupportedOffset
        else .err .rUnknownReservedLength :=
  readInitialLength_cases e offBits bs

/-- whatever initial length the writer accepts reads back as the same length and format
(holds on the tree with the `fix:` for reserved 32-bit lengths; before it, lengths
0xffff_fff0..0xffff_ffff were written and could not be read back) -/
theorem initial_length_roundtrip (e : Endian) (f : Format) (len : Nat) (bs rest : Bytes)
    (hlen : len < 2 ^ 64) (h : writeInitialLength e f len = .ok bs) :
    readInitialLength e 64 (bs ++ rest) = .ok ((len, f), rest) ∧
      bs.length = (match f with | .dwarf32 => 4 | .dwarf64 => 12) :=
  writeInitialLength_roundtrip e f len bs rest hlen h

/-- `read_address` accepts exactly the sizes 1, 2, 4, 8 (given enough input) … -/
theorem address_sizes (e : Endian) (size : Nat) (bs : Bytes) :
    (∃ v rest, readAddress e size bs = .ok (v, rest)) ↔
      (size = 1 ∨ size = 2 ∨ size = 4 ∨ size = 8) ∧ size ≤ bs.length :=
  readAddress_ok_iff e size bs

/-- … consumes exactly `size` bytes and returns their positional value -/
theorem address_value (e : Endian) (size : Nat) (bs : Bytes) (v : Nat) (rest : Bytes)
    (h : readAddress e size bs = .ok (v, rest)) :
    rest = bs.drop size ∧ v = fromBytes e (bs.take size) ∧ v < 2 ^ (8 * size) :=
  readAddress_value e size bs v rest h

/-- `read_address_size` accepts exactly the bytes 1, 2, 4, 8 -/
theorem address_size_byte (bs : Bytes) (v : Nat) (rest : Bytes) :
    readAddressSize bs = .ok (v, rest) ↔
      ∃ b, bs = b :: rest ∧ v = b.toNat ∧ (v = 1 ∨ v = 2 ∨ v = 4 ∨ v = 8) :=
  readAddressSize_ok_iff bs v rest

/-! ## non-vacuity: the hypotheses above are met by concrete non-trivial inputs -/

example : IsLebEnc [0xe5, 0x8e, 0x26] ∧ ulebVal [0xe5, 0x8e, 0x26] = 624485 := by decide
example : Leb.unsigned [0xe5, 0x8e, 0x26, 0xaa] = .ok (624485, [0xaa]) := by decide
example : IsLebEnc [0x80, 0x80, 0x80, 0x80, 0x80, 0x80, 0x80, 0x80, 0x80, 0x02] ∧
    2 ^ 64 ≤ ulebVal [0x80, 0x80, 0x80, 0x80, 0x80, 0x80, 0x80, 0x80, 0x80, 0x02] := by decide
example : writeUdata .big 0x1234 2 = .ok [0x12, 0x34] := by decide

end Gimli.Props.C09
