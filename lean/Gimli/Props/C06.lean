import Gimli.Lemmas.Unwind
import Gimli.Lemmas.Cfi
/-!
# C06 — Unwind table rows equal DWARF call-frame semantics

The property theorems; what they are assembled from is in `Gimli/Lemmas/{Rules,UnwindSpec,Unwind,Cfi}.lean`.

* **Model** (`Gimli/Model/{Cfi,Unwind}.lean`, tied to `src/read/cfi.rs` + `src/read/util.rs` by the
  correspondence run): `CallFrameInstruction::parse`, `UnwindTable::{new,next_row,evaluate}`,
  `UnwindContext::{initialize,reset,save_initial_rules,get_initial_rule,push_row,pop_row}`,
  `RegisterRuleMap::{get,set,clear,eq}` over `ArrayVec` with capacities `R` rows / `N` rules.
* **Spec** (`Gimli/Spec/Unwind.lean`): DWARF §6.4 with register columns as a function
  `Reg → Option Rule`, an unbounded implicit stack and "initial rules = the columns after the CIE".

Quantifiers: **every** instruction (all 23 `CallFrameInstruction` variants — no reduced alphabet),
every instruction list in the CIE and in the FDE, every operand value, every alignment factor,
every capacity pair (including unbounded), every initial address / length; address sizes 1..8;
row capacity at least 1 (a zero-capacity stack panics in `UnwindContext::new_in`, API misuse).
`tailOf bad` is how instruction *decoding* ended after the listed instructions: `none` = the
stream ended cleanly, `some e` = the next instruction is undecodable with error `e`.

**Reused contexts.** `Unwind.unwind` starts from `UnwindContext::new_in()`.  That the same rows and
outcome are produced on a context used before for anything else (rows, initial rule, flag and
stale storage left by successful or failed evaluations) is C20's
`Gimli.Props.C20.unwind_reused_eq_fresh` / `unwind_history_reused_eq_fresh`
(`lean/Gimli/Props/C20.lean`), proved for exactly this Model (`initializeCtx` begins with `reset`);
so every theorem below holds for reused contexts too.  The correspondence run checks the same on
the implementation: every case is evaluated on a fresh context and again on a context dirtied by
one or two programs from a pool (direct-oracle class `reused-context-differs`).
-/
namespace Gimli.Props.C06
open Gimli Gimli.Cfi Gimli.Unwind Gimli.Spec.Unwind

/-! ## 1. the unwind machine refines the call-frame semantics -/

/-- **Main theorem.** For every CIE program, FDE program, alignment factors, address size 1..8 and
capacities `(R ≥ 1, N)`: the rows returned by `UnwindTable::next_row` are, one by one, the rows of
the DWARF semantics — same start, same end, same CFA rule, same `args_size`, and register rules
equal **extensionally** (`∀ r, Rules.get row.rules r = specRow.rules.regs r`, with no duplicate
entries in the vector) — and the run ends the same way: both complete, or both stop with the same
error after the same rows.  The Spec side is `Spec.Unwind.table`, i.e. the pure semantics `Spec.Unwind.step`
plus the two capacity checks of `Spec.Unwind.stepB` that are *defined on the Spec state* (theorems
`stackFull_iff`, `tooManyRules_iff`, `invalid_iff` below say exactly when each error arises).
In particular the Model never returns a row that differs from the semantics. -/
theorem unwind_refines (g : Cfg) (hsz : 1 ≤ g.addressSize ∧ g.addressSize ≤ 8) (hR : g.R.fits 1)
    (cie fde : List Instr) (cieBad fdeBad : Option Err) (initial len : Nat) :
    RowsRel (unwind g cie (tailOf cieBad) fde (tailOf fdeBad) initial len).1
        (table g.params g.R g.N cie cieBad fde fdeBad initial len).1 ∧
    FinalRel (unwind g cie (tailOf cieBad) fde (tailOf fdeBad) initial len).2
        (table g.params g.R g.N cie cieBad fde fdeBad initial len).2 := by
  have hinit := initializeCtx_refines hsz hR cie cieBad
  unfold unwind
  generalize initializeCtx g cie (tailOf cieBad) = mi at hinit
  -- the Spec table fails in the CIE, has no room for the initial rules' row, or is the FDE's run:
  -- in each case the Model's `initialize` ends the same way
  rcases table_cases g.params g.R g.N cie cieBad fde fdeBad initial len with
    ⟨e, h1, ht⟩ | ⟨s1, h1, ⟨hx, ht⟩ | ⟨hx, ht⟩⟩ <;> rw [ht] <;> rw [h1] at hinit
  · cases hinit
    exact ⟨.nil, rfl⟩
  · simp only [show exceeds g.R (rowsNeeded { s1 with init := some s1.cur.regs }) = true from hx, if_true] at hinit
    cases hinit
    exact ⟨.nil, rfl⟩
  · simp only [show exceeds g.R (rowsNeeded { s1 with init := some s1.cur.regs }) = false from hx, Bool.false_eq_true,
      if_false] at hinit
    cases hinit with
    | ok hsim2 =>
      obtain ⟨hrows, hend⟩ := runTable_refines hsz initial (fdeEnd g.params initial len) fde fdeBad hsim2
      simp only [Run.bind, fdeEndAddress_eq g hsz]
      exact ⟨hrows, hend.final⟩

/-- **The same, end to end on instruction bytes** (the function the correspondence run executes):
whatever bytes the CIE and the FDE carry, decoding ends cleanly or with an error (never a panic,
never out of fuel), and the rows returned for the decoded streams are the rows of the semantics
of exactly those instructions, the decode error surfacing where the Spec's malformed-stream
marker puts it. -/
theorem unwind_bytes_refines (g : Cfg) (hsz : 1 ≤ g.addressSize ∧ g.addressSize ≤ 8) (hR : g.R.fits 1)
    (cieCfg fdeCfg : DecodeCfg) (hc : cieCfg.params.addressSize = g.addressSize)
    (hf : fdeCfg.params.addressSize = g.addressSize) (ciePos fdePos : Nat) (cieBytes fdeBytes : Bytes)
    (initial len : Nat) :
    ∃ cieBad fdeBad,
      (decodeAll cieCfg ciePos cieBytes).2 = tailOf cieBad ∧
      (decodeAll fdeCfg fdePos fdeBytes).2 = tailOf fdeBad ∧
      RowsRel (unwindBytes g cieCfg fdeCfg ciePos fdePos cieBytes fdeBytes initial len).1
        (table g.params g.R g.N (decodeAll cieCfg ciePos cieBytes).1 cieBad
          (decodeAll fdeCfg fdePos fdeBytes).1 fdeBad initial len).1 ∧
      FinalRel (unwindBytes g cieCfg fdeCfg ciePos fdePos cieBytes fdeBytes initial len).2
        (table g.params g.R g.N (decodeAll cieCfg ciePos cieBytes).1 cieBad
          (decodeAll fdeCfg fdePos fdeBytes).1 fdeBad initial len).2 := by
  have tail_cases {t : Out Unit} (ht : t.Normal) : ∃ bad, t = tailOf bad :=
    ht.ok_or_err.elim (fun ⟨_, e⟩ => ⟨none, e⟩) fun ⟨e, he⟩ => ⟨some e, he⟩
  obtain ⟨cieBad, h1⟩ := tail_cases (decodeAll_normal cieCfg ciePos cieBytes (hc ▸ hsz))
  obtain ⟨fdeBad, h2⟩ := tail_cases (decodeAll_normal fdeCfg fdePos fdeBytes (hf ▸ hsz))
  refine ⟨cieBad, fdeBad, h1, h2, ?_⟩
  unfold unwindBytes
  simp only [h1, h2]
  exact unwind_refines g hsz hR _ _ cieBad fdeBad initial len

/-- what `RowsRel` means for one row (unfolding of the definitions used in `unwind_refines`) -/
theorem rowsRel_cons_iff (m : Row) (ms : List Row) (t : TableRow) (ts : List TableRow) :
    RowsRel (m :: ms) (t :: ts) ↔
      (m.startAddress = t.start ∧ m.endAddress = t.end_ ∧ m.cfa = t.rules.cfa ∧
        m.savedArgsSize = t.rules.argsSize ∧ (∀ r, Rules.get m.rules r = t.rules.regs r) ∧
        Rules.NodupKeys m.rules) ∧ RowsRel ms ts := by
  constructor
  · intro h
    cases h with
    | cons hr hrest => exact ⟨⟨hr.start, hr.end_, hr.rel.cfa, hr.rel.args, hr.rel.regs, hr.rel.nodup⟩, hrest⟩
  · rintro ⟨⟨h1, h2, h3, h4, h5, h6⟩, hrest⟩
    exact .cons ⟨h1, h2, ⟨h3, h4, h5, h6⟩⟩ hrest

/-- row lists of different lengths are never related: the Model returns exactly as many rows as
the semantics defines -/
theorem rowsRel_length {ms : List Row} {ts : List TableRow} (h : RowsRel ms ts) : ms.length = ts.length := by
  induction h with
  | nil => rfl
  | cons _ _ ih => simp [ih]

/-- **`StackFull` exactly when the Spec run would exceed `R` rows**: the instrumented step fails with
`StackFull` iff the instruction is valid and the state it leads to needs more rows than the
storage has — counting the current row, the remembered ones and the one extra row held when the
CIE leaves two or more initial rules (`Spec.Unwind.rowsNeeded`). -/
theorem stackFull_iff (p : Params) (R N : Cap) (s : State) (i : Instr) :
    stepB p R N s i = .error .rStackFull ↔
      ∃ s' row, step p s i = .ok (s', row) ∧ exceeds R (rowsNeeded s') = true := by
  rw [stepB_eq_error_iff]
  constructor
  · rintro (h | ⟨r, h, ⟨hx, _⟩ | ⟨_, _, he⟩⟩)
    · exact absurd (step_error_invalid h) (by simp [IsInvalid])
    · exact ⟨r.1, r.2, h, hx⟩
    · cases he
  · rintro ⟨s', row, h, hx⟩
    exact .inr ⟨_, h, .inl ⟨hx, rfl⟩⟩

/-- **`TooManyRegisterRules` exactly when a row would hold more than `N` explicit rules** (and the
row stack is not the problem). -/
theorem tooManyRules_iff (p : Params) (R N : Cap) (s : State) (i : Instr) :
    stepB p R N s i = .error .rTooManyRegisterRules ↔
      ∃ s' row, step p s i = .ok (s', row) ∧ exceeds R (rowsNeeded s') = false ∧
        exceeds N (ruleCount s'.cur.regs) = true := by
  rw [stepB_eq_error_iff]
  constructor
  · rintro (h | ⟨r, h, ⟨_, he⟩ | ⟨hx, hn, _⟩⟩)
    · exact absurd (step_error_invalid h) (by simp [IsInvalid])
    · cases he
    · exact ⟨r.1, r.2, h, hx, hn⟩
  · rintro ⟨s', row, h, hx, hn⟩
    exact .inr ⟨_, h, .inr ⟨hx, hn, rfl⟩⟩

/-- **`CfiInstructionInInvalidContext` / `PopWithEmptyStack` / `AddressOverflow` /
`InvalidCfiSetLoc` exactly where the semantics says the instruction is invalid**: the capacity
instrumentation neither adds nor hides a validity error, and the pure semantics raises no other
error. -/
theorem invalid_iff (p : Params) (R N : Cap) (s : State) (i : Instr) (e : Err) (he : IsInvalid e) :
    stepB p R N s i = .error e ↔ step p s i = .error e := by
  rw [stepB_eq_error_iff]
  refine ⟨?_, .inl⟩
  rintro (h | ⟨r, _, ⟨_, rfl⟩ | ⟨_, _, rfl⟩⟩)
  · exact h
  all_goals simp [IsInvalid] at he

/-- the pure semantics only ever raises the four validity errors -/
theorem spec_errors (p : Params) (s : State) (i : Instr) (e : Err) (h : step p s i = .error e) :
    IsInvalid e :=
  step_error_invalid h

/-- **The only errors of an unwind**: if the Model's run ends with an error, that error is one of
the four validity errors of the semantics, one of the two storage-limit errors, or the decode
error that ends the CIE's / the FDE's instruction stream — nothing else, and in each case the
Spec run ends with the same error (`unwind_refines`). -/
theorem unwind_errors (g : Cfg) (hsz : 1 ≤ g.addressSize ∧ g.addressSize ≤ 8) (hR : g.R.fits 1)
    (cie fde : List Instr) (cieBad fdeBad : Option Err) (initial len : Nat) (e : Err)
    (h : (unwind g cie (tailOf cieBad) fde (tailOf fdeBad) initial len).2 = .err e) :
    IsInvalid e ∨ e = .rStackFull ∨ e = .rTooManyRegisterRules ∨ cieBad = some e ∨ fdeBad = some e := by
  have ht := (unwind_refines g hsz hR cie fde cieBad fdeBad initial len).2.err_iff.mp h
  simpa only [IsStepError, or_assoc] using table_error_kinds _ _ _ _ _ _ _ _ _ _ ht

/-- **More storage never changes a table that fits**: if the unwind completes with capacities
`(R, N)`, it also completes with any capacities at least as large (in particular with the growable
`Vec` storage, `none`), and both row lists represent the same rows of the semantics. -/
theorem storage_monotone (g : Cfg) (R' N' : Cap) (hsz : 1 ≤ g.addressSize ∧ g.addressSize ≤ 8)
    (hR1 : g.R.fits 1) (hR : CapLe g.R R') (hN : CapLe g.N N')
    (cie fde : List Instr) (cieBad fdeBad : Option Err) (initial len : Nat)
    (hok : (unwind g cie (tailOf cieBad) fde (tailOf fdeBad) initial len).2 = .ok ()) :
    (unwind { g with R := R', N := N' } cie (tailOf cieBad) fde (tailOf fdeBad) initial len).2 = .ok () ∧
    ∃ rows : List TableRow,
      RowsRel (unwind g cie (tailOf cieBad) fde (tailOf fdeBad) initial len).1 rows ∧
      RowsRel (unwind { g with R := R', N := N' } cie (tailOf cieBad) fde (tailOf fdeBad) initial len).1 rows := by
  -- both runs refine their Spec tables, and those are the same table (`table_mono`)
  obtain ⟨hrows, hfin⟩ := unwind_refines g hsz hR1 cie fde cieBad fdeBad initial len
  obtain ⟨hrows', hfin'⟩ := unwind_refines { g with R := R', N := N' } hsz
    ((exceeds_eq_false_iff R' 1).mp (hR.not_exceeds ((exceeds_eq_false_iff g.R 1).mpr hR1))) cie fde cieBad fdeBad initial len
  have htab := hfin.ok_iff.mp hok
  simp only [show ({ g with R := R', N := N' } : Cfg).params = g.params from rfl,
    table_mono hR hN htab] at hrows' hfin'
  exact ⟨hfin'.ok_iff.mpr htab, _, hrows, hrows'⟩

example : CapLe (some 4) (some 8) := CapLe.some (by decide)
example : CapLe (some 192) none := CapLe.none _

/-! ### the Spec means what the standard says (sanity of the reference semantics) -/

/-- `DW_CFA_remember_state` followed by `DW_CFA_restore_state` is the identity -/
theorem spec_remember_restore (p : Params) (s : State) :
    ∃ s1, step p s .rememberState = .ok (s1, none) ∧ step p s1 .restoreState = .ok (s, none) :=
  ⟨{ s with stack := s.cur :: s.stack }, rfl, rfl⟩

/-- `DW_CFA_restore r` in an FDE puts column `r` back to what the CIE's initial instructions
left there and touches nothing else -/
theorem spec_restore_is_initial (p : Params) (s : State) (im : RegMap) (r : Reg) (h : s.init = some im) :
    ∃ s1, step p s (.restore r) = .ok (s1, none) ∧ s1.cur.regs r = im r ∧
      (∀ x, x ≠ r → s1.cur.regs x = s.cur.regs x) ∧ s1.cur.cfa = s.cur.cfa := by
  refine ⟨setReg s r (im r), by simp [step, h], by simp [setReg, RegMap.update], ?_, rfl⟩
  intro x hx
  simp [setReg, RegMap.update, hx]

/-! ## 2. the `initial_rule` optimisation -/

/-- **The 0/1-rule shortcut and the saved `stack[0]` row agree with "the map after the CIE
program".** Whatever register rules the current row holds when `save_initial_rules` runs — none
(`initial_rule = Some(None)`), exactly one (`Some(Some(rule))`), or more (a copy of the row is
inserted at `stack[0]`) — `get_initial_rule(r)` afterwards answers `Some(row.register(r))` for
every register `r`.  (That the answer stays the same during the FDE program — `pop_row` never
pops the saved row, no instruction writes it — is part of `unwind_refines`: `DW_CFA_restore` in
the Model always installs the Spec's fixed initial rule.) -/
theorem initial_rule_opt_sound (R : Cap) (c c' : Ctx) (top : Row) (rest : List Row)
    (hst : c.stack = top :: rest) (h : saveInitialRules R c = .ok c') (r : Reg) :
    c'.getInitialRule r = .ok (some (Rules.get top.rules r)) := by
  have := saveInitialRules_out (R := R) hst
  rw [h] at this
  cases this with
  | zero hr => simp [Ctx.getInitialRule, hr]
  | @one rule hr =>
    obtain ⟨r0, v0⟩ := rule
    simp only [Ctx.getInitialRule, Bool.not_true, Bool.false_eq_true, if_false, hr, Rules.get_cons, Rules.get_nil]
    by_cases hr : r0 = r <;> simp [hr]
  | saved _ _ =>
    have : (c.stack ++ [top]).getLast? = some top := List.getLast?_concat
    simp [Ctx.getInitialRule, this]

/-- `save_initial_rules` fails only with `StackFull`, and only in the many-rules case when the
row stack is already full -/
theorem save_initial_rules_error (R : Cap) (c : Ctx) (top : Row) (rest : List Row)
    (hst : c.stack = top :: rest) (e : Err) (h : saveInitialRules R c = .err e) :
    e = .rStackFull ∧ 2 ≤ top.rules.length ∧ R.hasRoom c.stack.length = false := by
  have := saveInitialRules_out (R := R) hst
  rw [h] at this
  cases this with
  | full h2 hroom => exact ⟨rfl, h2, hroom⟩

/-! ## 3. rows are contiguous, non-decreasing and end at the FDE's end address -/

/-- **Contiguity.** The returned rows tile the address space from the FDE's initial address:
the first row starts at `initial`, every next row starts where the previous one ended, and every
row that has a successor satisfies `start ≤ end` (`Tiles`); so starts are non-decreasing.
If the table completes, there is a last row and it ends at the FDE's end address
`(initial + len) mod 2^(8·address_size)`.  If it stops with an error, every row returned before
satisfies `start ≤ end`. -/
theorem rows_contiguous (g : Cfg) (hsz : 1 ≤ g.addressSize ∧ g.addressSize ≤ 8) (hR : g.R.fits 1)
    (cie fde : List Instr) (cieBad fdeBad : Option Err) (initial len : Nat) :
    Tiles initial (rowSpans (unwind g cie (tailOf cieBad) fde (tailOf fdeBad) initial len).1) ∧
    ((unwind g cie (tailOf cieBad) fde (tailOf fdeBad) initial len).2 = .ok () →
      ∃ last, (unwind g cie (tailOf cieBad) fde (tailOf fdeBad) initial len).1.getLast? = some last ∧
        last.endAddress = fdeEnd g.params initial len) ∧
    (∀ e, (unwind g cie (tailOf cieBad) fde (tailOf fdeBad) initial len).2 = .err e →
      ∀ r ∈ (unwind g cie (tailOf cieBad) fde (tailOf fdeBad) initial len).1, r.startAddress ≤ r.endAddress) := by
  -- the Spec table has these properties (`table_tiles`); they pass along `RowsRel` / `FinalRel`
  obtain ⟨hrows, hfin⟩ := unwind_refines g hsz hR cie fde cieBad fdeBad initial len
  obtain ⟨t1, t2, t3⟩ := table_tiles g.params g.R g.N cie cieBad fde fdeBad initial len
  refine ⟨hrows.spans ▸ t1, fun hok => ?_, fun e he => hrows.forall (t3 e (hfin.err_iff.mp he))⟩
  obtain ⟨last, hl, he⟩ := t2 (hfin.ok_iff.mp hok)
  obtain ⟨r, hr, hrel⟩ := hrows.getLast hl
  exact ⟨r, hr, by rw [hrel.end_, he]⟩

/-- `Tiles` spelled out for two consecutive rows -/
theorem tiles_cons_cons (a s e s' e' : Nat) (rest : List (Nat × Nat)) :
    Tiles a ((s, e) :: (s', e') :: rest) ↔ s = a ∧ s ≤ e ∧ Tiles e ((s', e') :: rest) := Iff.rfl

/-! ## 4. the register rule map -/

/-- **Deleting via `swap_remove` preserves the extensional map**: after `clear(r)` register `r`
has no rule, every other register has the rule it had, and no register has two entries. -/
theorem swap_remove_ext (m : Rules) (hn : Rules.NodupKeys m) (r : Reg) :
    (∀ x, Rules.get (Rules.clear m r) x = if x = r then none else Rules.get m x) ∧
    Rules.NodupKeys (Rules.clear m r) :=
  ⟨fun x => Rules.clear_get hn r x, Rules.clear_nodup hn r⟩

/-- `set` updates the extensional map at `r` only, keeps entries unique, and grows the vector by
one exactly when `r` had no entry; it fails only with `TooManyRegisterRules`, and only when `r`
has no entry and the vector is full -/
theorem set_ext (N : Cap) (m : Rules) (r : Reg) (v : Rule) :
    (∃ m', Rules.set N m r v = .ok m' ∧
      (∀ x, Rules.get m' x = if x = r then some v else Rules.get m x) ∧
      (Rules.NodupKeys m → Rules.NodupKeys m') ∧
      m'.length = (if Rules.get m r = none then m.length + 1 else m.length)) ∨
    (Rules.set N m r v = .err .rTooManyRegisterRules ∧ Rules.get m r = none ∧ N.hasRoom m.length = false) := by
  rcases Rules.set_eq_err (N := N) (m := m) (r := r) (v := v) with ⟨m', hm'⟩ | h
  · obtain ⟨h1, h2, h3, _⟩ := Rules.set_ok hm'
    exact Or.inl ⟨m', hm', h1, h2, h3⟩
  · exact Or.inr h

/-- `impl PartialEq for RegisterRuleMap` is extensional equality -/
theorem rule_map_eq_ext (a b : Rules) (ha : Rules.NodupKeys a) (hb : Rules.NodupKeys b) :
    Rules.eq a b = true ↔ ∀ r, Rules.get a r = Rules.get b r :=
  Rules.eq_iff_ext ha hb

/-! ## 5. totality -/

/-- **The unwind never panics and never diverges**: for address sizes 1..8 and a row capacity of
at least 1 the outcome is `ok` or a `gimli::Error`. -/
theorem unwind_total (g : Cfg) (hsz : 1 ≤ g.addressSize ∧ g.addressSize ≤ 8) (hR : g.R.fits 1)
    (cie fde : List Instr) (cieBad fdeBad : Option Err) (initial len : Nat) :
    (unwind g cie (tailOf cieBad) fde (tailOf fdeBad) initial len).2.Normal := by
  exact (unwind_refines g hsz hR cie fde cieBad fdeBad initial len).2.normal

/-- **Decoding one instruction is total** and consumes at least the opcode byte -/
theorem decode_total (c : DecodeCfg) (pos : Nat) (bs : Bytes)
    (hsz : 1 ≤ c.params.addressSize ∧ c.params.addressSize ≤ 8) :
    (parse c pos bs).Normal ∧ ∀ i rest, parse c pos bs = .ok (i, rest) → rest.length < bs.length :=
  ⟨parse_normal c pos bs hsz, fun _ _ h => parse_lt h⟩

/-- **The instruction iterator terminates**: driven to its end it yields at most one instruction
per byte and stops with `Ok(None)` or an error (the fuel of `decodeAll` always suffices) -/
theorem decode_all_total (c : DecodeCfg) (base : Nat) (bs : Bytes)
    (hsz : 1 ≤ c.params.addressSize ∧ c.params.addressSize ≤ 8) :
    (decodeAll c base bs).2.Normal ∧ (decodeAll c base bs).1.length ≤ bs.length :=
  ⟨decodeAll_normal c base bs hsz, decodeFuel_length c base bs.length bs.length bs⟩

/-! ## 6. instruction decoding against the encoding tables of the standard -/

/-- **Every standard encoding is decoded to the instruction it denotes**, with exact consumption —
for EVERY opcode: if `bs`, at section offset `pos`, encodes `i` according to the opcode/operand
tables of DWARF §6.4.2/§7.24 and, for `DW_CFA_set_loc` under an FDE pointer encoding, the LSB
pointer-encoding rules in C05's Spec (`Spec.Cfi.Encodes`: the three primary opcodes, every
extended opcode with unsigned / signed LEB128, fixed-size, block, register and address operands —
any LEB128 padding up to 10 bytes —, `set_loc` as a plain address or as base + operand in any
defined `DW_EH_PE` format/application, `GNU_args_size`, and `AARCH64_negate_ra_state` for an
AArch64 consumer), then `CallFrameInstruction::parse` on `bs` followed by anything returns `i`
and leaves exactly what followed.  Every configuration `c` (byte order, address size, vendor,
bases, pointer encoding, arithmetic mode). -/
theorem decode_complete (c : DecodeCfg) (pos : Nat) (i : Instr) (bs : Bytes)
    (h : Spec.Cfi.Encodes c pos i bs) (rest : Bytes) :
    parse c pos (bs ++ rest) = .ok (i, rest) :=
  Spec.Cfi.parse_encodes h rest

/-- **Whatever `parse` accepts is an encoding from the tables**, for every opcode and every
configuration: if `CallFrameInstruction::parse` returns `(i, rest)`, then the consumed prefix is an
encoding of `i` — opcode, operand kinds, LEB128 well-formedness and range, register numbers
≤ 0xffff, block lengths, address size ∈ {1,2,4,8} for a plain `set_loc`; for an encoded `set_loc`
a defined, non-`omit`, non-`aligned`, non-`indirect` encoding whose base is available, and the
address is base + operand modulo the address size; AArch64 vendor for `negate_ra_state`.
Together with `decode_complete`: `parse` accepts exactly the encodings of the tables and decodes
each to the instruction it denotes.  (Hypothesis: when a pointer encoding is in force the address
size is 1..8 — outside that range `u64::ones_sized` overflows its `u8` arithmetic, see
`Cfi.onesSized`.) -/
theorem decode_sound (c : DecodeCfg) (pos : Nat) (bs : Bytes) (i : Instr) (rest : Bytes)
    (hsz : c.addressEncoding ≠ none → 1 ≤ c.params.addressSize ∧ c.params.addressSize ≤ 8)
    (h : parse c pos bs = .ok (i, rest)) :
    ∃ pre, bs = pre ++ rest ∧ Spec.Cfi.Encodes c pos i pre :=
  Spec.Cfi.parse_sound hsz h

/-- **The `set_loc` operand is decoded by C05's `parse_encoded_pointer`**: the pointer decoding
inside the Model of `CallFrameInstruction::parse` equals C05's Model `CfiEntry.parseEncodedPointer`
(run at the operand's section offset with the iterator's parameters: the `.eh_frame` bases, the
CIE's address size, no function base) followed by `Pointer::direct` — for every encoding byte,
address size and mode, including the overflowing ones.  So C05's theorems about
`parse_encoded_pointer` (`encoded_pointer_decode`, `encoded_pointer_total`, the round trips) are
theorems about `set_loc`. -/
theorem set_loc_pointer_is_c05 (m : Mode) (e : Endian) (enc : Nat) (c : DecodeCfg) (pos : Nat) (bs : Bytes) :
    parseEncodedPointerDirect m e enc c.params pos bs =
      (CfiEntry.parseEncodedPointer m e enc (Spec.Cfi.peParams c) ⟨pos, bs⟩ >>= fun x =>
        x.1.toDirect >>= fun a => pure (a, x.2.bs)) :=
  Spec.Cfi.parseEncodedPointerDirect_eq m e enc c pos bs

/-- the operand relation of the encoding table contains everything C05's Spec encoder
`Frame.encodeOperand` emits, in all nine value formats (and additionally padded LEB128 operands) -/
theorem set_loc_operand_covers_c05_encoder (e : Endian) (enc asz x : Nat) (bytes : Bytes)
    (h : Spec.Frame.encodeOperand e enc asz x = some bytes) : Spec.Cfi.Operand e asz enc x bytes :=
  Spec.Cfi.operand_of_encodeOperand h

/-- the hypotheses are satisfiable: `DW_CFA_def_cfa r7, 8`, a signed operand, a padded
`DW_CFA_offset_extended`, and a pc-relative `set_loc` (`DW_EH_PE_pcrel | sdata4`, section at
0x1000, instruction at offset 0x20: operand −4 at 0x1021 gives 0x101d) -/
example (c : DecodeCfg) : Spec.Cfi.Encodes c 0 (.defCfa 7 8) [0x0c, 0x07, 0x08] :=
  .defCfa 7 8 [0x07] [0x08] (by unfold Spec.Cfi.RegEnc Spec.Cfi.ULeb; decide) (by unfold Spec.Cfi.ULeb; decide)
example (c : DecodeCfg) : Spec.Cfi.Encodes c 0 (.defCfaOffsetSf (-2)) [0x13, 0x7e] :=
  .defCfaOffsetSf (-2) [0x7e] (by unfold Spec.Cfi.SLeb; decide)
example (c : DecodeCfg) : Spec.Cfi.Encodes c 0 (.offset 300 2) [0x05, 0xac, 0x02, 0x82, 0x00] :=
  .offsetExtended 300 2 [0xac, 0x02] [0x82, 0x00] (by unfold Spec.Cfi.RegEnc Spec.Cfi.ULeb; decide)
    (by unfold Spec.Cfi.ULeb; decide)
example : parse { params := { addressSize := 8, sectionBase := some 0x1000 }, addressEncoding := some 0x1b } 0x20
    [0x01, 0xfc, 0xff, 0xff, 0xff, 0x41] = .ok (.setLoc 0x101d, [0x41]) := by decide

/-! ## non-vacuity: the hypotheses hold for gimli's default configuration, and every outcome
class is reachable -/

/-- gimli's default storage on a 64-bit target -/
def defaultCfg : Cfg := { codeAlign := 1, dataAlign := -8, addressSize := 8, R := some 4, N := some 192 }

example : 1 ≤ defaultCfg.addressSize ∧ defaultCfg.addressSize ≤ 8 := by decide
example : defaultCfg.R.fits 1 := by simp [defaultCfg, Cap.fits]
example : Cap.fits (none : Cap) 1 := trivial
example : Rules.NodupKeys [(1, .undefined), (2, .sameValue)] := by simp [Rules.NodupKeys, Rules.keys]

/-- a table that completes: two rows, contiguous, ending at the FDE's end address -/
example :
    (unwind defaultCfg [.defCfa 7 8, .offset 16 1] (tailOf none) [.advanceLoc 4, .defCfaOffset 16] (tailOf none)
      0x1000 0x20) =
    ([{ startAddress := 0x1000, endAddress := 0x1004, cfa := .registerAndOffset 7 8, rules := [(16, .offset (-8))] },
      { startAddress := 0x1004, endAddress := 0x1020, cfa := .registerAndOffset 7 16, rules := [(16, .offset (-8))] }],
     .ok ()) := by decide

/-- `StackFull`: one row of storage, `DW_CFA_remember_state` -/
example : (unwind { defaultCfg with R := some 1 } [] (tailOf none) [.rememberState] (tailOf none) 0 8).2 =
    .err .rStackFull := by decide

/-- `StackFull` from the initial-rule row: two initial rules need a second row -/
example : (unwind { defaultCfg with R := some 1 } [.undefined 1, .undefined 2] (tailOf none) [] (tailOf none) 0 8).2 =
    .err .rStackFull := by decide

/-- … while a single initial rule is kept outside the row stack -/
example : (unwind { defaultCfg with R := some 1 } [.undefined 1] (tailOf none) [.sameValue 1, .restore 1] (tailOf none) 0 8) =
    ([{ startAddress := 0, endAddress := 8, rules := [(1, .undefined)] }], .ok ()) := by decide

/-- `TooManyRegisterRules`: one rule of storage, two registers -/
example : (unwind { defaultCfg with N := some 1 } [] (tailOf none) [.undefined 1, .undefined 2] (tailOf none) 0 8).2 =
    .err .rTooManyRegisterRules := by decide

example : (unwind defaultCfg [] (tailOf none) [.restoreState] (tailOf none) 0 8).2 = .err .rPopWithEmptyStack := by decide
example : (unwind defaultCfg [.restore 1] (tailOf none) [] (tailOf none) 0 8).2 = .err .rCfiInstructionInInvalidContext := by
  decide
example : (unwind { defaultCfg with addressSize := 4 } [] (tailOf none) [.advanceLoc 1] (tailOf none) 0xffffffff 1).2 =
    .err .rAddressOverflow := by decide
example : (unwind defaultCfg [] (tailOf none) [.setLoc 5] (tailOf none) 6 1).2 = .err .rInvalidCfiSetLoc := by decide

end Gimli.Props.C06
