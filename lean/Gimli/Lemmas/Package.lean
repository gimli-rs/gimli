import Gimli.Model.Indexed
import Gimli.Lemmas.Index
import Gimli.Lemmas.CStr
/-!
# Package slices, indexed tables, form resolution

The `dwp_range` slices of a package are the standalone sections of the unit whose index row points
at them (`Contributes`, `packageSlices_standalone`); the accessors of the indexed tables and
`Dwarf::attr_string` / `Dwarf::attr_address` never panic.
-/
namespace Gimli.C17

-- `Pub.readCStr` here and not in Lemmas/Pub: `Names.getStr` below reads with it, and Lemmas/Pub imports this file
theorem _root_.Gimli.Pub.readCStr_isCStr : IsCStr Pub.readCStr := ⟨rfl, fun _ _ => by rw [Pub.readCStr]⟩

theorem readCStr_ensures (bs : Bytes) : (Pub.readCStr bs).Ensures fun p => p.2.length < bs.length :=
  Pub.readCStr_isCStr.ensures bs

theorem readCStr_name (n rest : Bytes) (h : ∀ b, b ∈ n → b ≠ 0) :
    Pub.readCStr (n ++ 0 :: rest) = .ok (n, rest) :=
  Pub.readCStr_isCStr.eq_ok_iff.mpr ⟨rfl, fun h0 => h 0 h0 rfl⟩

end Gimli.C17

namespace Gimli.Index
open Gimli Gimli.C17 Gimli.Ints Gimli.Spec.Index

theorem dwpRange_slice (pre c post : Bytes) :
    dwpRange (pre ++ c ++ post) pre.length c.length = .ok c := by
  have h1 : ¬ pre.length > (pre ++ c ++ post).length := by
    rw [List.append_assoc, List.length_append]; omega
  have h2 : ¬ c.length > ((pre ++ c ++ post).drop pre.length).length := by
    rw [List.append_assoc, List.drop_left, List.length_append]; omega
  rw [dwpRange, if_neg h1]
  dsimp only
  rw [if_neg h2, List.append_assoc, List.drop_left, List.take_left]

theorem dwpRange_zero (data : Bytes) : dwpRange data 0 0 = .ok [] := rfl

theorem dwpRange_normal (d : Bytes) (o s : Nat) : (dwpRange d o s).Normal :=
  .ite trivial (.ite trivial trivial)

theorem packageSlices_normal (pkg : SecKind → Bytes) (cols : List (SecKind × Nat × Nat)) (ks : List SecKind) :
    (packageSlices pkg cols ks).Normal := by
  induction ks with
  | nil => trivial
  | cons k ks ih =>
    exact (dwpRange_normal _ _ _).bind fun _ _ => ih.bind fun _ _ => trivial

theorem findUnit_normal (e : Endian) (ix : UnitIndex) (pkg : SecKind → Bytes) (id : Nat) :
    (findUnit e ix pkg id).Normal := by
  unfold findUnit
  split
  · trivial
  · exact (sections_ensures e ix _).1.bind fun _ _ => (packageSlices_normal _ _ _).bind fun _ _ => trivial

theorem foldl_no_match (cols : List (SecKind × Nat × Nat)) (k : SecKind) (acc : Nat × Nat)
    (h : ∀ c, c ∈ cols → c.1 ≠ k) :
    List.foldl (fun acc c => if c.1 = k then c.2 else acc) acc cols = acc := by
  induction cols generalizing acc with
  | nil => rfl
  | cons c cols ih =>
    rw [List.foldl_cons, if_neg (h c List.mem_cons_self)]
    exact ih acc fun c' hc' => h c' (List.mem_cons_of_mem _ hc')

theorem contribution_absent (cols : List (SecKind × Nat × Nat)) (k : SecKind)
    (h : ∀ c, c ∈ cols → c.1 ≠ k) : contribution cols k = (0, 0) :=
  foldl_no_match cols k (0, 0) h

theorem contribution_unique (cols : List (SecKind × Nat × Nat)) (k : SecKind) (o s : Nat)
    (hmem : (k, o, s) ∈ cols) (huniq : (cols.map (·.1)).Nodup) : contribution cols k = (o, s) := by
  unfold contribution
  generalize (0, 0) = acc
  induction cols generalizing acc with
  | nil => exact nomatch hmem
  | cons c cols ih =>
    rw [List.map_cons, List.nodup_cons] at huniq
    rw [List.foldl_cons]
    rcases List.mem_cons.mp hmem with he | hm
    · -- the column is this one; no later column has its kind
      subst he
      rw [if_pos rfl]
      exact foldl_no_match _ _ _ fun c' hc' hk =>
        huniq.1 (by rw [← hk]; exact List.mem_map_of_mem (f := fun x => x.1) hc')
    · have hne : c.1 ≠ k := fun hk =>
        huniq.1 (hk ▸ List.mem_map_of_mem (f := fun (x : SecKind × Nat × Nat) => x.1) hm)
      rw [if_neg hne]
      exact ih hm huniq.2 acc

/-- what a unit contributes to the package: for every section kind either nothing (no column of
that kind; the standalone section is empty) or the bytes `c` found at `pre.length` in the
package section -/
def Contributes (pkg : SecKind → Bytes) (cols : List (SecKind × Nat × Nat)) (standalone : SecKind → Bytes)
    (k : SecKind) : Prop :=
  ((∀ c, c ∈ cols → c.1 ≠ k) ∧ standalone k = []) ∨
  (∃ pre post, pkg k = pre ++ standalone k ++ post ∧ (k, pre.length, (standalone k).length) ∈ cols)

theorem packageSlices_standalone (pkg : SecKind → Bytes) (cols : List (SecKind × Nat × Nat))
    (standalone : SecKind → Bytes) (huniq : (cols.map (·.1)).Nodup) (ks : List SecKind)
    (h : ∀ k, k ∈ ks → Contributes pkg cols standalone k) :
    packageSlices pkg cols ks = .ok (ks.map fun k => (k, standalone k)) := by
  induction ks with
  | nil => rfl
  | cons k ks ih =>
    have hk : dwpRange (pkg k) (contribution cols k).1 (contribution cols k).2 = .ok (standalone k) := by
      rcases h k List.mem_cons_self with ⟨habs, hemp⟩ | ⟨pre, post, hp, hm⟩
      · rw [contribution_absent cols k habs, hemp]; exact dwpRange_zero _
      · rw [contribution_unique cols k _ _ hm huniq, hp]; exact dwpRange_slice _ _ _
    rw [packageSlices, hk, Out.bind_ok, ih fun k' hk' => h k' (List.mem_cons_of_mem _ hk')]
    rfl

theorem findUnit_exact (e : Endian) (kvs : List (Nat × Nat)) (ix : UnitIndex)
    (hfind : ∀ id, find e ix id = scan kvs id)
    (offs szs : List (List Nat))
    (hk : ix.sections.length = ix.sectionCount) (hnodup : ix.sections.Nodup)
    (hro : offs.length = ix.unitCount) (hrs : szs.length = ix.unitCount)
    (hco : ∀ r, r ∈ offs → r.length = ix.sectionCount ∧ ∀ v, v ∈ r → v < 2 ^ 32)
    (hcs : ∀ r, r ∈ szs → r.length = ix.sectionCount ∧ ∀ v, v ∈ r → v < 2 ^ 32)
    (hoff : ix.offsets = encMatrix e offs) (hsz : ix.sizes = encMatrix e szs)
    (pkg standalone : SecKind → Bytes) (id : Nat) :
    (scan kvs id = none → findUnit e ix pkg id = .ok none) ∧
    (∀ row, scan kvs id = some row → 1 ≤ row → row ≤ ix.unitCount →
      (∀ kd, kd ∈ sliceOrder → Contributes pkg
        (ix.sections.zip ((offs.getD (row - 1) []).zip (szs.getD (row - 1) []))) standalone kd) →
      findUnit e ix pkg id = .ok (some (row, sliceOrder.map fun kd => (kd, standalone kd)))) := by
  have hf := hfind id
  refine ⟨fun h => by rw [findUnit, hf, h], fun row h h1 h2 hc => ?_⟩
  -- the zipped row lists each column kind once, because the kinds are distinct
  have hu : ((ix.sections.zip ((offs.getD (row - 1) []).zip (szs.getD (row - 1) []))).map (·.1)).Nodup := by
    have hpo : row - 1 < offs.length := by omega
    have hps : row - 1 < szs.length := by omega
    have ho := (hco _ (List.getElem_mem hpo)).1
    have hs := (hcs _ (List.getElem_mem hps)).1
    rw [List.map_fst_zip (by
      rw [List.length_zip, List.getD_eq_getElem?_getD, List.getD_eq_getElem?_getD,
        List.getElem?_eq_getElem hpo, List.getElem?_eq_getElem hps]
      show ix.sections.length ≤ min offs[row - 1].length szs[row - 1].length
      omega)]
    exact hnodup
  rw [findUnit, hf, h]
  dsimp only
  rw [sections_matrix e ix offs szs row hk hro hrs hco hcs hoff hsz h1 h2, Out.bind_ok,
    packageSlices_standalone pkg _ standalone hu sliceOrder hc]
  rfl

end Gimli.Index

namespace Gimli.Indexed
open Gimli Gimli.Ints Gimli.Index Gimli.C17
open Gimli.Names (skipTo getStr)

theorem getStrOffset_normal (e : Endian) (f : Format) (sec : Bytes) (base index : Nat) :
    (getStrOffset e f sec base index).Normal :=
  (skipTo_ensures _ _).1.bind fun r _ => .ite trivial <|
    (skipTo_ensures r _).1.bind fun r2 _ => (readWord_ensures e f r2).1.bind fun _ _ => trivial

theorem getAddress_normal (e : Endian) (sz : Nat) (sec : Bytes) (base index : Nat) :
    (getAddress e sz sec base index).Normal :=
  (skipTo_ensures _ _).1.bind fun r _ => .ite trivial <|
    (skipTo_ensures r _).1.bind fun r2 _ => (readAddress_ensures e sz r2).1.bind fun _ _ => trivial

theorem getStr_normal (s : Bytes) (off : Nat) : (getStr s off).Normal :=
  (skipTo_ensures _ _).1.bind fun r _ => (readCStr_ensures r).1.bind fun _ _ => trivial

theorem getStr_at (pre s post : Bytes) (hs : ∀ b, b ∈ s → b ≠ 0) :
    getStr (pre ++ (s ++ 0 :: post)) pre.length = .ok s := by
  rw [getStr, skipTo_append, Out.bind_ok, readCStr_name s post hs]
  rfl

theorem attrString_normal (c : Ctx) (a : AttrVal) : (attrString c a).Normal := by
  cases a with
  | debugStrRef off => exact getStr_normal _ _
  | debugStrRefSup off =>
    rw [attrString]
    cases c.supDebugStr with
    | some s => exact getStr_normal _ _
    | none => trivial
  | debugLineStrRef off => exact getStr_normal _ _
  | debugStrOffsetsIndex index =>
    exact (getStrOffset_normal _ _ _ _ _).bind fun _ _ => getStr_normal _ _
  | _ => trivial

theorem attrAddress_normal (c : Ctx) (a : AttrVal) : (attrAddress c a).Normal := by
  cases a with
  | debugAddrIndex index => exact (getAddress_normal _ _ _ _ _).map _
  | _ => trivial
end Gimli.Indexed
