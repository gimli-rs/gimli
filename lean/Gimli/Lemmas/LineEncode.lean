import Gimli.Lemmas.LineDecode
import Gimli.Lemmas.Reads
/-! decode ∘ encode = id for line-number instructions: the Model decoder (`parseInstr`, the mirror
of `LineInstruction::parse`) inverts the Spec encoder (`Spec.Line.encodeInstr`, DWARF §6.2.5). -/
namespace Gimli.Line
open Gimli Gimli.Spec Gimli.Spec.Line

theorem ofNat_toNat (n : Nat) (h : n < 256) : (UInt8.ofNat n).toNat = n :=
  UInt8.toNat_ofNat_of_lt' h

theorem parseInstr_ext (h : Params) (sub : Nat) (payload rest : Bytes) (i : Instr)
    (hlen : payload.length + 1 < 2 ^ 64)
    (hx : parseExtended h (UInt8.ofNat sub :: payload) = .ok i) :
    parseInstr h (encodeExt sub payload ++ rest) = .ok (i, rest) := by
  rw [encodeExt, List.cons_append, List.append_assoc, parseInstr_cons, if_pos (show (0 : UInt8).toNat = 0 from rfl)]
  refine Out.bind_eq_ok_iff.mpr ⟨_, Leb.unsigned_roundtrip _ hlen _, ?_⟩
  refine Out.bind_eq_ok_iff.mpr ⟨_, Ints.take_prefix (UInt8.ofNat sub :: payload) rest, ?_⟩
  exact Out.bind_eq_ok_iff.mpr ⟨_, hx, rfl⟩

theorem readCStr_encode (p rest : Bytes) (hp : (0 : UInt8) ∉ p) :
    readCStr (p ++ 0 :: rest) = .ok (p, rest) := readCStr_isCStr.eq_ok_iff.mpr ⟨rfl, hp⟩

theorem reads_cstr_bind {β : Type} {p w : Bytes} {k : Bytes × Bytes → Out (β × Bytes)} {r : β}
    (hp : (0 : UInt8) ∉ p) (h : Reads (fun bs => k (p, bs)) w r) :
    Reads (fun bs => readCStr bs >>= k) (p ++ 0 :: w) r := fun rest =>
  Out.bind_eq_ok_iff.mpr ⟨_, List.append_assoc p _ rest ▸ readCStr_encode p (w ++ rest) hp, h rest⟩

theorem skipUlebs_append (n : Nat) : ∀ (args rest : Bytes), skipUlebs n args = .ok [] →
    skipUlebs n (args ++ rest) = .ok rest := by
  intro args rest h
  obtain ⟨pre, hpre, hall⟩ := skipUlebs_local n args [] h
  rw [List.append_nil] at hpre
  rw [hpre]; exact hall rest

theorem parseInstr_special (h : Params) (op : Nat) (hob : 1 ≤ h.opcodeBase) (hlo : h.opcodeBase ≤ op)
    (hhi : op ≤ 255) (input : Bytes) :
    parseInstr h (UInt8.ofNat op :: input) = .ok (.special op, input) := by
  rw [parseInstr_cons, ofNat_toNat op (by omega), if_neg (by omega), if_pos hlo]

theorem parseInstr_standard (h : Params) (op : Nat) (h0 : 0 < op) (hlt : op < h.opcodeBase)
    (hob : h.opcodeBase ≤ 255) (input : Bytes) :
    parseInstr h (UInt8.ofNat op :: input) = parseStandard h op input := by
  rw [parseInstr_cons, ofNat_toNat op (by omega), if_neg (by omega), if_neg (by omega)]

def fileOf (x : Bytes × Nat × Nat × Nat) : FileEntry :=
  { path := .string x.1, dirIndex := x.2.1, timestamp := x.2.2.1, size := x.2.2.2,
    md5 := List.replicate 16 0, source := none }

theorem parseFileEntryV4_encode (n : Bytes) (d t s : Nat) (hd : d < 2 ^ 64) (ht : t < 2 ^ 64) (hs : s < 2 ^ 64) :
    Reads (parseFileEntryV4 n) (Leb.encodeU d ++ Leb.encodeU t ++ Leb.encodeU s) (fileOf (n, d, t, s)) :=
  List.append_assoc _ _ _ ▸ (Leb.reads_unsigned hd).bind <| (Leb.reads_unsigned ht).bind <| (Leb.reads_unsigned hs).map fun _ => rfl

/-- **decode ∘ encode = id, one instruction.** Of the header this needs only that `opcode_base`
is a non-zero byte (opcode 0 opens an extended instruction) and that `DW_LNE_set_address` has an
address size `read_address` accepts. -/
theorem parseInstr_encode (h : Params) (hob1 : 1 ≤ h.opcodeBase) (hob2 : h.opcodeBase ≤ 255)
    (hsz : h.addrSize = 1 ∨ h.addrSize = 2 ∨ h.addrSize = 4 ∨ h.addrSize = 8)
    (i : Instr) (hok : EncOk h i) (rest : Bytes) :
    parseInstr h (encodeInstr h i ++ rest) = .ok (i, rest) := by
  have operand : ∀ {α : Type} (g : α → Instr) {r : Out (α × Bytes)} {v : α},
      r = .ok (v, rest) → mapRead g r = .ok (g v, rest) := fun g _ _ hr => hr ▸ rfl
  -- for the opcodes 1..12, `parseStandard` with the literal opcode evaluates to the arm in question
  cases i with
  | special op => exact parseInstr_special h op hob1 hok.1 hok.2 rest
  | copy => exact parseInstr_standard h 1 (by decide) hok hob2 rest
  | advancePc n =>
    exact (parseInstr_standard h 2 (by decide) hok.1 hob2 _).trans
      (operand _ (Leb.unsigned_roundtrip n hok.2 rest))
  | advanceLine n =>
    exact (parseInstr_standard h 3 (by decide) hok.1 hob2 _).trans
      (operand _ (Leb.signed_roundtrip n hok.2.1 hok.2.2 rest))
  | setFile n =>
    exact (parseInstr_standard h 4 (by decide) hok.1 hob2 _).trans
      (operand _ (Leb.unsigned_roundtrip n hok.2 rest))
  | setColumn n =>
    exact (parseInstr_standard h 5 (by decide) hok.1 hob2 _).trans
      (operand _ (Leb.unsigned_roundtrip n hok.2 rest))
  | negateStatement => exact parseInstr_standard h 6 (by decide) hok hob2 rest
  | setBasicBlock => exact parseInstr_standard h 7 (by decide) hok hob2 rest
  | constAddPc => exact parseInstr_standard h 8 (by decide) hok hob2 rest
  | fixedAddPc n =>
    exact (parseInstr_standard h 9 (by decide) hok.1 hob2 _).trans
      (operand _ (Ints.readFixed_toBytes h.endian 2 n rest hok.2))
  | setPrologueEnd => exact parseInstr_standard h 10 (by decide) hok hob2 rest
  | setEpilogueBegin => exact parseInstr_standard h 11 (by decide) hok hob2 rest
  | setIsa n =>
    exact (parseInstr_standard h 12 (by decide) hok.1 hob2 _).trans
      (operand _ (Leb.unsigned_roundtrip n hok.2 rest))
  | unknownStandard0 op =>
    obtain ⟨h13, hlt, hd⟩ := hok
    refine (parseInstr_standard h op (Nat.lt_of_lt_of_le (by decide) h13) hlt hob2 _).trans ?_
    rw [parseStandard_unknown (.inr h13), hd]
    rfl
  | unknownStandard1 op a =>
    obtain ⟨h13, hlt, hd, ha⟩ := hok
    refine (parseInstr_standard h op (Nat.lt_of_lt_of_le (by decide) h13) hlt hob2 _).trans ?_
    rw [parseStandard_unknown (.inr h13), hd]
    exact operand _ (Leb.unsigned_roundtrip a ha rest)
  | unknownStandardN op args =>
    obtain ⟨h13, hlt, hsome, hall⟩ := hok
    obtain ⟨n, hd⟩ := Option.isSome_iff_exists.mp hsome
    rw [hd, Option.all_some, decide_eq_true_eq] at hall
    refine (parseInstr_standard h op (Nat.lt_of_lt_of_le (by decide) h13) hlt hob2 _).trans ?_
    rw [parseStandard_unknown (.inr h13), hd]
    dsimp only
    rw [if_neg (by omega), if_neg (by omega)]
    exact Out.bind_eq_ok_iff.mpr ⟨rest, skipUlebs_append _ _ _ hall.2,
      congrArg (fun a => Out.ok (Instr.unknownStandardN op a, rest)) (take_prefix args rest)⟩
  | endSequence => exact parseInstr_ext h 1 [] rest _ (by decide) rfl
  | setAddress a =>
    refine parseInstr_ext h 2 _ rest _ (by rw [Ints.toBytes_length]; omega) ?_
    have := Ints.readFixed_toBytes h.endian h.addrSize a [] (Ints.pow256 _ ▸ hok)
    rw [List.append_nil] at this
    exact Out.bind_eq_ok_iff.mpr ⟨(a, []), (if_pos hsz).trans this, rfl⟩
  | defineFile f =>
    obtain ⟨hver, hsome, hall, hd, ht, hsize, hmd5, hsrc⟩ := hok
    obtain ⟨path, dirIndex, timestamp, size, md5, source⟩ := f
    cases path with
    | string p =>
      cases hmd5; cases hsrc
      obtain ⟨hp0, hplen⟩ : (0 : UInt8) ∉ p ∧ p.length < 2 ^ 63 := of_decide_eq_true hall
      have l1 := (Leb.encodeU_spec dirIndex hd).2.2.1
      have l2 := (Leb.encodeU_spec timestamp ht).2.2.1
      have l3 := (Leb.encodeU_spec size hsize).2.2.1
      refine parseInstr_ext h 3 _ rest _ (by simp only [List.length_append, List.length_cons]; omega) ?_
      refine (if_pos hver).trans ?_
      refine Out.bind_eq_ok_iff.mpr ⟨_, readCStr_encode p _ hp0, ?_⟩
      exact Out.bind_eq_ok_iff.mpr
        ⟨_, List.append_nil _ ▸ parseFileEntryV4_encode p dirIndex timestamp size hd ht hsize [], rfl⟩
    | _ => cases hsome
  | setDiscriminator n =>
    have l1 := (Leb.encodeU_spec n hok).2.2.1
    refine parseInstr_ext h 4 _ rest _ (by omega) ?_
    exact Out.bind_eq_ok_iff.mpr ⟨_, List.append_nil _ ▸ Leb.unsigned_roundtrip n hok [], rfl⟩
  | unknownExtended op data =>
    obtain ⟨h255, h1, h2, h4, h3, hlen⟩ := hok
    refine parseInstr_ext h op _ rest _ hlen ?_
    simp only [parseExtended, ofNat_toNat op (by omega)]
    rw [if_neg h1, if_neg h2]
    by_cases h3' : op = 3
    · rw [if_pos h3', if_neg (by have := h3 h3'; omega), h3']
    · rw [if_neg h3', if_neg h4]

theorem encodeInstr_length_pos (h : Params) (i : Instr) : 0 < (encodeInstr h i).length := by
  cases i <;> exact Nat.succ_pos _

theorem encodeProg_length (h : Params) (prog : List Instr) : prog.length ≤ (encodeProg h prog).length := by
  induction prog with
  | nil => simp [encodeProg]
  | cons i is ih =>
    have := encodeInstr_length_pos h i
    simp only [encodeProg, List.length_append, List.length_cons]
    omega

theorem decodeAll_encodeProg (h : Params) (hob1 : 1 ≤ h.opcodeBase) (hob2 : h.opcodeBase ≤ 255)
    (hsz : h.addrSize = 1 ∨ h.addrSize = 2 ∨ h.addrSize = 4 ∨ h.addrSize = 8) (prog : List Instr) :
    (∀ i ∈ prog, EncOk h i) →
    ∀ fuel, prog.length < fuel → decodeAll h fuel (encodeProg h prog) = .ok prog := by
  induction prog with
  | nil =>
    intro _ fuel hf
    cases fuel with
    | zero => omega
    | succ fuel => simp [decodeAll, encodeProg]
  | cons i is ih =>
    intro hok fuel hf
    cases fuel with
    | zero => omega
    | succ fuel =>
      have hne : ¬ (encodeProg h (i :: is)).isEmpty = true := fun hem =>
        absurd (encodeInstr_length_pos h i) (by rw [(List.append_eq_nil_iff.mp (List.isEmpty_iff.mp hem)).1]; decide)
      rw [decodeAll_succ, if_neg hne, encodeProg]
      exact Out.bind_eq_ok_iff.mpr ⟨_, parseInstr_encode h hob1 hob2 hsz i (hok i List.mem_cons_self) _,
        Out.bind_eq_ok_iff.mpr ⟨_, ih (fun j hj => hok j (List.mem_cons_of_mem _ hj)) fuel
          (Nat.lt_of_succ_lt_succ hf), rfl⟩⟩

end Gimli.Line
