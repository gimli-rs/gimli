import Gimli.Lemmas.LineHeader
import Gimli.Lemmas.LineEncode
import Gimli.Lemmas.Reads
import Gimli.Spec.LineHeader
/-! `parseHeader ∘ encodeHeaderV4 = id` (versions 2–4), through the stages of `LineHeader`: the
prologue and the parameters are read back from their encodings the same way in every version
(`parsePrologue_encode`, `parseParams_encode`); the tables are what differs. -/
namespace Gimli.Line
open Gimli Gimli.Spec Gimli.Spec.Line

/-! ### one lemma per kind of field -/

theorem readCStr_encode' (p rest : Bytes) (hp : (0 : UInt8) ∉ p) :
    readCStr (p ++ 0 :: rest) = .ok (p, rest) := readCStr_encode p rest hp

theorem rf1 (e : Endian) (v : Nat) (hv : v < 256) : Reads (Ints.readFixed e 1) (Ints.toBytes e 1 v) v :=
  Ints.reads_fixed e 1 (by omega)

theorem toI8_encode (i : Int) (h1 : -128 ≤ i) (h2 : i ≤ 127) : toI8 (i % 256).toNat = i :=
  (toI8_eq_sval (Twos.pat_lt 8 i)).trans ((Twos.sval_pat (w := 8) (by decide) i).mpr ⟨h1, Int.lt_add_one_of_le h2⟩)

theorem readWord_encode (e : Endian) (f : Format) (v : Nat)
    (h32 : f = .dwarf32 → v < 2 ^ 32) (h64 : v < 2 ^ 64) : Reads (Ints.readWord e 64 f) (wordBytes e f v) v := by
  cases f with
  | dwarf32 => exact Ints.reads_word e .dwarf32 (show v < 256 ^ 4 by have := h32 rfl; omega)
  | dwarf64 => exact Ints.reads_word e .dwarf64 (show v < 256 ^ 8 by omega)

/-! ### prologue and parameters, every version -/

/-- the unit after its initial length, as `parsePrologue` reads it: `address_size` and
`segment_selector_size` are there from version 5 on -/
def encodeUnit (p : Params) (fields program : Bytes) : Bytes :=
  Ints.toBytes p.endian 2 p.version ++
  (if p.version ≥ 5 then Ints.toBytes p.endian 1 p.addrSize ++ Ints.toBytes p.endian 1 0 else []) ++
  wordBytes p.endian p.format fields.length ++ fields ++ program

/-- before version 5 the address size is not in the header: the caller's is passed through -/
theorem parsePrologue_encode (p : Params) (hv : p.Valid) (asz : Nat) (fields program il trailing : Bytes)
    (hlen : (encodeUnit p fields program).length < 2 ^ 64)
    (h32 : p.format = .dwarf32 → fields.length < 2 ^ 32)
    (hil : Ints.writeInitialLength p.endian p.format (encodeUnit p fields program).length = .ok il) :
    parsePrologue p.endian asz (il ++ encodeUnit p fields program ++ trailing) =
      .ok ⟨(encodeUnit p fields program).length, p.format, p.version,
        if p.version ≥ 5 then p.addrSize else asz, fields.length, fields, program⟩ := by
  obtain ⟨hver2, hver5, hsz, -⟩ := hv
  have hfl : fields.length < 2 ^ 64 := by
    have : fields.length ≤ (encodeUnit p fields program).length := by
      simp only [encodeUnit, List.length_append]; omega
    omega
  unfold parsePrologue
  rw [List.append_assoc]
  refine Out.bind_eq_ok_iff.mpr ⟨_, Ints.reads_initialLength hlen hil _, ?_⟩
  refine Out.bind_eq_ok_iff.mpr ⟨_, Ints.reads_take _ _, ?_⟩
  -- what follows reads inside the unit, and keeps the program
  generalize (encodeUnit p fields program).length = L
  show (Ints.readFixed p.endian 2 _ >>= _) = _
  rw [show encodeUnit p fields program = Ints.toBytes p.endian 2 p.version ++ ((if p.version ≥ 5 then
      Ints.toBytes p.endian 1 p.addrSize ++ Ints.toBytes p.endian 1 0 else []) ++
      (wordBytes p.endian p.format fields.length ++ fields)) ++ program by simp only [encodeUnit, List.append_assoc]]
  refine (?_ : ReadsTo (fun bs => Ints.readFixed p.endian 2 bs >>= _) _
    fun pr => (⟨L, _, _, _, _, fields, pr⟩ : Prologue)) program
  exact .bind (Ints.reads_fixed _ 2 (Nat.lt_of_le_of_lt hver5 (by decide))) <|
    .ite_neg (not_or.mpr ⟨Nat.not_lt.mpr hver2, Nat.not_lt.mpr hver5⟩) <|
    .bind (.ite (fun _ => .bind (Ints.reads_addressSize _ hsz) <| .map (rf1 _ 0 (by decide)) fun _ => rfl)
      fun _ => .pure _) <|
    .bind (readWord_encode _ _ _ h32 hfl) <| .map (Ints.reads_take _) fun _ => rfl

/-- the fields `parseParams` reads; `maximum_operations_per_instruction` exists from version 4 on -/
def encodeParams (p : Params) : Bytes :=
  Ints.toBytes p.endian 1 p.minInstLen ++
  (if p.version ≥ 4 then Ints.toBytes p.endian 1 p.maxOps else []) ++
  Ints.toBytes p.endian 1 (if p.defaultIsStmt then 1 else 0) ++
  Ints.toBytes p.endian 1 (p.lineBase % 256).toNat ++
  Ints.toBytes p.endian 1 p.lineRange ++
  Ints.toBytes p.endian 1 p.opcodeBase ++ p.stdLens

theorem parseParams_encode (p : Params) (hv : p.Valid) (asz : Nat) :
    Reads (parseParams p.endian p.format p.version asz) (encodeParams p) { p with addrSize := asz } := by
  obtain ⟨-, -, -, hmin1, hmin2, hmax1, hmax2, hlb1, hlb2, hlr1, hlr2, hob1, hob2, hstd, hmaxv⟩ := hv
  have hstmt : ((if p.defaultIsStmt then 1 else 0 : Nat) != 0) = p.defaultIsStmt := by
    cases p.defaultIsStmt <;> rfl
  unfold encodeParams
  simp only [List.append_assoc]
  unfold parseParams
  refine (rf1 _ _ (Nat.lt_succ_of_le hmin2)).bind <| .ite_neg (Nat.ne_of_gt hmin1) <|
    (Reads.opt (rf1 _ _ (Nat.lt_succ_of_le hmax2)) fun h => hmaxv (Nat.le_of_lt_succ (Nat.lt_of_not_le h))).bind <|
    .ite_neg (Nat.ne_of_gt hmax1) <| (rf1 _ (if p.defaultIsStmt then 1 else 0) (by split <;> decide)).bind <|
    (rf1 _ (p.lineBase % 256).toNat (by omega)).bind <|
    (rf1 _ _ (Nat.lt_succ_of_le hlr2)).bind <| .ite_neg (Nat.ne_of_gt hlr1) <|
    (rf1 _ _ (Nat.lt_succ_of_le hob2)).bind <| .ite_neg (Nat.ne_of_gt hob1) <|
    (hstd ▸ Ints.reads_take p.stdLens).map fun _ => ?_
  dsimp only
  rw [hstmt, toI8_encode _ hlb1 hlb2]
  rfl

/-! ### the tables of versions 2–4 -/

theorem encodeDirs_length (dirs : List Bytes) : dirs.length < (encodeDirs dirs).length := by
  induction dirs with
  | nil => simp [encodeDirs]
  | cons d ds ih => simp only [encodeDirs, List.length_append, List.length_cons]; omega

theorem encodeFiles_length (files : List (Bytes × Nat × Nat × Nat)) :
    files.length < (encodeFiles files).length := by
  induction files with
  | nil => simp [encodeFiles]
  | cons f fs ih =>
    obtain ⟨n, d, t, s⟩ := f
    simp only [encodeFiles, List.length_append, List.length_cons]; omega

theorem parseDirsV4_encode (dirs : List Bytes) (hd : ∀ d ∈ dirs, d ≠ [] ∧ (0 : UInt8) ∉ d) :
    ∀ fuel, dirs.length < fuel → Reads (parseDirsV4 fuel) (encodeDirs dirs) (dirs.map .string) := by
  induction dirs with
  | nil =>
    intro fuel hf
    cases fuel with
    | zero => omega
    | succ fuel => exact fun _ => rfl
  | cons d ds ih =>
    intro fuel hf
    cases fuel with
    | zero => omega
    | succ fuel =>
      obtain ⟨hne, h0⟩ := hd d List.mem_cons_self
      exact reads_cstr_bind h0 <| .ite_neg (by simpa using hne) <|
        (ih (fun x hx => hd x (List.mem_cons_of_mem _ hx)) fuel (Nat.lt_of_succ_lt_succ hf)).map fun _ => rfl

theorem parseFilesV4_encode (files : List (Bytes × Nat × Nat × Nat))
    (hf : ∀ f ∈ files, f.1 ≠ [] ∧ (0 : UInt8) ∉ f.1 ∧ f.2.1 < 2 ^ 64 ∧ f.2.2.1 < 2 ^ 64 ∧ f.2.2.2 < 2 ^ 64) :
    ∀ fuel, files.length < fuel → Reads (parseFilesV4 fuel) (encodeFiles files) (files.map fileOf) := by
  induction files with
  | nil =>
    intro fuel hfu
    cases fuel with
    | zero => omega
    | succ fuel => exact fun _ => rfl
  | cons x fs ih =>
    intro fuel hfu
    cases fuel with
    | zero => omega
    | succ fuel =>
      obtain ⟨n, d, t, s⟩ := x
      obtain ⟨hne, h0, hd, ht, hs⟩ := hf (n, d, t, s) List.mem_cons_self
      exact reads_cstr_bind h0 <| .ite_neg (by simpa using hne) <|
        (parseFileEntryV4_encode n d t s hd ht hs).bind <|
        (ih (fun x hx => hf x (List.mem_cons_of_mem _ hx)) fuel (Nat.lt_of_succ_lt_succ hfu)).map fun _ => rfl

/-- **Header round trip, versions 2–4**, for any address size the caller passes: these versions
do not record it, and `parseHeader` copies the argument. -/
theorem parseHeader_encodeV4_asz (hs : HeaderV4) (hwf : hs.WF) (asz : Nat) (cd cn : Option Bytes)
    (bytes trailing : Bytes) (henc : encodeHeaderV4 hs = .ok bytes) :
    parseHeader hs.p.endian asz cd cn (bytes ++ trailing) =
      .ok { hs.expected cd cn with p := { hs.p with addrSize := asz } } := by
  obtain ⟨hv, hver4, hdirs, hfiles, hblen, hflen⟩ := hwf
  have hv5 : ¬ hs.p.version ≥ 5 := by omega
  have hbody : encodeBody hs = encodeUnit hs.p (encodeFields hs) hs.program := by
    rw [encodeBody, encodeUnit, if_neg hv5, List.append_nil]
  obtain ⟨il, hil, h⟩ := Out.bind_eq_ok henc
  cases h
  rw [hbody] at hil hblen
  rw [parseHeader_eq, hbody]
  refine Out.bind_eq_ok_iff.mpr
    ⟨_, parsePrologue_encode hs.p hv asz _ _ il trailing hblen hflen hil, ?_⟩
  dsimp only
  rw [if_neg hv5]
  have hfields : encodeFields hs = encodeParams hs.p ++ (encodeDirs hs.dirs ++ encodeFiles hs.files) :=
    List.append_assoc _ _ _
  refine Out.bind_eq_ok_iff.mpr ⟨_, (congrArg _ hfields).trans (parseParams_encode hs.p hv asz _), ?_⟩
  dsimp only [parseTables]
  rw [if_pos hver4]
  refine Out.bind_eq_ok_iff.mpr ⟨_, parseDirsV4_encode hs.dirs hdirs _ (by
    have := encodeDirs_length hs.dirs; simp only [List.length_append]; omega) _, ?_⟩
  refine Out.bind_eq_ok_iff.mpr ⟨_, (List.append_nil _ ▸ parseFilesV4_encode hs.files hfiles _
    (Nat.lt_succ_of_lt (encodeFiles_length hs.files)) []), ?_⟩
  rw [HeaderV4.expected, hbody]
  rfl

theorem parseHeader_encodeV4 (hs : HeaderV4) (hwf : hs.WF) (cd cn : Option Bytes) (bytes trailing : Bytes)
    (henc : encodeHeaderV4 hs = .ok bytes) :
    parseHeader hs.p.endian hs.p.addrSize cd cn (bytes ++ trailing) = .ok (hs.expected cd cn) :=
  -- `hs.expected` is a structure instance whose `p` is `hs.p`
  (parseHeader_encodeV4_asz hs hwf hs.p.addrSize cd cn bytes trailing henc).trans
    (congrArg Out.ok (by unfold HeaderV4.expected; rfl))

end Gimli.Line
