import Gimli.Lemmas.ReaderSim
/-!
The concrete reader kinds (C10). `truncate`, `skip`, `split` and `read_slice` of `EndianSlice` all
have one shape (`checked`), `SubRange`'s pointer arithmetic computes the same functions, so the
two concrete kinds are the same Model (`sharedImpl_eq`); both keep their window inside the section
(`Win`). The work is done on the slice kind (`sliceCore`, `sliceImpl`); a statement about the shared kind is carried there by
`sharedCore_eq` / `sharedImpl_eq` as its first step. `RelocateReader` is as safe as the reader it wraps, and with the
identity relocation it is simulated by it.
-/
namespace Gimli.Rd
variable {σ α : Type}

def Cur.adv (c : Cur) (n : Nat) : Cur := { c with off := c.off + n, len := c.len - n }

def checked (n : Nat) (v : Cur → α) (f : Cur → Cur) : M Cur α := fun c =>
  if c.len < n then (.err .rUnexpectedEof, c) else (.ok (v c), f c)

theorem Slice.truncate_eq_checked (n : Nat) :
    Slice.truncate n = checked n (fun _ => ()) (fun c => { c with len := n }) := rfl

theorem Slice.skip_eq_checked (n : Nat) : Slice.skip n = checked n (fun _ => ()) (·.adv n) := rfl

theorem Slice.split_eq_checked (n : Nat) :
    Slice.split n = checked n (fun c => { c with len := n }) (·.adv n) := rfl

theorem checked_lt {n : Nat} {c : Cur} (h : c.len < n) (v : Cur → α) (f : Cur → Cur) :
    checked n v f c = (.err .rUnexpectedEof, c) := if_pos h

theorem checked_le {n : Nat} {c : Cur} (h : n ≤ c.len) (v : Cur → α) (f : Cur → Cur) :
    checked n v f c = (.ok (v c), f c) := if_neg (Nat.not_lt.mpr h)

theorem checked_ok {n : Nat} {v : Cur → α} {f : Cur → Cur} {c c' : Cur} {a : α} :
    checked n v f c = (.ok a, c') ↔ n ≤ c.len ∧ v c = a ∧ f c = c' := by
  by_cases h : c.len < n
  · simp [checked_lt h, Nat.not_le_of_lt h]
  · simp [checked_le (Nat.le_of_not_lt h), Nat.le_of_not_lt h]

theorem checked_bind {β : Type} (n : Nat) (v : Cur → α) (f : Cur → Cur) (k : α → M Cur β) :
    M.bind (checked n v f) k = fun c => if c.len < n then (.err .rUnexpectedEof, c) else k (v c) (f c) := by
  funext c
  unfold M.bind checked
  by_cases h : c.len < n
  · simp only [if_pos h]
  · simp only [if_neg h]

theorem Slice.readSlice_eq_checked (n : Nat) :
    Slice.readSlice n = checked n (fun c => ({ c with len := n } : Cur).bytes) (·.adv n) :=
  checked_bind n _ _ _

/-- `read_uN` on the slice kind: the default method over `read_slice`, in closed form -/
theorem Slice.readFixed_eq_checked (e : Endian) (n : Nat) :
    Dflt.readFixed sliceCore e n =
      checked n (fun c => Ints.fromBytes e ({ c with len := n } : Cur).bytes) (·.adv n) := by
  show M.bind (Slice.readSlice n) _ = _
  rw [Slice.readSlice_eq_checked]
  exact checked_bind n _ _ _

theorem checked_pres {P : Cur → Prop} {n : Nat} {v : Cur → α} {f : Cur → Cur}
    (hf : ∀ c, P c → n ≤ c.len → P (f c)) : Pres P (checked n v f) := by
  intro c hc
  unfold checked
  split
  · exact hc
  · exact hf c hc (Nat.le_of_not_lt ‹_›)

theorem checked_presNew {P : Cur → Prop} {n : Nat} {v f : Cur → Cur}
    (hf : ∀ c, P c → n ≤ c.len → P (f c)) (hv : ∀ c, P c → n ≤ c.len → P (v c)) :
    PresNew P (checked n v f) := by
  refine fun c hc => ⟨checked_pres hf c hc, fun r hr => ?_⟩
  obtain ⟨hn, rfl, _⟩ := checked_ok.mp (Prod.ext hr rfl)
  exact hv c hc hn

theorem Shared.truncate_eq (n : Nat) (c : Cur) : Shared.truncate n c = Slice.truncate n c := by
  unfold Shared.truncate Slice.truncate SubRange.truncate
  by_cases h : c.len < n
  · simp [h]
  · simp [h, Nat.le_of_not_lt h, commit]

theorem Shared.skip_eq (n : Nat) (c : Cur) : Shared.skip n c = Slice.skip n c := by
  unfold Shared.skip Slice.skip SubRange.skip
  by_cases h : c.len < n
  · simp [h]
  · simp [h, Nat.le_of_not_lt h, commit]

theorem Shared.split_eq (n : Nat) (c : Cur) : Shared.split n c = Slice.split n c := by
  unfold Shared.split Slice.split Slice.readSliceRaw SubRange.truncate SubRange.skip
  by_cases h : c.len < n
  · simp [h]
  · simp [h, Nat.le_of_not_lt h]

theorem Shared.readSlice_eq (n : Nat) (c : Cur) : Shared.readSlice n c = Slice.readSlice n c := by
  unfold Shared.readSlice Slice.readSlice Slice.readSliceRaw SubRange.readSlice SubRange.skip M.bind M.pure
  by_cases h : c.len < n
  · simp [h]
  · simp [h, Nat.le_of_not_lt h, Cur.bytes]

theorem Shared.empty_eq (c : Cur) : Shared.empty c = { c with len := 0 } := by
  simp [Shared.empty, SubRange.truncate]

/-- `EndianReader` and `EndianSlice` are the same Model: the remaining methods agree by definition -/
theorem sharedCore_eq : sharedCore = sliceCore := by
  unfold sharedCore sliceCore
  rw [funext Shared.empty_eq, funext fun n => funext (Shared.truncate_eq n),
    funext fun n => funext (Shared.skip_eq n), funext fun n => funext (Shared.split_eq n),
    funext fun n => funext (Shared.readSlice_eq n)]
  rfl

theorem sharedImpl_eq : sharedImpl = sliceImpl := congrArg Core.withDefaults sharedCore_eq

def Win (sec : Bytes) (c : Cur) : Prop := c.sec = sec ∧ c.off + c.len ≤ sec.length

theorem Win.inv {sec : Bytes} {c : Cur} (h : Win sec c) : c.Inv := by
  unfold Cur.Inv
  exact h.1 ▸ h.2

theorem Win.ofSec (sec : Bytes) : Win sec (Cur.ofSec sec) := ⟨rfl, Nat.le_of_eq (Nat.zero_add _)⟩

theorem Win.cut {sec : Bytes} {c : Cur} (h : Win sec c) {n : Nat} (hn : n ≤ c.len) :
    Win sec { c with len := n } := ⟨h.1, Nat.le_trans (Nat.add_le_add_left hn _) h.2⟩

theorem Win.adv {sec : Bytes} {c : Cur} (h : Win sec c) {n : Nat} (hn : n ≤ c.len) :
    Win sec (c.adv n) := ⟨h.1, by
  show c.off + n + (c.len - n) ≤ _
  rw [Nat.add_assoc, Nat.add_sub_cancel' hn]
  exact h.2⟩

theorem sliceCore_safe (sec : Bytes) : sliceCore.SafeNE (Win sec) where
  truncate := fun _ => checked_pres fun _ h hn => h.cut hn
  skip := fun _ => checked_pres fun _ h hn => h.adv hn
  split := fun _ => checked_presNew (fun _ h hn => h.adv hn) (fun _ h hn => h.cut hn)
  readSlice := fun n => by
    show Pres _ (Slice.readSlice n)
    rw [Slice.readSlice_eq_checked]
    exact checked_pres fun _ h hn => h.adv hn

theorem sliceImpl_safe (sec : Bytes) : sliceImpl.Safe (Win sec) where
  toImplSafeNE := (sliceCore_safe sec).withDefaults
  empty := fun _ h => h.cut (Nat.zero_le _)

/-- `EndianReader` (`SubRange`): every method keeps `ptr .. ptr+len` inside the buffer -/
theorem sharedImpl_safe (sec : Bytes) : sharedImpl.Safe (Win sec) :=
  sharedImpl_eq ▸ sliceImpl_safe sec

theorem hist_win (m : Mode) (e : Endian) (valid : Bytes → Bool) (lossy : Bytes → Bytes) (sec : Bytes) (ops : List Op) :
    (runHist sharedImpl m e valid lossy (St.init (Cur.ofSec sec)) ops).2.All (Win sec) :=
  runHist_all (sharedImpl_safe sec) m e valid lossy ops _ (St.All.init (Win.ofSec sec))

/-! ## `RelocateReader` -/

theorem Reloc.relocated_eq {I : Impl σ} {m : Mode} {s : RCur σ} {o : Nat}
    (h : I.offsetFrom m s.rdr s.sect = .ok o) (rd : M σ Nat) (g : Nat → Nat → Out Nat) :
    Reloc.relocated I m rd g s = ((rd s.rdr).1 >>= g o, { s with rdr := (rd s.rdr).2 }) := by
  unfold Reloc.relocated
  rw [h]
  unfold M.bind M.liftOut Reloc.onReader
  rcases rd s.rdr with ⟨v, r'⟩
  cases v <;> rfl

/-- `split` expressed with `truncate` and `skip`, the way `RelocateReader::split` does it -/
def splitTS (I : Impl σ) (n : Nat) : M σ σ := fun t =>
  match I.truncate n t with
  | (.ok _, o) => M.bind (I.skip n) (fun _ => M.pure o) t
  | (.err e, _) => (.err e, t)
  | (.panic w, _) => (.panic w, t)
  | (.diverge, _) => (.diverge, t)

theorem Slice.split_eq_splitTS (n : Nat) (c : Cur) : sliceImpl.split n c = splitTS sliceImpl n c := by
  simp only [sliceImpl, Core.withDefaults, sliceCore, splitTS, Slice.split, Slice.readSliceRaw,
    Slice.truncate, Slice.skip, M.bind, M.pure]
  by_cases h : c.len < n <;> simp [h]

def Reloc.onReaderNew (x : M σ σ) : M (RCur σ) (RCur σ) := fun s =>
  ((x s.rdr).1.map fun o => { s with rdr := o }, { s with rdr := (x s.rdr).2 })

theorem Reloc.split_eq (I : Impl σ) (n : Nat) : Reloc.split I n = Reloc.onReaderNew (splitTS I n) := by
  funext s
  unfold Reloc.split Reloc.onReaderNew splitTS M.bind M.pure Reloc.onReader
  rcases I.truncate n s.rdr with ⟨o1, r1⟩
  cases o1 <;> try rfl
  rcases I.skip n s.rdr with ⟨o2, r2⟩
  cases o2 <;> rfl

/-! ### … is as safe as the reader it wraps -/

/-- the `reader` field satisfies `P`, the `section` field (which no method assigns) `Q` -/
def RWin (P Q : σ → Prop) (s : RCur σ) : Prop := P s.rdr ∧ Q s.sect

section
variable {I : Impl σ} {P Q : σ → Prop}

theorem splitTS_presNew (hI : I.SafeNE P) (n : Nat) : PresNew P (splitTS I n) := by
  intro t ht
  have h1 := hI.truncate n t ht
  have h2 := hI.skip n t ht
  unfold splitTS
  generalize I.truncate n t = p at h1 ⊢
  obtain ⟨o1, r⟩ := p
  cases o1 with
  | ok u =>
    -- a reader is returned only if `skip` succeeded too, and then it is `r`
    unfold M.bind M.pure
    generalize I.skip n t = q at h2 ⊢
    obtain ⟨o2, t'⟩ := q
    cases o2 with
    | ok _ => exact ⟨h2, fun r' hr' => by cases hr'; exact h1⟩
    | _ => exact ⟨h2, fun _ hr' => nomatch hr'⟩
  | _ => exact ⟨ht, fun _ hr' => nomatch hr'⟩

theorem onReader_pres {m : M σ α} (hm : Pres P m) : Pres (RWin P Q) (Reloc.onReader m) :=
  fun s hs => ⟨hm s.rdr hs.1, hs.2⟩

theorem onReaderNew_presNew {x : M σ σ} (hx : PresNew P x) :
    PresNew (RWin P Q) (Reloc.onReaderNew x) := by
  refine fun s hs => ⟨⟨(hx s.rdr hs.1).1, hs.2⟩, fun r hr => ?_⟩
  unfold Reloc.onReaderNew at hr
  cases hx' : (x s.rdr).1 <;> rw [hx'] at hr <;> cases hr
  exact ⟨(hx s.rdr hs.1).2 _ hx', hs.2⟩

theorem relocated_pres (m : Mode) {read : M σ Nat} (hread : Pres P read) (rel : Nat → Nat → Out Nat) :
    Pres (RWin P Q) (Reloc.relocated I m read rel) := by
  intro s hs
  cases ho : I.offsetFrom m s.rdr s.sect with
  | ok o => rw [Reloc.relocated_eq ho]; exact ⟨hread s.rdr hs.1, hs.2⟩
  | _ => unfold Reloc.relocated; rw [ho]; exact hs

theorem relocImpl_safe (hI : I.Safe P) (rel : Rel) : (relocImpl I rel).Safe (RWin P Q) where
  truncate := fun n => onReader_pres (hI.truncate n)
  skip := fun n => onReader_pres (hI.skip n)
  split := fun n => by
    show PresNew _ (Reloc.split I n)
    rw [Reloc.split_eq]
    exact onReaderNew_presNew (splitTS_presNew hI.toImplSafeNE n)
  readSlice := fun n => onReader_pres (hI.readSlice n)
  readAddress := fun m e n => relocated_pres m (hI.readAddress m e n) _
  readOffset := fun m e f => relocated_pres m (hI.readOffset m e f) _
  readSizedOffset := fun m e n => relocated_pres m (hI.readSizedOffset m e n) _
  empty := fun s hs => ⟨hI.empty s.rdr hs.1, hs.2⟩

end

/-! ### … with the identity relocation is simulated by the reader it wraps -/

def RelocRel (P : σ → Prop) (sct : σ) (s : RCur σ) (t : σ) : Prop :=
  s.rdr = t ∧ s.sect = sct ∧ P t

section
variable {I : Impl σ} {P : σ → Prop} {sct : σ}

theorem onReader_rel (x : M σ α) (hx : Pres P x) : RelM (RelocRel P sct) (Reloc.onReader x) x := by
  rintro s t ⟨rfl, hs, hp⟩
  exact ⟨rfl, rfl, hs, hx _ hp⟩

theorem onReaderNew_rel (x : M σ σ) (hx : PresNew P x) :
    RelNew (RelocRel P sct) (Reloc.onReaderNew x) x := by
  rintro s t ⟨rfl, hs, hp⟩
  refine ⟨?_, rfl, hs, (hx _ hp).1⟩
  unfold Reloc.onReaderNew
  cases hx' : (x s.rdr).1 with
  | ok r => exact ⟨rfl, hs, (hx _ hp).2 r hx'⟩
  | err e => exact rfl
  | panic w => exact rfl
  | diverge => exact trivial

theorem relocated_id_rel (hoff : ∀ m t, P t → ∃ o, I.offsetFrom m t sct = .ok o) (m : Mode)
    (x : M σ Nat) (hx : Pres P x) :
    RelM (RelocRel P sct) (Reloc.relocated I m x (fun _ v => .ok v)) x := by
  rintro s t ⟨rfl, hs, hp⟩
  obtain ⟨o, ho⟩ := hoff m s.rdr hp
  rw [Reloc.relocated_eq (hs ▸ ho)]
  exact ⟨by cases (x s.rdr).1 <;> rfl, rfl, hs, hx _ hp⟩

/-- `hsplit`: the inner kind's `split` is `truncate` followed by `skip`, as `RelocateReader`
assumes (`Slice.split_eq_splitTS`) -/
theorem sim_reloc_id (hI : I.SafeNE P) (hoff : ∀ m t, P t → ∃ o, I.offsetFrom m t sct = .ok o)
    (hsplit : ∀ n t, I.split n t = splitTS I n t) :
    Sim (relocImpl I Rel.id) I (RelocRel P sct) where
  view := by rintro s t ⟨rfl, _, _⟩; rfl
  len := by rintro s t ⟨rfl, _, _⟩; rfl
  truncate := fun n => onReader_rel _ (hI.truncate n)
  offsetFrom := by rintro m s t s' t' ⟨rfl, _, _⟩ ⟨rfl, _, _⟩; rfl
  offsetId := by rintro s t ⟨rfl, _, _⟩; rfl
  lookupOffsetId := by rintro s t ⟨rfl, _, _⟩ id; rfl
  find := by rintro s t ⟨rfl, _, _⟩ b; rfl
  skip := fun n => onReader_rel _ (hI.skip n)
  split := fun n => by
    have h : I.split n = splitTS I n := funext (hsplit n)
    show RelNew _ (Reloc.split I n) (I.split n)
    rw [Reloc.split_eq, h]
    exact onReaderNew_rel _ (h ▸ hI.split n)
  toSlice := by rintro s t ⟨rfl, _, _⟩; rfl
  toStr := by rintro v s t ⟨rfl, _, _⟩; rfl
  toLossy := by rintro v l s t ⟨rfl, _, _⟩; rfl
  readSlice := fun n => onReader_rel _ (hI.readSlice n)
  readAddress := fun m e n => relocated_id_rel hoff m _ (hI.readAddress m e n)
  readOffset := fun m e f => relocated_id_rel hoff m _ (hI.readOffset m e f)
  readSizedOffset := fun m e n => relocated_id_rel hoff m _ (hI.readSizedOffset m e n)

theorem trace_reloc_id (hI : I.Safe P) (hoff : ∀ m t, P t → ∃ o, I.offsetFrom m t sct = .ok o)
    (hsplit : ∀ n t, I.split n t = splitTS I n t) (hs : P sct) (m : Mode) (e : Endian)
    (valid : Bytes → Bool) (lossy : Bytes → Bytes) (ops : List Op) :
    trace (relocImpl I Rel.id) (RCur.new sct) m e valid lossy ops = trace I sct m e valid lossy ops :=
  (runHist_sim m e valid lossy (sim_reloc_id hI.toImplSafeNE hoff hsplit) ops
    (.inl (by rintro s t ⟨rfl, h2, h3⟩; exact ⟨rfl, h2, hI.empty _ h3⟩))
    (StRel.init ⟨rfl, rfl, hs⟩)).1

end
end Gimli.Rd
