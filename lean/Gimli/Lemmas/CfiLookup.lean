import Gimli.Lemmas.CfiHdr
import Gimli.Lemmas.CfiEntryTotal
/-!
# `fde_for_address`: the linear search and the search through the `.eh_frame_hdr` table (C05)

The linear search is a `scan` of what the entries iterator yields (`fdeForAddressLoop_eq_scan`), and on a
section whose FDEs parse and do not wrap that is `List.find?` of the first covering FDE (`scan_eq_find`).
`Indexes` says when a header table indexes the FDEs of a section, which makes the table search find the same.
On the entry point `fdeForAddress` itself the two steps are `Props.C05.linear_lookup_is_scan` and `linear_lookup_first`.
-/
namespace Gimli.CfiEntry
open Gimli Gimli.Ints Gimli.Spec.Frame

/-- what `fde_for_address` decides, as a function of what the iterator yields -/
def scan (c : Cfg) (bases : Bases) (sec : Bytes) (a : Nat) : List Entry → Out Unit → Out Fde
  | [], fin =>
    match fin with
    | .ok _ => .err .rNoUnwindInfoForAddress
    | .err er => .err er
    | .panic w => .panic w
    | .diverge => .diverge
  | .cie _ :: l, fin => scan c bases sec a l fin
  | .fde p :: l, fin => do
    let f ← parseRest c bases sec p
    let ct ← f.contains c.m a
    if ct then pure f else scan c bases sec a l fin

theorem fdeForAddressLoop_eq_scan (c : Cfg) (bases : Bases) (sec : Bytes) (a : Nat) :
    ∀ fuel (r : Rd), fdeForAddressLoop c bases sec a fuel r =
      scan c bases sec a (entries c bases fuel r).1 (entries c bases fuel r).2 := by
  intro fuel
  induction fuel with
  | zero => intro r; rfl
  | succ fuel ih =>
    intro r
    rw [fdeForAddressLoop, entries]
    generalize next c bases (r.bs.length + 1) r = x
    rcases x with ⟨none | ⟨ci | p⟩, r'⟩ | er | w | _
    · rfl
    · exact ih r'
    · simp only [scan, ih]
    all_goals rfl

theorem scan_normal (c : Cfg) (bases : Bases) (sec : Bytes) (a : Nat) (hs : SizeOk c.m c.asz) :
    ∀ (l : List Entry) (fin : Out Unit), fin.Normal → (scan c bases sec a l fin).Normal := by
  intro l
  induction l with
  | nil => intro fin hf; cases fin <;> exact hf
  | cons en l ih =>
    intro fin hf
    cases en with
    | cie ci => exact ih fin hf
    | fde p =>
      refine (parseRest_ensures c bases sec p hs).bind_normal fun f _ hsz => ?_
      exact (contains_normal c.m f a hsz).bind fun ct _ => .ite_cases (fun _ => trivial) fun _ => ih fin hf

theorem fdeForAddress_normal (c : Cfg) (bases : Bases) (sec : Bytes) (a : Nat) (hs : SizeOk c.m c.asz) :
    (fdeForAddress c bases sec a).Normal := by
  unfold fdeForAddress
  rw [fdeForAddressLoop_eq_scan]
  exact scan_normal c bases sec a hs _ _ (entries_normal c bases hs _ _ (by simp))

theorem hdrFdeForAddress_normal (c : Cfg) (bases : Bases) (h : Hdr) (frame : Bytes) (a : Nat)
    (hs : SizeOk c.m c.asz) (hh : SizeOk c.m h.asz) (hc : h.fdeCount < 2 ^ 64) :
    (hdrFdeForAddress c bases h frame a).Normal := by
  unfold hdrFdeForAddress
  refine (lookup_normal c.m c.e h bases a hh hc).bind fun ptr _ => ?_
  refine (pointerToOffset_normal h ptr).bind fun off _ => ?_
  refine (fdeFromOffset_ensures c bases frame off hs).bind_normal fun f _ hsz => ?_
  refine (contains_normal c.m f a hsz).bind fun ct _ => ?_
  split <;> trivial

/-- every FDE the iterator yields, fully parsed (in section order) -/
def parseAll (c : Cfg) (bases : Bases) (sec : Bytes) : List Entry → Out (List Fde)
  | [] => .ok []
  | .cie _ :: l => parseAll c bases sec l
  | .fde p :: l => do
    let f ← parseRest c bases sec p
    let fs ← parseAll c bases sec l
    pure (f :: fs)

def NoWrap (f : Fde) : Prop := 1 ≤ f.cie.asz ∧ f.cie.asz ≤ 8 ∧ f.initial + f.range < 2 ^ (8 * f.cie.asz)

theorem contains_eq_covers (m : Mode) (f : Fde) (a : Nat) (h : NoWrap f) :
    f.contains m a = .ok (decide (covers f.initial f.range a)) := by
  obtain ⟨h1, h8, hlt⟩ := h
  have hp : 2 ^ (8 * f.cie.asz) ≤ 2 ^ 64 := Nat.pow_le_pow_right (by omega) (by omega)
  unfold Fde.contains Fde.endAddress
  rw [wrappingAddSized_ok m _ _ _ h1 h8, Nat.mod_eq_of_lt (a := f.initial + f.range) (b := 2 ^ 64) (by omega),
    Nat.mod_eq_of_lt hlt]
  by_cases hi : f.initial ≤ a <;> simp [hi, covers]

theorem scan_eq_find (c : Cfg) (bases : Bases) (sec : Bytes) (a : Nat) :
    ∀ (l : List Entry) (fs : List Fde), parseAll c bases sec l = .ok fs → (∀ f, f ∈ fs → NoWrap f) →
      scan c bases sec a l (.ok ()) =
        match fs.find? (fun f => decide (Spec.Frame.covers f.initial f.range a)) with
        | some f => .ok f
        | none => .err .rNoUnwindInfoForAddress := by
  intro l
  induction l with
  | nil => intro fs h _; cases h; rfl
  | cons en l ih =>
    intro fs h hw
    cases en with
    | cie ci => exact ih fs h hw
    | fde p =>
      obtain ⟨f, hp, h⟩ := Out.bind_eq_ok h
      obtain ⟨fs', hr, h⟩ := Out.bind_eq_ok h
      cases h
      simp only [scan, hp, Out.bind_ok, contains_eq_covers c.m f a (hw f (by simp)), List.find?_cons]
      by_cases hc : covers f.initial f.range a
      · simp [hc]
      · simp only [hc, decide_false, Bool.false_eq_true, if_false]
        exact ih fs' hr (fun g hg => hw g (by simp [hg]))

/-- the `.eh_frame_hdr` table `h` is an index of the FDEs `fs` of the section `frame`:
fixed-size rows, all present, sorted by initial location; row `i` points (relative to
`eh_frame_ptr`) at an FDE `g i` of the section whose initial location is the row's key; the rows
and `fs` list the same FDEs; FDE ranges are non-empty, do not wrap and are pairwise disjoint -/
structure Indexes (c : Cfg) (bases : Bases) (h : Hdr) (frame : Bytes) (fs : List Fde)
    (size : Nat) (key : Nat → Nat) (g : Nat → Fde) : Prop where
  henc : tableEntrySize h.tableEnc = some size
  hn : 1 ≤ h.fdeCount
  htbl : h.fdeCount * (size * 2) ≤ h.table.bs.length
  hbig : h.table.bs.length < 2 ^ 64
  hkey : ∀ i, i < h.fdeCount →
    rowKey c.m c.e h.tableEnc (h.params bases) h.table.off h.table.bs size i = .ok (.direct (key i))
  hsorted : ∀ i j, i ≤ j → j < h.fdeCount → key i ≤ key j
  hrow : ∀ i, i < h.fdeCount → ∃ P B, h.ehFramePtr = .direct B ∧
    rowVal c.m c.e h.tableEnc (h.params bases) h.table.off h.table.bs size i = .ok (.direct P) ∧
    B ≤ P ∧ fdeFromOffset c bases frame (P - B) = .ok (g i) ∧ (g i).initial = key i ∧
    NoWrap (g i) ∧ 0 < (g i).range
  hall : ∀ f, f ∈ fs → ∃ i, i < h.fdeCount ∧ g i = f
  hmem : ∀ i, i < h.fdeCount → g i ∈ fs
  hdisj : ∀ i j x, i < h.fdeCount → j < h.fdeCount →
    covers (g i).initial (g i).range x → covers (g j).initial (g j).range x → g i = g j

namespace Indexes

/-- what the scan finds, given the row the table search lands on: the FDE of that row if it covers `a`, and
nothing otherwise (a covering FDE of another row would have a key between that row's and `a`) -/
theorem find?_eq {c : Cfg} {bases : Bases} {h : Hdr} {frame : Bytes} {fs : List Fde} {size : Nat}
    {key : Nat → Nat} {g : Nat → Fde} (hi : Indexes c bases h frame fs size key g) {a idx : Nat}
    (hidx : idx < h.fdeCount)
    (hprop : (key idx ≤ a ∧ ∀ j, j < h.fdeCount → key j ≤ a → key j ≤ key idx) ∨
      (idx = 0 ∧ ∀ j, j < h.fdeCount → a < key j)) :
    fs.find? (fun f => decide (covers f.initial f.range a)) =
      if covers (g idx).initial (g idx).range a then some (g idx) else none := by
  obtain ⟨_, _, _, _, _, _, hinit, _, _⟩ := hi.hrow idx hidx
  -- whatever `find?` returns is some `g j` covering `a`
  have hfound : ∀ f', fs.find? (fun f => decide (covers f.initial f.range a)) = some f' →
      ∃ j, j < h.fdeCount ∧ g j = f' ∧ covers (g j).initial (g j).range a := fun f' hfind => by
    obtain ⟨j, hj, rfl⟩ := hi.hall f' (List.mem_of_find?_eq_some hfind)
    exact ⟨j, hj, rfl, by simpa using List.find?_some hfind⟩
  by_cases hc : covers (g idx).initial (g idx).range a
  · rw [if_pos hc]
    cases hfind : fs.find? (fun f => decide (covers f.initial f.range a)) with
    | none => simpa [hc] using List.find?_eq_none.mp hfind (g idx) (hi.hmem idx hidx)
    | some f' =>
      obtain ⟨j, hj, rfl, hcov⟩ := hfound f' hfind
      rw [hi.hdisj j idx a hj hidx hcov hc]
  · rw [if_neg hc]
    cases hfind : fs.find? (fun f => decide (covers f.initial f.range a)) with
    | none => rfl
    | some f' =>
      -- a covering `g j` has `key j ≤ a`, so `key j ≤ key idx ≤ a`: then `g j` covers `key idx`, as `g idx` does
      exfalso
      obtain ⟨j, hj, -, hcov⟩ := hfound f' hfind
      obtain ⟨_, _, _, _, _, _, hinitj, _, _⟩ := hi.hrow j hj
      have hkj : key j ≤ a := hinitj ▸ hcov.1
      rcases hprop with ⟨hle, hgreat⟩ | ⟨_, hall⟩
      · have hjk := hgreat j hj hkj
        have h1 : covers (g j).initial (g j).range (key idx) := by
          unfold covers at hcov ⊢
          rw [hinitj] at hcov ⊢
          omega
        have h2 : covers (g idx).initial (g idx).range (key idx) := by
          obtain ⟨_, _, _, _, _, _, _, _, hpos⟩ := hi.hrow idx hidx
          unfold covers
          rw [hinit]
          omega
        exact hc (hi.hdisj j idx (key idx) hj hidx h1 h2 ▸ hcov)
      · have := hall j hj
        omega

end Indexes
end Gimli.CfiEntry
