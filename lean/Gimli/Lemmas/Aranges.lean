import Gimli.Lemmas.ReaderEnsures
import Gimli.Lemmas.Collect
/-!
# `.debug_aranges`

`ArangeHeader::parse` never panics, and `parseHeader_ensures` says which bytes of an accepted input
are header, padding, entries and following sets; the padding rule puts the first tuple at a
multiple of the tuple size (`paddingFor_spec`).  The entry iterator consumes input with every item
or error.  `scanTuples` is the linear scan the drained iterator has to equal; that it does is one
induction along the tuple list (`yield_nextLoop`), null tuples being passed over inside
`ArangeEntry::parse` (`nextRaw_tuple`, which needs that the fuel of that loop does not matter:
`parseEntry_fuel`) and tombstones inside `next`.
-/
namespace Gimli.Aranges
open Gimli Gimli.Ints Gimli.C17

theorem paddingFor_spec (h t : Nat) (ht : 0 < t) :
    paddingFor h t < t ∧ (h + paddingFor h t) % t = 0 := by
  unfold paddingFor
  split
  · exact ⟨ht, by rwa [Nat.add_zero]⟩
  · have hlt := Nat.mod_lt h ht
    refine ⟨by omega, ?_⟩
    -- `h + (t - h % t)` is the next multiple of `t`
    have : h + (t - h % t) = t * (h / t + 1) := by
      have := Nat.div_add_mod h t
      rw [Nat.mul_add, Nat.mul_one]; omega
    rw [this]; exact Nat.mul_mod_right _ _

theorem parseHeader_ensures (e : Endian) (input : Bytes) :
    (parseHeader e input).Ensures fun p =>
      ∃ hdr pad, input = hdr ++ pad ++ p.1.entries ++ p.2 ∧
        hdr.length = headerLength p.1.format ∧ pad.length = padding p.1.format p.1.addressSize ∧
        (p.1.addressSize = 1 ∨ p.1.addressSize = 2 ∨ p.1.addressSize = 4 ∨ p.1.addressSize = 8) ∧
        p.1.length + initialLengthSize p.1.format = (hdr ++ pad ++ p.1.entries).length := by
  unfold parseHeader
  refine (readInitialLength_ensures e input).bind ?_
  rintro ⟨⟨len, fmt⟩, in1⟩ - ⟨a1, e1, l1⟩
  replace l1 : a1.length = initialLengthSize fmt := l1
  refine (take_ensures len in1).bind ?_
  rintro ⟨body, in2⟩ - ⟨e2, l2⟩
  refine (readFixed_ensures e 2 body).bind ?_
  rintro ⟨ver, r1⟩ - t3
  refine .ite_cases (fun _ => Out.ensures_err _ _) fun _ => ?_
  refine (readWord_ensures e fmt r1).bind ?_
  rintro ⟨dio, r2⟩ - t4
  refine (readAddressSize_ensures r2).bind ?_
  rintro ⟨as, r3⟩ - ⟨t5, has⟩
  refine (readFixed_ensures e 1 r3).bind ?_
  rintro ⟨seg, r4⟩ - t6
  refine .ite_cases (fun _ => Out.ensures_err _ _) fun _ => .ite_cases (fun _ => Out.ensures_err _ _) fun _ => .ite_cases (fun _ => Out.ensures_err _ _) fun _ => ?_
  refine (take_ensures _ r4).bind ?_
  rintro ⟨padb, r5⟩ - ⟨e7, l7⟩
  -- the fixed fields after the length, as one run
  obtain ⟨flds, e3, l3⟩ : Took body r4 (2 + fmt.wordSize + 1 + 1) := ((t3.trans t4).trans t5).trans t6
  dsimp only at e2 l2 e7 l7
  subst e7 e3 e2 e1
  refine .pure ⟨a1 ++ flds, padb, by simp only [List.append_assoc], ?_, l7, has, ?_⟩
  · show (a1 ++ flds).length = headerLength fmt
    rw [List.length_append, l1, l3, headerLength]; omega
  · rw [← l2]
    simp only [List.length_append, l1, l3]
    omega

theorem parseHeader_consumes (e : Endian) (input : Bytes) (h : Header) (rest : Bytes)
    (hp : parseHeader e input = .ok (h, rest)) : rest.length < input.length := by
  obtain ⟨hdr, pad, hin, hl, _⟩ := (parseHeader_ensures e input).2 _ hp
  have hl : hdr.length = headerLength h.format := hl
  have : 0 < headerLength h.format := Nat.succ_pos _
  rw [hin]
  simp only [List.length_append]
  omega

/-! ### the entry iterator consumes its input -/

/-- the `loop` of `ArangeEntry::parse`, which goes round once per null tuple -/
theorem parseEntry_ensures (e : Endian) (as fuel : Nat) (input : Bytes) (hf : input.length < fuel) :
    (parseEntry e as fuel input).Ensures fun p => ∀ raw, p.1 = some raw → p.2.length < input.length := by
  induction fuel generalizing input with
  | zero => omega
  | succ f ih =>
    rw [parseEntry]
    refine .ite_cases (fun _ => Out.ensures_ok fun _ h => nomatch h) fun _ => ?_
    refine (readAddress_ensures e as input).bind ?_
    rintro ⟨b, r1⟩ - ⟨has, t1⟩
    refine (readAddress_ensures e as r1).bind ?_
    rintro ⟨l, r2⟩ - ⟨_, t2⟩
    have hlt : r2.length < input.length := by
      have h1 : input.length = as + r1.length := t1.length
      have h2 : r1.length = as + r2.length := t2.length
      omega
    exact .ite_cases (fun _ => (ih r2 (by omega)).mono fun p h raw hr => Nat.lt_trans (h raw hr) hlt)
      fun _ => .pure fun _ _ => hlt

theorem nextRaw_ok (e : Endian) (as : Nat) (input : Bytes) :
    StepOk (nextRaw e as input).1 input.length (nextRaw e as input).2.length := by
  unfold nextRaw
  split
  · exact ⟨trivial, Nat.le_refl _, fun h => absurd rfl h⟩
  · rename_i hne
    have hpos : 0 < input.length := List.length_pos_iff.mpr fun h => hne (h ▸ rfl)
    rcases (parseEntry_ensures e as (input.length + 1) input (Nat.lt_succ_self _)).ok_or_err with
      ⟨⟨o, rest⟩, hp, hc⟩ | ⟨x, hp⟩
    · rw [hp]
      cases o with
      | some raw => exact ⟨trivial, Nat.le_of_lt (hc raw rfl), fun _ => hc raw rfl⟩
      | none => exact ⟨trivial, Nat.zero_le _, fun h => absurd rfl h⟩
    · rw [hp]
      exact ⟨trivial, Nat.zero_le _, fun _ => hpos⟩

theorem convertRaw_normal (as : Nat) (raw : Nat × Nat) : (convertRaw as raw).Normal := by
  simp only [convertRaw, apply_ite Out.Normal, Out.normal_ok, Out.normal_err, ite_self]

theorem nextLoop_ok (e : Endian) (as fuel : Nat) (input : Bytes) (hf : input.length < fuel) :
    StepOk (nextLoop e as fuel input).1 input.length (nextLoop e as fuel input).2.length := by
  induction fuel generalizing input with
  | zero => omega
  | succ f ih =>
    rw [nextLoop]
    obtain ⟨hn, hle, hlt⟩ := nextRaw_ok e as input
    cases hr : nextRaw e as input with
    | mk r rest =>
      rw [hr] at hn hle hlt
      dsimp only at hn hle hlt ⊢
      rcases hn.ok_or_err with ⟨o, rfl⟩ | ⟨x, rfl⟩
      · cases o with
        | none => exact ⟨trivial, hle, fun h => absurd rfl h⟩
        | some raw =>
          have hshort : rest.length < input.length := hlt fun h => nomatch h
          dsimp only
          rcases (convertRaw_normal as raw).ok_or_err with ⟨oc, hc⟩ | ⟨x, hc⟩
          · rw [hc]
            cases oc with
            | some en => exact ⟨trivial, hle, fun _ => hshort⟩
            | none =>
              obtain ⟨a, b, c⟩ := ih rest (by omega)
              exact ⟨a, Nat.le_trans b hle, fun h => Nat.lt_of_lt_of_le (c h) hle⟩
          · rw [hc]
            exact ⟨trivial, hle, fun _ => hshort⟩
      · exact ⟨trivial, hle, fun _ => hlt fun h => nomatch h⟩

theorem next_ok (e : Endian) (as : Nat) (input : Bytes) :
    StepOk (next e as input).1 input.length (next e as input).2.length :=
  nextLoop_ok e as (input.length + 1) input (Nat.lt_succ_self _)

theorem entries_succ (e : Endian) (as fuel : Nat) (input : Bytes) :
    entries e as (fuel + 1) input = yield false (entries e as fuel) (next e as input) := by
  rw [entries]
  cases next e as input with
  | mk r s' => cases r with
    | ok o => cases o <;> rfl
    | _ => rfl

theorem entries_eq_collect (e : Endian) (as fuel : Nat) (input : Bytes) :
    entries e as fuel input = collect false (next e as) fuel input :=
  eq_collect_of_succ _ _ _ (fun _ => rfl) (entries_succ e as) fuel input

theorem headers_eq_collect (e : Endian) (fuel : Nat) (input : Bytes) (off : Nat) :
    headers e fuel input off = collect true (hdrStep (parseHeader e)) fuel (input, off) := by
  induction fuel generalizing input off with
  | zero => rfl
  | succ f ih =>
    rw [headers, collect, hdrStep, parseStep]
    split
    · rfl
    · cases parseHeader e input with
      | ok p => exact congrArg _ (ih _ _)
      | err x => rfl
      | panic w => rfl
      | diverge => rfl

/-! ### the entry iterator over encoded tuples -/

def encTuples (e : Endian) (as : Nat) (ts : List (Nat × Nat)) : Bytes :=
  ts.flatMap (fun t => toBytes e as t.1 ++ toBytes e as t.2)

abbrev ValidSize (as : Nat) : Prop := as = 1 ∨ as = 2 ∨ as = 4 ∨ as = 8

theorem encTuples_cons (e : Endian) (as : Nat) (t : Nat × Nat) (ts : List (Nat × Nat)) (tail : Bytes) :
    encTuples e as (t :: ts) ++ tail =
      toBytes e as t.1 ++ (toBytes e as t.2 ++ (encTuples e as ts ++ tail)) := by
  simp only [encTuples, List.flatMap_cons, List.append_assoc]

theorem encTuples_length (e : Endian) (as : Nat) (ts : List (Nat × Nat)) :
    (encTuples e as ts).length = 2 * as * ts.length := by
  induction ts with
  | nil => rfl
  | cons t ts ih =>
    have := encTuples_cons e as t ts []
    simp only [List.append_nil] at this
    rw [this, List.length_append, List.length_append, toBytes_length, toBytes_length, ih,
      List.length_cons, Nat.mul_succ]
    omega

theorem length_lt_encTuples (e : Endian) {as : Nat} (has : ValidSize as) (ts : List (Nat × Nat))
    (tail : Bytes) : ts.length < (encTuples e as ts ++ tail).length + 1 := by
  have : 1 * ts.length ≤ 2 * as * ts.length :=
    Nat.mul_le_mul_right _ (by rcases has with rfl | rfl | rfl | rfl <;> decide)
  rw [List.length_append, encTuples_length]
  omega

/-- the 64-bit overflow test of `convert_raw` is subsumed by the address-size test -/
theorem convertRaw_live (as : Nat) (has : ValidSize as) (t : Nat × Nat) (h : ¬ t.1 ≥ minTombstone as) :
    convertRaw as t =
      if t.1 + t.2 ≥ 2 ^ (8 * as) then .err .rAddressOverflow
      else .ok (some { begin_ := t.1, end_ := t.1 + t.2, length := t.2 }) := by
  have h64 : 2 ^ (8 * as) ≤ 2 ^ 64 :=
    Nat.pow_le_pow_right (by decide) (by rcases has with rfl | rfl | rfl | rfl <;> decide)
  rw [convertRaw, if_neg h]
  by_cases h1 : t.1 + t.2 ≥ 2 ^ 64
  · rw [if_pos h1, if_pos (Nat.le_trans h64 h1)]
  · rw [if_neg h1]

/-- **linear scan** of a tuple list: what the entry iterator has to yield, one item per live
tuple (null tuples and tombstones are skipped, an end address that does not fit is an error) -/
def scanTuples (as : Nat) : List (Nat × Nat) → List (Item Entry)
  | [] => []
  | t :: ts =>
    if (t.1 = 0 ∧ t.2 = 0) ∨ t.1 ≥ minTombstone as then scanTuples as ts
    else if t.1 + t.2 ≥ 2 ^ (8 * as) then .error .rAddressOverflow :: scanTuples as ts
    else .item { begin_ := t.1, end_ := t.1 + t.2, length := t.2 } :: scanTuples as ts

theorem parseEntry_fuel (e : Endian) (as f f' : Nat) (input : Bytes) (hf : input.length < f) (hf' : f ≤ f') :
    parseEntry e as f input = parseEntry e as f' input := by
  induction f generalizing input f' with
  | zero => omega
  | succ f ih =>
    cases f' with
    | zero => omega
    | succ f' =>
      rw [parseEntry, parseEntry]
      refine congrArg _ (Out.All.bind_congr (readAddress_ensures e as input).2 ?_)
      rintro ⟨b, r1⟩ ⟨_, t1⟩
      refine Out.All.bind_congr (readAddress_ensures e as r1).2 ?_
      rintro ⟨l, r2⟩ ⟨has, t2⟩
      have h1 : input.length = as + r1.length := t1.length
      have h2 : r1.length = as + r2.length := t2.length
      dsimp only
      split
      · exact ih f' r2 (by omega) (by omega)
      · rfl

theorem nextRaw_nil (e : Endian) (as : Nat) (tail : Bytes) (htail : tail.length < 2 * as) :
    ∃ r, nextRaw e as tail = (.ok none, r) := by
  unfold nextRaw
  split
  · exact ⟨_, rfl⟩
  · rw [parseEntry, if_pos htail]
    exact ⟨_, rfl⟩

/-- one `next_raw` on an encoded tuple: a null tuple is passed over inside `ArangeEntry::parse` -/
theorem nextRaw_tuple (e : Endian) (as : Nat) (has : ValidSize as) (t : Nat × Nat) (more : Bytes)
    (hbt : t.1 < 256 ^ as ∧ t.2 < 256 ^ as) :
    nextRaw e as (toBytes e as t.1 ++ (toBytes e as t.2 ++ more)) =
      if t.1 = 0 ∧ t.2 = 0 then nextRaw e as more else (.ok (some t), more) := by
  have hpos : 0 < as := by rcases has with rfl | rfl | rfl | rfl <;> decide
  -- written as a successor, since `ArangeEntry::parse` goes round once more on a null tuple
  have hlen : (toBytes e as t.1 ++ (toBytes e as t.2 ++ more)).length = 2 * as - 1 + more.length + 1 := by
    rw [List.length_append, List.length_append, toBytes_length, toBytes_length]; omega
  have hne : (toBytes e as t.1 ++ (toBytes e as t.2 ++ more)).isEmpty = false :=
    List.isEmpty_eq_false_iff.mpr (List.ne_nil_of_length_pos (hlen ▸ Nat.succ_pos _))
  rw [nextRaw, hne, if_neg Bool.false_ne_true, hlen, parseEntry, if_neg (by omega),
    reads_address_fixed e has hbt.1 _, Out.bind_ok]
  dsimp only
  rw [reads_address_fixed e has hbt.2 _, Out.bind_ok]
  dsimp only
  by_cases hnull : t.1 = 0 ∧ t.2 = 0
  · rw [if_pos hnull, if_pos hnull, nextRaw]
    by_cases hem : more.isEmpty = true
    · -- nothing follows the null tuple: `parse` sees less than a tuple
      rw [if_pos hem, List.isEmpty_iff.mp hem, parseEntry, if_pos (show 2 * as > ([] : Bytes).length from Nat.mul_pos (by decide) hpos)]
    · -- the panic and diverge arms keep the input, which differs; `parse` takes neither
      rw [if_neg hem, parseEntry_fuel e as _ (2 * as - 1 + more.length + 1) _ (Nat.lt_succ_self _)
        (Nat.succ_le_succ (Nat.le_add_left _ _))]
      rcases (parseEntry_ensures e as _ more (Nat.lt_succ_of_le (Nat.le_add_left _ _))).1.ok_or_err with
        ⟨⟨o, r⟩, hp⟩ | ⟨x, hp⟩ <;> rw [hp]
      cases o <;> rfl
  · rw [if_neg hnull, if_neg hnull]
    rfl

/-- `k`: the fuel of the loop of `next`, which goes on through the tombstones it skips while the cap
`F` on the calls of `next` stands -/
theorem yield_nextLoop (e : Endian) (as : Nat) (has : ValidSize as) (tail : Bytes) (htail : tail.length < 2 * as)
    (ts : List (Nat × Nat)) (hb : ∀ t, t ∈ ts → t.1 < 256 ^ as ∧ t.2 < 256 ^ as) (k F : Nat)
    (hk : ts.length < k) (hF : ts.length ≤ F) :
    yield false (entries e as F) (nextLoop e as k (encTuples e as ts ++ tail)) = scanTuples as ts := by
  induction ts generalizing k F with
  | nil =>
    cases k with
    | zero => exact absurd hk (Nat.not_lt_zero _)
    | succ k =>
      obtain ⟨r, hr⟩ := nextRaw_nil e as tail htail
      show yield false _ (nextLoop e as (k + 1) tail) = _
      rw [nextLoop, hr]
      rfl
  | cons t ts ih =>
    have hb' : ∀ t', t' ∈ ts → t'.1 < 256 ^ as ∧ t'.2 < 256 ^ as := fun t' h' => hb t' (List.mem_cons_of_mem _ h')
    rw [List.length_cons] at hk hF
    cases k with
    | zero => exact absurd hk (Nat.not_lt_zero _)
    | succ k =>
      rw [nextLoop, encTuples_cons, nextRaw_tuple e as has t _ (hb t List.mem_cons_self), scanTuples]
      by_cases hnull : t.1 = 0 ∧ t.2 = 0
      · rw [if_pos hnull, if_pos (Or.inl hnull), ← nextLoop]
        exact ih hb' (k + 1) F (Nat.lt_of_succ_lt hk) (Nat.le_of_succ_le hF)
      · rw [if_neg hnull]
        dsimp only
        by_cases htomb : t.1 ≥ minTombstone as
        · rw [if_pos (Or.inr htomb), show convertRaw as t = .ok none by rw [convertRaw, if_pos htomb]]
          exact ih hb' k F (Nat.lt_of_succ_lt_succ hk) (Nat.le_of_succ_le hF)
        · cases F with
          | zero => exact absurd hF (Nat.not_succ_le_zero _)
          | succ F =>
            have hrest := (entries_succ e as F _).trans (ih hb' _ F (length_lt_encTuples e has ts tail) (Nat.le_of_succ_le_succ hF))
            rw [if_neg (not_or.mpr ⟨hnull, htomb⟩), convertRaw_live as has t htomb]
            by_cases hov : t.1 + t.2 ≥ 2 ^ (8 * as)
            · rw [if_pos hov, if_pos hov, ← hrest]; rfl
            · rw [if_neg hov, if_neg hov, ← hrest]; rfl

end Gimli.Aranges
