import Gimli.Lemmas.DieSibling
/-! Lemmas for C02: `EntriesTree::next` and the recursion over `EntriesTreeNode::children()` on the
encoding of a forest (`treeChildren_forest`); `next` over a subtree that was not iterated is
`next_sibling` (`nextLoop_eq_siblingLoop`); `next` is total (`treeNext_total`). -/
namespace Gimli.Die
open Gimli Gimli.Attr Gimli.Abbrev Gimli.Ints Gimli.Spec Gimli.Spec.Forest

/-- how `EntriesTree::next(D)` is entered during a complete recursive traversal: either the
current entry is the parent whose children are about to be listed (one level up, children
flag set), or it is the last entry seen of the previous child's subtree (that child itself if it
has no children flag, else the null entry that ended its child list) — in which case there is
nothing to seek over -/
def TreeMode (t : Tree) (D : Int) : Prop :=
  (t.entry.depth < D ∧ t.entry.hasChildren = true) ∨ (¬ t.entry.depth < D ∧ t.entry.hasChildren = false)

namespace Tree
theorem next_read (ctx : Ctx) (t : Tree) (D : Int) (hm : TreeMode t D)
    (hne : t.raw.input.isEmpty = false) (e : Entry) (r : Raw) (hre : t.raw.readEntry ctx = .ok (e, r))
    (hd : e.depth = D) :
    t.next ctx D = .ok (!e.isNull, Tree.mk t.root r e) := by
  unfold Tree.next
  rcases hm with ⟨h1, h2⟩ | ⟨h1, h2⟩
  · simp [h1, h2, hne, hre]
  · simp only [h1, if_false]
    rw [Tree.nextLoop]
    simp [h2, hne, hre, hd]

theorem rootNode_new (ctx : Ctx) (bs : Bytes) (off : Nat) :
    (Tree.new bs off).rootNode ctx = ((Raw.new bs off).readEntry ctx >>= fun x =>
      if x.1.isNull then .err .rNoEntryAtGivenOffset else pure ⟨bs, x.2, x.1⟩) := rfl
end Tree

theorem treeChildren_leaf (ctx : Ctx) (n : Nat) (tt : Tree) (D : Int) (hd : tt.entry.depth < D)
    (hc : tt.entry.hasChildren = false) : treeChildren ctx (n + 1) tt D = (([], .ok ()), tt) := by
  rw [treeChildren]
  simp [Tree.next, hd, hc]

theorem treeChildren_end {ctx : Ctx} {t t' : Tree} {D : Int} (n : Nat) (hn : t.next ctx D = .ok (false, t')) :
    treeChildren ctx (n + 1) t D = (([], .ok ()), t') := by
  rw [treeChildren, hn]

theorem treeChildren_child {ctx : Ctx} {t t' t₁ t₂ : Tree} {D : Int} {n : Nat} {es₁ es₂ : List Entry}
    (hn : t.next ctx D = .ok (true, t')) (h₁ : treeChildren ctx n t' (D + 1) = ((es₁, .ok ()), t₁))
    (h₂ : treeChildren ctx n t₁ D = ((es₂, .ok ()), t₂)) :
    treeChildren ctx (n + 1) t D = ((t'.entry :: (es₁ ++ es₂), .ok ()), t₂) := by
  rw [treeChildren, hn]
  simp only [h₁, h₂]

/-- a complete iteration over the children list `g` reports its entries and leaves the tree on the
null entry that ends the list, the reader behind it -/
theorem treeChildren_forest (ctx : Ctx) : ∀ (g : Forest), ForestOK ctx g → ∀ {off : Nat} {D : Int} {rest : Bytes}
    (t : Tree), At t.raw off D g (0 :: rest) → TreeMode t D → ∀ (fuel : Nat), count g < fuel →
    ∃ es r', es.map Entry.item = (listing off D g).filter nonNull ∧ At r' (off + (encode g).length + 1) (D - 1) .nil rest ∧
      treeChildren ctx fuel t D = ((es, .ok ()), Tree.mk t.root r' ⟨off + (encode g).length, D, 0, false, []⟩) := by
  intro g
  induction g with
  | nil =>
    intro _ off D rest t h hm fuel hf
    obtain ⟨fuel, rfl⟩ := Nat.exists_eq_add_one_of_ne_zero (Nat.ne_zero_of_lt hf)
    obtain ⟨r', hre, h'⟩ := h.read_null ctx
    exact ⟨[], r', rfl, h', treeChildren_end _ (Tree.next_read ctx t D hm (h.input ▸ rfl) _ _ hre rfl)⟩
  | node k kids sibs ihk ihs =>
    intro ⟨hd, hk, hs⟩ off D rest t h hm fuel hf
    obtain ⟨fuel, rfl⟩ := Nat.exists_eq_add_one_of_ne_zero (Nat.ne_zero_of_lt hf)
    obtain ⟨hfs, hfk⟩ := count_node_lt hf
    obtain ⟨e, r₁, hre, hp⟩ := h.read hd
    obtain ⟨he, hleaf, hpar⟩ := hp.next
    have hnx := Tree.next_read ctx t D hm (isEmpty_false_of_ne_nil h.ne_nil) e r₁ hre he.depth
    rw [he.isNull hd] at hnx
    rw [listing_filter_node off D k kids sibs hd.2.2.1, ← he.item]
    cases hcd : k.children with
    | false =>
      -- no children flag: the child's own iterator ends at once, the tree stays on the child
      obtain ⟨f2, rfl⟩ := Nat.exists_eq_add_one_of_ne_zero (Nat.ne_zero_of_lt hfs)
      obtain ⟨es2, r', hl2, h', hw2⟩ := ihs hs (Tree.mk t.root r₁ e) (hleaf hcd)
        (Or.inr ⟨he.depth ▸ Int.lt_irrefl D, he.hasChildren.trans hcd⟩) (f2 + 1) hfs
      refine ⟨e :: es2, r', by rw [List.map_cons, hl2]; rfl, by rwa [encode_leaf_length hcd], ?_⟩
      rw [treeChildren_child hnx (treeChildren_leaf ctx f2 _ (D + 1) (he.depth ▸ Int.lt_succ D)
        (he.hasChildren.trans hcd)) hw2, encode_leaf_length hcd]
      rfl
    | true =>
      obtain ⟨es1, r₂, hl1, h₂, hw1⟩ := ihk hk (Tree.mk t.root r₁ e) (hpar hcd)
        (Or.inl ⟨he.depth ▸ Int.lt_succ D, he.hasChildren.trans hcd⟩) fuel (hfk hcd)
      rw [Int.add_sub_cancel] at h₂
      obtain ⟨es2, r', hl2, h', hw2⟩ := ihs hs (Tree.mk t.root r₂ ⟨_, D + 1, 0, false, []⟩) h₂.retarget
        (Or.inr ⟨fun h => Int.lt_irrefl D (Int.lt_trans (Int.lt_succ D) h), rfl⟩) fuel hfs
      refine ⟨e :: (es1 ++ es2), r', by rw [List.map_cons, List.map_append, hl1, hl2]; rfl,
        by rwa [encode_parent_length hcd], ?_⟩
      rw [treeChildren_child hnx hw1 hw2, encode_parent_length hcd]

/-- no declaration has the null tag (what `Abbreviation::parse` guarantees: `AbbreviationTagZero`) -/
def TagsOK (ctx : Ctx) : Prop := ∀ c a, ctx.abbrevs.get c = some a → a.tag ≠ 0

theorem readEntry_null_flag {ctx : Ctx} (htags : TagsOK ctx) {r r' : Raw} {e : Entry}
    (h : r.readEntry ctx = .ok (e, r')) : e.isNull = true → e.hasChildren = false := by
  obtain ⟨⟨ab, r1⟩, h1, h⟩ := Out.bind_eq_ok h
  cases ab with
  | none => cases h; exact fun _ => rfl
  | some a =>
    obtain ⟨⟨vs, rest⟩, _, h⟩ := Out.bind_eq_ok (x := readAttributes ctx.enc a.attrs r1.input) h
    cases h
    intro hn
    -- `a` is a declaration of the table, so its tag is not 0
    obtain ⟨⟨code, rs⟩, _, h1⟩ := Out.bind_eq_ok h1
    rcases Out.ite_eq_ok h1 with h1 | h1
    · cases h1
    · cases hg : ctx.abbrevs.get code <;> rw [hg] at h1 <;> cases h1
      exact absurd (by simpa [Entry.isNull] using hn) (htags code a hg)

theorem Tree.nextLoop_succ (ctx : Ctx) (D : Int) (fuel : Nat) (t : Tree) :
    Tree.nextLoop ctx D (fuel + 1) t =
      if (seekRaw t.raw t.entry).input.isEmpty then
        .ok (false, { t with raw := seekRaw t.raw t.entry, entry := t.entry.setNull })
      else (seekRaw t.raw t.entry).readEntry ctx >>= fun x =>
        if x.1.depth = D then pure (!x.1.isNull, { t with raw := x.2, entry := x.1 })
        else Tree.nextLoop ctx D fuel { t with raw := x.2, entry := x.1 } := by
  rw [Tree.nextLoop]
  rfl

theorem nextLoop_eq_siblingLoop (ctx : Ctx) (htags : TagsOK ctx) (D : Int) : ∀ (fuel : Nat) (t : Tree),
    (t.entry.isNull = true → t.entry.hasChildren = false) →
    Tree.nextLoop ctx D fuel t =
      (Cursor.siblingLoop ctx D fuel ⟨t.raw, t.entry⟩).map
        (fun x => (x.1.isSome, Tree.mk t.root x.2.raw x.2.cur)) := by
  intro fuel
  induction fuel with
  | zero => intro t _; rfl
  | succ fuel ih =>
    intro t hinv
    -- what follows the seek step is the same on both sides, for any reader state `R`
    have hstep : ∀ R : Raw,
        (if R.input.isEmpty then
            (.ok (false, { t with raw := R, entry := t.entry.setNull }) : Out (Bool × Tree))
          else do
            let (e, r) ← R.readEntry ctx
            let t := { t with raw := r, entry := e }
            if e.depth = D then pure (!e.isNull, t) else Tree.nextLoop ctx D fuel t) =
        (readPart ctx D fuel ⟨R, t.entry⟩).map (fun x => (x.1.isSome, Tree.mk t.root x.2.raw x.2.cur)) := by
      intro R
      cases he : R.input.isEmpty with
      | true =>
        rw [readPart_empty (c := ⟨R, t.entry⟩) _ _ he]
        simp [Out.map]
      | false =>
        rw [readPart_read (c := ⟨R, t.entry⟩) _ _ he]
        simp only [Bool.false_eq_true, if_false]
        cases hr : R.readEntry ctx with
        | ok p =>
          obtain ⟨e, r⟩ := p
          simp only [Out.bind_ok]
          by_cases hd : e.depth = D
          · simp only [hd, if_true, Out.pure_eq, Out.map, Cursor.current]
            cases e.isNull <;> simp
          · simp only [hd, if_false]
            exact ih (Tree.mk t.root r e) (readEntry_null_flag htags hr)
        | err _ | panic _ | diverge => rfl
    -- on a null entry there is nothing to seek from: it has no children flag (`hinv`)
    have hR : (if t.entry.isNull then t.raw else seekRaw t.raw t.entry) = seekRaw t.raw t.entry := by
      cases hn : t.entry.isNull
      · rfl
      · rw [if_pos rfl, seekRaw, hinv hn]; rfl
    rw [Tree.nextLoop_succ, siblingLoop_succ, seekStep_eq, hR]
    exact hstep _

open Gimli.Out

theorem treeNextLoop_total (ctx : Ctx) (D : Int) : ∀ (fuel : Nat) (t : Tree), t.raw.input.length < fuel →
    (Tree.nextLoop ctx D fuel t).Normal := by
  intro fuel
  induction fuel with
  | zero => intro t h; exact absurd h (Nat.not_lt_zero _)
  | succ fuel ih =>
    intro t h
    rw [Tree.nextLoop_succ]
    exact Normal.ite trivial ((readEntry_ensures _ _).bind_normal fun _ _ hlt =>
      Normal.ite trivial (ih _ (Nat.lt_of_lt_of_le hlt.1 (Nat.le_trans (seekRaw_le _ _) (Nat.le_of_lt_succ h)))))

theorem treeNext_total (ctx : Ctx) (t : Tree) (D : Int) : (t.next ctx D).Normal :=
  Normal.ite
    (Normal.ite trivial (Normal.ite trivial (Normal.bind (readEntry_normal _ _) fun _ _ => trivial)))
    (treeNextLoop_total ctx D _ t (Nat.lt_succ_self _))

end Gimli.Die
