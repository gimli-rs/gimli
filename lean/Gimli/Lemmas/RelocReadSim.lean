import Gimli.Lemmas.RelocRead
import Gimli.Lemmas.ReaderViews
/-!
C18, reading side: one primitive (`prim_step`), then whole parser runs (`run_transparent`), through
the relocating reader over `b` and through the plain reader over the section `b'` with the
relocations applied. The two readers always have the same window (`RR`); a primitive sees the same
bytes in it as long as it stays away from relocated fields, and a relocatable read of exactly one
field gets the relocated value from the relocation function.
-/
namespace Gimli.Rr
open Gimli Gimli.Rd Gimli.Wr

variable {e : Endian} {ρ : List RRel} {b b' : Bytes} {α β : Type}

def resec (x : Bytes) (c : Cur) : Cur := { c with sec := x }

def RR (b b' : Bytes) (s : RCur Cur) (t : Cur) : Prop :=
  t = resec b' s.rdr ∧ s.rdr.sec = b ∧ s.sect = Cur.ofSec b ∧ s.rdr.off + s.rdr.len ≤ b.length

theorem RR.ext_len {s : RCur Cur} {t : Cur} (h : RR b b' s t) :
    t.off = s.rdr.off ∧ t.len = s.rdr.len ∧ t.sec = b' := by
  obtain ⟨rfl, _, _, _⟩ := h
  exact ⟨rfl, rfl, rfl⟩

theorem RR.init (hf : Facts e ρ b b') : RR b b' (RCur.new (Cur.ofSec b)) (Cur.ofSec b') :=
  ⟨by simp [resec, RCur.new, Cur.ofSec, hf.len], rfl, rfl, (Win.ofSec b).2⟩

theorem RR.win {s : RCur Cur} {t : Cur} (h : RR b b' s t) : Win b s.rdr := ⟨h.2.1, h.2.2.2⟩

theorem RR.of_win {s : RCur Cur} {t : Cur} (h : RR b b' s t) {r : Cur} (hr : Win b r) :
    RR b b' { s with rdr := r } (resec b' r) := ⟨rfl, hr.1, h.2.2.1, hr.2⟩

/-! ## methods of the inner reader that do the same whatever the section bytes are -/

/-- A method of the shape `checked` that stays inside the section, run on the `reader` field and on
the plain reader: the same, if what it returns (`v`) and where it continues (`f`) do not depend
on the section bytes (here, on the window of `s.rdr` and `t`). -/
theorem onReader_checked {x : M Cur α} {n : Nat} {v : Cur → α} {f : Cur → Cur}
    (hx : x = checked n v f) (hp : Pres (Win b) x) {s : RCur Cur} {t : Cur} (hr : RR b b' s t)
    (hv : n ≤ s.rdr.len → v t = v s.rdr) (hf : f t = resec b' (f s.rdr)) :
    (Reloc.onReader x s).1 = (x t).1 ∧ RR b b' (Reloc.onReader x s).2 (x t).2 := by
  have hw := hp _ hr.win
  have ha : x t = ((x s.rdr).1, resec b' (x s.rdr).2) := by
    subst hx
    by_cases h : s.rdr.len < n
    · rw [checked_lt h, checked_lt (c := t) (hr.ext_len.2.1 ▸ h), hr.1]
    · have h := Nat.le_of_not_lt h
      rw [checked_le h, checked_le (c := t) (hr.ext_len.2.1 ▸ h), hv h, hf]
  rw [ha]
  exact ⟨rfl, hr.of_win hw⟩

theorem RR.ext_eq (hf : Facts e ρ b b') {s : RCur Cur} {t : Cur} (hr : RR b b' s t) {n : Nat}
    (hd : disjoint ρ s.rdr.off n = true) : ext t.sec t.off n = ext s.rdr.sec s.rdr.off n := by
  rw [hr.1, hr.2.1]
  exact hf.same _ _ ((disjoint_iff ..).mp hd)

theorem RR.bytes_eq (hf : Facts e ρ b b') {s : RCur Cur} {t : Cur} (hr : RR b b' s t)
    (hd : disjoint ρ s.rdr.off s.rdr.len = true) : t.bytes = s.rdr.bytes := by
  rw [t.bytes_eq_ext, s.rdr.bytes_eq_ext, hr.ext_len.2.1]
  exact hr.ext_eq hf hd

/-! ## `find`: determined by the bytes up to the byte found -/

theorem position_of_prefix {xs ys : Bytes} {x : UInt8} {k : Nat} (hx : position xs x = some k)
    (h : ys.take (k + 1) = xs.take (k + 1)) : position ys x = some k := by
  unfold position at hx ⊢
  have h1 : (xs.take (k + 1)).findIdx? (· == x) = some k := by simp [List.findIdx?_take, hx]
  rw [← List.take_append_drop (k + 1) ys, List.findIdx?_append, h, h1]
  rfl

theorem find_rr (hf : Facts e ρ b b') {s : RCur Cur} {t : Cur} (hr : RR b b' s t) (x : UInt8)
    (hd : disjoint ρ s.rdr.off
      (match position s.rdr.bytes x with | some i => i + 1 | none => s.rdr.len) = true) :
    Slice.find s.rdr x = Slice.find t x := by
  unfold Slice.find
  cases hp : position s.rdr.bytes x with
  | none =>
    rw [hp] at hd
    rw [hr.bytes_eq hf hd, hp]
  | some k =>
    rw [hp] at hd
    have hkl : k + 1 ≤ s.rdr.len := Cur.bytes_length hr.win.inv ▸ (position_spec hp).1
    rw [position_of_prefix hp]
    rw [← Cur.bytes_cut s.rdr hkl, ← Cur.bytes_cut t (hr.ext_len.2.1 ▸ hkl)]
    exact hr.ext_eq hf hd

/-! ## the relocatable reads -/

/-- the common shape of `read_address`, `read_offset`, `read_sized_offset` on a plain reader:
refuse the size (with `errSize`, not looked at when `okSize`), or run out of input, or decode `n` bytes and advance -/
def fixedRead (e : Endian) (n : Nat) : (okSize : Bool) → (errSize : Err) → M Cur Nat
  | true, _ => checked n (fun c => Ints.fromBytes e (ext c.sec c.off n)) (·.adv n)
  | false, errSize => M.fail errSize

theorem readFixed_eq (e : Endian) (n : Nat) :
    Dflt.readFixed sliceCore e n = fixedRead e n true .other :=
  -- the bytes read are `{ c with len := n }.bytes` there and `ext c.sec c.off n` here: `Cur.bytes_eq_ext`, by `rfl`
  Slice.readFixed_eq_checked e n

theorem fromBytes_ext_lt (e : Endian) (b : Bytes) (o n : Nat) (hn : n ≤ 8) :
    Ints.fromBytes e (ext b o n) < 2 ^ 64 :=
  Nat.lt_of_lt_of_le (Ints.fromBytes_lt e _)
    (Nat.pow_le_pow_right (by decide) (Nat.le_trans (List.length_take_le ..) hn) : _ ≤ 256 ^ 8)

/-- a value of at most 8 bytes always fits the 64-bit offset type -/
theorem fixedRead_offsetFromU64 (e : Endian) (n : Nat) (hn : n ≤ 8) :
    (M.bind (fixedRead e n true .other) fun v => M.liftOut (Ints.offsetFromU64 64 v)) =
      fixedRead e n true .other := by
  rw [fixedRead, checked_bind]
  funext c
  rw [M.liftOut, Ints.offsetFromU64_eq_ok.mpr ⟨rfl, fromBytes_ext_lt e c.sec c.off n hn⟩]
  rfl

theorem size_ok {n : Nat} (h : n = 1 ∨ n = 2 ∨ n = 4 ∨ n = 8) : 0 < n ∧ n ≤ 8 := by omega

theorem slice_readAddress (m : Mode) (e : Endian) (n : Nat) :
    sliceImpl.readAddress m e n =
      fixedRead e n (decide (n = 1 ∨ n = 2 ∨ n = 4 ∨ n = 8)) .rUnsupportedAddressSize := by
  show Dflt.readAddress sliceCore e n = _
  unfold Dflt.readAddress
  by_cases h : n = 1 ∨ n = 2 ∨ n = 4 ∨ n = 8
  · rw [if_pos h, readFixed_eq, decide_eq_true h]; rfl
  · rw [if_neg h, decide_eq_false h]; rfl

theorem slice_readSizedOffset (m : Mode) (e : Endian) (n : Nat) :
    sliceImpl.readSizedOffset m e n =
      fixedRead e n (decide (n = 1 ∨ n = 2 ∨ n = 4 ∨ n = 8)) .rUnsupportedOffsetSize := by
  show Dflt.readSizedOffset sliceCore e n = _
  unfold Dflt.readSizedOffset
  by_cases h : n = 1 ∨ n = 2 ∨ n = 4 ∨ n = 8
  · rw [if_pos h, readFixed_eq, fixedRead_offsetFromU64 e n (size_ok h).2, decide_eq_true h]; rfl
  · rw [if_neg h, decide_eq_false h]; rfl

theorem slice_readOffset (m : Mode) (e : Endian) (f : Format) :
    sliceImpl.readOffset m e f = fixedRead e f.wordSize true .other := by
  show Dflt.readWord sliceCore e f = _
  unfold Dflt.readWord
  cases f with
  | dwarf32 => exact readFixed_eq e 4
  | dwarf64 =>
    show M.bind (Dflt.readFixed sliceCore e 8) _ = _
    rw [readFixed_eq]
    exact fixedRead_offsetFromU64 e 8 (Nat.le_refl 8)

/-- **the relocatable reads**: relocating what was read from `b` gives what is read from `b'` -/
theorem relocated_fixed (hf : Facts e ρ b b') (m : Mode) {rd : M Cur Nat} {g : Nat → Nat → Out Nat}
    {n : Nat} {okS : Bool} {errS : Err} (hrd : rd = fixedRead e n okS errS) (hg : g = relFun ρ)
    {s : RCur Cur} {t : Cur} (hr : RR b b' s t)
    (hok : okS = true → n ≤ s.rdr.len → 0 < n ∧ n ≤ 8 ∧ hitOrMiss ρ s.rdr.off n = true) :
    (Reloc.relocated sliceImpl m rd g s).1 = (rd t).1 ∧
      RR b b' (Reloc.relocated sliceImpl m rd g s).2 (rd t).2 := by
  subst hrd hg
  have hw := hr.win
  have hoff : sliceImpl.offsetFrom m s.rdr s.sect = .ok s.rdr.off :=
    hr.2.2.1 ▸ ptrOffsetFrom_ofSec m hw.2
  rw [Reloc.relocated_eq hoff, hr.1]
  cases okS with
  | false => exact ⟨rfl, hr.of_win hw⟩
  | true =>
    simp only [fixedRead]
    by_cases hl : s.rdr.len < n
    · rw [checked_lt hl, checked_lt (c := resec b' s.rdr) hl]
      exact ⟨rfl, hr.of_win hw⟩
    · have hn := Nat.le_of_not_lt hl
      obtain ⟨hn0, hn8, hhm⟩ := hok rfl hn
      rw [checked_le hn, checked_le (c := resec b' s.rdr) hn]
      refine ⟨?_, hr.of_win (hw.adv hn)⟩
      show relFun ρ s.rdr.off (Ints.fromBytes e (ext s.rdr.sec s.rdr.off n)) =
        .ok (Ints.fromBytes e (ext b' s.rdr.off n))
      rw [hr.2.1]
      rcases (hitOrMiss_iff ρ s.rdr.off n).mp hhm with ⟨r, hrm, hro, hrs⟩ | hd
      · rw [← hro, ← hrs]
        exact hf.relFun_value hrm (hrs ▸ hn8)
      · rw [relFun_miss hf.sep hn0 hd, hf.same _ _ hd]

theorem reloc_split (rel : Rel) (n : Nat) :
    (relocImpl sliceImpl rel).split n = Reloc.onReaderNew (sliceImpl.split n) := by
  show Reloc.split sliceImpl n = _
  rw [Reloc.split_eq, ← funext (Slice.split_eq_splitTS n)]

theorem prim_step (hf : Facts e ρ b b') (m : Mode) (valid : Bytes → Bool) (lossy : Bytes → Bytes)
    {st : St (RCur Cur)} {st' : St Cur} (h : StRel (RR b b') st st') (p : Prim)
    (hok : ∀ s, st.get p.reader = some s → primOK ρ s.rdr p = true) :
    StepRel (RR b b') (step (relocImpl sliceImpl (relOf ρ)) m e valid lossy st p.toOp)
      (step sliceImpl m e valid lossy st' p.toOp) := by
  have hview : ∀ (s : RCur Cur) (t : Cur), RR b b' s t →
      ((relocImpl sliceImpl (relOf ρ)).view s).toView = (sliceImpl.view t).toView := by
    rintro s t ⟨rfl, -⟩; rfl
  -- what `primOK` says for the relocatable reads of a size
  have sized : ∀ {c : Cur} {n : Nat}, (!(decide (n = 1 ∨ n = 2 ∨ n = 4 ∨ n = 8)) || decide (c.len < n) ||
      hitOrMiss ρ c.off n) = true → decide (n = 1 ∨ n = 2 ∨ n = 4 ∨ n = 8) = true → n ≤ c.len →
      0 < n ∧ n ≤ 8 ∧ hitOrMiss ρ c.off n = true := fun hk hs hl => by
    have hs' := of_decide_eq_true hs
    simp only [hs, decide_eq_false (Nat.not_lt.mpr hl), Bool.not_true, Bool.false_or] at hk
    exact ⟨(size_ok hs').1, (size_ok hs').2, hk⟩
  unfold step
  cases p with
  | readSlice i n =>
    refine runM_sim' hview h i (fun s t hs _ hr => map_rel _ (onReader_checked
      (Slice.readSlice_eq_checked n) ((sliceImpl_safe b).readSlice n) hr (fun hn => ?_) (hr.1 ▸ rfl)))
    refine hr.ext_eq hf (((Bool.or_eq_true _ _).mp (hok s hs)).resolve_left fun hlt => ?_)
    exact absurd (of_decide_eq_true hlt) (Nat.not_lt.mpr hn)
  | skip i n =>
    exact runM_sim' hview h i (fun s t _ _ hr => map_rel _ (onReader_checked
      (Slice.skip_eq_checked n) ((sliceImpl_safe b).skip n) hr (fun _ => rfl) (hr.1 ▸ rfl)))
  | trunc i n =>
    exact runM_sim' hview h i (fun s t _ _ hr => map_rel _ (onReader_checked
      (Slice.truncate_eq_checked n) ((sliceImpl_safe b).truncate n) hr (fun _ => rfl) (hr.1 ▸ rfl)))
  | split i n =>
    refine runNew_sim' hview h i (fun s t _ _ hr => ?_)
    have hw := hr.win
    rw [reloc_split, show sliceImpl.split n = checked n _ _ from Slice.split_eq_checked n, hr.1]
    unfold Reloc.onReaderNew
    by_cases hl : s.rdr.len < n
    · rw [checked_lt hl, checked_lt (c := resec b' s.rdr) hl]
      exact ⟨rfl, hr.of_win hw⟩
    · have hn := Nat.le_of_not_lt hl
      rw [checked_le hn, checked_le (c := resec b' s.rdr) hn]
      exact ⟨hr.of_win (hw.cut hn), hr.of_win (hw.adv hn)⟩
  | empty i =>
    refine runM_sim' hview h i (fun s t _ _ hr => ⟨rfl, ?_⟩)
    rw [hr.1]
    exact hr.of_win (hr.win.cut (Nat.zero_le _))
  | find i x =>
    exact runQ_sim' hview h i (fun s t hs _ hr => congrArg _ (find_rr hf hr x (hok s hs)))
  | clone i => exact runNew_sim' hview h i (fun s t _ _ hr => ⟨hr, hr⟩)
  | drop i => exact drop_sim (I := relocImpl sliceImpl (relOf ρ)) (J := sliceImpl) m e valid lossy h i
  | offFrom i j =>
    exact offFrom_sim m e valid lossy hview (by rintro s t s' t' ⟨rfl, -⟩ ⟨rfl, -⟩; rfl) h i j
  | offId i => exact offId_sim m e valid lossy hview (by rintro s t ⟨rfl, -⟩; rfl) h i
  | lookup i k => exact lookup_sim m e valid lossy hview (by rintro s t ⟨rfl, -⟩ id; rfl) h i k
  | len i => exact runQ_sim' hview h i (by rintro s t _ _ ⟨rfl, -⟩; rfl)
  | toSlice i =>
    exact runQ_sim' hview h i (fun s t hs _ hr =>
      congrArg _ (Slice.conv_congr valid lossy (hr.bytes_eq hf (hok s hs))).1)
  | toStr i =>
    exact runQ_sim' hview h i (fun s t hs _ hr =>
      congrArg _ (Slice.conv_congr valid lossy (hr.bytes_eq hf (hok s hs))).2.1)
  | toLossy i =>
    exact runQ_sim' hview h i (fun s t hs _ hr =>
      congrArg _ (Slice.conv_congr valid lossy (hr.bytes_eq hf (hok s hs))).2.2)
  | addr i n =>
    exact runM_sim' hview h i (fun s t hs _ hr => map_rel _ (relocated_fixed hf m
      (slice_readAddress m e n) (relOf_addr ρ) hr (sized (hok s hs))))
  | offset i f =>
    refine runM_sim' hview h i (fun s t hs _ hr => map_rel _ (relocated_fixed hf m
      (slice_readOffset m e f) (relOf_offs ρ) hr fun _ hl => ⟨?_, ?_, ?_⟩))
    · cases f <;> decide
    · cases f <;> decide
    · refine ((Bool.or_eq_true _ _).mp (hok s hs)).resolve_left fun hlt => ?_
      exact absurd (of_decide_eq_true hlt) (Nat.not_lt.mpr hl)
  | sizedOff i n =>
    exact runM_sim' hview h i (fun s t hs _ hr => map_rel _ (relocated_fixed hf m
      (slice_readSizedOffset m e n) (relOf_offs ρ) hr (sized (hok s hs))))

theorem run_transparent (hf : Facts e ρ b b') (m : Mode) (valid : Bytes → Bool)
    (lossy : Bytes → Bytes) (P : Prog α) : ∀ (st : St (RCur Cur)) (st' : St Cur),
    StRel (RR b b') st st' → compat ρ m e valid lossy P st = true →
      run (relocImpl sharedImpl (relOf ρ)) m e valid lossy P st = run sharedImpl m e valid lossy P st' := by
  rw [sharedImpl_eq]
  induction P with
  | ret a => intro st st' _ _; rfl
  | fail x => intro st st' _ _; rfl
  | step p k ih =>
    intro st st' h hc
    simp only [compat, sharedImpl_eq, Bool.and_eq_true] at hc
    obtain ⟨h1, h2⟩ := prim_step hf m valid lossy h p (fun s hs => by simpa [hs] using hc.1)
    simp only [run]
    rw [← h1]
    exact ih _ _ _ h2 hc.2

end Gimli.Rr
