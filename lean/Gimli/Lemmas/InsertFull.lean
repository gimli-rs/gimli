/-!
# `IndexSet::insert_full`, once

gimli's writer keeps its de-duplicating tables (`AbbreviationTable`, `StringTable`, the CIEs of a `FrameTable`,
`RangeListTable` / `LocationListTable`) in an `IndexSet`: look the value up, append it if it is new, hand out the
index.  The Model spells that out per table; each area proves that its copy is `insertFull` (a bridge of a few
lines) and takes the facts from here, for one insertion (`insertFull_…`) and for a sequence of them (`insertAll_…`).
-/
namespace Gimli.IndexSet
variable {α : Type}

theorem nodup_getElem?_inj {l : List α} {i j : Nat} {a : α} (hnd : l.Nodup)
    (hi : l[i]? = some a) (hj : l[j]? = some a) : i = j :=
  (List.getElem?_inj (List.getElem?_eq_some_iff.mp hi).1 hnd).mp (hi.trans hj.symm)

theorem getElem?_append_of_some {l : List α} {i : Nat} {x : α} (h : l[i]? = some x) (ext : List α) :
    (l ++ ext)[i]? = some x :=
  (List.getElem?_append_left (List.getElem?_eq_some_iff.mp h).1).trans h

variable [BEq α] [LawfulBEq α]

/-- the Model's first-index searches are written out as this recursion, once per table -/
theorem idxOf?_of_step [DecidableEq α] {f : List α → Option Nat} {a : α} (h0 : f [] = none)
    (hs : ∀ x xs, f (x :: xs) = if x = a then some 0 else (f xs).map (· + 1)) (l : List α) : f l = l.idxOf? a := by
  induction l with
  | nil => exact h0
  | cons x xs ih => simp only [hs, List.idxOf?_cons, ih, beq_iff_eq]

/-- `IndexSet::insert_full`: the index of `a` in the table, appended at the end if it is new -/
def insertFull (tab : List α) (a : α) : Nat × List α :=
  match tab.idxOf? a with
  | some i => (i, tab)
  | none => (tab.length, tab ++ [a])

theorem insertFull_spec (tab : List α) (a : α) :
    (insertFull tab a).2[(insertFull tab a).1]? = some a ∧
    ((insertFull tab a).2 = tab ∨ (a ∉ tab ∧ (insertFull tab a).2 = tab ++ [a])) := by
  unfold insertFull
  cases h : tab.idxOf? a with
  | some i =>
    obtain ⟨hi, hg, -⟩ := List.idxOf?_eq_some_iff.mp h
    exact ⟨List.getElem?_eq_some_iff.mpr ⟨hi, hg⟩, .inl rfl⟩
  | none => exact ⟨by simp, .inr ⟨List.idxOf?_eq_none_iff.mp h, rfl⟩⟩

theorem insertFull_nodup (tab : List α) (a : α) (h : tab.Nodup) : (insertFull tab a).2.Nodup := by
  rcases (insertFull_spec tab a).2 with h1 | ⟨h1, h2⟩
  · rwa [h1]
  · rw [h2]
    exact List.nodup_append.mpr ⟨h, by simp, fun x hx y hy hxy =>
      h1 (List.mem_singleton.mp hy ▸ hxy ▸ hx)⟩

theorem idxOf?_eq_of_nodup {l : List α} {n : Nat} {x : α} (hnd : l.Nodup) (h : l[n]? = some x) :
    l.idxOf? x = some n := by
  obtain ⟨hn, hx⟩ := List.getElem?_eq_some_iff.mp h
  refine List.idxOf?_eq_some_iff.mpr ⟨hn, hx, fun j hj hjx => ?_⟩
  exact Nat.ne_of_lt hj (nodup_getElem?_inj hnd (List.getElem?_eq_some_iff.mpr ⟨Nat.lt_trans hj hn, hjx⟩) h)

theorem insertFull_existing (tab : List α) (a : α) (k : Nat) (hnd : tab.Nodup) (hk : tab[k]? = some a) :
    insertFull tab a = (k, tab) := by
  unfold insertFull
  rw [idxOf?_eq_of_nodup hnd hk]

theorem insertFull_append (tab : List α) (a : α) :
    ∃ ext, (insertFull tab a).2 = tab ++ ext ∧ ∀ t ∈ ext, t = a := by
  rcases (insertFull_spec tab a).2 with h | ⟨_, h⟩
  · exact ⟨[], by rw [h, List.append_nil], nofun⟩
  · exact ⟨[a], h, fun t ht => List.mem_singleton.mp ht⟩

theorem insertFull_stable (tab : List α) (a : α) {i : Nat} {x : α} (h : tab[i]? = some x) :
    (insertFull tab a).2[i]? = some x := by
  obtain ⟨ext, he, _⟩ := insertFull_append tab a
  rw [he]
  exact getElem?_append_of_some h ext

theorem insertFull_idem (tab : List α) (a : α) : insertFull (insertFull tab a).2 a = insertFull tab a := by
  unfold insertFull
  cases h : tab.idxOf? a with
  | some i => simp only [h]
  | none =>
    have : (tab ++ [a]).idxOf? a = some tab.length := by
      rw [List.idxOf?, List.findIdx?_append, ← List.idxOf?, h]
      simp
    simp only [this]

theorem insertFull_eq_iff (tab : List α) (a b : α) :
    (insertFull tab a).1 = (insertFull (insertFull tab a).2 b).1 ↔ a = b := by
  constructor
  · intro h
    have h1 := insertFull_stable (insertFull tab a).2 b (insertFull_spec tab a).1
    rw [h, (insertFull_spec (insertFull tab a).2 b).1] at h1
    exact (Option.some.inj h1).symm
  · rintro rfl
    rw [insertFull_idem]

/-- a sequence of `insert_full` calls: the index each call returned, and the table afterwards -/
def insertAll (tab : List α) : List α → List Nat × List α
  | [] => ([], tab)
  | a :: as => ((insertFull tab a).1 :: (insertAll (insertFull tab a).2 as).1, (insertAll (insertFull tab a).2 as).2)

theorem insertAll_spec (as : List α) : ∀ (tab : List α), tab.Nodup →
    (insertAll tab as).2.Nodup ∧ (insertAll tab as).1.length = as.length ∧
    (∃ ext, (insertAll tab as).2 = tab ++ ext ∧ ∀ t ∈ ext, t ∈ as) ∧
    ∀ (k : Nat) (hk : k < as.length), ∃ id : Nat, (insertAll tab as).1[k]? = some id ∧
      (insertAll tab as).2[id]? = some as[k] := by
  induction as with
  | nil => intro tab h; exact ⟨h, rfl, ⟨[], (List.append_nil _).symm, nofun⟩, fun k hk => absurd hk (by simp)⟩
  | cons a as ih =>
    intro tab h
    obtain ⟨h1, h2, ⟨ext2, he2, hm2⟩, h4⟩ := ih (insertFull tab a).2 (insertFull_nodup tab a h)
    obtain ⟨ext1, he1, hm1⟩ := insertFull_append tab a
    simp only [insertAll]
    refine ⟨h1, by simp [h2], ⟨ext1 ++ ext2, by rw [he2, he1, List.append_assoc], fun t ht => ?_⟩, fun k hk => ?_⟩
    · rcases List.mem_append.mp ht with ht | ht
      · exact hm1 t ht ▸ List.mem_cons_self
      · exact List.mem_cons_of_mem _ (hm2 t ht)
    · cases k with
      | zero =>
        -- the index `insertFull` returned still designates `a` in the longer final table
        exact ⟨(insertFull tab a).1, by simp, he2 ▸ getElem?_append_of_some (insertFull_spec tab a).1 ext2⟩
      | succ k =>
        obtain ⟨id, hid, hget⟩ := h4 k (by simpa using hk)
        exact ⟨id, by simpa using hid, by simpa using hget⟩

theorem insertAll_eq_iff (as : List α) (tab : List α) (hn : tab.Nodup) (j k : Nat) (hj : j < as.length)
    (hk : k < as.length) : (insertAll tab as).1[j]? = (insertAll tab as).1[k]? ↔ as[j] = as[k] := by
  obtain ⟨hnd, _, _, hget⟩ := insertAll_spec as tab hn
  obtain ⟨idj, hidj, hgj⟩ := hget j hj
  obtain ⟨idk, hidk, hgk⟩ := hget k hk
  rw [hidj, hidk]
  constructor
  · intro h
    cases Option.some.inj h
    exact Option.some.inj (hgj.symm.trans hgk)
  · intro h
    rw [nodup_getElem?_inj hnd hgj (h ▸ hgk)]

end Gimli.IndexSet
