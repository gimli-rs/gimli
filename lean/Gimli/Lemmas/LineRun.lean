import Gimli.Lemmas.LineDecode
/-! The three ways the Model drives the state machine over the bytes of a program, related to each
other: `traceLoop` (every `next_row` result until `Ok(None)`, as one list) ends without `stuck` and
does not depend on its fuel; `nextRow`/`collect` (call by call) return its visible events;
`sequences()` cuts it where `resume_from` can pick it up again. -/
namespace Gimli.Line
open Gimli Gimli.Spec Gimli.Spec.Line

/-! ## fuel and termination -/

/-- the rest after one instruction is within the fuel of the recursive call -/
theorem fuel_step {rest input fuel : Nat} (hc : rest < input) (hl : input < fuel + 1) : rest < fuel :=
  Nat.lt_of_lt_of_le hc (Nat.le_of_lt_succ hl)

theorem traceLoop_fuel (h : Params) : ∀ (f1 f2 : Nat) (row : Row) (inSeq : Bool) (input : Bytes),
    input.length < f1 → input.length < f2 →
    traceLoop h f1 row inSeq input = traceLoop h f2 row inSeq input := by
  intro f1
  induction f1 with
  | zero => intro f2 row inSeq input h1; omega
  | succ f1 ih =>
    intro f2 row inSeq input h1 h2
    cases f2 with
    | zero => omega
    | succ f2 =>
      rw [traceLoop_succ, traceLoop_succ]
      cases hp : parseInstr h input with
      | ok p =>
        have hc := parseInstr_consumes h input p.1 p.2 hp
        dsimp only
        rw [ih f2 _ _ p.2 (fuel_step hc h1) (fuel_step hc h2)]
      | _ => rfl

theorem traceLoop_stepEv (h : Params) (row : Row) (inSeq : Bool) (input : Bytes) (ins : Instr) (rest : Bytes)
    (hp : parseInstr h input = .ok (ins, rest)) :
    traceLoop h (input.length + 1) row inSeq input =
      (stepEv h row inSeq ins).1 ++
        traceLoop h (rest.length + 1) (stepEv h row inSeq ins).2.1 (stepEv h row inSeq ins).2.2 rest := by
  have hc := parseInstr_consumes h input ins rest hp
  have hne : ¬ input.isEmpty = true := by cases input with | nil => cases hp | cons => exact Bool.false_ne_true
  rw [traceLoop_succ, if_neg hne, hp]
  dsimp only
  rw [traceLoop_fuel h input.length (rest.length + 1) _ _ rest hc (Nat.lt_succ_self _)]

/-- the loop of `next_row` ends because every instruction consumes at least one byte, and the
decoder never panics -/
theorem traceLoop_not_stuck (h : Params) : ∀ (fuel : Nat) (row : Row) (inSeq : Bool) (input : Bytes),
    input.length < fuel → Ev.stuck ∉ traceLoop h fuel row inSeq input := by
  intro fuel
  induction fuel with
  | zero => intro row inSeq input hl; omega
  | succ fuel ih =>
    intro row inSeq input hl
    rw [traceLoop_succ]
    by_cases hem : input.isEmpty = true
    · rw [if_pos hem]
      exact List.not_mem_nil
    · rw [if_neg hem]
      obtain ⟨e, hp⟩ | ⟨ins, rest, hp, hc⟩ := parseInstr_cases h input
      · rw [hp]
        exact fun hm => nomatch List.mem_singleton.mp hm
      · rw [hp, List.mem_append]
        exact fun hm => hm.elim (stepEv_not_stuck h row inSeq ins) (ih _ _ rest (fuel_step hc hl))

/-! ## `next_row`, call by call -/

abbrev vis (evs : List Ev) : List Ev := evs.filter Ev.visible

theorem vis_append (a b : List Ev) : vis (a ++ b) = vis a ++ vis b := List.filter_append _ _

/-- what one `next_row` call does, in terms of the trace -/
def NextSpec (h : Params) (row : Row) (inSeq : Bool) (input : Bytes) : Next × Row × Bool × Bytes → Prop
  | (.none, _, _, _) => vis (traceLoop h (input.length + 1) row inSeq input) = []
  | (.row r, row', b', input') =>
    vis (traceLoop h (input.length + 1) row inSeq input) =
      .row r :: vis (traceLoop h (input'.length + 1) (reset h row') b' input') ∧
      input'.length < input.length
  | (.err e, row', b', input') =>
    vis (traceLoop h (input.length + 1) row inSeq input) =
      .err e :: vis (traceLoop h (input'.length + 1) (reset h row') b' input') ∧
      input'.length < input.length
  | (.stuck, _, _, _) => False

theorem nextRowLoop_spec (h : Params) : ∀ (f : Nat) (row : Row) (inSeq : Bool) (input : Bytes),
    input.length < f → NextSpec h row inSeq input (nextRowLoop h f row inSeq input) := by
  intro f
  induction f with
  | zero => intro row inSeq input hl; omega
  | succ f ih =>
    intro row inSeq input hl
    rw [nextRowLoop]
    -- a call that goes round the loop once more returns what the rest of the input gives, and its
    -- trace is the rest's trace after events that are not visible
    have again : ∀ row' rest (evs : List Ev), rest.length < input.length → vis evs = [] →
        traceLoop h (input.length + 1) row inSeq input = evs ++ traceLoop h (rest.length + 1) row' inSeq rest →
        NextSpec h row inSeq input (nextRowLoop h f row' inSeq rest) := by
      intro row' rest evs hc hevs hT
      have := ih row' inSeq rest (fuel_step hc hl)
      revert this
      cases nextRowLoop h f row' inSeq rest with
      | mk nx st =>
        obtain ⟨r2, b2, i2⟩ := st
        cases nx <;> simp only [NextSpec, hT, vis_append, hevs, List.nil_append]
        case row | err => exact fun ⟨a, b⟩ => ⟨a, Nat.lt_trans b hc⟩
        case none | stuck => exact id
    by_cases hem : input.isEmpty = true
    · rw [if_pos hem]
      exact congrArg vis ((traceLoop_succ h _ row inSeq input).trans (if_pos hem))
    · rw [if_neg hem]
      obtain ⟨e, hp⟩ | ⟨ins, rest, hp, hc⟩ := parseInstr_cases h input
      · rw [hp]
        refine ⟨?_, List.length_pos_iff.mpr (by rintro rfl; contradiction)⟩
        rw [traceLoop_succ, if_neg hem, hp]
        rfl
      · have hT := traceLoop_stepEv h row inSeq input ins rest hp
        rw [hp]
        dsimp only
        cases hex : execute h row ins with
        | mk row' e =>
          cases e with
          | err e =>
            rw [stepEv_err h row row' inSeq ins e hex] at hT
            exact ⟨congrArg vis hT, hc⟩
          | noEmit =>
            rw [stepEv_noEmit h row row' inSeq ins hex] at hT
            exact again row' rest [] hc rfl hT
          | emit =>
            dsimp only
            by_cases ht : skipRow row' inSeq = true
            · rw [stepEv_hidden h row row' inSeq ins hex ht] at hT
              rw [if_pos ht]
              exact again (reset h row') rest [.hidden row'] hc rfl hT
            · rw [stepEv_row h row row' inSeq ins hex ht] at hT
              rw [if_neg ht]
              exact ⟨congrArg vis hT, hc⟩

theorem collect_eq_run (h : Params) : ∀ (n : Nat) (row : Row) (inSeq : Bool) (input : Bytes),
    input.length < n →
    collect h n row inSeq input = vis (traceLoop h (input.length + 1) (reset h row) inSeq input) := by
  intro n
  induction n with
  | zero => intro row inSeq input hl; omega
  | succ n ih =>
    intro row inSeq input hl
    rw [collect]
    have hs := nextRowLoop_spec h (input.length + 1) (reset h row) inSeq input (Nat.lt_succ_self _)
    unfold nextRow
    revert hs
    cases hq : nextRowLoop h (input.length + 1) (reset h row) inSeq input with
    | mk nx st =>
      obtain ⟨r2, b2, i2⟩ := st
      cases nx with
      | none => simp only [NextSpec]; intro hs; rw [hs]
      | row _ | err _ =>
        simp only [NextSpec]
        intro ⟨a, b⟩
        rw [a, ih r2 b2 i2 (fuel_step b hl)]
      | stuck => simp only [NextSpec]; exact False.elim

/-! ## `sequences()` and `resume_from()` -/

/-- running `pre` from the initial registers consumes it exactly, produces `P`, and leaves the
machine in state `(row, inSeq)` — whatever follows -/
def Reach (h : Params) (pre : Bytes) (row : Row) (inSeq : Bool) (P : List Ev) : Prop :=
  ∀ X, traceLoop h ((pre ++ X).length + 1) (Row.new h) false (pre ++ X) =
    P ++ traceLoop h (X.length + 1) row inSeq X

theorem reach_nil (h : Params) : Reach h [] (Row.new h) false [] := by
  intro X; simp

theorem reach_step (h : Params) (pre : Bytes) (row : Row) (inSeq : Bool) (P : List Ev)
    (hr : Reach h pre row inSeq P)
    (c : Bytes) (ins : Instr) (hloc : Reads (parseInstr h) c ins) :
    Reach h (pre ++ c) (stepEv h row inSeq ins).2.1 (stepEv h row inSeq ins).2.2
      (P ++ (stepEv h row inSeq ins).1) := by
  intro X
  have h1 := hr (c ++ X)
  rw [List.append_assoc, h1, traceLoop_stepEv h row inSeq (c ++ X) ins X (hloc X), List.append_assoc]

theorem resume_of_reach (h : Params) (pre : Bytes) (row : Row) (inSeq : Bool) (P : List Ev)
    (hr : Reach h pre row inSeq P) (s : Seq) (hs : s.instructions = pre) : resume h s = vis P := by
  have := hr []
  rw [List.append_nil] at this
  unfold resume run trace
  rw [hs, reset_new, this]
  exact congrArg vis (List.append_nil P)

theorem seqLoop_spec (h : Params) : ∀ (fuel : Nat) (row : Row) (inSeq : Bool) (input pre : Bytes) (P : List Ev)
    (cur : List Row) (acc res : List Seq),
    input.length < fuel → Reach h pre row inSeq P → vis P = cur.map Ev.row →
    (∀ r ∈ cur, r.endSequence = false) →
    seqLoop h fuel row inSeq input (pre ++ input) (cur.head?.map (·.address)) acc = .ok res →
    ∃ (news : List Seq) (tail : List Row), res = acc.reverse ++ news ∧
      cur.map Ev.row ++ vis (traceLoop h (input.length + 1) row inSeq input) =
        news.flatMap (resume h) ++ tail.map Ev.row ∧
      (∀ r ∈ tail, r.endSequence = false) ∧ ∀ s ∈ news, SeqOk h s := by
  intro fuel
  induction fuel with
  | zero => intro row inSeq input pre P cur acc res hl; omega
  | succ fuel ih =>
    intro row inSeq input pre P cur acc res hl hreach hvis hcur hs
    rw [seqLoop] at hs
    by_cases hem : input.isEmpty = true
    · rw [if_pos hem] at hs
      cases List.isEmpty_iff.mp hem
      cases hs
      exact ⟨[], cur, (List.append_nil _).symm, List.append_nil _, hcur, fun _ hm => nomatch hm⟩
    · rw [if_neg hem] at hs
      cases hp : parseInstr h input with
      | ok p =>
        obtain ⟨ins, rest⟩ := p
        rw [hp] at hs
        obtain ⟨c, rfl, _, hloc⟩ := parseInstr_local h input ins rest hp
        have hfuel : rest.length < fuel := fuel_step (parseInstr_consumes h _ ins rest hp) hl
        have hstep := traceLoop_stepEv h row inSeq _ ins rest hp
        have hreach' := reach_step h pre row inSeq P hreach c ins hloc
        rw [← List.append_assoc] at hs
        dsimp only at hs
        -- in every case the events of this instruction go in front of what the rest of the input
        -- yields; `hidden` events are not visible
        rw [hstep, vis_append]
        cases hex : execute h row ins with
        | mk row' e =>
          rw [hex] at hs
          cases e with
          | err e => cases hs
          | noEmit =>
            rw [stepEv_noEmit h row row' inSeq ins hex] at hreach' ⊢
            exact ih row' inSeq rest (pre ++ c) P cur acc res hfuel
              (List.append_nil P ▸ hreach') hvis hcur hs
          | emit =>
            dsimp only at hs
            by_cases htomb : skipRow row' inSeq = true
            · rw [if_pos htomb] at hs
              rw [stepEv_hidden h row row' inSeq ins hex htomb] at hreach' ⊢
              exact ih (reset h row') inSeq rest (pre ++ c) (P ++ [.hidden row']) cur acc res
                hfuel hreach' ((vis_append P [.hidden row']).trans ((List.append_nil _).trans hvis)) hcur hs
            · rw [if_neg htomb] at hs
              rw [stepEv_row h row row' inSeq ins hex htomb] at hreach' ⊢
              have hvis' : vis (P ++ [.row row']) = (cur ++ [row']).map Ev.row := by
                rw [vis_append, hvis, List.map_append]; rfl
              by_cases hend : row'.endSequence = true
              · -- a sequence ends here: it is resumed by running `pre ++ c`, which yields `cur` and this row
                rw [if_pos hend, take_prefix] at hs
                rw [reset_of_end hend] at hs ⊢
                rw [hend]
                have hres := resume_of_reach h (pre ++ c) _ _ _ hreach'
                  { start := (cur.head?.map (·.address)).getD row'.address, «end» := row'.address,
                    instructions := pre ++ c } rfl
                rw [hvis', List.map_append] at hres
                obtain ⟨news, tail, h1, h2, h3, h4⟩ := ih (Row.new h) false rest [] [] [] _ res hfuel
                  (reach_nil h) rfl (fun _ hm => nomatch hm) hs
                refine ⟨_ :: news, tail, by rw [h1, List.reverse_cons, List.append_assoc]; rfl, ?_, h3, ?_⟩
                · rw [List.flatMap_cons, hres, List.append_assoc, ← h2, List.append_assoc]; rfl
                · intro s hs'
                  rcases List.mem_cons.mp hs' with rfl | hs'
                  · exact ⟨cur, row', hres, hend, hcur, rfl, by cases cur <;> rfl⟩
                  · exact h4 s hs'
              · rw [if_neg hend] at hs
                have hs : seqLoop h fuel (reset h row') true rest (pre ++ c ++ rest)
                    ((cur ++ [row']).head?.map (·.address)) acc = .ok res := by
                  revert hs; cases cur <;> exact id
                rw [Bool.not_eq_true] at hend
                rw [hend, Bool.not_false] at hreach' ⊢
                obtain ⟨news, tail, h1, h2, h3, h4⟩ := ih (reset h row') true rest (pre ++ c) (P ++ [.row row'])
                  (cur ++ [row']) acc res hfuel hreach' hvis'
                  (fun r hr => (List.mem_append.mp hr).elim (hcur r)
                    fun hr => List.mem_singleton.mp hr ▸ hend) hs
                rw [List.map_append, List.append_assoc] at h2
                exact ⟨news, tail, h1, h2, h3, h4⟩
      | _ => rw [hp] at hs; cases hs

theorem seqLoop_normal (h : Params) : ∀ (fuel : Nat) (row : Row) (inSeq : Bool) (input seqInput : Bytes)
    (st : Option Nat) (acc : List Seq), input.length < fuel →
    (seqLoop h fuel row inSeq input seqInput st acc).Normal := by
  intro fuel
  induction fuel with
  | zero => intro row inSeq input seqInput st acc hl; omega
  | succ fuel ih =>
    intro row inSeq input seqInput st acc hl
    rw [seqLoop]
    by_cases hem : input.isEmpty = true
    · rw [if_pos hem]
      trivial
    · rw [if_neg hem]
      obtain ⟨e, hp⟩ | ⟨ins, rest, hp, hc⟩ := parseInstr_cases h input
      · rw [hp]
        trivial
      · have hfuel : rest.length < fuel := fuel_step hc hl
        rw [hp]
        dsimp only
        cases execute h row ins with
        | mk r e =>
          cases e with
          | emit =>
            dsimp only
            by_cases hs : skipRow r inSeq = true
            · rw [if_pos hs]; exact ih _ _ _ _ _ _ hfuel
            · rw [if_neg hs]
              by_cases he : r.endSequence = true
              · rw [if_pos he]; exact ih _ _ _ _ _ _ hfuel
              · rw [if_neg he]; exact ih _ _ _ _ _ _ hfuel
          | noEmit => exact ih _ _ _ _ _ _ hfuel
          | err e => trivial

theorem sequences_spec (h : Params) (bs : Bytes) (seqs : List Seq) (hs : sequences h bs = .ok seqs) :
    ∃ tail : List Row, run h bs = seqs.flatMap (resume h) ++ tail.map Ev.row ∧
      (∀ r ∈ tail, r.endSequence = false) ∧ ∀ s ∈ seqs, SeqOk h s := by
  unfold sequences at hs
  rw [reset_new] at hs
  obtain ⟨news, tail, h1, h2, h3, h4⟩ := seqLoop_spec h (bs.length + 1) (Row.new h) false bs [] [] [] [] seqs
    (by omega) (reach_nil h) (by simp [vis]) (by simp) (by simpa using hs)
  simp only [List.reverse_nil, List.nil_append] at h1
  subst h1
  refine ⟨tail, ?_, h3, h4⟩
  unfold run trace
  rw [reset_new]
  simpa using h2

end Gimli.Line
