import Gimli.Model.ConvLineRows
import Gimli.Lemmas.WLine
/-! Helper lemmas for the line component of C12: the conversion Model's `CRes` monad; a successful
`convert_file` step taken apart, and what `convert_file` / `ConvertLineProgram::new` leave untouched
(`PF`, `Frame`, `SF`); `convert_row` by cases; the loop of `read_row`: that it consumes its input, and
its equation for an instruction that is executed. -/
namespace Gimli.ConvLineRows
open Gimli Gimli.Line Gimli.WLine

theorem CRes.bind_eq_ok {α β : Type} {x : CRes α} {f : α → CRes β} {b : β} (h : (x >>= f) = .ok b) :
    ∃ a, x = .ok a ∧ f a = .ok b := by
  cases x with
  | ok a => exact ⟨a, rfl, h⟩
  | err e => cases h
  | panic w => cases h

theorem ofWrite_eq_ok {α : Type} {x : Out α} {a : α} (h : ofWrite x = .ok a) : x = .ok a := by
  cases x <;> cases h
  rfl

theorem ofRead_eq_ok {α : Type} {x : Out α} {a : α} (h : ofRead x = .ok a) : x = .ok a := by
  cases x <;> cases h
  rfl

/-- `LineString::new` may add to a string table; the string it returns is the one asked for -/
theorem LineStr.make_ok (tabs tabs' : Tabs) (form : SForm) (val : Bytes) (s : LineStr)
    (h : LineStr.make tabs form val = .ok (tabs', s)) : s = { form, val } := by
  unfold LineStr.make at h
  split at h
  · cases h; rfl
  · obtain ⟨_, _, h⟩ := Out.bind_eq_ok h
    cases h; rfl
  · obtain ⟨_, _, h⟩ := Out.bind_eq_ok h
    cases h; rfl

theorem convertFile_ok (strs : Strs) (st st' : CSt) (f : FileEntry) (h : convertFile strs st f = .ok st') :
    ∃ (tabs1 tabs2 : Tabs) (name : LineStr) (source : Option LineStr) (prog : Prog) (id : Nat),
      convertString strs st.prog.enc.version st.tabs f.path = .ok (tabs1, name) ∧
      f.dirIndex < st.dirs.length ∧
      ((f.source = none ∧ source = none) ∨
        ∃ s src, f.source = some s ∧ source = some src ∧
          convertString strs st.prog.enc.version tabs1 s = .ok (tabs2, src)) ∧
      addFile st.prog name (st.dirs.getD f.dirIndex 0)
        (some { timestamp := f.timestamp, size := f.size, md5 := f.md5, source }) = .ok (prog, id) ∧
      st' = { st with prog, tabs := tabs2, files := st.files ++ [id] } := by
  unfold convertFile at h
  obtain ⟨⟨tabs1, name⟩, hn, h⟩ := CRes.bind_eq_ok h
  dsimp only at h
  split at h
  · cases h
  split at h
  · cases h
  rename_i hdir
  obtain ⟨⟨tabs2, source⟩, hs, h⟩ := CRes.bind_eq_ok h
  obtain ⟨⟨prog, id⟩, ha, h⟩ := CRes.bind_eq_ok h
  cases h
  refine ⟨tabs1, tabs2, name, source, prog, id, hn, Nat.lt_of_not_le hdir, ?_, ofWrite_eq_ok ha, rfl⟩
  cases hsrc : f.source with
  | none => rw [hsrc] at hs; cases hs; exact Or.inl ⟨rfl, rfl⟩
  | some s =>
    rw [hsrc] at hs
    obtain ⟨⟨t, x⟩, hx, hs⟩ := CRes.bind_eq_ok hs
    cases hs
    exact Or.inr ⟨s, x, rfl, rfl, hx⟩

/-! ## what the table-building steps leave untouched -/

/-- the row-encoder state of the program is untouched -/
def PF (p p' : Prog) : Prop :=
  p'.instrs = p.instrs ∧ p'.prevRow = p.prevRow ∧ p'.row = p.row ∧ p'.inSequence = p.inSequence ∧
  p'.enc = p.enc

theorem PF.refl (p : Prog) : PF p p := ⟨rfl, rfl, rfl, rfl, rfl⟩
theorem PF.trans {a b c : Prog} (h1 : PF a b) (h2 : PF b c) : PF a c :=
  ⟨h2.1.trans h1.1, h2.2.1.trans h1.2.1, h2.2.2.1.trans h1.2.2.1, h2.2.2.2.1.trans h1.2.2.2.1,
    h2.2.2.2.2.trans h1.2.2.2.2⟩

theorem addDirectory_PF (p p' : Prog) (d : LineStr) (id : Nat) (h : addDirectory p d = .ok (p', id)) : PF p p' := by
  unfold addDirectory at h
  split at h
  · cases h
  · split at h
    · cases h
    · split at h <;> cases h <;> exact PF.refl _

theorem addFile_PF (p p' : Prog) (n : LineStr) (d : Nat) (i : Option FileInfo) (id : Nat)
    (h : addFile p n d i = .ok (p', id)) : PF p p' := by
  rcases (addFile_ok.mp h).2.2 with ⟨_, rfl⟩ | ⟨_, _, rfl⟩ <;> exact PF.refl _

theorem progNew_spec (m : Mode) (format : Format) (addrSize : Nat) (e : Enc) (wd : LineStr)
    (sd : Option LineStr) (sf : LineStr) (si : Option FileInfo) (p : Prog)
    (h : Prog.new m format addrSize e wd sd sf si = .ok p) :
    p.instrs = [] ∧ p.prevRow = WRow.initial e ∧ p.row = WRow.initial e ∧ p.inSequence = false ∧ p.enc = e := by
  unfold Prog.new at h
  obtain ⟨_, _, h⟩ := Out.bind_eq_ok h
  obtain ⟨⟨p1, wdId⟩, h1, h⟩ := Out.bind_eq_ok h
  have pf1 := addDirectory_PF _ _ _ _ h1
  dsimp only at h
  split at h
  · obtain ⟨⟨p2, sdId⟩, h2, h⟩ := Out.bind_eq_ok h
    obtain ⟨⟨p3, _⟩, h3, h⟩ := Out.bind_eq_ok h
    cases h
    have pf2 : PF p1 p2 := by
      cases sd with
      | some d => exact addDirectory_PF _ _ _ _ h2
      | none => cases h2; exact PF.refl _
    exact (pf1.trans pf2).trans (addFile_PF _ _ _ _ _ _ h3)
  · cases h
    exact pf1

/-- `read_row` touches only the reader-side registers, the string tables, the index mappings
(append only) and the file table of the program being built -/
def Frame (st st' : CSt) : Prop :=
  PF st.prog st'.prog ∧ ∃ more, st'.files = st.files ++ more

theorem Frame.of_eq {st st' : CSt} (hp : st'.prog = st.prog) (hf : st'.files = st.files) : Frame st st' :=
  ⟨hp ▸ PF.refl _, [], by rw [hf, List.append_nil]⟩

theorem Frame.refl (st : CSt) : Frame st st := Frame.of_eq rfl rfl

theorem Frame.trans {a b c : CSt} (h1 : Frame a b) (h2 : Frame b c) : Frame a c := by
  obtain ⟨p1, m1, e1⟩ := h1
  obtain ⟨p2, m2, e2⟩ := h2
  exact ⟨p1.trans p2, m1 ++ m2, by rw [e2, e1, List.append_assoc]⟩

/-- the converter's own registers and the row-encoder state of the program are untouched -/
def SF (st st' : CSt) : Prop :=
  PF st.prog st'.prog ∧ st'.fromRow = st.fromRow ∧ st'.fromAddress = st.fromAddress ∧ st'.inSeq = st.inSeq

theorem SF.refl (st : CSt) : SF st st := ⟨PF.refl _, rfl, rfl, rfl⟩
theorem SF.trans {a b c : CSt} (h1 : SF a b) (h2 : SF b c) : SF a c :=
  ⟨h1.1.trans h2.1, h2.2.1.trans h1.2.1, h2.2.2.1.trans h1.2.2.1, h2.2.2.2.trans h1.2.2.2⟩

theorem convertFile_frame (strs : Strs) (st st' : CSt) (f : FileEntry) (h : convertFile strs st f = .ok st') :
    Frame st st' ∧ SF st st' := by
  obtain ⟨_, _, _, _, prog, id, _, _, _, ha, rfl⟩ := convertFile_ok strs st st' f h
  have pf := addFile_PF _ _ _ _ _ _ ha
  exact ⟨⟨pf, [id], rfl⟩, pf, rfl, rfl, rfl⟩

theorem convertFiles_SF (strs : Strs) : ∀ (fs : List FileEntry) (st st' : CSt),
    convertFiles strs st fs = .ok st' → SF st st' := by
  intro fs
  induction fs with
  | nil => intro st st' h; cases h; exact SF.refl _
  | cons f fs ih =>
    intro st st' h
    rw [convertFiles] at h
    obtain ⟨st1, hc, h⟩ := CRes.bind_eq_ok h
    exact (convertFile_frame strs st st1 f hc).2.trans (ih st1 st' h)

theorem convertDirs_SF (strs : Strs) : ∀ (ds : List AttrVal) (st st' : CSt),
    convertDirs strs st ds = .ok st' → SF st st' := by
  intro ds
  induction ds with
  | nil => intro st st' h; cases h; exact SF.refl _
  | cons d ds ih =>
    intro st st' h
    rw [convertDirs] at h
    obtain ⟨⟨tabs, s⟩, _, h⟩ := CRes.bind_eq_ok h
    obtain ⟨⟨prog, id⟩, ha, h⟩ := CRes.bind_eq_ok h
    exact SF.trans (b := { st with prog, tabs, dirs := st.dirs ++ [id] })
      ⟨addDirectory_PF st.prog prog s id (ofWrite_eq_ok ha), rfl, rfl, rfl⟩ (ih _ st' h)

theorem convNew_spec (m : Mode) (strs : Strs) (hd : Header) (tabs : Tabs) (st : CSt)
    (h : convNew m strs hd tabs = .ok st) :
    ¬ (hd.p.lineBase > 0 ∨ hd.p.lineBase + (hd.p.lineRange : Int) ≤ 0) ∧
    st.prog.instrs = [] ∧ st.prog.prevRow = WRow.initial (encOf hd.p) ∧ st.prog.row = WRow.initial (encOf hd.p) ∧
    st.prog.inSequence = false ∧ st.prog.enc = encOf hd.p ∧ st.fromRow = Row.new hd.p ∧ st.fromAddress = 0 ∧
    st.inSeq = false := by
  unfold convNew at h
  obtain ⟨⟨tabs1, wd⟩, _, h⟩ := CRes.bind_eq_ok h
  obtain ⟨⟨tabs2, sd, sf⟩, _, h⟩ := CRes.bind_eq_ok h
  dsimp only at h
  split at h
  · cases h
  rename_i hlb
  obtain ⟨prog, h3, h⟩ := CRes.bind_eq_ok h
  obtain ⟨st1, h4, h⟩ := CRes.bind_eq_ok h
  obtain ⟨q1, q2, q3, q4, q5⟩ := progNew_spec _ _ _ _ _ _ _ _ _ (ofWrite_eq_ok h3)
  have flags : SF st1 (withFlags hd st1) := ⟨⟨rfl, rfl, rfl, rfl, rfl⟩, rfl, rfl, rfl⟩
  obtain ⟨⟨a1, a2, a3, a4, a5⟩, a6, a7, a8⟩ :=
    ((convertDirs_SF strs _ _ _ h4).trans flags).trans (convertFiles_SF strs _ _ _ h)
  exact ⟨hlb, a1.trans q1, a2.trans q2, a3.trans q3, a4.trans q4, a5.trans q5, a6, a7, a8⟩

/-- `convert_row` either copies every register (the file through the index mapping) or fails in one of two ways -/
theorem convertRow_cases (st : CSt) :
    (∃ w, convertRow st = .ok w ∧
      w.addressOffset = st.fromRow.address ∧ w.opIndex = st.fromRow.opIndex ∧ w.line = st.fromRow.line ∧
      w.column = st.fromRow.column ∧ w.discriminator = st.fromRow.discriminator ∧
      w.isStmt = st.fromRow.isStmt ∧ w.basicBlock = st.fromRow.basicBlock ∧
      w.prologueEnd = st.fromRow.prologueEnd ∧ w.epilogueBegin = st.fromRow.epilogueBegin ∧
      w.isa = st.fromRow.isa ∧ st.files[st.fromRow.file]? = some w.file ∧
      ¬ (st.fromRow.file = 0 ∧ st.prog.enc.version ≤ 4) ∧
      st.fromRow.address % st.prog.enc.minInstLen = 0) ∨
    (convertRow st = .err .unsupportedLineInstruction ∧
      st.fromRow.address % st.prog.enc.minInstLen ≠ 0) ∨
    (convertRow st = .err .invalidFileIndex ∧
      (st.files.length ≤ st.fromRow.file ∨ (st.fromRow.file = 0 ∧ st.prog.enc.version ≤ 4))) := by
  unfold convertRow
  by_cases h0 : st.fromRow.address % st.prog.enc.minInstLen ≠ 0
  · right; left
    rw [if_pos h0]
    exact ⟨rfl, h0⟩
  rw [if_neg h0]
  by_cases h1 : st.fromRow.file ≥ st.files.length
  · right; right
    rw [if_pos h1]
    exact ⟨rfl, Or.inl h1⟩
  · by_cases h2 : st.fromRow.file = 0 ∧ st.prog.enc.version ≤ 4
    · right; right
      rw [if_neg h1, if_pos h2]
      exact ⟨rfl, Or.inr h2⟩
    · left
      rw [if_neg h1, if_neg h2]
      have hlt : st.fromRow.file < st.files.length := by omega
      refine ⟨_, rfl, rfl, rfl, rfl, rfl, rfl, rfl, rfl, rfl, rfl, rfl, ?_, h2, by omega⟩
      simp [List.getD, List.getElem?_eq_getElem hlt]

theorem readRowLoop_consumes (strs : Strs) (h : Params) : ∀ (is : List Instr) (tomb : Bool)
    (address : Option Nat) (st st' : CSt) (ev : RowEv) (rest : List Instr),
    readRowLoop strs h tomb address st is = .ok (some ev, st', rest) → rest.length < is.length := by
  intro is
  induction is with
  | nil => intro tomb address st st' ev rest hr; simp [readRowLoop] at hr
  | cons ins is ih =>
    intro tomb address st st' ev rest hr
    unfold readRowLoop at hr
    have fin : ∀ {tomb address st}, readRowLoop strs h tomb address st is = .ok (some ev, st', rest) →
        rest.length < (ins :: is).length := by
      intro tomb address st hx
      have := ih _ _ _ _ _ _ hx
      simp only [List.length_cons]; omega
    split at hr
    · -- `DW_LNE_set_address`, inside a tombstone or not, refused or accepted: the loop goes on
      dsimp only at hr
      split at hr <;> split at hr <;> exact fin hr
    · -- `DW_LNE_define_file`: the file converts and the loop goes on, or the error is the result
      split at hr
      · exact fin hr
      · cases hr
      · cases hr
    · cases hex : execute h st.fromRow ins with
      | mk row x =>
        rw [hex] at hr
        cases x with
        | err e => cases hr
        | noEmit => exact fin hr
        | emit =>
          dsimp only at hr
          split at hr
          · -- a row inside a tombstone is skipped, end row or not
            split at hr <;> exact fin hr
          · split at hr
            · -- an end row: refused if misaligned, else handed over with `rest = is`
              split at hr
              · cases hr
              · simp only [CRes.ok.injEq, Prod.mk.injEq] at hr
                obtain ⟨_, _, rfl⟩ := hr; simp
            · -- a row: handed over with `rest = is` if `convertRow` accepts it
              split at hr
              · simp only [CRes.ok.injEq, Prod.mk.injEq] at hr
                obtain ⟨_, _, rfl⟩ := hr; simp
              · cases hr
              · cases hr

/-! ## the loop of `read_row`: the arm for an instruction that is executed -/

def setAddrVal : Instr → Option Nat
  | .setAddress a => some a
  | _ => none

def isDefineFile : Instr → Bool
  | .defineFile _ => true
  | _ => false

theorem readRowLoop_other (strs : Strs) (h : Params) (tomb : Bool) (p : Option Nat) (st : CSt)
    (ins : Instr) (rest : List Instr) (h1 : setAddrVal ins = none) (h2 : isDefineFile ins = false) :
    readRowLoop strs h tomb p st (ins :: rest) =
      match execute h st.fromRow ins with
      | (_, .err e) => .err (.read e)
      | (row, .noEmit) => readRowLoop strs h tomb p { st with fromRow := row } rest
      | (row, .emit) =>
        if tomb && !(row.endSequence && st.inSeq) then
          if row.endSequence then
            readRowLoop strs h false none { st with fromRow := reset h row, fromAddress := 0 } rest
          else readRowLoop strs h tomb p { st with fromRow := reset h row } rest
        else if row.endSequence then
          if row.address % h.minInstLen ≠ 0 then .err .unsupportedLineInstruction
          else .ok (some (.endSeq p row.address), { st with fromRow := row, inSeq := false }, rest)
        else
          let st := { st with fromRow := row, inSeq := true }
          match convertRow st with
          | .ok r => .ok (some (.row p r), st, rest)
          | .err e => .err e
          | .panic w => .panic w := by
  cases ins
  case setAddress a => simp [setAddrVal] at h1
  case defineFile f => simp [isDefineFile] at h2
  all_goals rfl

end Gimli.ConvLineRows
