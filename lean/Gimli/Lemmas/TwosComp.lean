/-!
# Two's complement at any width

The Model spells "read a `w`-bit pattern as a signed number" and "the `w`-bit pattern of an integer" once per place it
needs them (`Ints.toSigned n` for `w = 8n`, `Leb.toI64`/`Leb.ofI64` for 64, `Line.toI8`, `Value.sval`/`Value.pat`,
`Spec.Expr.smod`, `wrapI64`, `Spec.Cfi.pattern64`). `sval`, `pat` and `smod` below have the text of the general ones, so each
of those is one of these by `rfl` (or after `x % 2^w = x`), and the facts are proved here once for every width:
`smod w i` is the representative of `i` modulo `2^w` in `[-2^(w-1), 2^(w-1))`, `sval w b = smod w b`, `pat w` is its
inverse on that range.
-/
namespace Gimli.Twos

/-- signed reading of a `w`-bit pattern -/
def sval (w : Nat) (bits : Nat) : Int :=
  if bits % 2 ^ w < 2 ^ (w - 1) then ((bits % 2 ^ w : Nat) : Int) else ((bits % 2 ^ w : Nat) : Int) - 2 ^ w

/-- the `w`-bit pattern of an integer -/
def pat (w : Nat) (i : Int) : Nat := (i % 2 ^ w).toNat

/-- the signed representative of `i` modulo `2^w` -/
def smod (w : Nat) (i : Int) : Int :=
  if i % 2 ^ w < 2 ^ (w - 1) then i % 2 ^ w else i % 2 ^ w - 2 ^ w

variable {w : Nat}

theorem pow_half (hw : 0 < w) : (2 : Int) ^ w = 2 * 2 ^ (w - 1) := by
  rw [← Int.pow_succ']; congr 1; omega

theorem pow_le {k : Nat} (h : k ≤ w) : (2 : Int) ^ k ≤ 2 ^ w := by
  exact_mod_cast Nat.pow_le_pow_right (by decide : 0 < 2) h

theorem emod_pow (x : Int) (w : Nat) : 0 ≤ x % 2 ^ w ∧ x % 2 ^ w < 2 ^ w :=
  have hM : (0 : Int) < 2 ^ w := Int.pow_pos (by decide)
  ⟨Int.emod_nonneg x (Int.ne_of_gt hM), Int.emod_lt_of_pos x hM⟩

theorem emod_emod_pow {n : Nat} (h : w ≤ n) (i : Int) : i % 2 ^ n % 2 ^ w = i % 2 ^ w :=
  Int.emod_emod_of_dvd _ (by exact_mod_cast Nat.pow_dvd_pow 2 h)

theorem cast_mod (w n : Nat) : ((n % 2 ^ w : Nat) : Int) = (n : Int) % 2 ^ w := by push_cast; rfl

theorem smod_congr {i j : Int} (h : i % 2 ^ w = j % 2 ^ w) : smod w i = smod w j := by
  unfold smod; rw [h]

theorem smod_emod (w : Nat) (i : Int) : smod w i % 2 ^ w = i % 2 ^ w := by
  unfold smod
  split
  · exact Int.emod_emod _ _
  · rw [Int.sub_emod_right, Int.emod_emod]

/-- without the case split: shift the range, reduce, shift back (`wrapping` arithmetic is written this way) -/
theorem smod_eq (hw : 0 < w) (i : Int) : smod w i = (i + 2 ^ (w - 1)) % 2 ^ w - 2 ^ (w - 1) := by
  have hp := pow_half hw
  have h1 := emod_pow i w
  rw [smod, ← Int.emod_add_emod]
  generalize i % 2 ^ w = r at h1 ⊢
  split
  · rw [Int.emod_eq_of_lt (by omega) (by omega)]; omega
  · rw [← Int.sub_emod_right, Int.emod_eq_of_lt (by omega) (by omega)]; omega

theorem smod_range (hw : 0 < w) (i : Int) : -(2 : Int) ^ (w - 1) ≤ smod w i ∧ smod w i < 2 ^ (w - 1) := by
  have hp := pow_half hw
  have hr := emod_pow (i + 2 ^ (w - 1)) w
  rw [smod_eq hw]
  omega

theorem smod_of_range (hw : 0 < w) {i : Int} (h : -(2 : Int) ^ (w - 1) ≤ i ∧ i < 2 ^ (w - 1)) : smod w i = i := by
  have hp := pow_half hw
  rw [smod_eq hw, Int.emod_eq_of_lt (by omega) (by omega)]
  omega

theorem range_mono {k : Nat} (h : k ≤ w) {i : Int} (hi : -(2 : Int) ^ (k - 1) ≤ i ∧ i < 2 ^ (k - 1)) :
    -(2 : Int) ^ (w - 1) ≤ i ∧ i < 2 ^ (w - 1) := by
  have := pow_le (show k - 1 ≤ w - 1 by omega)
  omega

theorem pat_cast (w : Nat) (i : Int) : ((pat w i : Nat) : Int) = i % 2 ^ w :=
  Int.toNat_of_nonneg (emod_pow i w).1

theorem pat_lt (w : Nat) (i : Int) : pat w i < 2 ^ w := by
  have h := (emod_pow i w).2
  rw [← pat_cast] at h
  exact_mod_cast h

theorem sval_eq_smod (w b : Nat) : sval w b = smod w (b : Int) := by
  unfold sval smod
  rw [← cast_mod]
  have h2 : (b % 2 ^ w < 2 ^ (w - 1)) ↔ (((b % 2 ^ w : Nat) : Int) < 2 ^ (w - 1)) := by exact_mod_cast Iff.rfl
  simp only [h2]

theorem smod_eq_sval_pat (w : Nat) (i : Int) : smod w i = sval w (pat w i) := by
  rw [sval_eq_smod, pat_cast]; exact smod_congr (Int.emod_emod _ _).symm

theorem sval_range (hw : 0 < w) (b : Nat) : -(2 : Int) ^ (w - 1) ≤ sval w b ∧ sval w b < 2 ^ (w - 1) :=
  sval_eq_smod w b ▸ smod_range hw b

theorem sval_pat (hw : 0 < w) (i : Int) :
    sval w (pat w i) = i ↔ -(2 : Int) ^ (w - 1) ≤ i ∧ i < 2 ^ (w - 1) := by
  rw [← smod_eq_sval_pat]
  exact ⟨fun h => h ▸ smod_range hw i, smod_of_range hw⟩

theorem pat_sval {b : Nat} (hb : b < 2 ^ w) : pat w (sval w b) = b := by
  have h : ((pat w (sval w b) : Nat) : Int) = (b : Nat) := by
    rw [pat_cast, sval_eq_smod, smod_emod, ← cast_mod, Nat.mod_eq_of_lt hb]
  exact_mod_cast h

theorem sval_of_lt {b : Nat} (h : b < 2 ^ (w - 1)) : sval w b = (b : Int) := by
  have : b < 2 ^ w := Nat.lt_of_lt_of_le h (Nat.pow_le_pow_right (by decide) (Nat.sub_le w 1))
  rw [sval, Nat.mod_eq_of_lt this, if_pos h]

theorem sval_of_ge {b : Nat} (h1 : 2 ^ (w - 1) ≤ b) (h2 : b < 2 ^ w) : sval w b = (b : Int) - 2 ^ w := by
  rw [sval, Nat.mod_eq_of_lt h2, if_neg (Nat.not_lt.mpr h1)]

/-- the `k`-bit reading, written as a `w`-bit pattern (`w ≥ k`): sign extension fills the bits `k .. w` -/
theorem pat_sval_widen {k u : Nat} (h : k ≤ w) (hu : u < 2 ^ k) :
    pat w (sval k u) = if u < 2 ^ (k - 1) then u else u + 2 ^ w - 2 ^ k := by
  have hkw : 2 ^ k ≤ 2 ^ w := Nat.pow_le_pow_right (by decide) h
  have hck : ((2 ^ k : Nat) : Int) = (2 : Int) ^ k := Int.natCast_pow 2 k
  have hcw : ((2 ^ w : Nat) : Int) = (2 : Int) ^ w := Int.natCast_pow 2 w
  rw [pat]
  split
  · rw [sval_of_lt ‹_›, Int.emod_eq_of_lt (by omega) (by omega), Int.toNat_natCast]
  · rw [sval_of_ge (Nat.le_of_not_lt ‹_›) hu, ← Int.add_emod_right, Int.emod_eq_of_lt (by omega) (by omega)]
    omega

theorem pat_sval_mod {k : Nat} (h : w ≤ k) (u : Nat) : pat w (sval k u) = u % 2 ^ w := by
  have hc : ((pat w (sval k u) : Nat) : Int) = ((u % 2 ^ w : Nat) : Int) := by
    rw [pat_cast, sval_eq_smod, ← emod_emod_pow h, smod_emod, emod_emod_pow h, cast_mod]
  exact_mod_cast hc

end Gimli.Twos
