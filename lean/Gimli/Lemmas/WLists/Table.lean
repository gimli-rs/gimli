import Gimli.Lemmas.WLists
import Gimli.Lemmas.InsertFull
/-! The table of lists, `add`, and the lists of a unit (C16). `writeTable_ok` says what a successful
`writeTable` did, version by version, and `writeLists_at` where each list lies in the bytes;
`writeTable_bare` / `writeTable_coded` say what the table then is: the Spec encodings of its lists at the
offsets handed back. The round trips (`table_roundtrip`, `lists_roundtrip`, `unit_roundtrip`, any version)
are those plus C08's reader. -/
namespace Gimli.WLists
open Gimli Gimli.Ints Gimli.Lists Gimli.Spec.Lists Gimli.Spec.WLists

variable {m : Mode} {mk : Nat} {k : Kind} {c : Cfg} {eo : EOff} {uoff : Nat}

theorem writeLists_at (one : WList → Out Bytes) : ∀ (tbl : List WList) (start : Nat) (bytes : Bytes)
    (offs : List Nat), writeLists one start tbl = .ok (bytes, offs) →
    offs.length = tbl.length ∧
    ∀ (i : Nat) (hi : i < tbl.length), ∃ pre bsi post, bytes = pre ++ bsi ++ post ∧
      one tbl[i] = .ok bsi ∧ offs[i]? = some (start + pre.length)
  | [], start, bytes, offs, h => by cases h; exact ⟨rfl, nofun⟩
  | l :: ls, start, bytes, offs, h => by
    obtain ⟨bs, h1, h⟩ := Out.bind_eq_ok h
    obtain ⟨⟨rest, offs'⟩, h2, h⟩ := Out.bind_eq_ok h
    cases h
    obtain ⟨hl, hat⟩ := writeLists_at one ls (start + bs.length) rest offs' h2
    refine ⟨congrArg (· + 1) hl, fun i hi => ?_⟩
    cases i with
    | zero => exact ⟨[], bs, rest, rfl, h1, rfl⟩
    | succ j =>
      obtain ⟨pre, bsi, post, rfl, e2, e3⟩ := hat j (Nat.lt_of_succ_lt_succ hi)
      refine ⟨bs ++ pre, bsi, post, by simp only [List.append_assoc], e2, ?_⟩
      rw [List.getElem?_cons_succ, e3, List.length_append, Nat.add_assoc]

theorem writeTable_ok {ub : Bool} {start : Nat}
    {tbl : List WList} {bytes : Bytes} {offs : List Nat}
    (h : writeTable m k c eo uoff ub start tbl = .ok (bytes, offs)) :
    (tbl = [] ∧ bytes = [] ∧ offs = []) ∨
    ((2 ≤ c.version ∧ c.version ≤ 4) ∧ ∃ mk, marker m c.addrSize = .ok mk ∧
      writeLists (writeEntriesBare mk k c eo uoff ub) start tbl = .ok (bytes, offs)) ∨
    (c.version = 5 ∧ ∃ len body,
      writeLists (writeEntriesCoded k c eo uoff) (start + (initialLengthSize c.format + 8)) tbl = .ok (body, offs) ∧
      writeInitialLength c.endian c.format (8 + body.length) = .ok len ∧
      bytes = len ++ headerBody c ++ body) := by
  unfold writeTable at h
  by_cases he : tbl.isEmpty
  · rw [if_pos he] at h; cases h; exact .inl ⟨List.isEmpty_iff.mp he, rfl, rfl⟩
  rw [if_neg he] at h
  by_cases hv : 2 ≤ c.version ∧ c.version ≤ 4
  · rw [if_pos hv] at h
    obtain ⟨mk, hmk, h⟩ := Out.bind_eq_ok h
    exact .inr (.inl ⟨hv, mk, hmk, h⟩)
  rw [if_neg hv] at h
  by_cases h5 : c.version = 5
  · rw [if_pos h5] at h
    obtain ⟨⟨body, offs'⟩, h1, h⟩ := Out.bind_eq_ok h
    obtain ⟨len, h2, h⟩ := Out.bind_eq_ok h
    cases h
    exact .inr (.inr ⟨h5, len, body, h1, h2, rfl⟩)
  · rw [if_neg h5] at h; cases h

theorem headerBody_length (c : Cfg) : (headerBody c).length = 8 := by
  simp only [headerBody, List.length_append, toBytes_length, List.length_cons, List.length_nil]

/-- **DWARF 2–4**: no header; list `i` lies at the offset handed back for it as the Spec encoding, in the
bare format, of its entries as `toBare` names them, which are well-formed and resolve like the list as built. -/
theorem writeTable_bare {ub : Bool} {start : Nat} {tbl : List WList} {bytes : Bytes} {offs : List Nat}
    (hv : c.version ≤ 4) (he : U64EOff eo) (hm : ∀ l ∈ tbl, ∀ x ∈ l, Machine k c eo uoff x)
    (hw : writeTable m k c eo uoff ub start tbl = .ok (bytes, offs)) (base : Nat) (hbase : ub = false → base = 0) :
    offs.length = tbl.length ∧
    ∀ (i : Nat) (hi : i < tbl.length), ∃ pre post,
      bytes = pre ++ encodeList k c .bare (tbl[i].map (toBare (dataBytes k c eo uoff))) ++ post ∧
      offs[i]? = some (start + pre.length) ∧ ValidSize c.addrSize ∧
      (∀ y ∈ tbl[i].map (toBare (dataBytes k c eo uoff)), WfEntry k c .bare y) ∧
      resolveList c.addrSize noTable base (tbl[i].map (toBare (dataBytes k c eo uoff))) =
        resolveList c.addrSize noTable base (tbl[i].map (asBuilt (dataBytes k c eo uoff))) := by
  rcases writeTable_ok hw with ⟨rfl, _, rfl⟩ | ⟨_, mk, hmk, hl⟩ | ⟨h, _⟩
  · exact ⟨rfl, nofun⟩
  · obtain ⟨hlen, hat⟩ := writeLists_at _ tbl _ bytes offs hl
    refine ⟨hlen, fun i hi => ?_⟩
    obtain ⟨pre, bsi, post, rfl, e2, e3⟩ := hat i hi
    obtain ⟨hs, rfl, w, r⟩ := writeEntriesBare_enc hmk he hv tbl[i] ub bsi base e2
      (hm tbl[i] (List.getElem_mem hi)) hbase
    exact ⟨pre, post, rfl, e3, hs, w, r⟩
  · omega

/-- **DWARF 5**: after the header, list `i` lies at the offset handed back for it as the Spec encoding, in
the coded format, of its entries as built, which are well-formed. -/
theorem writeTable_coded {ub : Bool} {start : Nat} {tbl : List WList} {bytes : Bytes} {offs : List Nat}
    (hv : ¬ c.version ≤ 4) (he : U64EOff eo) (hm : ∀ l ∈ tbl, ∀ x ∈ l, Machine k c eo uoff x) (hne : tbl ≠ [])
    (hw : writeTable m k c eo uoff ub start tbl = .ok (bytes, offs)) :
    ∃ len body, bytes = len ++ headerBody c ++ body ∧
      writeInitialLength c.endian c.format (8 + body.length) = .ok len ∧
      offs.length = tbl.length ∧
      ∀ (i : Nat) (hi : i < tbl.length), ∃ pre post,
        body = pre ++ encodeList k c .coded (tbl[i].map (asBuilt (dataBytes k c eo uoff))) ++ post ∧
        offs[i]? = some (start + (initialLengthSize c.format + 8) + pre.length) ∧
        ∀ y ∈ tbl[i].map (asBuilt (dataBytes k c eo uoff)), WfEntry k c .coded y := by
  rcases writeTable_ok hw with ⟨h, _⟩ | ⟨h, _⟩ | ⟨h5, len, body, hl, hlen, rfl⟩
  · exact absurd h hne
  · omega
  · obtain ⟨hlen', hat⟩ := writeLists_at _ tbl _ body offs hl
    refine ⟨len, body, rfl, hlen, hlen', fun i hi => ?_⟩
    obtain ⟨pre, bsi, post, rfl, e2, e3⟩ := hat i hi
    obtain ⟨rfl, w⟩ := writeEntriesCoded_enc he (Nat.le_of_eq h5.symm) tbl[i] bsi e2
      (hm tbl[i] (List.getElem_mem hi))
    exact ⟨pre, post, rfl, e3, w⟩

/-- the slot of the section the version selects (`.debug_ranges` / `.debug_loc` up to version 4) -/
theorem selected_section (k : Kind) (v : Nat) (sec other : Bytes) :
    (if (sectionFormat k v false).1 then (if v ≤ 4 then sec else other)
      else (if v ≤ 4 then other else sec)) = sec := by
  unfold sectionFormat
  by_cases h : v ≤ 4 <;> simp only [h, if_true, if_false, Bool.false_eq_true]

/-- **Reading back a table, any version.** If the table is written after `prior` in the section the
version selects, the reader at each list's offset yields what the list as built means. -/
theorem table_roundtrip (m : Mode) (k : Kind) (c : Cfg) (eo : EOff) (uoff : Nat) (ub : Bool)
    (prior other : Bytes) (tbl : List WList) (bytes : Bytes) (offs : List Nat)
    (hs : ValidSize c.addrSize) (he : U64EOff eo)
    (hm : ∀ l ∈ tbl, ∀ x ∈ l, Machine k c eo uoff x)
    (hw : writeTable m k c eo uoff ub prior.length tbl = .ok (bytes, offs))
    (base : Nat) (hbase : c.version ≤ 4 → ub = false → base = 0) (i : Nat) (hi : i < tbl.length) :
    ∃ off evs, offs[i]? = some off ∧
      cookedAt k c false (if c.version ≤ 4 then prior ++ bytes else other)
        (if c.version ≤ 4 then other else prior ++ bytes) off base [] 0 = .ok evs ∧
      evs.map denot = meaning c.addrSize (dataBytes k c eo uoff) base tbl[i] := by
  -- list `i` is the encoding `enc` (format `f`) of entries `es`, after `hdr ++ pre` in the table
  have read : ∀ (f : Fmt) (hdr pre enc post : Bytes) (es : List Entry),
      (sectionFormat k c.version false).2 = f → bytes = hdr ++ (pre ++ enc ++ post) →
      enc = encodeList k c f es → (∀ y ∈ es, WfEntry k c f y) →
      resolveList c.addrSize noTable base es = meaning c.addrSize (dataBytes k c eo uoff) base tbl[i] →
      ∃ evs, cookedAt k c false (if c.version ≤ 4 then prior ++ bytes else other)
          (if c.version ≤ 4 then other else prior ++ bytes)
          (prior.length + hdr.length + pre.length) base [] 0 = .ok evs ∧
        evs.map denot = meaning c.addrSize (dataBytes k c eo uoff) base tbl[i] := by
    intro f hdr pre enc post es hf hbytes henc hwf hres
    obtain ⟨evs, h1, h2⟩ := cookedAll_encodeList k c f [] 0 base hs (Nat.two_pow_pos 64) es post hwf
    refine ⟨evs, ?_, by rw [h2, tableOf_nil _ _ (validSize_bounds hs).1]; exact hres⟩
    have h := cookedAt_at base [] 0 (pre := prior ++ hdr ++ pre) (bs := enc ++ post)
      ((selected_section k c.version (prior ++ bytes) other).trans
        (by rw [hbytes]; simp only [List.append_assoc]))
    rw [List.length_append, List.length_append, hf, henc] at h
    rw [h]; exact h1
  by_cases hv : c.version ≤ 4
  · obtain ⟨pre, post, rfl, e3, _, w, r⟩ := (writeTable_bare hv he hm hw base (hbase hv)).2 i hi
    have hf : (sectionFormat k c.version false).2 = .bare := by simp [sectionFormat, hv]
    exact ⟨_, (read .bare [] pre _ post _ hf rfl rfl w r).imp fun evs h => ⟨e3, h⟩⟩
  · obtain ⟨len, body, rfl, hlen, _, hat⟩ := writeTable_coded hv he hm (fun h => by rw [h] at hi; cases hi) hw
    obtain ⟨pre, post, rfl, e3, w⟩ := hat i hi
    have hf : (sectionFormat k c.version false).2 = .coded := by simp [sectionFormat, hv]
    have hl : len.length = initialLengthSize c.format := writeInitialLength_length hlen
    have hh : (len ++ headerBody c).length = initialLengthSize c.format + 8 := by
      rw [List.length_append, hl, headerBody_length]
    refine ⟨_, (read .coded (len ++ headerBody c) pre _ post _ hf rfl rfl w rfl).imp fun evs h => ⟨e3, ?_⟩⟩
    rw [hh] at h
    exact h

theorem indexOf_eq (l : WList) (tbl : List WList) : indexOf l tbl = tbl.idxOf? l :=
  IndexSet.idxOf?_of_step rfl (fun _ _ => rfl) tbl

/-- `RangeListTable::add` / `LocationListTable::add` are `IndexSet::insert_full` -/
theorem add_eq (tbl : List WList) (l : WList) :
    add tbl l = ((IndexSet.insertFull tbl l).2, (IndexSet.insertFull tbl l).1) := by
  unfold add IndexSet.insertFull
  rw [indexOf_eq]
  cases tbl.idxOf? l <;> rfl

theorem addAll_eq (ls : List WList) : ∀ tbl : List WList,
    addAll tbl ls = ((IndexSet.insertAll tbl ls).2, (IndexSet.insertAll tbl ls).1) := by
  induction ls with
  | nil => intro tbl; rfl
  | cons l ls ih => intro tbl; simp only [addAll, add_eq, ih, IndexSet.insertAll]

theorem addAll_spec (ls tbl : List WList) (hn : tbl.Nodup) :
    (addAll tbl ls).1.Nodup ∧ (∃ ext, (addAll tbl ls).1 = tbl ++ ext) ∧
      (addAll tbl ls).2.length = ls.length ∧
      (∀ (j : Nat) (hj : j < ls.length), ∃ id, (addAll tbl ls).2[j]? = some id ∧
        (addAll tbl ls).1[id]? = some ls[j]) ∧
      (∀ t ∈ (addAll tbl ls).1, t ∈ tbl ∨ t ∈ ls) := by
  rw [addAll_eq]
  obtain ⟨h1, h2, ⟨ext, he, hm⟩, h4⟩ := IndexSet.insertAll_spec ls tbl hn
  exact ⟨h1, ⟨ext, he⟩, h2, h4, fun t ht => (List.mem_append.mp (he ▸ ht)).imp_right (hm t)⟩

theorem addAll_slot (lists : List WList) (j : Nat) (hj : j < lists.length) :
    ∃ id, ∃ hlt : id < (addAll [] lists).1.length,
      (addAll [] lists).2[j]? = some id ∧ (addAll [] lists).1[id] = lists[j] := by
  obtain ⟨id, h1, h2⟩ := (addAll_spec lists [] List.nodup_nil).2.2.2.1 j hj
  obtain ⟨hlt, h3⟩ := List.getElem?_eq_some_iff.mp h2
  exact ⟨id, hlt, h1, h3⟩

theorem handOver_at {offs ids : List Nat} {j id off : Nat} (h1 : ids[j]? = some id)
    (h2 : offs[id]? = some off) : (handOver offs ids)[j]? = some off := by
  simp only [handOver, List.getElem?_map, h1, Option.map_some, List.getD, h2, Option.getD_some]

theorem addAll_machine {P : WEntry → Prop} (lists : List WList) (hm : ∀ l ∈ lists, ∀ x ∈ l, P x) :
    ∀ l ∈ (addAll [] lists).1, ∀ x ∈ l, P x := fun l hl =>
  ((addAll_spec lists [] List.nodup_nil).2.2.2.2 l hl).elim (fun h => nomatch h) (hm l)

/-- **Reading back the lists added to a unit, any version**: every `add`ed list is handed an offset
at which the reader yields what the list as built means. -/
theorem lists_roundtrip (m : Mode) (k : Kind) (c : Cfg) (eo : EOff) (uoff : Nat) (ub : Bool)
    (prior other : Bytes) (lists : List WList) (r : Bytes × List Nat)
    (hs : ValidSize c.addrSize) (he : U64EOff eo)
    (hm : ∀ l ∈ lists, ∀ x ∈ l, Machine k c eo uoff x)
    (hw : writeTable m k c eo uoff ub prior.length (addAll [] lists).1 = .ok r)
    (base : Nat) (hbase : c.version ≤ 4 → ub = false → base = 0) (j : Nat) (hj : j < lists.length) :
    ∃ off evs, (handOver r.2 (addAll [] lists).2)[j]? = some off ∧
      cookedAt k c false (if c.version ≤ 4 then prior ++ r.1 else other)
        (if c.version ≤ 4 then other else prior ++ r.1) off base [] 0 = .ok evs ∧
      evs.map denot = meaning c.addrSize (dataBytes k c eo uoff) base lists[j] := by
  obtain ⟨id, hlt, hid, hget⟩ := addAll_slot lists j hj
  obtain ⟨off, evs, h1, h2, h3⟩ := table_roundtrip m k c eo uoff ub prior other (addAll [] lists).1 r.1 r.2
    hs he (addAll_machine lists hm) hw base hbase id hlt
  exact ⟨off, evs, handOver_at hid h1, h2, hget ▸ h3⟩

theorem lists_roundtrip_prev5 (m : Mode) (k : Kind) (c : Cfg) (eo : EOff) (uoff : Nat) (ub : Bool)
    (prior other : Bytes) (lists : List WList) (r : Bytes × List Nat)
    (hv : 2 ≤ c.version ∧ c.version ≤ 4) (he : U64EOff eo)
    (hm : ∀ l ∈ lists, ∀ x ∈ l, Machine k c eo uoff x)
    (hw : writeTable m k c eo uoff ub prior.length (addAll [] lists).1 = .ok r)
    (base : Nat) (hbase : ub = false → base = 0) (j : Nat) (hj : j < lists.length) :
    ∃ off evs, (handOver r.2 (addAll [] lists).2)[j]? = some off ∧
      cookedAt k c false (prior ++ r.1) other off base [] 0 = .ok evs ∧
      evs.map denot = meaning c.addrSize (dataBytes k c eo uoff) base lists[j] := by
  -- writing a list in the bare format has checked the address size
  have hs : ValidSize c.addrSize := by
    obtain ⟨id, hlt, -, -⟩ := addAll_slot lists j hj
    obtain ⟨_, _, _, _, hs, _⟩ := (writeTable_bare (bytes := r.1) (offs := r.2) hv.2 he (addAll_machine lists hm) hw base hbase).2 id hlt
    exact hs
  have := lists_roundtrip m k c eo uoff ub prior other lists r hs he hm hw base (fun _ => hbase) j hj
  rwa [if_pos hv.2, if_pos hv.2] at this

theorem unitEOff_u64 (u : UnitIn) (h : ∀ o ∈ u.eoff, o < 2 ^ 64) : U64EOff (unitEOff u) :=
  fun _ o hio => h o (List.mem_of_getElem? hio)

theorem haveBase_false_base (low : Option Addr) (h : haveBaseAddress low = false) : unitBase low = 0 := by
  match low, h with
  | none, _ => rfl
  | some (.const 0), _ => rfl

theorem writeUnitAt_ok {u : UnitIn} {p : Pos} {out : UnitOut} (h : writeUnitAt m u p = .ok out) :
    ValidSize u.cfg.addrSize ∧ (2 ≤ u.cfg.version ∧ u.cfg.version ≤ 5) ∧
    ∃ r l, writeTable m .rng u.cfg (unitEOff u) p.uoff (haveBaseAddress u.lowPc) p.rngStart (addAll [] u.rng).1 = .ok r ∧
      writeTable m .loc u.cfg (unitEOff u) p.uoff (haveBaseAddress u.lowPc) p.locStart (addAll [] u.loc).1 = .ok l ∧
      (∃ bs, writeLowPc u.cfg u.lowPc = .ok bs) ∧
      out = mkOut u.cfg (addAll [] u.rng).2 (addAll [] u.loc).2 r l := by
  obtain ⟨hs, h⟩ := Out.ite_err_eq_ok h
  obtain ⟨hv, h⟩ := Out.ite_err_eq_ok h
  obtain ⟨r, h1, h⟩ := Out.bind_eq_ok h
  obtain ⟨l, h2, h⟩ := Out.bind_eq_ok h
  obtain ⟨b, h3, h⟩ := Out.bind_eq_ok h
  cases h
  exact ⟨Decidable.not_not.mp hs, Decidable.not_not.mp hv, r, l, h1, h2, ⟨b, h3⟩, rfl⟩

/-- **Round trip, any version.** If writing a unit succeeds, every added range list and location
list is handed an offset at which the reader, started with the unit's base address in the section
the version selects (after whatever earlier units left there), yields what the list as built means.
`otherR` / `otherL` are the sections the version does not select. -/
theorem unit_roundtrip (m : Mode) (u : UnitIn) (p : Pos) (priorR priorL otherR otherL : Bytes)
    (out : UnitOut) (he : ∀ o ∈ u.eoff, o < 2 ^ 64)
    (hmr : ∀ l ∈ u.rng, ∀ x ∈ l, Machine .rng u.cfg (unitEOff u) p.uoff x)
    (hml : ∀ l ∈ u.loc, ∀ x ∈ l, Machine .loc u.cfg (unitEOff u) p.uoff x)
    (hpr : p.rngStart = priorR.length) (hpl : p.locStart = priorL.length)
    (hw : writeUnitAt m u p = .ok out) :
    (∀ (j : Nat) (hj : j < u.rng.length), ∃ off evs, out.rngOffs[j]? = some off ∧
      cookedAt .rng u.cfg false (if u.cfg.version ≤ 4 then priorR ++ out.debugRanges else otherR)
        (if u.cfg.version ≤ 4 then otherR else priorR ++ out.debugRnglists) off (unitBase u.lowPc) [] 0 = .ok evs ∧
      evs.map denot = meaning u.cfg.addrSize (dataBytes .rng u.cfg (unitEOff u) p.uoff) (unitBase u.lowPc) u.rng[j]) ∧
    (∀ (j : Nat) (hj : j < u.loc.length), ∃ off evs, out.locOffs[j]? = some off ∧
      cookedAt .loc u.cfg false (if u.cfg.version ≤ 4 then priorL ++ out.debugLoc else otherL)
        (if u.cfg.version ≤ 4 then otherL else priorL ++ out.debugLoclists) off (unitBase u.lowPc) [] 0 = .ok evs ∧
      evs.map denot = meaning u.cfg.addrSize (dataBytes .loc u.cfg (unitEOff u) p.uoff) (unitBase u.lowPc) u.loc[j]) := by
  obtain ⟨hs, _, r, l, h1, h2, _, rfl⟩ := writeUnitAt_ok hw
  have heo := unitEOff_u64 u he
  have hbase := fun (_ : u.cfg.version ≤ 4) => haveBase_false_base u.lowPc
  rw [hpr] at h1
  rw [hpl] at h2
  have R := lists_roundtrip m .rng u.cfg (unitEOff u) p.uoff _ priorR otherR u.rng r hs heo hmr h1
    (unitBase u.lowPc) hbase
  have L := lists_roundtrip m .loc u.cfg (unitEOff u) p.uoff _ priorL otherL u.loc l hs heo hml h2
    (unitBase u.lowPc) hbase
  by_cases hv : u.cfg.version ≤ 4
  · simp only [hv, if_true] at R L
    simp only [mkOut, hv, decide_true, if_true]
    exact ⟨R, L⟩
  · simp only [hv, if_false] at R L
    simp only [mkOut, hv, decide_false, Bool.false_eq_true, if_false]
    exact ⟨R, L⟩

/-- the only panic in the writer: the marker computation for an address size outside 1..8 with
overflow checks on -/
theorem marker_normal (m : Mode) (s : Nat) (h : (1 ≤ s ∧ s ≤ 8) ∨ m = .release) : (marker m s).Normal := by
  unfold marker
  rcases h with h | rfl
  · rw [if_pos h]; trivial
  · exact Out.Normal.ite trivial trivial

theorem writeLists_normal (one : WList → Out Bytes) (h : ∀ l, (one l).Normal) : ∀ (tbl : List WList)
    (start : Nat), (writeLists one start tbl).Normal
  | [], _ => trivial
  | l :: ls, start =>
    (h l).bind fun bs _ => (writeLists_normal one h ls (start + bs.length)).bind fun _ _ => trivial

theorem writeInitialLength_normal (e : Endian) (f : Format) (n : Nat) : (writeInitialLength e f n).Normal := by
  cases f with
  | dwarf32 => exact Out.Normal.ite trivial (writeUdata_clean _ _ _).normal
  | dwarf64 => exact (writeUdata_clean _ _ _).normal.bind fun _ _ => trivial

theorem writeTable_normal (m : Mode) (k : Kind) (c : Cfg) (eo : EOff) (uoff : Nat) (ub : Bool)
    (start : Nat) (tbl : List WList) (hm : (marker m c.addrSize).Normal) :
    (writeTable m k c eo uoff ub start tbl).Normal :=
  Out.Normal.ite trivial (Out.Normal.ite
    (hm.bind fun mk _ => writeLists_normal _ (fun l => writeEntriesBare_normal mk k c eo uoff l ub) _ _)
    (Out.Normal.ite
      ((writeLists_normal _ (writeEntriesCoded_normal k c eo uoff) _ _).bind fun _ _ =>
        (writeInitialLength_normal _ _ _).bind fun _ _ => trivial)
      trivial))

theorem writeLists_increasing (one : WList → Out Bytes) (h1 : ∀ l bs, one l = .ok bs → 1 ≤ bs.length) :
    ∀ (tbl : List WList) (start : Nat) (bytes : Bytes) (offs : List Nat),
      writeLists one start tbl = .ok (bytes, offs) →
      (∀ o ∈ offs, start ≤ o) ∧ offs.Pairwise (· < ·)
  | [], start, bytes, offs, h => by cases h; exact ⟨nofun, .nil⟩
  | l :: ls, start, bytes, offs, h => by
    obtain ⟨bs, hb, h⟩ := Out.bind_eq_ok h
    obtain ⟨⟨rest, offs'⟩, h2, h⟩ := Out.bind_eq_ok h
    cases h
    obtain ⟨ih1, ih2⟩ := writeLists_increasing one h1 ls (start + bs.length) rest offs' h2
    have hpos := h1 l bs hb
    refine ⟨List.forall_mem_cons.mpr ⟨Nat.le_refl _, fun o ho => ?_⟩,
      List.pairwise_cons.mpr ⟨fun o ho => ?_, ih2⟩⟩ <;>
    · have := ih1 o ho; omega

theorem writeTable_increasing {ub : Bool}
    {start : Nat} {tbl : List WList} {bytes : Bytes} {offs : List Nat}
    (hw : writeTable m k c eo uoff ub start tbl = .ok (bytes, offs)) : offs.Pairwise (· < ·) := by
  rcases writeTable_ok hw with ⟨_, _, rfl⟩ | ⟨_, mk, _, hw⟩ | ⟨_, len, body, hw, _⟩
  · exact .nil
  · exact (writeLists_increasing _ (fun l bs h => writeEntriesBare_pos l ub bs h) _ _ _ _ hw).2
  · exact (writeLists_increasing _ (fun l bs h => writeEntriesCoded_pos l bs h) _ _ _ _ hw).2

end Gimli.WLists
