import Gimli.Spec.WLists
import Gimli.Lemmas.Lists
/-! Below the entry of the list writer (C16): integers, addresses, expressions and counted location
descriptions. Every function `w` here has `w_clean` (see `Clean`); what a successful call wrote is
`writeAddress_ok`, `writeAddrPair_ok` (for `writeUdata`: `Ints.writeUdata_ok`), and for expressions
`Operation::size` is the number of bytes `Operation::write` emits (`writeOp_length`), so that the counted
description is the Spec's (`writeData_enc`). -/
namespace Gimli.WLists
open Gimli Gimli.Ints Gimli.Lists Gimli.Spec.Lists Gimli.Spec.WLists

variable {k : Kind} {c : Cfg} {eo : EOff} {uoff : Nat}

/-! `InvalidRange`, `MissingBaseAddress` and `UnexpectedBaseAddress` are returned by the checks of
`write_ranges` / `write_loc` only. `Clean x`: `x` returns a value or an error other than these three
— it does not panic or diverge either. -/

def ListErr (e : Err) : Prop := e = .wInvalidRange ∨ e = .wMissingBaseAddress ∨ e = .wUnexpectedBaseAddress

instance (e : Err) : Decidable (ListErr e) := by unfold ListErr; infer_instance

def Clean {α : Type} : Out α → Prop
  | .ok _ => True
  | .err e => ¬ ListErr e
  | .panic _ => False
  | .diverge => False

theorem Clean.bind {α β : Type} {x : Out α} {f : α → Out β} (hx : Clean x) (hf : ∀ a, Clean (f a)) :
    Clean (x >>= f) := by
  cases x with
  | ok a => exact hf a
  | err e => exact hx
  | panic w => exact hx
  | diverge => exact hx

theorem Clean.normal {α : Type} {x : Out α} (h : Clean x) : x.Normal := by
  cases x with
  | ok _ | err _ => trivial
  | panic _ | diverge => exact h

theorem Clean.not_listErr {α : Type} {x : Out α} (h : Clean x) {e : Err} (he : x = .err e) : ¬ ListErr e := by
  cases he; exact h

theorem clean_ite {α : Type} {p : Prop} [Decidable p] {x y : Out α} (hx : Clean x) (hy : Clean y) :
    Clean (if p then x else y) := by
  split
  · exact hx
  · exact hy

theorem writeUdata_of_fits (e : Endian) (v size : Nat) (hs : ValidSize size) (hv : v < 2 ^ (8 * size)) :
    writeUdata e v size = .ok (toBytes e size v) :=
  writeUdata_eq_ok.mpr ⟨rfl, (size_cases.mp hs).symm.imp_right fun h => ⟨h, hv⟩⟩

theorem writeUdata_clean (e : Endian) (v size : Nat) : Clean (writeUdata e v size) :=
  clean_ite (clean_ite (by decide : ¬ ListErr .wValueTooLarge) trivial)
    (clean_ite trivial (by decide : ¬ ListErr .wUnsupportedWordSize))

theorem writeAddress_ok {a : Addr} {bs : Bytes} (h : writeAddress c a = .ok bs) :
    ValidSize c.addrSize ∧ ∃ v, a = .const v ∧ bs = encAddr c v ∧ (v < 2 ^ 64 → v < addrMod c.addrSize) := by
  cases a with
  | const v => exact ⟨writeUdata_size h, v, rfl, (writeUdata_ok h).1, writeUdata_fits h⟩
  | symbol s a => cases h

theorem writeAddress_clean (c : Cfg) (a : Addr) : Clean (writeAddress c a) := by
  cases a with
  | const v => exact writeUdata_clean _ _ _
  | symbol s a => exact (by decide : ¬ ListErr .wInvalidAddress)

theorem encAddr_length (c : Cfg) (v : Nat) : (encAddr c v).length = c.addrSize := toBytes_length ..

theorem writeOp_length {op : XOp} {n : Nat} {bs : Bytes}
    (hs : opSize c eo op = .ok n) (hw : writeOp c eo uoff op = .ok bs) : bs.length = n := by
  cases op with
  | raw b => cases hs; cases hw; rfl
  | simple o => cases hs; cases hw; rfl
  | addr a =>
    cases hs
    obtain ⟨b, h1, h2⟩ := Out.bind_eq_ok hw
    obtain ⟨_, v, _, rfl, _⟩ := writeAddress_ok h1
    cases h2
    rw [List.length_cons, encAddr_length, Nat.add_comm]
  | constu v =>
    cases hs; cases hw
    split
    · rfl
    · rw [List.length_cons, Leb.encodeU_length, Nat.add_comm]
  | call i =>
    cases hs
    simp only [writeOp] at hw
    split at hw
    · cases hw
    · obtain ⟨b, h1, h2⟩ := Out.bind_eq_ok hw
      cases h2
      rw [List.length_cons, writeUdata_length h1]
  | convert base =>
    cases base with
    | none => cases hs; cases hw; rfl
    | some i =>
      simp only [opSize] at hs
      simp only [writeOp] at hw
      cases ho : eo i with
      | none => rw [ho] at hw; cases hw
      | some o =>
        rw [ho] at hw hs
        cases hs; cases hw
        rw [List.length_cons, Leb.encodeU_length, Nat.add_comm]
  | callRef i =>
    cases hs
    simp only [writeOp] at hw
    split at hw
    · cases hw
    · obtain ⟨b, h1, h2⟩ := Out.bind_eq_ok hw
      cases h2
      rw [List.length_cons, writeUdata_length h1, Nat.add_comm]

theorem writeOps_length :
    ∀ (x : WExpr) (n : Nat) (bs : Bytes), exprSize c eo x = .ok n → writeOps c eo uoff x = .ok bs →
      bs.length = n
  | [], n, bs, hs, hw => by cases hs; cases hw; rfl
  | op :: rest, n, bs, hs, hw => by
    obtain ⟨a, hs1, hs⟩ := Out.bind_eq_ok hs
    obtain ⟨b, hs2, hs⟩ := Out.bind_eq_ok hs
    obtain ⟨a', hw1, hw⟩ := Out.bind_eq_ok hw
    obtain ⟨b', hw2, hw⟩ := Out.bind_eq_ok hw
    cases hs; cases hw
    rw [List.length_append, writeOp_length hs1 hw1, writeOps_length rest b b' hs2 hw2]

/-- the bytes of an expression (what `Expression::write` emits; `[]` if it cannot be written) -/
def exprBytes (c : Cfg) (eo : EOff) (uoff : Nat) (x : WExpr) : Bytes :=
  match writeOps c eo uoff x with
  | .ok b => b
  | _ => []

/-- the location description of an entry as a byte string: nothing in range lists -/
def dataBytes (k : Kind) (c : Cfg) (eo : EOff) (uoff : Nat) (x : WExpr) : Bytes :=
  match k with
  | .rng => []
  | .loc => exprBytes c eo uoff x

theorem dataBytes_raw (c : Cfg) (eo : EOff) (uoff : Nat) (d : Bytes) : dataBytes .loc c eo uoff [.raw d] = d := by
  simp [dataBytes, exprBytes, writeOps, writeOp]

/-- `f` is free before DWARF 5: both formats count the location description with two bytes there -/
theorem writeData_enc {x : WExpr} {bs : Bytes} (f : Fmt)
    (h : writeData k c eo uoff x = .ok bs) (hv : (f = .coded ∧ c.version ≥ 5) ∨ c.version ≤ 4)
    (hlen : (exprBytes c eo uoff x).length < 2 ^ 64) :
    bs = encData k c f (dataBytes k c eo uoff x) ∧ WfData k c f (dataBytes k c eo uoff x) := by
  cases k with
  | rng => cases h; exact ⟨rfl, rfl⟩
  | loc =>
    obtain ⟨size, h1, h⟩ := Out.bind_eq_ok h
    obtain ⟨len, h3, h⟩ := Out.bind_eq_ok h
    obtain ⟨body, h5, h⟩ := Out.bind_eq_ok h
    obtain ⟨_, _, h7⟩ := Out.bind_eq_ok h5
    cases h
    have hbody : exprBytes c eo uoff x = body := by rw [exprBytes, h7]
    have hsz : body.length = size := writeOps_length x size body h1 h7
    rw [hbody] at hlen
    simp only [dataBytes, hbody, encData, WfData, hsz]
    unfold writeExprLen at h3
    by_cases h4v : c.version ≤ 4
    · have hcond : ¬ (f = .coded ∧ c.version ≥ 5) := fun h => by omega
      rw [if_pos h4v] at h3
      rw [if_neg hcond, if_neg hcond, (writeUdata_ok h3).1]
      exact ⟨rfl, by have := writeUdata_fits h3 (by omega); omega⟩
    · have hcond : f = .coded ∧ c.version ≥ 5 := hv.resolve_right h4v
      rw [if_neg h4v] at h3
      cases h3
      rw [if_pos hcond, if_pos hcond]
      exact ⟨rfl, by omega⟩

theorem opSize_clean (c : Cfg) (eo : EOff) (op : XOp) : Clean (opSize c eo op) := by
  cases op with
  | convert base =>
    cases base with
    | none => trivial
    | some i =>
      simp only [opSize]
      cases eo i with
      | none => exact (by decide : ¬ ListErr .wUnsupportedExpressionForwardReference)
      | some o => trivial
  | _ => trivial

theorem exprSize_clean (c : Cfg) (eo : EOff) : ∀ x : WExpr, Clean (exprSize c eo x)
  | [] => trivial
  | op :: rest => (opSize_clean c eo op).bind fun _ => (exprSize_clean c eo rest).bind fun _ => trivial

theorem writeOp_clean (c : Cfg) (eo : EOff) (uoff : Nat) (op : XOp) : Clean (writeOp c eo uoff op) := by
  cases op with
  | addr a => exact (writeAddress_clean c a).bind fun _ => trivial
  | call i =>
    simp only [writeOp]
    cases eo i with
    | none => exact (by decide : ¬ ListErr .wUnsupportedExpressionForwardReference)
    | some o => exact (writeUdata_clean _ _ _).bind fun _ => trivial
  | callRef i =>
    simp only [writeOp]
    cases eo i with
    | none => exact (by decide : ¬ ListErr .wInvalidReference)
    | some o => exact (writeUdata_clean _ _ _).bind fun _ => trivial
  | convert base =>
    cases base with
    | none => trivial
    | some i =>
      simp only [writeOp]
      cases eo i with
      | none => exact (by decide : ¬ ListErr .wUnsupportedExpressionForwardReference)
      | some o => trivial
  | _ => trivial

theorem writeOps_clean (c : Cfg) (eo : EOff) (uoff : Nat) : ∀ x : WExpr, Clean (writeOps c eo uoff x)
  | [] => trivial
  | op :: rest =>
    (writeOp_clean c eo uoff op).bind fun _ => (writeOps_clean c eo uoff rest).bind fun _ => trivial

theorem writeData_clean (k : Kind) (c : Cfg) (eo : EOff) (uoff : Nat) (x : WExpr) :
    Clean (writeData k c eo uoff x) := by
  cases k with
  | rng => trivial
  | loc =>
    exact (exprSize_clean c eo x).bind fun size =>
      Clean.bind (clean_ite (writeUdata_clean _ _ _) trivial) fun len =>
        Clean.bind ((exprSize_clean c eo x).bind fun _ => writeOps_clean c eo uoff x) fun _ => trivial

theorem writeAddrPair_ok {b e : Addr} {x : WExpr}
    {bs : Bytes} (h : writeAddrPair k c eo uoff b e x = .ok bs) :
    ValidSize c.addrSize ∧ ∃ vb ve d, b = .const vb ∧ e = .const ve ∧
      (vb < 2 ^ 64 → vb < addrMod c.addrSize) ∧ (ve < 2 ^ 64 → ve < addrMod c.addrSize) ∧
      writeData k c eo uoff x = .ok d ∧ bs = encAddr c vb ++ encAddr c ve ++ d := by
  obtain ⟨b1, h1, h⟩ := Out.bind_eq_ok h
  obtain ⟨b2, h2, h⟩ := Out.bind_eq_ok h
  obtain ⟨d, h3, h⟩ := Out.bind_eq_ok h
  obtain ⟨hs, vb, rfl, rfl, fb⟩ := writeAddress_ok h1
  obtain ⟨_, ve, rfl, rfl, fe⟩ := writeAddress_ok h2
  cases h
  exact ⟨hs, vb, ve, d, rfl, rfl, fb, fe, h3, rfl⟩

theorem writeAddrPair_clean (k : Kind) (c : Cfg) (eo : EOff) (uoff : Nat) (b e : Addr) (x : WExpr) :
    Clean (writeAddrPair k c eo uoff b e x) :=
  (writeAddress_clean c b).bind fun _ => (writeAddress_clean c e).bind fun _ =>
    (writeData_clean k c eo uoff x).bind fun _ => trivial

end Gimli.WLists
