import Gimli.Lemmas.WOpEval
import Gimli.Lemmas.EvalRun
import Gimli.Spec.BuiltEval
/-!
# C15: whole evaluation runs — the as-built evaluator and the byte evaluator run alike

`Inv`: the evaluator's current (reader, bytecode) pair and every frame of its expression stack is
either foreign bytecode or stands at the start of an operation as built. Under it the as-built
decoder (`BuiltEval.builtDec`) and the byte decoder agree; every step of the control loop keeps it;
so the two instances of the parameterised loop agree function by function, and with the byte decoder
the parameterised loop is C07's evaluator.
-/
namespace Gimli.WOp
open Gimli.Op (Encoding)
open Gimli.Eval Gimli.BuiltEval

/-- a (reader, bytecode) pair is fine if it is foreign bytecode or stands on an operation as built -/
def GoodCode (W : Emitted) (p : Bytes × Bytes) : Prop := p.2 = W.bs → AtOp W p.1

def Inv (W : Emitted) (m : Mach) : Prop :=
  GoodCode W (m.pc, m.bytecode) ∧ ∀ f ∈ m.exprStack, GoodCode W f

def listingOf (W : Emitted) : List (Op.Operation × Nat) :=
  expectedDecode W.e W.enc W.uo W.hasRefs W.offs W.pos 0 W.ops

def asBuilt (W : Emitted) : Dec := builtDec W.bs (listingOf W)

def Good (W : Emitted) (s : Eval) : Prop :=
  s.cfg.endian = W.e ∧ s.cfg.encoding = W.enc ∧ Inv W s.m

variable {W : Emitted}

theorem inv_of_same {m m' : Mach} (hs : Same m m') (hi : Inv W m) : Inv W m' := by
  obtain ⟨h1, h2, h3⟩ := hs
  unfold Inv at *
  rw [h1, h2, h3]; exact hi

/-! ## decoding at the start of an operation as built -/

theorem AtOp.index (hW : Laid W) {pc : Bytes} (ha : AtOp W pc) (hne : pc ≠ []) :
    ∃ j bj fj, ∃ _ : j < W.ops.length, W.Before j bj fj ∧ pc = W.bs.drop bj.length := by
  obtain ⟨j, bj, fj, hj, hwj, rfl⟩ := ha
  refine ⟨j, bj, fj, Nat.lt_of_le_of_ne hj fun h => hne ?_, hwj, rfl⟩
  rw [Emitted.Before, h, List.take_length, hW.hw] at hwj
  cases hwj
  exact List.drop_length

/-- decoding at the start of an operation as built: split form -/
theorem parse_at (hW : Written W) (pre suf : List Operation) (op : Operation)
    (hsplit : W.ops = pre ++ op :: suf) :
    ∃ b1 f1 bo fo img,
      exprWriteOps W.e W.enc W.uo W.hasRefs W.offs W.pos pre = .ok (b1, f1) ∧
      opWrite W.e W.enc W.uo W.hasRefs W.offs (W.pos + b1.length) op = .ok (bo, fo) ∧
      opImage W.e W.enc W.uo W.hasRefs W.offs (W.pos + b1.length) op = some img ∧
      1 ≤ bo.length ∧ b1.length + bo.length ≤ W.bs.length ∧
      Op.parse W.e W.enc (W.bs.drop b1.length) = .ok (img, W.bs.drop (b1.length + bo.length)) := by
  have hj : pre.length < W.ops.length := by rw [hsplit]; simp
  have hop : W.ops[pre.length] = op := by simp [hsplit]
  obtain ⟨b1, f1, -, h1, -⟩ := hW.laid.split (Nat.le_of_lt hj)
  obtain ⟨bo, fo, img, hw, himg, hbo, hle, hparse, -⟩ :=
    hW.laid.decodeAt hW.hoffs hW.hL hj (hW.hwf _ (List.getElem_mem hj)) h1
  rw [hop] at hw himg
  rw [Emitted.Before, hsplit, List.take_left' rfl] at h1
  exact ⟨b1, f1, bo, fo, img, h1, hw, himg, hbo, hle, hparse⟩

/-- looking up the start offset of operation `|pre|` in the listing finds that operation -/
theorem lookup_listing {e : Endian} {enc : Encoding} {uo : UnitOffs} {hasRefs : Bool} {offs : List Nat}
    (hoffs : ∀ f, uo = some f → ∀ en o, f en = some o → o < 2 ^ 64)
    (pre : List Operation) (suf : List Operation) (op : Operation) (p start : Nat) (b1 : Bytes) (f1 : List Fixup)
    (bo : Bytes) (fo : List Fixup) (hwf : ∀ o ∈ pre, OpWf o) (hl : b1.length < 2 ^ 64)
    (h1 : exprWriteOps e enc uo hasRefs offs p pre = .ok (b1, f1))
    (hop : opWrite e enc uo hasRefs offs (p + b1.length) op = .ok (bo, fo)) :
    listingLookup (expectedDecode e enc uo hasRefs offs p start (pre ++ op :: suf)) start (start + b1.length) =
      some ((opImage e enc uo hasRefs offs (p + b1.length) op).getD .nop, start + b1.length + bo.length) := by
  induction pre generalizing p start b1 f1 with
  | nil =>
    cases h1
    have hn := opLen_of_write hop
    simp only [List.nil_append, expectedDecode, listingLookup, List.length_nil, Nat.add_zero, if_true, hn] at hop ⊢
  | cons q pre ih =>
    obtain ⟨⟨bq, fq⟩, hq, h1⟩ := Out.bind_eq_ok h1
    obtain ⟨⟨b1', f1'⟩, h1', h1⟩ := Out.bind_eq_ok h1
    cases h1
    have hl' : bq.length + b1'.length < 2 ^ 64 := by simpa using hl
    have hne := opWrite_nonempty hoffs q offs p bq fq (by omega) hq (hwf q (by simp))
    have hn := opLen_of_write hq
    have ih := ih (p + bq.length) (start + bq.length) b1' f1'
      (fun o ho => hwf o (by simp [ho])) (by omega) h1'
      (by simpa [Nat.add_assoc] using hop)
    simp only [List.cons_append, expectedDecode, listingLookup, hn]
    have hneq : ¬ (start + (bq ++ b1').length = start) := by
      rw [List.length_append]; omega
    rw [if_neg hneq]
    simp only [List.length_append] at ih ⊢
    rw [show start + (bq.length + b1'.length) = start + bq.length + b1'.length by omega,
        show p + (bq.length + b1'.length) = p + bq.length + b1'.length by omega]
    exact ih

theorem dec_agree (hW : Written W) (c : Config)
    (hce : c.endian = W.e) (hcenc : c.encoding = W.enc) (m : Mach)
    (hg : GoodCode W (m.pc, m.bytecode)) (hne : m.pc ≠ []) :
    asBuilt W c m = parseDec c m := by
  unfold asBuilt builtDec parseDec
  split
  · rename_i hb
    obtain ⟨j, bj, fj, hjlt, hwj, hpc⟩ := (hg hb).index hW.laid hne
    obtain ⟨bo, fo, img, hop, himg, -, hle, hparse, -⟩ := hW.laid.decodeAt hW.hoffs hW.hL hjlt (hW.hwf _ (List.getElem_mem hjlt)) hwj
    have hlook := lookup_listing (hasRefs := W.hasRefs) (offs := W.offs) hW.hoffs (W.ops.take j)
      (W.ops.drop (j + 1)) W.ops[j] W.pos 0 bj fj bo fo
      (fun o ho => hW.hwf o (List.mem_of_mem_take ho)) (by have := hW.hL; omega) hwj hop
    rw [List.getElem_cons_drop, List.take_append_drop, Nat.zero_add, himg] at hlook
    have hpc : m.pc = _ := hpc
    have hoff : W.bs.length - m.pc.length = bj.length := by
      rw [hpc, List.length_drop]; omega
    rw [hoff, listingOf, hlook, hce, hcenc, hpc, hparse]
    rfl
  · rfl

/-! ## one step keeps the invariant -/

theorem step_inv (hW : Written W) (c : Config)
    (hce : c.endian = W.e) (hcenc : c.encoding = W.enc) (m : Mach)
    (hi : Inv W m) (hne : m.pc ≠ []) (r : OpResult) (m' : Mach)
    (h : evaluateOneOperation c m = .ok (r, m')) : Inv W m' := by
  obtain ⟨⟨op, rest⟩, -, hx⟩ := Out.bind_eq_ok h
  obtain ⟨hbc, hes, -⟩ := execute_control c op _ _ hx
  refine ⟨fun hb => ?_, by rw [hes]; exact hi.2⟩
  have hb' : m.bytecode = W.bs := hbc ▸ hb
  obtain ⟨j, bj, fj, hj, hwj, hpc⟩ := (hi.1 hb').index hW.laid hne
  obtain ⟨_, _, _, -, -, hstep⟩ :=
    hW.laid.stepAt hW.hoffs hW.hL c hce hcenc hj (hW.hwf _ (List.getElem_mem hj)) hwj
  exact ((hstep m hb' hpc).2 (r, m') h).2.2

/-! ## the control loop keeps the invariant
(`end_of_expression`, `finish`, the state update of `resume_with_*`) -/

theorem unwind_inv : ∀ (stk : List (Bytes × Bytes)) (pc bc : Bytes),
    GoodCode W (pc, bc) → (∀ f ∈ stk, GoodCode W f) →
    GoodCode W ((unwind pc bc stk).2.1, (unwind pc bc stk).2.2.1) ∧ (∀ f ∈ (unwind pc bc stk).2.2.2, GoodCode W f) ∧
      ((unwind pc bc stk).1 = false → (unwind pc bc stk).2.1 ≠ [])
  | [], [], bc, hg, hs => ⟨hg, hs, nofun⟩
  | stk, x :: xs, bc, hg, hs => by cases stk <;> exact ⟨hg, hs, fun _ => nofun⟩
  | (p, b) :: rest, [], bc, hg, hs =>
    unwind_inv rest p b (hs (p, b) (.head _)) (fun f hf => hs f (.tail _ hf))

theorem endOfExpression_inv (m : Mach) (hi : Inv W m) :
    Inv W (endOfExpression m).2 ∧ ((endOfExpression m).1 = false → (endOfExpression m).2.pc ≠ []) := by
  have := unwind_inv m.exprStack m.pc m.bytecode hi.1 hi.2
  exact ⟨⟨this.1, this.2.1⟩, this.2.2⟩

theorem inv_machInv (c : Config) : MachInv c (Inv W) := .of_frame fun _ _ _ h => h

theorem finish_inv (c : Config) (m m' : Mach) (hi : Inv W m) (h : finish c m = .ok m') : Inv W m' :=
  Eval.finish_inv (inv_machInv c) hi (fun _ _ h => h) m' h

theorem applyAnswer_inv (c : Config) (w : Waiting) (a : Answer) (m m' : Mach) (hi : Inv W m)
    (h : applyAnswer c w a m = .ok m') : Inv W m' :=
  -- the answer to `RequiresAtLocation`: other bytecode is entered at its start, the current pair is stacked
  Eval.applyAnswer_inv (inv_machInv c) hi (fun m bytes hi =>
    ⟨fun hb => by cases (hb : bytes = W.bs); exact atOp_start,
     fun f hf => (List.mem_cons.mp hf).elim (fun h => h ▸ hi.1) (hi.2 f)⟩) w a m' h

/-! ## the evaluator loop with the two decoders -/

def Agree {α : Type} (P : α → Prop) (x2 x1 : Out α) : Prop := x2 = x1 ∧ x1.All P

theorem Agree.refl {α : Type} {P : α → Prop} {x : Out α} (h : x.All P) : Agree P x x := ⟨rfl, h⟩

theorem Agree.bind {α β : Type} {P : α → Prop} {Q : β → Prop} {x2 x1 : Out β} {f2 f1 : β → Out α}
    (hx : Agree Q x2 x1) (hf : ∀ b, Q b → Agree P (f2 b) (f1 b)) : Agree P (x2 >>= f2) (x1 >>= f1) := by
  obtain ⟨rfl, hq⟩ := hx
  exact ⟨Out.All.bind_congr hq fun b hb => (hf b hb).1, hq.bind fun b hb => (hf b hb).2⟩

def KAgree (W : Emitted) (k1 k2 : Eval → Out (Request × Eval)) : Prop :=
  ∀ s, Good W s → Agree (fun p => Good W p.2) (k2 s) (k1 s)

theorem dec_agree_inv (hW : Written W) (c : Config)
    (hce : c.endian = W.e) (hcenc : c.encoding = W.enc) (m : Mach) (hi : Inv W m) (hne : m.pc ≠ []) :
    Agree (fun p => Inv W { m with pc := p.2 }) (asBuilt W c m) (parseDec c m) := by
  refine ⟨dec_agree hW c hce hcenc m hi.1 hne, fun p h => ⟨fun hb => ?_, hi.2⟩⟩
  -- what the byte decoder leaves is the start of the next operation as built
  obtain ⟨j, bj, fj, hj, hwj, hpc⟩ := (hi.1 hb).index hW.laid hne
  obtain ⟨bo, fo, img, -, -, -, -, hparse, hnext⟩ := hW.laid.decodeAt hW.hoffs hW.hL hj (hW.hwf _ (List.getElem_mem hj)) hwj
  unfold parseDec at h
  rw [hce, hcenc, show m.pc = _ from hpc, hparse] at h
  cases h
  exact ⟨j + 1, _, _, hj, hnext, by rw [List.length_append]⟩

theorem afterComplete_agree (hW : Written W) (c : Config)
    (hce : c.endian = W.e) (hcenc : c.encoding = W.enc) (loc : Location) (m : Mach) (hi : Inv W m) :
    Agree (fun p => Inv W p.1) (afterCompleteD (asBuilt W) c loc m) (afterCompleteD parseDec c loc m) := by
  obtain ⟨hi2, hne2⟩ := endOfExpression_inv m hi
  have hpiece : ∀ (p : Piece) (m1 : Mach) (x : Bool), Inv W m1 →
      Agree (fun p => Inv W p.1) (do let m ← pushPiece c p m1; pure (m, x)) (do let m ← pushPiece c p m1; pure (m, x)) :=
    fun p m1 x h1 => .bind (.refl ((inv_machInv c).pushPiece p h1))
      fun m3 h3 => .refl fun _ h => by cases h; exact h3
  unfold afterCompleteD
  cases hE : endOfExpression m with
  | mk b m2 =>
    rw [hE] at hi2 hne2
    cases b with
    | true =>
      dsimp only
      split
      · exact hpiece _ _ _ hi2
      · exact .refl (.err _)
    | false =>
      refine (dec_agree_inv hW c hce hcenc m2 hi2 (hne2 rfl)).bind fun p hi3 => ?_
      dsimp only
      split
      · exact hpiece _ _ _ hi3
      · exact .refl (.err _)

theorem afterOp_agree (hW : Written W)
    (k1 k2 : Eval → Out (Request × Eval)) (hk : KAgree W k1 k2)
    (s : Eval) (hce : s.cfg.endian = W.e) (hcenc : s.cfg.encoding = W.enc) (r : OpResult) (m : Mach) (hi : Inv W m) :
    Agree (fun p => Good W p.2) (afterOpD (asBuilt W) k2 s r m) (afterOpD parseDec k1 s r m) := by
  unfold afterOpD
  cases r with
  | piece => exact hk _ ⟨hce, hcenc, hi⟩
  | incomplete =>
    obtain ⟨hi2, _⟩ := endOfExpression_inv m hi
    cases hE : endOfExpression m with
    | mk b m2 =>
      rw [hE] at hi2
      dsimp only
      split
      · exact .refl (.err _)
      · exact hk _ ⟨hce, hcenc, hi2⟩
  | complete loc =>
    exact (afterComplete_agree hW s.cfg hce hcenc loc m hi).bind fun p hp => hk _ ⟨hce, hcenc, hp⟩
  | waiting w rq => exact .refl fun p h => by cases h; exact ⟨hce, hcenc, hi⟩

theorem loopBody_agree (hW : Written W)
    (k1 k2 : Eval → Out (Request × Eval)) (hk : KAgree W k1 k2) :
    KAgree W (loopBodyD parseDec k1) (loopBodyD (asBuilt W) k2) := by
  intro s ⟨hce, hcenc, hi⟩
  obtain ⟨hi2, hne2⟩ := endOfExpression_inv s.m hi
  unfold loopBodyD
  cases hE : endOfExpression s.m with
  | mk b m2 =>
    rw [hE] at hi2 hne2
    cases b with
    | true =>
      dsimp only
      exact .bind (.refl fun m3 hf => finish_inv s.cfg m2 m3 hi2 hf)
        fun m3 h3 => .refl fun p h => by cases h; exact ⟨hce, hcenc, h3⟩
    | false =>
      dsimp only
      split
      · exact .refl (.err _)
      · -- one operation: decode (the decoders agree), execute (the step keeps the invariant)
        have hstep : Agree (fun p => Inv W p.2) (evaluateOneOperationD (asBuilt W) s.cfg m2)
            (evaluateOneOperationD parseDec s.cfg m2) := by
          unfold evaluateOneOperationD
          rw [dec_agree hW s.cfg hce hcenc m2 hi2.1 (hne2 rfl)]
          exact .refl fun p h => step_inv hW s.cfg hce hcenc m2 hi2 (hne2 rfl) p.1 p.2 h
        exact hstep.bind fun p hp => afterOp_agree hW k1 k2 hk
          { s with m := m2, iteration := saturatingInc s.iteration, decodes := s.decodes + 1 } hce hcenc p.1 p.2 hp

theorem evaluateInternal_agree (hW : Written W) :
    ∀ fuel, KAgree W (evaluateInternalD parseDec fuel) (evaluateInternalD (asBuilt W) fuel)
  | 0 => fun _ _ => .refl fun _ h => nomatch h
  | fuel + 1 => loopBody_agree hW _ _ (evaluateInternal_agree hW fuel)

/-- `Eval.evaluate_eq` for any decoder -/
theorem evaluateD_eq (dec : Dec) (fuel : Nat) (s : Eval) :
    evaluateD dec fuel s = match enter s with
      | .inl o => (o, s)
      | .inr s1 => settle (evaluateInternalD dec fuel) s1 := by
  unfold evaluateD enter
  cases s.state with
  | start init =>
    cases init with
    | none => rfl
    | some v => simp only []; cases push s.cfg (.generic v) s.m <;> rfl
  | _ => rfl

theorem evaluate_agree (hW : Written W) (fuel : Nat) (s : Eval) (hg : Good W s) :
    evaluateD (asBuilt W) fuel s = evaluateD parseDec fuel s ∧
      ∀ r s' x, evaluateD parseDec fuel s = (.ok (r, s'), x) → Good W s' := by
  rw [evaluateD_eq, evaluateD_eq]
  cases he : enter s with
  | inl o =>
    refine ⟨rfl, fun r s' x h => ?_⟩
    rcases enter_inl he with rfl | ⟨e, rfl⟩ | ⟨w, rfl⟩ <;> cases h
    exact hg
  | inr s1 =>
    obtain ⟨hce, hcenc, hi⟩ := hg
    obtain ⟨hc, _, _, hm⟩ := enter_inr he
    -- the initial value is pushed on a machine that stands where it stood
    have hg1 : Good W s1 := ⟨hc ▸ hce, hc ▸ hcenc, by
      rcases hm with hm | ⟨v, hp⟩
      · exact hm ▸ hi
      · exact (inv_machInv s.cfg).push v hi _ hp⟩
    obtain ⟨h1, h2⟩ := evaluateInternal_agree hW fuel s1 hg1
    dsimp only [settle]
    rw [h1]
    exact ⟨rfl, fun r s' x h => h2 _ ((settle_fst _ s1).symm.trans (congrArg Prod.fst h))⟩

theorem resume_agree (hW : Written W) (fuel : Nat) (a : Answer) (s : Eval) (hg : Good W s) :
    Agree (fun p => Good W p.2) (resumeD (asBuilt W) fuel a s) (resumeD parseDec fuel a s) := by
  obtain ⟨hce, hcenc, hi⟩ := hg
  unfold resumeD
  split
  · exact .refl (.err _)
  · exact .bind (.refl fun m1 hA => applyAnswer_inv s.cfg _ a s.m m1 hi hA)
      fun m1 h1 => evaluateInternal_agree hW fuel _ ⟨hce, hcenc, h1⟩
  · exact .refl (.panic _)

theorem runFromD_cons (dec : Dec) (fuel : Nat) (t : Tok) (toks : List Tok) (r : Request) (s : Eval)
    (hr : r ≠ .complete) :
    runFromD dec fuel (t :: toks) r s =
      match resumeD dec fuel (answerFor r t) s with
      | .ok (r', s') =>
        match runFromD dec fuel toks r' s' with
        | (tr, f, e) => (r :: tr, f, e)
      | o => ([r], finalOf o, none) := by
  cases r with
  | complete => exact absurd rfl hr
  | _ => rfl

theorem runFrom_agree (hW : Written W) (fuel : Nat) :
    ∀ (toks : List Tok) (r : Request) (s : Eval), Good W s →
      runFromD (asBuilt W) fuel toks r s = runFromD parseDec fuel toks r s
  | [], r, s, _ => by cases r <;> rfl
  | t :: toks, r, s, hg => by
    by_cases hr : r = .complete
    · subst hr; rfl
    · obtain ⟨h1, h2⟩ := resume_agree hW fuel (answerFor r t) s hg
      rw [runFromD_cons _ _ _ _ _ _ hr, runFromD_cons _ _ _ _ _ _ hr, h1]
      cases hR : resumeD parseDec fuel (answerFor r t) s with
      | ok p => simp only [runFrom_agree hW fuel toks p.1 p.2 (h2 p hR)]
      | err _ => rfl
      | panic _ => rfl
      | diverge => rfl

theorem run_agree (hW : Written W) (fuel : Nat) (toks : List Tok)
    (s : Eval) (hg : Good W s) : runD (asBuilt W) fuel toks s = runD parseDec fuel toks s := by
  obtain ⟨h1, h2⟩ := evaluate_agree hW fuel s hg
  simp only [runD, h1]
  cases hE : evaluateD parseDec fuel s with
  | mk o x =>
    cases o with
    | ok p => obtain ⟨r, s'⟩ := p; exact runFrom_agree hW fuel toks r s' (h2 r s' x hE)
    | err _ => rfl
    | panic _ => rfl
    | diverge => rfl

/-! ## with the byte decoder the parameterised loop *is* C07's evaluator -/

theorem evaluateOneOperationD_parse (c : Config) (m : Mach) :
    evaluateOneOperationD parseDec c m = evaluateOneOperation c m := rfl

theorem afterCompleteD_parse (c : Config) (l : Location) (m : Mach) :
    afterCompleteD parseDec c l m = afterComplete c l m := rfl

theorem afterOpD_parse (k : Eval → Out (Request × Eval)) (s : Eval) (r : OpResult) (m : Mach) :
    afterOpD parseDec k s r m = afterOp k s r m := by
  cases r <;> rfl

theorem loopBodyD_parse (k : Eval → Out (Request × Eval)) (s : Eval) :
    loopBodyD parseDec k s = loopBody k s := by
  simp only [loopBodyD, loopBody, evaluateOneOperationD_parse, afterOpD_parse]
  rfl

theorem evaluateInternalD_parse : ∀ (fuel : Nat),
    evaluateInternalD parseDec fuel = evaluateInternal fuel
  | 0 => rfl
  | fuel + 1 => funext fun s => by
    simp only [evaluateInternalD, evaluateInternal, loopBodyD_parse, evaluateInternalD_parse fuel]

theorem evaluateD_parse (fuel : Nat) (s : Eval) : evaluateD parseDec fuel s = evaluate fuel s := by
  rw [evaluateD_eq, evaluate_eq, evaluateInternalD_parse]
  rfl

theorem resumeD_parse (fuel : Nat) (a : Answer) (s : Eval) : resumeD parseDec fuel a s = resume fuel a s := by
  simp only [resumeD, resume, evaluateInternalD_parse]
  rfl

theorem runFromD_parse (fuel : Nat) : ∀ (toks : List Tok) (r : Request) (s : Eval),
    runFromD parseDec fuel toks r s = runFrom fuel toks r s
  | [], r, s => by cases r <;> rfl
  | t :: toks, r, s => by
    by_cases hr : r = .complete
    · subst hr; rfl
    · rw [runFromD_cons _ _ _ _ _ _ hr, runFrom_cons _ _ _ _ _ hr, resumeD_parse]
      cases resume fuel (answerFor r t) s with
      | ok p => simp only [runFromD_parse fuel toks p.1 p.2]
      | err _ => rfl
      | panic _ => rfl
      | diverge => rfl

theorem runD_parse (fuel : Nat) (toks : List Tok) (s : Eval) : runD parseDec fuel toks s = run fuel toks s := by
  simp only [runD, run, evaluateD_parse]
  cases evaluate fuel s with
  | mk o x =>
    cases o with
    | ok p => obtain ⟨r, s'⟩ := p; exact runFromD_parse fuel toks r s'
    | err _ => rfl
    | panic _ => rfl
    | diverge => rfl

end Gimli.WOp
