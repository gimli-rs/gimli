import Gimli.Lemmas.RelocPatch
import Gimli.Lemmas.Out
/-!
C18, writing side. Applying the recorded relocations to what the recording writer wrote gives what
direct writing gives: the invariant `Inv` between the two writers is kept by every call (`step_inv`,
`runR_inv`). Every call has one of four shapes — append plain bytes, patch plain bytes at an offset,
append a placeholder and record a relocation for it, patch a placeholder and record — and each
shape has its lemma (`inv_append`, `inv_patch`, `inv_reloc_append`, `inv_reloc_at`). Conversely the
recording writer accepts what direct writing accepts (`runR_of_runD`).
-/
namespace Gimli.Wr
open Gimli

theorem writeUdata_zero {e : Endian} {size : Nat} (h : size = 1 ∨ size = 2 ∨ size = 4 ∨ size = 8) :
    ∃ z, Ints.writeUdata e 0 size = .ok z :=
  (Ints.writeUdata_ok_iff e 0 size (by decide)).mpr ⟨h, Nat.two_pow_pos _⟩

theorem encode_spec {env : Env} {e : Endian} {r : Reloc} {x : Bytes}
    (h : encode env e r = .ok x) :
    x.length = r.size ∧ (r.size = 1 ∨ r.size = 2 ∨ r.size = 4 ∨ r.size = 8) := by
  unfold encode at h
  cases hp : r.ehPe with
  | none => rw [hp] at h; exact ⟨Ints.writeUdata_length h, Ints.writeUdata_size h⟩
  | some pe =>
    rw [hp] at h
    obtain ⟨v, _, h⟩ := Out.bind_eq_ok h
    simp only at h
    split at h
    · exact ⟨Ints.writeSdata_length h, Ints.writeSdata_size h⟩
    · exact ⟨Ints.writeUdata_length h, Ints.writeUdata_size h⟩

/-- what is done with a relocation's bytes `x` may use that they fill the field -/
theorem encode_bind_congr {env : Env} {e : Endian} {r : Reloc} {f g : Bytes → Out Bytes}
    (h : ∀ x, x.length = r.size → f x = g x) : (encode env e r >>= f) = (encode env e r >>= g) :=
  Out.All.bind_congr (P := fun x => x.length = r.size) (fun _ hx => (encode_spec hx).1) h

/-! ## applying relocations commutes with writes that stay clear of them -/

def Bounds (rs : List Reloc) (n : Nat) : Prop := ∀ r ∈ rs, r.off + r.size ≤ n

variable {env : Env} {e : Endian}

theorem applyOne_length {b b' : Bytes} {r : Reloc} (h : applyOne env e b r = .ok b') :
    b'.length = b.length := by
  obtain ⟨x, _, h⟩ := Out.bind_eq_ok h
  obtain ⟨hb, rfl⟩ := writeAt_ok_iff.mp h
  exact patch_length hb

theorem applyW_length (rs : List Reloc) :
    ∀ {b b' : Bytes}, applyW env e rs b = .ok b' → b'.length = b.length := by
  induction rs with
  | nil => intro b b' h; cases h; rfl
  | cons r rs ih =>
    intro b b' h
    obtain ⟨b1, h1, h⟩ := Out.bind_eq_ok h
    rw [ih h, applyOne_length h1]

theorem applyW_append_one (rs : List Reloc) (r : Reloc) :
    ∀ b, applyW env e (rs ++ [r]) b = (applyW env e rs b >>= fun b' => applyOne env e b' r) := by
  induction rs with
  | nil =>
    intro b
    show (applyOne env e b r >>= fun b' => .ok b') = applyOne env e b r
    cases applyOne env e b r <;> rfl
  | cons r0 rs ih =>
    intro b
    simp only [List.cons_append, applyW]
    rw [Out.bind_assoc]
    exact Out.bind_congr _ ih

theorem applyOne_comm {g : Bytes → Bytes} {b : Bytes} {r : Reloc} (hb : r.off + r.size ≤ b.length)
    (hgb : r.off + r.size ≤ (g b).length)
    (hg : ∀ x, x.length = r.size → patch (g b) r.off x = g (patch b r.off x)) :
    applyOne env e (g b) r = (applyOne env e b r >>= fun b' => .ok (g b')) := by
  unfold applyOne
  rw [Out.bind_assoc]
  refine encode_bind_congr fun x hl => ?_
  rw [writeAt_ok (hl ▸ hgb), writeAt_ok (hl ▸ hb), hg x hl]
  rfl

/-- `n`: the length of the buffers, which applying a relocation preserves -/
theorem applyW_comm {g : Bytes → Bytes} {n : Nat} (rs : List Reloc)
    (h : ∀ r ∈ rs, ∀ b, b.length = n →
      applyOne env e (g b) r = (applyOne env e b r >>= fun b' => .ok (g b'))) :
    ∀ b, b.length = n → applyW env e rs (g b) = (applyW env e rs b >>= fun b' => .ok (g b')) := by
  induction rs with
  | nil => intro b _; rfl
  | cons r rs ih =>
    intro b hb
    simp only [applyW]
    rw [h r (List.mem_cons_self ..) b hb, Out.bind_assoc, Out.bind_assoc]
    cases h1 : applyOne env e b r with
    | ok b1 =>
      exact ih (fun r' hr' => h r' (List.mem_cons_of_mem _ hr')) b1
        ((applyOne_length h1).trans hb)
    | _ => rfl

theorem applyW_append (rs : List Reloc) (y : Bytes) (b : Bytes) (hb : Bounds rs b.length) :
    applyW env e rs (b ++ y) = (applyW env e rs b >>= fun b' => .ok (b' ++ y)) :=
  applyW_comm (g := (· ++ y)) rs (fun r hr c hc => by
    have hr := hc ▸ hb r hr
    exact applyOne_comm (g := (· ++ y)) hr
      (by rw [List.length_append]; exact Nat.le_trans hr (Nat.le_add_right _ _))
      (fun x hx => patch_append (hx ▸ hr))) b rfl

theorem applyW_patch (rs : List Reloc) (off : Nat) (x : Bytes) (b : Bytes)
    (hb : Bounds rs b.length) (hx : off + x.length ≤ b.length) (hc : clear rs off x.length) :
    applyW env e rs (patch b off x) = (applyW env e rs b >>= fun b' => .ok (patch b' off x)) :=
  applyW_comm (g := (patch · off x)) rs (fun r hr c hcl => by
    have hr' := hcl ▸ hb r hr
    have hx' := hcl ▸ hx
    exact applyOne_comm (g := (patch · off x)) hr' (by rw [patch_length hx']; exact hr')
      (fun y hy => patch_comm hx' (hy ▸ hr') (hy ▸ hc r hr))) b rfl

/-- If what follows (`k`) cannot tell apart buffers that agree outside `[o, o+n)`, it cannot tell apart what
applying relocations to such buffers gives. -/
theorem applyW_agree {α : Type} {k : Bytes → Out α} {o n : Nat}
    (hk : ∀ b c, AgreeOut o n b c → k b = k c) (rs : List Reloc) :
    ∀ {b c : Bytes}, AgreeOut o n b c → (applyW env e rs b >>= k) = (applyW env e rs c >>= k) := by
  induction rs with
  | nil => exact fun h => hk _ _ h
  | cons r rs ih =>
    intro b c h
    simp only [applyW, applyOne]
    rw [Out.bind_assoc, Out.bind_assoc, Out.bind_assoc, Out.bind_assoc]
    refine Out.bind_congr _ fun x => ?_
    by_cases hb : r.off + x.length ≤ b.length
    · rw [writeAt_ok hb, writeAt_ok (h.1 ▸ hb)]; exact ih (h.patch_same hb)
    · rw [writeAt_congr h.1 fun hb' => absurd hb' hb]

theorem applyOne_agree {b c : Bytes} {r : Reloc} (h : AgreeOut r.off r.size b c) :
    applyOne env e b r = applyOne env e c r :=
  encode_bind_congr fun _ hl => writeAt_congr h.1 fun hb => h.patch_eq hl (hl ▸ hb)

/-! ## the simulation invariant -/

/-- same successful value, or both unsuccessful -/
def OkEq (x y : Out Bytes) : Prop := ∀ b, x = .ok b ↔ y = .ok b

theorem OkEq.bind {x y : Out Bytes} {f g : Bytes → Out Bytes} (h : OkEq x y)
    (hf : ∀ b, x = .ok b → OkEq (f b) (g b)) : OkEq (x >>= f) (y >>= g) := by
  intro b
  simp only [Out.bind_eq_ok_iff]
  constructor
  · rintro ⟨a, ha, hfa⟩; exact ⟨a, (h a).mp ha, (hf a ha b).mp hfa⟩
  · rintro ⟨a, ha, hga⟩; exact ⟨a, (h a).mpr ha, (hf a ((h a).mpr ha) b).mpr hga⟩

/-- the simulation invariant between direct writing (`d`) and recording (`st`) -/
structure Inv (env : Env) (e : Endian) (d : Out Bytes) (st : Bytes × List Reloc) : Prop where
  bounds : Bounds st.2 st.1.length
  eq : OkEq (applyW env e st.2 st.1) d

theorem Inv.init (env : Env) (e : Endian) : Inv env e (.ok []) ([], []) :=
  ⟨fun _ hr => (nomatch hr), fun _ => Iff.rfl⟩

variable {d : Out Bytes} {st : Bytes × List Reloc}

/-- One more step `k` after applying the relocations, `f` after direct writing: they only have to
agree on buffers as long as the recorded one. -/
theorem Inv.bind (h : Inv env e d st) {k f : Bytes → Out Bytes}
    (hf : ∀ b, b.length = st.1.length → k b = f b) :
    OkEq (applyW env e st.2 st.1 >>= k) (d >>= f) :=
  h.eq.bind fun b hb => hf b (applyW_length _ hb) ▸ fun _ => Iff.rfl

/-! In the four lemmas `f` is what the direct writer does. -/

theorem inv_append (h : Inv env e d st) (x : Bytes) (f : Bytes → Out Bytes)
    (hf : ∀ b, b.length = st.1.length → f b = .ok (b ++ x)) :
    Inv env e (d >>= f) (st.1 ++ x, st.2) where
  bounds := fun r hr => by
    rw [List.length_append]; exact Nat.le_trans (h.bounds r hr) (Nat.le_add_right _ _)
  eq := by
    show OkEq (applyW env e st.2 (st.1 ++ x)) _
    rw [applyW_append _ _ _ h.bounds]
    exact h.bind fun b hb => (hf b hb).symm

theorem inv_patch (h : Inv env e d st) (off : Nat) (x : Bytes) (hx : off + x.length ≤ st.1.length)
    (hc : clear st.2 off x.length) (f : Bytes → Out Bytes)
    (hf : ∀ b, b.length = st.1.length → f b = .ok (patch b off x)) :
    Inv env e (d >>= f) (patch st.1 off x, st.2) where
  bounds := fun r hr => by rw [patch_length hx]; exact h.bounds r hr
  eq := by
    show OkEq (applyW env e st.2 (patch st.1 off x)) _
    rw [applyW_patch _ _ _ _ h.bounds hx hc]
    exact h.bind fun b hb => (hf b hb).symm

theorem bounds_snoc {rs : List Reloc} {r : Reloc} {n m : Nat} (h : Bounds rs n) (hnm : n ≤ m)
    (hr : r.off + r.size ≤ m) : Bounds (rs ++ [r]) m := by
  intro r' hr'
  rcases List.mem_append.mp hr' with h1 | h1
  · exact Nat.le_trans (h r' h1) hnm
  · rw [List.mem_singleton.mp h1]; exact hr

theorem inv_reloc_append (h : Inv env e d st) (z : Bytes) (r : Reloc) (hro : r.off = st.1.length)
    (hrs : r.size = z.length) (f : Bytes → Out Bytes)
    (hf : ∀ b, b.length = st.1.length → f b = (encode env e r >>= fun x => .ok (b ++ x))) :
    Inv env e (d >>= f) (st.1 ++ z, st.2 ++ [r]) where
  bounds := bounds_snoc h.bounds (by rw [List.length_append]; exact Nat.le_add_right _ _)
    (by rw [List.length_append, hro, hrs]; exact Nat.le_refl _)
  eq := by
    show OkEq (applyW env e (st.2 ++ [r]) (st.1 ++ z)) _
    rw [applyW_append_one, applyW_append _ _ _ h.bounds, Out.bind_assoc]
    refine h.bind fun b hl => ?_
    -- the new relocation overwrites exactly the placeholder
    show applyOne env e (b ++ z) r = f b
    rw [hf b hl]
    refine encode_bind_congr fun x hxl => ?_
    rw [hro, ← hl, writeAt_ok (by rw [List.length_append, hxl, hrs]; exact Nat.le_refl _),
      patch_at_end (hxl.trans hrs)]

theorem inv_reloc_at (h : Inv env e d st) (z : Bytes) (r : Reloc) (hrs : r.size = z.length)
    (hb : r.off + z.length ≤ st.1.length) (f : Bytes → Out Bytes)
    (hf : ∀ b, b.length = st.1.length → f b = (encode env e r >>= fun x => writeAt b r.off x)) :
    Inv env e (d >>= f) (patch st.1 r.off z, st.2 ++ [r]) where
  bounds := bounds_snoc h.bounds (Nat.le_of_eq (patch_length hb).symm)
    (by rw [patch_length hb, hrs]; exact hb)
  eq := by
    show OkEq (applyW env e (st.2 ++ [r]) (patch st.1 r.off z)) _
    -- the placeholder `z` may have overwritten anything; the new relocation overwrites it again
    rw [applyW_append_one, applyW_agree (fun _ _ => applyOne_agree) _ (hrs ▸ agreeOut_patch hb)]
    exact h.bind fun b hb => (hf b hb).symm

/-- the seven calls that append plain bytes do the same in both writers (`appended`) -/
theorem stepR_appended {c : Call} {ox : Out Bytes} (h : appended e st.1.length c = some ox) :
    stepR e st c = (ox >>= fun x => .ok (st.1 ++ x, st.2)) := by
  cases c with
  | write | udata | sdata | uleb | sleb => cases h; rfl
  | address a | ehPointer a => cases a <;> cases h; rfl
  | _ => cases h

theorem stepD_appended {b : Bytes} {c : Call} {ox : Out Bytes}
    (h : appended e b.length c = some ox) : stepD env e b c = (ox >>= fun x => .ok (b ++ x)) := by
  cases c with
  | write | udata | sdata | uleb | sleb => cases h; rfl
  | address a | ehPointer a => cases a <;> cases h; rfl
  | _ => cases h

theorem ehData_sym {ehPe size size' : Nat} (h : ehSymSize ehPe size = .ok size')
    (v : Nat) :
    ehData e v (ehPe % 16) size =
      (if ehPe % 16 = 10 ∨ ehPe % 16 = 11 ∨ ehPe % 16 = 12 then Ints.writeSdata e (asI64 v) size'
       else Ints.writeUdata e v size') := by
  unfold ehSymSize at h
  simp only at h
  unfold ehData
  by_cases h0 : ehPe % 16 = 0
  · simp only [h0, if_true, Out.ok.injEq] at h; subst h; simp [h0]
  · simp only [h0, if_false] at h
    by_cases h2 : ehPe % 16 = 2 ∨ ehPe % 16 = 10
    · simp only [h2, if_true, Out.ok.injEq] at h; subst h
      rcases h2 with h2 | h2 <;> simp [h2]
    · simp only [h2, if_false] at h
      by_cases h3 : ehPe % 16 = 3 ∨ ehPe % 16 = 11
      · simp only [h3, if_true, Out.ok.injEq] at h; subst h
        rcases h3 with h3 | h3 <;> simp [h3]
      · simp only [h3, if_false] at h
        by_cases h4 : ehPe % 16 = 4 ∨ ehPe % 16 = 12
        · simp only [h4, if_true, Out.ok.injEq] at h; subst h
          rcases h4 with h4 | h4 <;> simp [h4]
        · simp [h4] at h

/-- a symbolic `.eh_frame` pointer written directly is what its relocation encodes -/
theorem ehConst_sym {ehPe size size' : Nat} (h : ehSymSize ehPe size = .ok size') (s : Nat)
    (a : Int) (pos : Nat) :
    ehConst e (addWrap (env.sym s) a) ehPe size pos =
      encode env e { off := pos, size := size', target := .symbol s, addend := a, ehPe := some ehPe } :=
  Out.bind_congr _ (fun v => ehData_sym h v)

theorem step_inv (h : Inv env e d st) (c : Call) (st' : Bytes × List Reloc)
    (hc : CallClear st.2 c) (hs : stepR e st c = .ok st') :
    Inv env e (d >>= fun b => stepD env e b c) st' := by
  cases happ : appended e st.1.length c with
  | some ox =>
    rw [stepR_appended happ] at hs
    obtain ⟨x, rfl, hs⟩ := Out.bind_eq_ok hs
    cases hs
    exact inv_append h x _ (fun b hb => by rw [stepD_appended (hb ▸ happ)]; rfl)
  | none =>
    cases c with
    | writeAt off bs =>
      obtain ⟨b1, hw, hs⟩ := Out.bind_eq_ok hs
      cases hs
      obtain ⟨hx, rfl⟩ := writeAt_ok_iff.mp hw
      exact inv_patch h off bs hx hc _ (fun b hb => writeAt_ok (hb ▸ hx))
    | udataAt off v size =>
      obtain ⟨x, hx, hs⟩ := Out.bind_eq_ok hs
      obtain ⟨b1, hw, hs⟩ := Out.bind_eq_ok hs
      cases hs
      obtain ⟨hxl, rfl⟩ := writeAt_ok_iff.mp hw
      refine inv_patch h off x hxl (Ints.writeUdata_length hx ▸ hc) _ (fun b hb => ?_)
      simp only [stepD, hx, Out.bind_ok]
      exact writeAt_ok (hb ▸ hxl)
    | address a size =>
      cases a with
      | const v => cases happ
      | sym s a =>
        obtain ⟨z, hz, hs⟩ := Out.bind_eq_ok hs
        cases hs
        exact inv_reloc_append h z _ rfl (Ints.writeUdata_length hz).symm _ (fun b _ => rfl)
    | offset val sect size =>
      obtain ⟨z, hz, hs⟩ := Out.bind_eq_ok hs
      cases hs
      exact inv_reloc_append h z _ rfl (Ints.writeUdata_length hz).symm _ (fun b _ => rfl)
    | offsetAt off val sect size =>
      obtain ⟨z, hz, hs⟩ := Out.bind_eq_ok hs
      obtain ⟨b1, hw, hs⟩ := Out.bind_eq_ok hs
      cases hs
      obtain ⟨hxl, rfl⟩ := writeAt_ok_iff.mp hw
      exact inv_reloc_at h z
        { off := off, size := size, target := .sect sect, addend := asI64 val, ehPe := none }
        (Ints.writeUdata_length hz).symm hxl _ (fun b _ => rfl)
    | ehPointer a ehPe size =>
      cases a with
      | const v => cases happ
      | sym s a =>
        obtain ⟨size', hsz, hs⟩ := Out.bind_eq_ok hs
        obtain ⟨z, hz, hs⟩ := Out.bind_eq_ok hs
        cases hs
        refine inv_reloc_append h z _ rfl (Ints.writeUdata_length hz).symm _ (fun b hb => ?_)
        simp only [stepD, Env.resolve, hb]
        rw [ehConst_sym hsz]
        rfl
    | write _ | udata _ _ | sdata _ _ | uleb _ | sleb _ => cases happ

theorem runR_inv : ∀ (calls : List Call) (st : Bytes × List Reloc) (d : Out Bytes),
    Inv env e d st → NoClobber e st calls → ∀ st', runR e st calls = .ok st' →
      Inv env e (d >>= fun b => runD env e b calls) st' := by
  intro calls
  induction calls with
  | nil =>
    intro st d h _ st' hs
    cases hs
    exact ⟨h.bounds, fun b => (h.eq b).trans (by cases d <;> exact Iff.rfl)⟩
  | cons c cs ih =>
    intro st d h hnc st' hs
    obtain ⟨st1, h1, hs⟩ := Out.bind_eq_ok hs
    simp only [NoClobber, h1] at hnc
    have := ih st1 _ (step_inv h c st1 hnc.1 h1) hnc.2 st' hs
    rwa [Out.bind_assoc] at this

/-! ## the recording writer accepts what direct writing accepts -/

theorem stepR_of_stepD {bD b1 : Bytes} {c : Call} (hl : st.1.length = bD.length)
    (hd : stepD env e bD c = .ok b1) (hc : SymSized c) :
    ∃ st1, stepR e st c = .ok st1 ∧ st1.1.length = b1.length := by
  cases happ : appended e bD.length c with
  | some ox =>
    rw [stepD_appended happ] at hd
    obtain ⟨x, rfl, hd⟩ := Out.bind_eq_ok hd
    cases hd
    exact ⟨_, by rw [stepR_appended (hl ▸ happ)]; rfl, by simp [hl]⟩
  | none =>
    -- what is left writes `size` bytes at the end or at `off`, through `write_udata`
    have app : ∀ {v size : Nat} {x : Bytes} (r : Reloc), Ints.writeUdata e v size = .ok x →
        ∃ z, Ints.writeUdata e 0 size = .ok z ∧
          (st.1 ++ z, st.2 ++ [r]).1.length = (bD ++ x).length := fun r hx => by
      obtain ⟨z, hz⟩ := writeUdata_zero (e := e) (Ints.writeUdata_size hx)
      exact ⟨z, hz, by simp [hl, Ints.writeUdata_length hx, Ints.writeUdata_length hz]⟩
    have at' : ∀ {off : Nat} {x z : Bytes} (rs : List Reloc), x.length = z.length →
        off + x.length ≤ bD.length → writeAt st.1 off z = .ok (patch st.1 off z) ∧
          (patch st.1 off z, rs).1.length = (patch bD off x).length := by
      intro off x z rs hxz hb
      have hz : off + z.length ≤ st.1.length := by rw [hl, ← hxz]; exact hb
      exact ⟨writeAt_ok hz, by rw [patch_length hz, patch_length hb, hl]⟩
    cases c with
    | writeAt off bs =>
      obtain ⟨hb, rfl⟩ := writeAt_ok_iff.mp hd
      obtain ⟨hw, hlen⟩ := at' st.2 rfl hb
      exact ⟨_, by simp only [stepR, hw]; rfl, hlen⟩
    | udataAt off v size =>
      obtain ⟨x, hx, hd⟩ := Out.bind_eq_ok hd
      obtain ⟨hb, rfl⟩ := writeAt_ok_iff.mp hd
      obtain ⟨hw, hlen⟩ := at' st.2 rfl hb
      exact ⟨_, by simp only [stepR, hx, Out.bind_ok, hw]; rfl, hlen⟩
    | address a size =>
      cases a with
      | const v => cases happ
      | sym s a =>
        obtain ⟨x, hx, hd⟩ := Out.bind_eq_ok hd
        cases hd
        obtain ⟨z, hz, hlen⟩ := app _ hx
        exact ⟨_, by simp only [stepR, hz]; rfl, hlen⟩
    | offset val sect size =>
      obtain ⟨x, hx, hd⟩ := Out.bind_eq_ok hd
      cases hd
      obtain ⟨z, hz, hlen⟩ := app _ hx
      exact ⟨_, by simp only [stepR, hz]; rfl, hlen⟩
    | offsetAt off val sect size =>
      obtain ⟨x, hx, hd⟩ := Out.bind_eq_ok hd
      obtain ⟨hb, rfl⟩ := writeAt_ok_iff.mp hd
      obtain ⟨z, hz⟩ := writeUdata_zero (e := e) (Ints.writeUdata_size hx)
      obtain ⟨hw, hlen⟩ := at' (st.2 ++ [(⟨off, size, .sect sect, asI64 val, none⟩ : Reloc)])
        ((Ints.writeUdata_length hx).trans (Ints.writeUdata_length hz).symm) hb
      exact ⟨_, by simp only [stepR, hz, Out.bind_ok, hw]; rfl, hlen⟩
    | ehPointer a ehPe size =>
      cases a with
      | const v => cases happ
      | sym s a =>
        obtain ⟨x, hx, hd⟩ := Out.bind_eq_ok hd
        cases hd
        obtain ⟨n, hn⟩ := hc
        -- what direct writing emitted is the relocation's encoding, so it has the field's size
        have henc := (ehConst_sym (env := env) (e := e) hn s a bD.length).symm.trans hx
        obtain ⟨z, hz⟩ := writeUdata_zero (e := e) (encode_spec henc).2
        exact ⟨_, by simp only [stepR, hn, Out.bind_ok, hz]; rfl,
          by simp [hl, (encode_spec henc).1, Ints.writeUdata_length hz]⟩
    | write _ | udata _ _ | sdata _ _ | uleb _ | sleb _ => cases happ

/-- whenever direct writing succeeds, so does recording (for sequences without symbolic LEB128
`.eh_frame` pointers), with a section of the same length -/
theorem runR_of_runD : ∀ (calls : List Call) (bD b : Bytes)
    (st : Bytes × List Reloc), st.1.length = bD.length → runD env e bD calls = .ok b →
    (∀ c ∈ calls, SymSized c) → ∃ st', runR e st calls = .ok st' ∧ st'.1.length = b.length := by
  intro calls
  induction calls with
  | nil => intro bD b st hl hd _; cases hd; exact ⟨st, rfl, hl⟩
  | cons c cs ih =>
    intro bD b st hl hd hc
    obtain ⟨b1, h1, hd⟩ := Out.bind_eq_ok hd
    obtain ⟨st1, hs1, hl1⟩ := stepR_of_stepD (st := st) hl h1 (hc c (List.mem_cons_self ..))
    obtain ⟨st', hs', hl'⟩ := ih b1 b st1 hl1 hd (fun c' hc' => hc c' (List.mem_cons_of_mem _ hc'))
    exact ⟨st', by simp only [runR, hs1, Out.bind_ok]; exact hs', hl'⟩

end Gimli.Wr
