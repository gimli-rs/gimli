import Gimli.Spec.Index
import Gimli.Model.Index
import Gimli.Lemmas.ReaderEnsures
import Gimli.Lemmas.FixedCells
import Mathlib.Data.Fintype.EquivFin
import Mathlib.Data.Nat.GCD.Basic
import Mathlib.Data.Nat.ModEq
/-!
# Package hash index

The standard's hash table: open addressing over `2^k` slots with an odd stride.  A table built by
insertion satisfies `Inv`; on such a table the standard's lookup returns exactly what is stored,
and `UnitIndex::find` on the encoded table is that lookup.  That an odd stride visits every slot
is needed only for "insertion succeeds while there is room".  The second namespace has
`sections(row)` and what `UnitIndex::parse` accepts.
-/
namespace Gimli.Spec.Index

theorem probe_lt (k id i : Nat) : probe k id i < 2 ^ k := Nat.mod_lt _ (Nat.pow_pos (by decide))

theorem stride_odd (k id : Nat) : stride k id % 2 = 1 := by
  unfold stride
  rw [Nat.or_mod_two_eq_one]; right; rfl

theorem coprime_of_odd (s k : Nat) (hs : s % 2 = 1) : Nat.Coprime s (2 ^ k) := by
  apply Nat.Coprime.pow_right
  rw [Nat.coprime_comm, Nat.Coprime, Nat.gcd_rec, hs]; rfl

/-- an odd stride visits every slot of a `2^k` table, injectivity half -/
theorem probe_inj (k a s i j : Nat) (hs : s % 2 = 1) (hi : i < 2 ^ k) (hj : j < 2 ^ k)
    (h : (a + i * s) % 2 ^ k = (a + j * s) % 2 ^ k) : i = j := by
  have h1 : i * s ≡ j * s [MOD 2 ^ k] := Nat.ModEq.add_left_cancel' a h
  have h2 : i ≡ j [MOD 2 ^ k] := Nat.ModEq.cancel_right_of_coprime (coprime_of_odd s k hs).symm h1
  exact h2.eq_of_lt_of_lt hi hj

/-- surjectivity half (pigeonhole) -/
theorem probe_surj (k a s p : Nat) (hs : s % 2 = 1) (hp : p < 2 ^ k) :
    ∃ i, i < 2 ^ k ∧ (a + i * s) % 2 ^ k = p := by
  let f : Fin (2 ^ k) → Fin (2 ^ k) := fun i => ⟨(a + i.1 * s) % 2 ^ k, Nat.mod_lt _ (Nat.pow_pos (by decide))⟩
  have hinj : Function.Injective f := by
    intro x y hxy
    have := congrArg Fin.val hxy
    exact Fin.ext (probe_inj k a s x.1 y.1 hs x.2 y.2 this)
  obtain ⟨i, hi⟩ := (Finite.injective_iff_surjective.mp hinj) ⟨p, hp⟩
  exact ⟨i.1, i.2, congrArg Fin.val hi⟩

theorem probe_surj' (k id p : Nat) (hp : p < 2 ^ k) : ∃ i, i < 2 ^ k ∧ probe k id i = p :=
  probe_surj k (id % 2 ^ k) (stride k id) p (stride_odd k id) hp

theorem slot_set (t : Table) (p q : Nat) (kv : Nat × Nat) (hp : p < t.length) :
    slot (t.set p kv) q = if q = p then kv else slot t q := by
  rw [slot, slot, List.getD_eq_getElem?_getD, List.getD_eq_getElem?_getD, List.getElem?_set]
  by_cases h : p = q
  · subst h; rw [if_pos rfl, if_pos hp, if_pos rfl]; rfl
  · rw [if_neg h, if_neg fun h' => h h'.symm]

theorem slotId_set (t : Table) (p q : Nat) (kv : Nat × Nat) (hp : p < t.length) :
    slotId (t.set p kv) q = if q = p then kv.1 else slotId t q := by
  unfold slotId; rw [slot_set _ _ _ _ hp]; split <;> rfl

theorem firstFree_some (k id : Nat) (t : Table) (fuel i p : Nat)
    (h : firstFree k id t fuel i = some p) :
    ∃ n, n < fuel ∧ p = probe k id (i + n) ∧ slotId t p = 0 ∧
      ∀ j, i ≤ j → j < i + n → slotId t (probe k id j) ≠ 0 := by
  induction fuel generalizing i with
  | zero => exact nomatch h
  | succ f ih =>
    rw [firstFree] at h
    by_cases h0 : slotId t (probe k id i) = 0
    · rw [if_pos h0] at h
      cases h
      exact ⟨0, Nat.succ_pos _, rfl, h0, fun j h1 h2 => absurd h1 (Nat.not_le.mpr h2)⟩
    · rw [if_neg h0] at h
      obtain ⟨n, hn, hp, hz, hall⟩ := ih (i + 1) h
      refine ⟨n + 1, Nat.succ_lt_succ hn, by rw [hp, Nat.add_assoc, Nat.add_comm 1 n], hz, fun j h1 h2 => ?_⟩
      rcases Nat.eq_or_lt_of_le h1 with rfl | hlt
      · exact h0
      · exact hall j hlt (by omega)

theorem firstFree_exists (k id : Nat) (t : Table) (fuel i n : Nat) (hn : n < fuel)
    (h0 : slotId t (probe k id (i + n)) = 0) : ∃ p, firstFree k id t fuel i = some p := by
  induction fuel generalizing i n with
  | zero => omega
  | succ f ih =>
    rw [firstFree]
    split
    · exact ⟨_, rfl⟩
    · rename_i hne
      cases n with
      | zero => exact absurd h0 hne
      | succ m => exact ih (i + 1) m (by omega) (by rwa [show i + 1 + m = i + (m + 1) by omega])

/-- what insertion by open addressing keeps. `chain`: a used slot is reached by the probe sequence of the id it holds, past
used slots that hold other ids -/
structure Inv (k : Nat) (t : Table) : Prop where
  len : t.length = 2 ^ k
  chain : ∀ p, p < 2 ^ k → slotId t p ≠ 0 →
    ∃ i, i < 2 ^ k ∧ probe k (slotId t p) i = p ∧
      ∀ j, j < i → slotId t (probe k (slotId t p) j) ≠ 0 ∧
        slotId t (probe k (slotId t p) j) ≠ slotId t p
  distinct : ∀ p q, p < 2 ^ k → q < 2 ^ k → slotId t p ≠ 0 → slotId t p = slotId t q → p = q

theorem slot_replicate (n p : Nat) : slot (List.replicate n (0, 0)) p = (0, 0) := by
  unfold slot
  rw [List.getD_eq_getElem?_getD, List.getElem?_replicate]
  split <;> rfl

theorem inv_empty (k : Nat) : Inv k (emptyTable k) := by
  have h0 : ∀ p, slotId (emptyTable k) p = 0 := fun p => congrArg Prod.fst (slot_replicate _ p)
  exact ⟨List.length_replicate, fun p _ h => absurd (h0 p) h, fun p q _ _ h => absurd (h0 p) h⟩

theorem insert_eq_some {k : Nat} {t t' : Table} {kv : Nat × Nat} :
    insert k t kv = some t' ↔ ∃ p, firstFree k kv.1 t (2 ^ k) 0 = some p ∧ t.set p kv = t' :=
  Option.map_eq_some_iff

theorem insert_inv (k : Nat) (t t' : Table) (kv : Nat × Nat) (hinv : Inv k t)
    (hnew : ∀ p, p < 2 ^ k → slotId t p ≠ kv.1) (h : insert k t kv = some t') :
    Inv k t' ∧ ∃ p, p < 2 ^ k ∧ slotId t p = 0 ∧ ∀ q, slot t' q = if q = p then kv else slot t q := by
  obtain ⟨p, hf, rfl⟩ := insert_eq_some.mp h
  obtain ⟨n, hn, hp, hz, hall⟩ := firstFree_some _ _ _ _ _ _ hf
  have hplt : p < 2 ^ k := by rw [hp]; exact probe_lt _ _ _
  have hpl : p < t.length := by rw [hinv.len]; exact hplt
  have hs : ∀ q, slot (t.set p kv) q = if q = p then kv else slot t q := fun q => slot_set t p q kv hpl
  have hsi : ∀ q, slotId (t.set p kv) q = if q = p then kv.1 else slotId t q := fun q => slotId_set t p q kv hpl
  refine ⟨⟨List.length_set.trans hinv.len, ?_, ?_⟩, p, hplt, hz, hs⟩
  · intro q hq hqnz
    rw [hsi] at hqnz ⊢
    by_cases hqp : q = p
    · subst hqp
      rw [if_pos rfl]
      refine ⟨n, hn, by rw [hp, Nat.zero_add], ?_⟩
      intro j hj
      have hj0 := hall j (Nat.zero_le _) (by rwa [Nat.zero_add])
      have hne : probe k kv.1 j ≠ q := by
        intro he; rw [he] at hj0; exact hj0 hz
      rw [hsi, if_neg hne]
      exact ⟨hj0, hnew _ (probe_lt _ _ _)⟩
    · simp only [if_neg hqp] at hqnz ⊢
      obtain ⟨i, hi, hpi, hch⟩ := hinv.chain q hq hqnz
      refine ⟨i, hi, hpi, ?_⟩
      intro j hj
      obtain ⟨c1, c2⟩ := hch j hj
      have hne : probe k (slotId t q) j ≠ p := by
        intro he; rw [he] at c1; exact c1 hz
      rw [hsi, if_neg hne]
      exact ⟨c1, c2⟩
  · intro a b ha hb hanz hab
    rw [hsi] at hanz
    rw [hsi, hsi] at hab
    by_cases hap : a = p <;> by_cases hbp : b = p
    · exact hap.trans hbp.symm
    · simp only [if_pos hap, if_neg hbp] at hab
      exact absurd hab.symm (hnew b hb)
    · simp only [if_neg hap, if_pos hbp] at hab
      exact absurd hab (hnew a ha)
    · simp only [if_neg hap, if_neg hbp] at hab hanz
      exact hinv.distinct a b ha hb hanz hab

theorem lookupFrom_absent (k id : Nat) (t : Table) (fuel i : Nat)
    (h : ∀ p, p < 2 ^ k → slotId t p ≠ id) : lookupFrom k id t fuel i = none := by
  induction fuel generalizing i with
  | zero => rfl
  | succ f ih =>
    rw [lookupFrom, if_neg (h _ (probe_lt _ _ _))]
    split
    · rfl
    · exact ih (i + 1)

theorem lookupFrom_chain (k id : Nat) (t : Table) (i : Nat)
    (hhit : slotId t (probe k id i) = id)
    (hch : ∀ j, j < i → slotId t (probe k id j) ≠ 0 ∧ slotId t (probe k id j) ≠ id)
    (d n fuel : Nat) (hd : n + d = i) (hf : d < fuel) :
    lookupFrom k id t fuel n = some (slot t (probe k id i)).2 := by
  induction d generalizing n fuel with
  | zero =>
    have : n = i := by omega
    subst this
    cases fuel with
    | zero => omega
    | succ f => rw [lookupFrom, if_pos hhit]
  | succ d ih =>
    cases fuel with
    | zero => omega
    | succ f =>
      obtain ⟨c1, c2⟩ := hch n (by omega)
      rw [lookupFrom, if_neg c2, if_neg c1]
      exact ih (n + 1) f (by omega) (by omega)

theorem lookup_present (k : Nat) (t : Table) (hinv : Inv k t) (p : Nat) (hp : p < 2 ^ k)
    (hnz : slotId t p ≠ 0) : lookup k (slotId t p) t = some (slot t p).2 := by
  obtain ⟨i, hi, hpi, hch⟩ := hinv.chain p hp hnz
  have := lookupFrom_chain k (slotId t p) t i (by rw [hpi]) hch i 0 (2 ^ k) (by omega) hi
  rw [hpi] at this
  exact this

theorem lookup_iff (k : Nat) (t : Table) (hinv : Inv k t) (id : Nat) (hid : id ≠ 0) (row : Nat) :
    lookup k id t = some row ↔ ∃ p, p < 2 ^ k ∧ slot t p = (id, row) := by
  constructor
  · intro h
    by_cases hex : ∃ p, p < 2 ^ k ∧ slotId t p = id
    · obtain ⟨p, hp, hpid⟩ := hex
      have := lookup_present k t hinv p hp (by rw [hpid]; exact hid)
      rw [hpid, h] at this
      exact ⟨p, hp, Prod.ext hpid (Option.some.inj this).symm⟩
    · have : lookup k id t = none := lookupFrom_absent k id t _ _ (fun p hp he => hex ⟨p, hp, he⟩)
      rw [this] at h; exact nomatch h
  · rintro ⟨p, hp, hs⟩
    have hpid : slotId t p = id := by rw [slotId, hs]
    have := lookup_present k t hinv p hp (by rw [hpid]; exact hid)
    rw [hpid, hs] at this
    exact this

theorem exists_free (t : Table) (h : used t < t.length) : ∃ p, p < t.length ∧ slotId t p = 0 := by
  induction t with
  | nil => exact absurd h (Nat.lt_irrefl 0)
  | cons a t ih =>
    by_cases ha : a.1 = 0
    · exact ⟨0, Nat.succ_pos _, ha⟩
    · rw [used, if_neg ha, List.length_cons] at h
      obtain ⟨p, hp, hz⟩ := ih (by omega)
      exact ⟨p + 1, Nat.succ_lt_succ hp, hz⟩

theorem used_set_le (t : Table) (p : Nat) (kv : Nat × Nat) : used (t.set p kv) ≤ used t + 1 := by
  induction t generalizing p with
  | nil => exact Nat.le_add_right _ _
  | cons a t ih =>
    cases p with
    | zero =>
      simp only [used, List.set_cons_zero]
      split <;> split <;> omega
    | succ p =>
      have := ih p
      simp only [used, List.set_cons_succ]
      omega

/-- the one place where "an odd stride visits every slot" is needed -/
theorem insert_succeeds (k : Nat) (t : Table) (kv : Nat × Nat) (hlen : t.length = 2 ^ k)
    (hroom : used t < 2 ^ k) : ∃ t', insert k t kv = some t' ∧ t'.length = 2 ^ k ∧ used t' ≤ used t + 1 := by
  obtain ⟨p, hp, hz⟩ := exists_free t (by omega)
  obtain ⟨i, hi, hpi⟩ := probe_surj' k kv.1 p (by omega)
  obtain ⟨q, hq⟩ := firstFree_exists k kv.1 t (2 ^ k) 0 i hi (by rw [Nat.zero_add, hpi]; exact hz)
  exact ⟨t.set q kv, insert_eq_some.mpr ⟨q, hq, rfl⟩, List.length_set.trans hlen, used_set_le _ _ _⟩

theorem buildFrom_succeeds (k : Nat) (kvs : List (Nat × Nat)) (t : Table) (hlen : t.length = 2 ^ k)
    (hroom : used t + kvs.length ≤ 2 ^ k) : ∃ t', buildFrom k kvs t = some t' := by
  induction kvs generalizing t with
  | nil => exact ⟨t, rfl⟩
  | cons kv kvs ih =>
    simp only [List.length_cons] at hroom
    obtain ⟨t1, h1, hl1, hu1⟩ := insert_succeeds k t kv hlen (by omega)
    obtain ⟨t', h'⟩ := ih t1 hl1 (by omega)
    exact ⟨t', by rw [buildFrom, h1]; exact h'⟩

theorem build_succeeds (k : Nat) (kvs : List (Nat × Nat)) (hroom : kvs.length ≤ 2 ^ k) :
    ∃ t, build k kvs = some t := by
  have hused : ∀ n, used (List.replicate n (0, 0)) = 0 := fun n => by
    induction n with
    | zero => rfl
    | succ n ih => rw [List.replicate_succ, used, if_pos rfl, ih]
  exact buildFrom_succeeds k kvs (emptyTable k) List.length_replicate (by rw [emptyTable, hused]; omega)

theorem buildFrom_slots (k : Nat) (kvs : List (Nat × Nat)) (t t' : Table) (hlen : t.length = 2 ^ k)
    (h : buildFrom k kvs t = some t') :
    t'.length = 2 ^ k ∧ ∀ q, slot t' q = slot t q ∨ slot t' q ∈ kvs := by
  induction kvs generalizing t with
  | nil => cases h; exact ⟨hlen, fun _ => Or.inl rfl⟩
  | cons kv kvs ih =>
    obtain ⟨t1, h1, h⟩ := Option.bind_eq_some_iff.mp h
    obtain ⟨p, -, rfl⟩ := insert_eq_some.mp h1
    obtain ⟨hl, hs⟩ := ih (t.set p kv) (List.length_set.trans hlen) h
    refine ⟨hl, fun q => (hs q).elim (fun h2 => ?_) fun h2 => Or.inr (List.mem_cons_of_mem _ h2)⟩
    by_cases hp : p < t.length
    · rw [h2, slot_set t p q kv hp]
      split
      · exact Or.inr List.mem_cons_self
      · exact Or.inl rfl
    · rw [h2, List.set_eq_of_length_le (Nat.le_of_not_lt hp)]; exact Or.inl rfl

theorem buildFrom_spec (k : Nat) (kvs : List (Nat × Nat)) (t t' : Table) (hinv : Inv k t)
    (hd : kvs.Pairwise (fun a b => a.1 ≠ b.1))
    (hfresh : ∀ kv, kv ∈ kvs → ∀ p, p < 2 ^ k → slotId t p ≠ kv.1)
    (h : buildFrom k kvs t = some t') :
    Inv k t' ∧ (∀ id row, id ≠ 0 → ((∃ p, p < 2 ^ k ∧ slot t' p = (id, row)) ↔
      (∃ p, p < 2 ^ k ∧ slot t p = (id, row)) ∨ (id, row) ∈ kvs)) ∧
      ∀ q, slot t' q = slot t q ∨ slot t' q ∈ kvs := by
  suffices key : Inv k t' ∧ (∀ id row, id ≠ 0 → ((∃ p, p < 2 ^ k ∧ slot t' p = (id, row)) ↔
      (∃ p, p < 2 ^ k ∧ slot t p = (id, row)) ∨ (id, row) ∈ kvs)) from
    ⟨key.1, key.2, (buildFrom_slots k kvs t t' hinv.len h).2⟩
  induction kvs generalizing t with
  | nil =>
    cases h
    exact ⟨hinv, fun id row _ => ⟨Or.inl, fun h => h.resolve_right (nomatch ·)⟩⟩
  | cons kv kvs ih =>
    obtain ⟨t1, h1, h⟩ := Option.bind_eq_some_iff.mp h
    obtain ⟨hinv1, p0, hp0, hz0, hs⟩ := insert_inv k t t1 kv hinv (hfresh kv List.mem_cons_self) h1
    have hd' := List.pairwise_cons.mp hd
    have hfresh1 : ∀ kv', kv' ∈ kvs → ∀ p, p < 2 ^ k → slotId t1 p ≠ kv'.1 := by
      intro kv' hkv' p hp
      unfold slotId
      rw [hs]
      split
      · exact hd'.1 kv' hkv'
      · exact hfresh kv' (List.mem_cons_of_mem _ hkv') p hp
    obtain ⟨hinv', hc⟩ := ih t1 hinv1 hd'.2 hfresh1 h
    refine ⟨hinv', fun id row hid => ?_⟩
    · rw [hc id row hid]
      constructor
      · rintro (⟨p, hp, hsp⟩ | hmem)
        · rw [hs] at hsp
          split at hsp
          · exact Or.inr (hsp ▸ List.mem_cons_self)
          · exact Or.inl ⟨p, hp, hsp⟩
        · exact Or.inr (List.mem_cons_of_mem _ hmem)
      · rintro (⟨p, hp, hsp⟩ | hmem)
        · -- an old used slot is not the one the new pair went into
          have : p ≠ p0 := fun he => hid (by rw [← he, slotId, hsp] at hz0; exact hz0)
          exact Or.inl ⟨p, hp, by rw [hs, if_neg this, hsp]⟩
        · rcases List.mem_cons.mp hmem with he | hm
          · exact Or.inl ⟨p0, hp0, by rw [hs, if_pos rfl, he]⟩
          · exact Or.inr hm

theorem build_spec (k : Nat) (kvs : List (Nat × Nat)) (t : Table) (hnz : ∀ kv, kv ∈ kvs → kv.1 ≠ 0)
    (hd : kvs.Pairwise (fun a b => a.1 ≠ b.1)) (h : build k kvs = some t) :
    Inv k t ∧ (∀ id row, id ≠ 0 → ((∃ p, p < 2 ^ k ∧ slot t p = (id, row)) ↔ (id, row) ∈ kvs)) ∧
      ∀ q, slot t q = (0, 0) ∨ slot t q ∈ kvs := by
  have hempty : ∀ p, slot (emptyTable k) p = (0, 0) := fun p => slot_replicate _ p
  obtain ⟨hinv, hc, hsl⟩ := buildFrom_spec k kvs (emptyTable k) t (inv_empty k) hd
    (fun kv hkv p _ => by rw [slotId, hempty]; exact fun h => hnz kv hkv h.symm) h
  refine ⟨hinv, fun id row hid => ?_, fun q => hempty q ▸ hsl q⟩
  rw [hc id row hid]
  exact ⟨fun h => h.elim (fun ⟨p, _, hp⟩ => absurd (congrArg Prod.fst (hempty p ▸ hp)).symm hid) fun h => h,
    Or.inr⟩

theorem scan_iff (kvs : List (Nat × Nat)) (hd : kvs.Pairwise (fun a b => a.1 ≠ b.1)) (id row : Nat) :
    scan kvs id = some row ↔ (id, row) ∈ kvs := by
  induction kvs with
  | nil => exact ⟨fun h => (nomatch h), fun h => (nomatch h)⟩
  | cons kv kvs ih =>
    have hd' := List.pairwise_cons.mp hd
    unfold scan at ih ⊢
    rw [List.find?_cons]
    by_cases h : kv.1 = id
    · simp only [h, decide_true, Option.map_some, Option.some.injEq, List.mem_cons]
      constructor
      · intro hr; left; rw [← h, ← hr]
      · rintro (he | hm)
        · rw [← he]
        · exact absurd h (hd'.1 (id, row) hm)
    · simp only [h, decide_false]
      rw [ih hd'.2, List.mem_cons]
      constructor
      · intro hm; right; exact hm
      · rintro (he | hm)
        · exact absurd (by rw [← he]) h
        · exact hm

end Gimli.Spec.Index

namespace Gimli.Index
open Gimli Gimli.Ints Gimli.Spec.Index Gimli.C17

/-- the bytes of `hash_ids` / `hash_rows` for a slot table -/
def encIds (e : Endian) (t : Table) : Bytes := t.flatMap (fun kv => toBytes e 8 kv.1)
def encRows (e : Endian) (t : Table) : Bytes := t.flatMap (fun kv => toBytes e 4 kv.2)

/-- `ix` is a parsed index whose hash arrays hold the slot table `t` of `2^k` slots -/
structure Encodes (e : Endian) (k : Nat) (t : Table) (ix : UnitIndex) : Prop where
  slots : ix.slotCount = 2 ^ k
  len : t.length = 2 ^ k
  ids : ix.hashIds = encIds e t
  rows : ix.hashRows = encRows e t
  bound : ∀ kv, kv ∈ t → kv.1 < 2 ^ 64 ∧ kv.2 < 2 ^ 32

theorem readAt_chunks {α : Type} (e : Endian) (n : Nat) (g : α → Nat) (t : List α) (p : Nat)
    (hp : p < t.length) (hb : g t[p] < 256 ^ n) :
    readAt e n (t.flatMap (fun a => toBytes e n (g a))) (p * n) = some (g t[p]) := by
  have hf : ∀ a, a ∈ t → (toBytes e n (g a)).length = n := fun a _ => toBytes_length e n (g a)
  rw [readAt, if_pos (mul_le_flatMap_length _ n t hf p (Nat.le_of_lt hp)), drop_cells _ n t hf p hp,
    readFixed_toBytes e n _ _ hb]

theorem slot_eq_getElem (t : Table) (p : Nat) (hp : p < t.length) : slot t p = t[p] := by
  rw [slot, List.getD_eq_getElem?_getD, List.getElem?_eq_getElem hp]; rfl

/-- every slot of a built table is `(0, 0)` or a listed pair, so it fits the 8 + 4 bytes of its encoding -/
theorem slots_fit (t : Table) (kvs : List (Nat × Nat)) (hsl : ∀ q, slot t q = (0, 0) ∨ slot t q ∈ kvs)
    (hb : ∀ kv, kv ∈ kvs → kv.1 < 2 ^ 64 ∧ kv.2 < 2 ^ 32) : ∀ kv, kv ∈ t → kv.1 < 2 ^ 64 ∧ kv.2 < 2 ^ 32 := by
  intro kv hkv
  obtain ⟨q, hq, hkq⟩ := List.getElem_of_mem hkv
  have hs : slot t q = kv := by rw [slot_eq_getElem t q hq, hkq]
  rcases hsl q with h0 | hm
  · rw [← hs, h0]; decide
  · exact hb kv (hs ▸ hm)

theorem probe_step (k id i : Nat) :
    (probe k id i + stride k id) &&& (2 ^ k - 1) = probe k id (i + 1) := by
  rw [Nat.and_two_pow_sub_one_eq_mod]
  unfold probe
  rw [Nat.succ_mul, ← Nat.add_assoc, Nat.mod_add_mod]

theorem findLoop_eq_lookupFrom (e : Endian) (k : Nat) (t : Table) (ix : UnitIndex)
    (henc : Encodes e k t ix) (id fuel i : Nat) :
    (findLoop e ix id (2 ^ k - 1) (stride k id) fuel (probe k id i)).1 = lookupFrom k id t fuel i := by
  induction fuel generalizing i with
  | zero => rfl
  | succ f ih =>
    have hp : probe k id i < t.length := henc.len ▸ probe_lt k id i
    have hb := henc.bound t[probe k id i] (List.getElem_mem hp)
    have h1 : readAt e 8 ix.hashIds (probe k id i * 8) = some (slotId t (probe k id i)) := by
      rw [henc.ids, encIds, readAt_chunks e 8 (·.1) t _ hp hb.1, slotId, slot_eq_getElem t _ hp]
    have h2 : readAt e 4 ix.hashRows (probe k id i * 4) = some (slot t (probe k id i)).2 := by
      rw [henc.rows, encRows, readAt_chunks e 4 (·.2) t _ hp hb.2, slot_eq_getElem t _ hp]
    rw [findLoop, lookupFrom, h1]
    dsimp only
    by_cases hid : slotId t (probe k id i) = id
    · rw [if_pos hid, if_pos hid]
      exact h2
    · rw [if_neg hid, if_neg hid]
      by_cases h0 : slotId t (probe k id i) = 0
      · rw [if_pos h0, if_pos h0]
      · rw [if_neg h0, if_neg h0, probe_step]
        exact ih (i + 1)

theorem find_zero (e : Endian) (ix : UnitIndex) : find e ix 0 = none := by
  rw [find, findN, if_pos (Or.inr rfl)]

theorem find_eq_lookup (e : Endian) (k : Nat) (t : Table) (ix : UnitIndex)
    (henc : Encodes e k t ix) (id : Nat) (hid : id ≠ 0) : find e ix id = lookup k id t := by
  have hpos : 0 < 2 ^ k := Nat.pow_pos (by decide)
  have h1 : id &&& (2 ^ k - 1) = probe k id 0 := by
    rw [Nat.and_two_pow_sub_one_eq_mod, probe, Nat.zero_mul, Nat.add_zero, Nat.mod_mod]
  have h2 : ((id >>> 32) &&& (2 ^ k - 1)) ||| 1 = stride k id := by
    rw [Nat.and_two_pow_sub_one_eq_mod, Nat.shiftRight_eq_div_pow]; rfl
  rw [find, findN, if_neg (by rw [henc.slots]; omega)]
  dsimp only
  rw [henc.slots, h1, h2]
  exact findLoop_eq_lookupFrom e k t ix henc id (2 ^ k) 0

/-- `find` never probes more than `slot_count` slots -/
theorem findLoop_probes_le (e : Endian) (ix : UnitIndex) (id mask hash2 fuel h1 : Nat) :
    (findLoop e ix id mask hash2 fuel h1).2 ≤ fuel := by
  induction fuel generalizing h1 with
  | zero => exact Nat.le_refl _
  | succ f ih =>
    rw [findLoop]
    split
    · exact Nat.succ_pos _
    · split
      · exact Nat.succ_pos _
      · split
        · exact Nat.succ_pos _
        · exact Nat.succ_le_succ (ih _)

/-! ### `sections(row)` -/

def encRow (e : Endian) (r : List Nat) : Bytes := r.flatMap (toBytes e 4)
/-- a row-major matrix of `u32`s (the `offsets` / `sizes` arrays of the index) -/
def encMatrix (e : Endian) (m : List (List Nat)) : Bytes := m.flatMap (encRow e)

theorem encRow_length (e : Endian) (r : List Nat) : (encRow e r).length = 4 * r.length :=
  flatMap_length_of _ 4 r fun a _ => toBytes_length e 4 a

theorem sectionIter_rows (e : Endian) (ks : List SecKind) (os ss : List Nat) (t1 t2 : Bytes)
    (ho : os.length = ks.length) (hs : ss.length = ks.length)
    (hbo : ∀ v, v ∈ os → v < 2 ^ 32) (hbs : ∀ v, v ∈ ss → v < 2 ^ 32) :
    sectionIter e ks (encRow e os ++ t1) (encRow e ss ++ t2) = ks.zip (os.zip ss) := by
  induction ks generalizing os ss with
  | nil => rfl
  | cons k ks ih =>
    cases os with
    | nil => exact nomatch ho
    | cons o os =>
      cases ss with
      | nil => exact nomatch hs
      | cons s ss =>
        have e1 : ∀ (v : Nat) (vs : List Nat) (t : Bytes),
            encRow e (v :: vs) ++ t = toBytes e 4 v ++ (encRow e vs ++ t) := fun v vs t => by
          rw [encRow, List.flatMap_cons, List.append_assoc]; rfl
        rw [e1, e1, sectionIter, readFixed_toBytes e 4 o _ (hbo o List.mem_cons_self)]
        dsimp only
        rw [readFixed_toBytes e 4 s _ (hbs s List.mem_cons_self)]
        exact congrArg _ (ih os ss (Nat.succ.inj ho) (Nat.succ.inj hs)
          (fun v hv => hbo v (List.mem_cons_of_mem _ hv)) (fun v hv => hbs v (List.mem_cons_of_mem _ hv)))

theorem encMatrix_row (e : Endian) (m : List (List Nat)) (c r : Nat) (hr : r < m.length)
    (hc : ∀ row, row ∈ m → row.length = c) :
    r * c * 4 ≤ (encMatrix e m).length ∧
      (encMatrix e m).drop (r * c * 4) = encRow e m[r] ++ (m.drop (r + 1)).flatMap (encRow e) := by
  have hl : ∀ row, row ∈ m → (encRow e row).length = c * 4 := fun row h => by
    rw [encRow_length, hc row h, Nat.mul_comm]
  rw [Nat.mul_assoc]
  exact ⟨mul_le_flatMap_length _ _ m hl r (Nat.le_of_lt hr), drop_cells _ _ m hl r hr⟩

theorem sections_matrix (e : Endian) (ix : UnitIndex) (offs szs : List (List Nat)) (row : Nat)
    (hk : ix.sections.length = ix.sectionCount)
    (hro : offs.length = ix.unitCount) (hrs : szs.length = ix.unitCount)
    (hco : ∀ r, r ∈ offs → r.length = ix.sectionCount ∧ ∀ v, v ∈ r → v < 2 ^ 32)
    (hcs : ∀ r, r ∈ szs → r.length = ix.sectionCount ∧ ∀ v, v ∈ r → v < 2 ^ 32)
    (hoff : ix.offsets = encMatrix e offs) (hsz : ix.sizes = encMatrix e szs)
    (h1 : 1 ≤ row) (h2 : row ≤ ix.unitCount) :
    sections e ix row =
      .ok (ix.sections.zip ((offs.getD (row - 1) []).zip (szs.getD (row - 1) []))) := by
  have hpo : row - 1 < offs.length := by omega
  have hps : row - 1 < szs.length := by omega
  have ho := hco _ (List.getElem_mem hpo)
  have hs := hcs _ (List.getElem_mem hps)
  obtain ⟨hlo, hdo⟩ := encMatrix_row e offs ix.sectionCount (row - 1) hpo fun r hr => (hco r hr).1
  obtain ⟨hls, hds⟩ := encMatrix_row e szs ix.sectionCount (row - 1) hps fun r hr => (hcs r hr).1
  rw [sections, if_neg (by omega)]
  dsimp only
  rw [hoff, hsz, if_neg (Nat.not_lt.mpr hlo), if_neg (Nat.not_lt.mpr hls), hdo, hds,
    List.getD_eq_getElem?_getD, List.getD_eq_getElem?_getD, List.getElem?_eq_getElem hpo,
    List.getElem?_eq_getElem hps]
  have := sectionIter_rows e ix.sections offs[row - 1] szs[row - 1]
    ((offs.drop (row - 1 + 1)).flatMap (encRow e)) ((szs.drop (row - 1 + 1)).flatMap (encRow e))
    (by rw [ho.1, hk]) (by rw [hs.1, hk]) ho.2 hs.2
  exact congrArg _ this

theorem sectionIter_length (e : Endian) (ks : List SecKind) (o s : Bytes) :
    (sectionIter e ks o s).length ≤ ks.length := by
  induction ks generalizing o s with
  | nil => exact Nat.le_refl _
  | cons k ks ih =>
    rw [sectionIter]
    split
    · split
      · exact Nat.succ_le_succ (ih _ _)
      · exact Nat.zero_le _
    · exact Nat.zero_le _

theorem sections_ensures (e : Endian) (ix : UnitIndex) (row : Nat) :
    (sections e ix row).Ensures fun cols => cols.length ≤ ix.sections.length :=
  .ite_cases (fun _ => Out.ensures_err _ _) fun _ => .ite_cases (fun _ => Out.ensures_err _ _) fun _ => .ite_cases (fun _ => Out.ensures_err _ _) fun _ =>
    Out.ensures_ok (sectionIter_length e _ _ _)

/-! ### `UnitIndex::parse` -/

theorem kindOf_normal (v n : Nat) : (kindOf v n).Normal := by
  simp only [kindOf, kindV2, kindV5, apply_ite Out.Normal, Out.normal_ok, Out.normal_err, ite_self]

theorem readKinds_ensures (e : Endian) (version n : Nat) (bs : Bytes) :
    (readKinds e version n bs).Ensures fun p => Took bs p.2 (4 * n) ∧ p.1.length = n := by
  induction n generalizing bs with
  | zero => exact Out.ensures_ok ⟨⟨[], rfl, rfl⟩, rfl⟩
  | succ n ih =>
    rw [readKinds]
    refine (readFixed_ensures e 4 bs).bind ?_
    rintro ⟨s, r1⟩ - t1
    refine (kindOf_normal version s).ensures.bind fun k _ _ => ?_
    refine (ih r1).bind ?_
    rintro ⟨ks, r2⟩ - ⟨t2, l3⟩
    exact .pure ⟨Nat.mul_succ 4 n ▸ Nat.add_comm 4 (4 * n) ▸ t1.trans t2, congrArg (· + 1) l3⟩

theorem parseVersion_ensures (e : Endian) (input : Bytes) :
    (parseVersion e input).Ensures fun p => Took input p.2 4 ∧ (p.1 = 2 ∨ p.1 = 5) := by
  unfold parseVersion
  refine (readFixed_ensures e 4 input).bind ?_
  rintro ⟨v32, rest⟩ - t
  refine .ite_cases (fun _ => .pure ⟨t, Or.inl rfl⟩) fun _ => ?_
  refine (readFixed_ensures e 2 input).bind ?_
  rintro ⟨v16, _⟩ - -
  exact .ite_cases (fun _ => Out.ensures_err _ _) fun h5 => .pure ⟨t, Or.inr (Decidable.of_not_not h5)⟩

/-- Empty input is accepted as the empty index, hence `input ≠ []` in front of the layout. -/
theorem parse_ensures (e : Endian) (input : Bytes) :
    (parse e input).Ensures fun ix =>
      (ix.slotCount = 0 ∨ ((∃ k, ix.slotCount = 2 ^ k) ∧ ix.unitCount < ix.slotCount)) ∧
      (input ≠ [] → ∃ hdr kindsB trailing,
        input = hdr ++ ix.hashIds ++ ix.hashRows ++ kindsB ++ ix.offsets ++ ix.sizes ++ trailing ∧
        hdr.length = 16 ∧ ix.hashIds.length = ix.slotCount * 8 ∧ ix.hashRows.length = ix.slotCount * 4 ∧
        kindsB.length = 4 * ix.sectionCount ∧ ix.sections.length = ix.sectionCount ∧
        ix.sectionCount ≤ 8 ∧ (ix.version = 2 ∨ ix.version = 5) ∧
        ix.offsets.length = ix.unitCount * ix.sectionCount * 4 ∧
        ix.sizes.length = ix.unitCount * ix.sectionCount * 4) := by
  unfold parse
  refine .ite_cases (fun hem => Out.ensures_ok ⟨Or.inl rfl, fun hne => absurd (List.isEmpty_iff.mp hem) hne⟩) fun _ => ?_
  refine (parseVersion_ensures e input).bind ?_
  rintro ⟨version, r0⟩ - ⟨t0, hv⟩
  refine (readFixed_ensures e 4 r0).bind ?_
  rintro ⟨sc, r1⟩ - t1
  refine (readFixed_ensures e 4 r1).bind ?_
  rintro ⟨uc, r2⟩ - t2
  refine (readFixed_ensures e 4 r2).bind ?_
  rintro ⟨slots, r3⟩ - t3
  obtain ⟨hdr, e3, l3⟩ : Took input r3 16 := ((t0.trans t1).trans t2).trans t3
  refine .ite_cases (fun _ => Out.ensures_err _ _) fun hcheck => ?_
  refine (take_ensures _ r3).bind ?_
  rintro ⟨ids, r4⟩ - ⟨e4, l4⟩
  refine (take_ensures _ r4).bind ?_
  rintro ⟨rows, r5⟩ - ⟨e5, l5⟩
  refine .ite_cases (fun _ => Out.ensures_err _ _) fun hsc => ?_
  refine (readKinds_ensures e version sc r5).bind ?_
  rintro ⟨kinds, r6⟩ - ⟨⟨a6, e6, l6⟩, l6'⟩
  refine (take_ensures _ r6).bind ?_
  rintro ⟨offs, r7⟩ - ⟨e7, l7⟩
  refine (take_ensures _ r7).bind ?_
  rintro ⟨szs, r8⟩ - ⟨e8, l8⟩
  refine .pure ⟨?_, fun _ => ?_⟩
  · by_cases hz : slots = 0
    · exact Or.inl hz
    · -- the test passed with `slots ≠ 0`, so both of its other clauses failed
      have h1 : slots &&& (slots - 1) = 0 := Decidable.by_contra fun h => hcheck ⟨hz, Or.inl h⟩
      have h2 : uc < slots := Nat.lt_of_not_le fun h => hcheck ⟨hz, Or.inr h⟩
      exact Or.inr ⟨(Nat.and_sub_one_eq_zero_iff_isPowerOfTwo hz).mp h1, h2⟩
  · dsimp only at e4 e5 e7 e8
    subst e8 e7 e6 e5 e4 e3
    exact ⟨hdr, a6, r8, by simp only [List.append_assoc], l3, l4, l5, l6, l6', Nat.not_lt.mp hsc, hv, l7, l8⟩

theorem encIds_length (e : Endian) (t : Table) : (encIds e t).length = 8 * t.length :=
  flatMap_length_of _ 8 t fun a _ => toBytes_length e 8 a.1
theorem encRows_length (e : Endian) (t : Table) : (encRows e t).length = 4 * t.length :=
  flatMap_length_of _ 4 t fun a _ => toBytes_length e 4 a.2

theorem encodes_of_parse (e : Endian) (input : Bytes) (ix : UnitIndex) (hp : parse e input = .ok ix)
    (k : Nat) (t : Table) (hlen : t.length = 2 ^ k) (hslots : ix.slotCount = 2 ^ k)
    (hb : ∀ kv, kv ∈ t → kv.1 < 2 ^ 64 ∧ kv.2 < 2 ^ 32)
    (hdr tail : Bytes) (hhdr : hdr.length = 16)
    (hin : input = hdr ++ encIds e t ++ encRows e t ++ tail) : Encodes e k t ix := by
  have hne : input ≠ [] := fun h0 => by
    have := congrArg List.length (h0 ▸ hin)
    simp only [List.length_append, hhdr, List.length_nil] at this
    omega
  obtain ⟨hdr', kindsB, trailing, hlay, hl16, hlids, hlrows, _⟩ := ((parse_ensures e input).2 ix hp).2 hne
  rw [hin] at hlay
  simp only [List.append_assoc] at hlay
  obtain ⟨_, h1⟩ := List.append_inj hlay (by rw [hhdr, hl16])
  obtain ⟨hids, h2⟩ := List.append_inj h1 (by rw [encIds_length, hlids, hslots, hlen, Nat.mul_comm])
  obtain ⟨hrows, _⟩ := List.append_inj h2 (by rw [encRows_length, hlrows, hslots, hlen, Nat.mul_comm])
  exact ⟨hslots, hlen, hids.symm, hrows.symm, hb⟩
end Gimli.Index
