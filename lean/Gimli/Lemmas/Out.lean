import Gimli.Prim.Basic
/-!
# The outcome monad: how `>>=` interacts with `= .ok _` and with `Normal`

Every proof about a modelled function walks through a chain of binds; these are the steps.
-/
namespace Gimli.Out
variable {α β γ : Type}

theorem bind_assoc (x : Out α) (f : α → Out β) (g : β → Out γ) :
    (x >>= f) >>= g = x >>= fun a => f a >>= g := by cases x <;> rfl

theorem bind_ok_id (x : Out α) : (x >>= fun a => .ok a) = x := by cases x <;> rfl

theorem bind_congr (x : Out α) {f g : α → Out β} (h : ∀ a, f a = g a) : (x >>= f) = (x >>= g) := by
  cases x <;> simp [h]

theorem bind_eq_ok_iff {x : Out α} {f : α → Out β} {b : β} :
    (x >>= f) = .ok b ↔ ∃ a, x = .ok a ∧ f a = .ok b := by
  cases x <;> simp

theorem bind_eq_ok {x : Out α} {f : α → Out β} {b : β} (h : (x >>= f) = .ok b) :
    ∃ a, x = .ok a ∧ f a = .ok b := bind_eq_ok_iff.mp h

theorem bind_eq_err_iff {x : Out α} {f : α → Out β} {e : Err} (hf : ∀ a, f a ≠ .err e) :
    (x >>= f) = .err e ↔ x = .err e := by
  cases x <;> simp [hf]

@[simp] theorem normal_ok (a : α) : (ok a).Normal := trivial
@[simp] theorem normal_err (e : Err) : (err e : Out α).Normal := trivial
@[simp] theorem not_normal_panic (w : String) : ¬ (panic w : Out α).Normal := id
@[simp] theorem not_normal_diverge : ¬ (diverge : Out α).Normal := id

theorem Normal.ne_panic {o : Out α} (h : o.Normal) (w : String) : o ≠ .panic w :=
  fun e => not_normal_panic w (e ▸ h)

theorem Normal.bind {x : Out α} {f : α → Out β} (hx : x.Normal) (hf : ∀ a, x = .ok a → (f a).Normal) :
    (x >>= f).Normal := by
  cases x with
  | ok a => exact hf a rfl
  | err e => trivial
  | panic w => exact hx
  | diverge => exact hx

theorem normal_bind_iff {x : Out α} {f : α → Out β} :
    (x >>= f).Normal ↔ x.Normal ∧ ∀ a, x = .ok a → (f a).Normal := by
  cases x <;> simp [Out.Normal]

theorem Normal.ok_or_err {x : Out α} (h : x.Normal) : (∃ a, x = .ok a) ∨ ∃ e, x = .err e := by
  cases x with
  | ok a => exact .inl ⟨a, rfl⟩
  | err e => exact .inr ⟨e, rfl⟩
  | panic w => exact h.elim
  | diverge => exact h.elim

theorem Normal.ite {c : Prop} [Decidable c] {a b : Out α} (ha : a.Normal) (hb : b.Normal) :
    (if c then a else b).Normal := by
  split <;> assumption

theorem ite_eq_ok {c : Prop} [Decidable c] {a b : Out α} {v : α} (h : (if c then a else b) = .ok v) :
    a = .ok v ∨ b = .ok v := by
  split at h
  · exact .inl h
  · exact .inr h

theorem Normal.ite_cases {c : Prop} [Decidable c] {x y : Out α} (hx : c → x.Normal) (hy : ¬ c → y.Normal) :
    (if c then x else y).Normal := by
  split
  · exact hx ‹_›
  · exact hy ‹_›

/-- the `if bad { return Err(e) }` checks between two reads -/
theorem ite_err_eq_ok {c : Prop} [Decidable c] {e : Err} {x : Out α} {a : α}
    (h : (if c then .err e else x) = .ok a) : ¬ c ∧ x = .ok a := by
  split at h
  · cases h
  · exact ⟨‹_›, h⟩

theorem ite_err_bind {c : Prop} [Decidable c] (e : Err) (x : Out α) (f : α → Out β) :
    ((if c then .err e else x) >>= f) = if c then .err e else x >>= f := by
  split <;> rfl

theorem Normal.map {x : Out α} (g : α → β) (hx : x.Normal) : (x.map g).Normal := by
  cases x <;> exact hx

@[simp] theorem map_ok (g : α → β) (a : α) : (ok a).map g = ok (g a) := rfl

theorem map_eq_bind (x : Out α) (g : α → β) : x.map g = x >>= fun a => .ok (g a) := by cases x <;> rfl

theorem map_bind (x : Out α) (f : α → Out β) (g : β → γ) : (x >>= f).map g = x >>= fun a => (f a).map g := by
  cases x <;> rfl

/-! ### `Ensures`: Normal, and a postcondition on the value

Totality and "what the value satisfies" walk the same binds; `Ensures` lets one walk do both. -/

def Ensures (x : Out α) (P : α → Prop) : Prop := x.Normal ∧ ∀ a, x = .ok a → P a

theorem ensures_ok {a : α} {P : α → Prop} (h : P a) : (ok a).Ensures P :=
  ⟨trivial, fun _ e => by cases e; exact h⟩

theorem ensures_err (e : Err) (P : α → Prop) : (err e).Ensures P :=
  ⟨trivial, fun _ h => by cases h⟩

theorem Normal.ensures {x : Out α} (h : x.Normal) : x.Ensures fun _ => True :=
  ⟨h, fun _ _ => trivial⟩

theorem Ensures.bind {x : Out α} {f : α → Out β} {P : α → Prop} {Q : β → Prop} (hx : x.Ensures P)
    (hf : ∀ a, x = .ok a → P a → (f a).Ensures Q) : (x >>= f).Ensures Q := by
  cases x with
  | ok a => exact hf a rfl (hx.2 a rfl)
  | err e => exact ensures_err e Q
  | panic w => exact hx.1.elim
  | diverge => exact hx.1.elim

/-- a step whose value the postcondition does not depend on -/
theorem Normal.andThen {x : Out α} {f : α → Out β} {Q : β → Prop} (hx : x.Normal)
    (hf : ∀ a, (f a).Ensures Q) : (x >>= f).Ensures Q :=
  hx.ensures.bind fun a _ _ => hf a

theorem Ensures.bind_rest {ρ : Type} {x : Out (α × ρ)} {g : α × ρ → Out β} {P : α × ρ → Prop} {Q : β → Prop}
    (hx : x.Ensures P) (hg : ∀ a rest, P (a, rest) → (g (a, rest)).Ensures Q) : (x >>= g).Ensures Q :=
  hx.bind fun (a, rest) _ h => hg a rest h

theorem Ensures.bind_normal {x : Out α} {f : α → Out β} {P : α → Prop} (hx : x.Ensures P)
    (hf : ∀ a, x = .ok a → P a → (f a).Normal) : (x >>= f).Normal :=
  hx.1.bind fun a h => hf a h (hx.2 a h)

/-- the case rule, for a caller that does something of its own on `Err` -/
theorem Ensures.ok_or_err {x : Out α} {P : α → Prop} (h : x.Ensures P) : (∃ a, x = .ok a ∧ P a) ∨ ∃ e, x = .err e :=
  h.1.ok_or_err.imp_left fun ⟨a, ha⟩ => ⟨a, ha, h.2 a ha⟩

theorem Ensures.ite_cases {c : Prop} [Decidable c] {x y : Out α} {P : α → Prop} (hx : c → x.Ensures P)
    (hy : ¬ c → y.Ensures P) : (if c then x else y).Ensures P := by
  split
  · exact hx ‹_›
  · exact hy ‹_›

/-- `ensures_ok` for a `do` block that ends in `pure` -/
theorem Ensures.pure {a : α} {P : α → Prop} (h : P a) : (Pure.pure a : Out α).Ensures P := ensures_ok h

theorem Ensures.mono {x : Out α} {P P' : α → Prop} (hx : x.Ensures P) (h : ∀ a, P a → P' a) : x.Ensures P' :=
  ⟨hx.1, fun a ha => h a (hx.2 a ha)⟩

/-! ### `All`: a postcondition on the value alone, whether or not `x` returns normally -/

def All (P : α → Prop) (x : Out α) : Prop := ∀ a, x = .ok a → P a

theorem All.ok {P : α → Prop} {a : α} (h : P a) : (ok a).All P := fun _ e => Out.ok.inj e ▸ h

theorem All.err {P : α → Prop} (e : Err) : (err e).All P := fun _ h => nomatch h

theorem All.panic {P : α → Prop} (w : String) : (panic w).All P := fun _ h => nomatch h

theorem All.bind {P : α → Prop} {Q : β → Prop} {x : Out α} {f : α → Out β} (hx : x.All P)
    (hf : ∀ a, P a → (f a).All Q) : (x >>= f).All Q := fun b h => by
  obtain ⟨a, ha, hb⟩ := Out.bind_eq_ok h
  exact hf a (hx a ha) b hb

theorem All.bind_any {Q : β → Prop} (x : Out α) {f : α → Out β} (hf : ∀ a, (f a).All Q) : (x >>= f).All Q :=
  All.bind (P := fun _ => True) (fun _ _ => trivial) (fun a _ => hf a)

theorem All.bind_congr {x : Out α} {P : α → Prop} {f g : α → Out β} (hx : x.All P)
    (h : ∀ a, P a → f a = g a) : (x >>= f) = (x >>= g) := by
  cases x with
  | ok a => exact h a (hx a rfl)
  | _ => rfl

end Gimli.Out

/-! ### the same steps for `Except`, which the conversion layer returns -/
namespace Except
universe u v
variable {ε : Type u} {α β : Type v}

theorem bind_eq_ok_iff {x : Except ε α} {f : α → Except ε β} {b : β} :
    (x >>= f) = .ok b ↔ ∃ a, x = .ok a ∧ f a = .ok b := by
  cases x <;> simp [bind, Except.bind]

theorem bind_eq_ok {x : Except ε α} {f : α → Except ε β} {b : β} (h : (x >>= f) = .ok b) :
    ∃ a, x = .ok a ∧ f a = .ok b := bind_eq_ok_iff.mp h

theorem bind_eq_error {x : Except ε α} {f : α → Except ε β} {e : ε} (h : (x >>= f) = .error e) :
    x = .error e ∨ ∃ a, x = .ok a ∧ f a = .error e := by
  cases x with
  | error e' => exact .inl (by cases h; rfl)
  | ok a => exact .inr ⟨a, rfl, h⟩

end Except
