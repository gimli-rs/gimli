import Gimli.Spec.ConvOp
import Gimli.Lemmas.ConvOp
import Gimli.Lemmas.OpSuffix
/-!
# C12 expression component: what C07's decoder yields

Every operand is in the range of its Rust type (`RWf`), the bytes of a decoded `entry_value` are
shorter than the input (so the recursion of `Expression::from` is bounded by the length as well as by
the depth limit), end offsets increase. The per-opcode part (`parseOperands_post`) is C07's walk through
the Spec decode (`specOperands_reads`). `convertNested_wf` hands the first fact to `convertList_wf`:
what `Expression::from` returns is in the writer's ranges at every nesting level.
-/
namespace Gimli.ConvOp
open Gimli.Op (Encoding)

theorem parseOperands_post (e : Endian) (enc : Encoding) (opc : Nat) (rest : Bytes) :
    (Op.parseOperands e enc opc rest).All fun p => RWf enc p.1 ∧ ∀ x, p.1 = .entryValue x → x.length ≤ rest.length :=
  fun p h => ((specOperands_reads e enc opc rest).2 p (parseOperands_eq_spec e enc rest opc ▸ h)).1.2

theorem parse_post (e : Endian) (enc : Encoding) (bs : Bytes) (op : Op.Operation) (rest : Bytes)
    (h : Op.parse e enc bs = .ok (op, rest)) : RWf enc op ∧ ∀ x, op = .entryValue x → x.length < bs.length := by
  cases bs with
  | nil => cases h
  | cons b tl =>
    have hd := parseOperands_post e enc b.toNat tl (op, rest) h
    exact ⟨hd.1, fun x hx => Nat.lt_succ_of_le (hd.2 x hx)⟩

theorem iterAll_mem (e : Endian) (enc : Encoding) (len : Nat) (fuel : Nat) (input : Bytes)
    (p : Op.Operation × Nat) (hp : p ∈ (Op.iterAll e enc len fuel input).1) :
    ∃ sfx rest, sfx.length ≤ input.length ∧ Op.parse e enc sfx = .ok (p.1, rest) := by
  induction fuel generalizing input with
  | zero => simp [Op.iterAll] at hp
  | succ fuel ih =>
    cases input with
    | nil => simp [Op.iterAll] at hp
    | cons b tl =>
      rcases Op.iterAll_cons e enc len fuel b tl with ⟨op, rest, hpar, hprog, heq⟩ | ⟨er, heq⟩ <;> rw [heq] at hp
      · rcases List.mem_cons.mp hp with rfl | hp
        · exact ⟨_, rest, Nat.le_refl _, hpar⟩
        · obtain ⟨sfx, r, hl, h⟩ := ih rest hp
          exact ⟨sfx, r, by omega, h⟩
      · cases hp

theorem convertNested_wf (env : Env) (henv : EnvRanges env) (e : Endian) (enc : Encoding) (left : Nat)
    (bs : Bytes) (ws : List WOp.Operation) (h : convertNested env e enc left bs = .ok ws) :
    ∀ w ∈ ws, WOp.OpWf w := by
  obtain ⟨ins, hI, h⟩ := convertNested_ok h
  refine convertList_wf env henv enc _ _ ins (fun p hp => ?_) ws h
  obtain ⟨sfx, rest, -, hpar⟩ := iterAll_mem e enc bs.length (bs.length + 1) bs p (hI ▸ hp)
  exact (parse_post e enc sfx p.1 rest hpar).1

/-- ends reported by `OperationIter` are strictly increasing, above the start, and the last one is
the end of the input -/
theorem iterAll_ends (e : Endian) (enc : Encoding) (len : Nat) (fuel : Nat) (input : Bytes)
    (ops : List (Op.Operation × Nat)) (hl : input.length ≤ len) (hf : input.length < fuel)
    (h : Op.iterAll e enc len fuel input = (ops, none)) :
    (ops.map (·.2)).Pairwise (· < ·) ∧ (∀ p ∈ ops, len - input.length < p.2 ∧ p.2 ≤ len) ∧
      (ops ≠ [] → (ops.map (·.2)).getLast? = some len) ∧ (ops = [] → input = []) := by
  induction fuel generalizing input ops with
  | zero => omega
  | succ fuel ih =>
    cases input with
    | nil =>
      simp only [Op.iterAll, Prod.mk.injEq] at h
      rw [← h.1]; simp
    | cons b tl =>
      rcases Op.iterAll_cons e enc len fuel b tl with ⟨op, rest, -, hprog, heq⟩ | ⟨er, heq⟩ <;> rw [heq] at h
      · rcases hr : Op.iterAll e enc len fuel rest with ⟨ops', er'⟩
        rw [hr] at h
        cases h
        simp only [List.length_cons] at hl hf hprog
        obtain ⟨i1, i2, i3, i4⟩ := ih rest ops' (by omega) (by omega) hr
        refine ⟨?_, ?_, ?_, by simp⟩
        · simp only [List.map_cons, List.pairwise_cons]
          refine ⟨?_, i1⟩
          intro x hx
          simp only [List.mem_map] at hx
          obtain ⟨p, hp', rfl⟩ := hx
          have := (i2 p hp').1
          omega
        · intro p hp'
          simp only [List.mem_cons] at hp'
          rcases hp' with rfl | hp'
          · simp only [List.length_cons]; omega
          · have := i2 p hp'
            simp only [List.length_cons]; omega
        · intro _
          cases ops' with
          | nil =>
            have := i4 rfl
            simp [this]
          | cons q qs =>
            have := i3 (by simp)
            simpa [List.getLast?_cons_cons] using this
      · cases h
end Gimli.ConvOp
