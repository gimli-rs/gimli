import Gimli.Lemmas.WLists.Expr
/-! One entry and one list of the list writer (C16).

What lies below the entry (integers, addresses, expressions, counted descriptions) is in `WLists/Expr.lean`.

The entry: in DWARF 5 the bytes written are the Spec encoding of the entry as built
(`writeEntryCoded_enc`). For DWARF ≤ 4, `writeEntryBare_ok` inverts acceptance kind by kind — an
accepted entry is a base-address selection or a `BarePair` — and the encoding (`writeEntryBare_enc`)
and the two leading words (`writeEntryBare_words`) are read off it. The three kinds of pairs go through
one check, `writePairBare`: its inversion, its two errors (C16's rejection theorems) and its
normality are stated once. -/
namespace Gimli.WLists
open Gimli Gimli.Ints Gimli.Lists Gimli.Spec.Lists Gimli.Spec.WLists

-- `U64…` (operands fit the `u64` of the Rust types), `OnesBegin`, `NoSymbol`: vocabulary of the statements of Props/C16.
-- No proof consumes `U64EOff` or the `U64Op` clauses of `U64Entry`: the lemmas hand them on.
def U64Addr : Addr → Prop
  | .const v => v < 2 ^ 64
  | .symbol _ _ => True

def U64Op : XOp → Prop
  | .constu v => v < 2 ^ 64
  | .addr a => U64Addr a
  | _ => True

def U64Entry : WEntry → Prop
  | .baseAddress a => U64Addr a
  | .offsetPair b e x => b < 2 ^ 64 ∧ e < 2 ^ 64 ∧ ∀ op ∈ x, U64Op op
  | .startEnd b e x => U64Addr b ∧ U64Addr e ∧ ∀ op ∈ x, U64Op op
  | .startLength b len x => U64Addr b ∧ len < 2 ^ 64 ∧ ∀ op ∈ x, U64Op op
  | .defaultLocation x => ∀ op ∈ x, U64Op op

def U64EOff (eo : EOff) : Prop := ∀ i o, eo i = some o → o < 2 ^ 64

instance (a : Addr) : Decidable (U64Addr a) := by unfold U64Addr; cases a <;> infer_instance
instance (o : XOp) : Decidable (U64Op o) := by unfold U64Op; cases o <;> infer_instance
instance (x : WEntry) : Decidable (U64Entry x) := by unfold U64Entry; cases x <;> infer_instance

variable {m : Mode} {mk : Nat} {k : Kind} {c : Cfg} {eo : EOff} {uoff : Nat}

def exprOf : WEntry → WExpr
  | .baseAddress _ => []
  | .offsetPair _ _ x => x
  | .startEnd _ _ x => x
  | .startLength _ _ x => x
  | .defaultLocation x => x

/-- What the Rust types and a 64-bit machine guarantee about an entry: it is of the list's family,
its numeric fields are `u64`s, its encoded expression is shorter than 2^64 bytes. -/
def Machine (k : Kind) (c : Cfg) (eo : EOff) (uoff : Nat) (x : WEntry) : Prop :=
  EntryOfKind k x ∧ U64Entry x ∧ (exprBytes c eo uoff (exprOf x)).length < 2 ^ 64

instance (k : Kind) (c : Cfg) (eo : EOff) (uoff : Nat) (x : WEntry) : Decidable (Machine k c eo uoff x) := by
  unfold Machine; infer_instance

theorem writeEntryCoded_enc {x : WEntry} {bs : Bytes}
    (h : writeEntryCoded k c eo uoff x = .ok bs) (hm : Machine k c eo uoff x) (hv : c.version ≥ 5) :
    bs = encodeEntry k c .coded (asBuilt (dataBytes k c eo uoff) x) ∧
      WfEntry k c .coded (asBuilt (dataBytes k c eo uoff) x) := by
  obtain ⟨hk, hu, hl⟩ := hm
  have D := fun {x : WExpr} {d : Bytes} (hd : writeData k c eo uoff x = .ok d) hl =>
    writeData_enc (x := x) .coded hd (.inl ⟨rfl, hv⟩) hl
  cases x with
  | baseAddress a =>
    obtain ⟨b, h1, h⟩ := Out.bind_eq_ok h
    obtain ⟨_, v, rfl, rfl, hfit⟩ := writeAddress_ok h1
    cases h
    exact ⟨by cases k <;> rfl, hfit hu⟩
  | offsetPair b e x =>
    obtain ⟨d, h1, h⟩ := Out.bind_eq_ok h
    obtain ⟨rfl, hwf⟩ := D h1 hl
    cases h
    exact ⟨by cases k <;> rfl, hu.1, hu.2.1, hwf⟩
  | startEnd b e x =>
    obtain ⟨bs', h0, h⟩ := Out.bind_eq_ok h
    obtain ⟨_, vb, ve, d, rfl, rfl, fb, fe, h1, rfl⟩ := writeAddrPair_ok h0
    obtain ⟨rfl, hwf⟩ := D h1 hl
    cases h
    exact ⟨by cases k <;> rfl, fb hu.1, fe hu.2.1, hwf⟩
  | startLength b len x =>
    obtain ⟨b1, h0, h⟩ := Out.bind_eq_ok h
    obtain ⟨d, h1, h⟩ := Out.bind_eq_ok h
    obtain ⟨_, vb, rfl, rfl, fb⟩ := writeAddress_ok h0
    obtain ⟨rfl, hwf⟩ := D h1 hl
    cases h
    exact ⟨by cases k <;> rfl, fb hu.1, hu.2.1, hwf⟩
  | defaultLocation x =>
    obtain ⟨d, h1, h⟩ := Out.bind_eq_ok h
    obtain ⟨rfl, hwf⟩ := D h1 hl
    cases h
    cases k with
    | rng => exact hk.elim
    | loc => exact ⟨rfl, rfl, hwf⟩

theorem writeEntriesCoded_enc (he : U64EOff eo)
    (hv : c.version ≥ 5) : ∀ (l : WList) (bs : Bytes), writeEntriesCoded k c eo uoff l = .ok bs →
      (∀ x ∈ l, Machine k c eo uoff x) →
      bs = encodeList k c .coded (l.map (asBuilt (dataBytes k c eo uoff))) ∧
        ∀ y ∈ l.map (asBuilt (dataBytes k c eo uoff)), WfEntry k c .coded y
  | [], bs, h, _ => by cases h; exact ⟨rfl, fun _ hy => nomatch hy⟩
  | x :: xs, bs, h, hm => by
    obtain ⟨b1, h1, h⟩ := Out.bind_eq_ok h
    obtain ⟨b2, h2, h⟩ := Out.bind_eq_ok h
    cases h
    obtain ⟨rfl, w1⟩ := writeEntryCoded_enc h1 (hm x (List.mem_cons_self ..)) hv
    obtain ⟨rfl, w2⟩ := writeEntriesCoded_enc he hv xs b2 h2 fun y hy => hm y (List.mem_cons_of_mem _ hy)
    exact ⟨rfl, List.forall_mem_cons.mpr ⟨w1, w2⟩⟩

/-- the entry's first word in the DWARF ≤ 4 encoding is the all-ones base-address marker -/
def OnesBegin (c : Cfg) : WEntry → Prop
  | .offsetPair b _ _ => b = addrMod c.addrSize - 1
  | .startEnd b _ _ => b = .const (addrMod c.addrSize - 1)
  | .startLength b _ _ => b = .const (addrMod c.addrSize - 1)
  | _ => False

instance (c : Cfg) (x : WEntry) : Decidable (OnesBegin c x) := by
  unfold OnesBegin; cases x <;> infer_instance

/-- the DWARF ≤ 4 entry (address-or-offset pair / base address selection) an accepted entry is
emitted as -/
def toBare (enc : WExpr → Bytes) : WEntry → Entry
  | .baseAddress a => .baseAddress (addrVal a)
  | .offsetPair b e x => .pair b e (enc x)
  | .startEnd b e x => .pair (addrVal b) (addrVal e) (enc x)
  | .startLength b len x => .pair (addrVal b) (addrVal b + len) (enc x)
  | .defaultLocation _ => .pair 0 0 []

theorem marker_valid {s mk : Nat} (h : marker m s = .ok mk) (hs : ValidSize s) :
    mk = addrMod s - 1 := by
  unfold marker at h
  rw [if_pos (validSize_bounds hs)] at h
  cases h; rfl

/-- An address pair `(w1, w2)` with location description `x` that `write_ranges` / `write_loc`
accepted and emitted as `bs`: not empty, not starting with the marker `mk`, both words — `u64`s in
the Rust code — of the address size. -/
structure BarePair (mk : Nat) (k : Kind) (c : Cfg) (eo : EOff) (uoff : Nat) (w1 w2 : Nat) (x : WExpr)
    (bs : Bytes) : Prop where
  ne : w1 ≠ w2
  notMarker : w1 ≠ mk
  lt1 : w1 < 2 ^ 64 → w1 < addrMod c.addrSize
  lt2 : w2 < 2 ^ 64 → w2 < addrMod c.addrSize
  data : ∃ d, writeData k c eo uoff x = .ok d ∧ bs = encAddr c w1 ++ encAddr c w2 ++ d

/-- Two checks in front of a computation that fails with neither of their errors: each error is
returned exactly when its check is the first to fire. -/
theorem checks_err {α : Type} {P Q : Prop} [Decidable P] [Decidable Q] {e1 e2 : Err} {t : Out α}
    (hne : e1 ≠ e2) (h1 : t ≠ .err e1) (h2 : t ≠ .err e2) :
    ((if P then .err e1 else if Q then .err e2 else t) = .err e1 ↔ P) ∧
    ((if P then .err e1 else if Q then .err e2 else t) = .err e2 ↔ ¬ P ∧ Q) := by
  by_cases hP : P
  · rw [if_pos hP]
    exact ⟨⟨fun _ => hP, fun _ => rfl⟩, fun h => absurd (Out.err.inj h) hne, fun h => absurd hP h.1⟩
  · rw [if_neg hP]
    by_cases hQ : Q
    · rw [if_pos hQ]
      exact ⟨⟨fun h => absurd (Out.err.inj h).symm hne, fun h => absurd h hP⟩, fun _ => ⟨hP, hQ⟩, fun _ => rfl⟩
    · rw [if_neg hQ]
      exact ⟨⟨fun h => absurd h h1, fun h => absurd h hP⟩, fun h => absurd h h2, fun h => absurd h.2 hQ⟩

/-- What `write_ranges` / `write_loc` do with each of the three kinds of pairs, once begin and end
are addresses (`StartEnd` with `need = false`: by `rfl`; `StartLength` after `endOf`: `writeEntryBare_startLength`; `OffsetPair`:
`writeEntryBare_offsetPair`): reject an empty pair and a begin equal to the marker, reject a
`have_base_address` state other than the one the kind needs (`need`), write the pair. -/
def writePairBare (mk : Nat) (k : Kind) (c : Cfg) (eo : EOff) (uoff : Nat) (hb need : Bool)
    (b e : Addr) (x : WExpr) : Out (Bytes × Bool) :=
  if b = e ∨ b = .const mk then .err .wInvalidRange
  else if hb = !need then .err (if need then .wMissingBaseAddress else .wUnexpectedBaseAddress)
  else do
    let bs ← writeAddrPair k c eo uoff b e x
    pure (bs, hb)

theorem writeEntryBare_offsetPair (hb : Bool) (b e : Nat) (x : WExpr) :
    writeEntryBare mk k c eo uoff hb (.offsetPair b e x) =
      writePairBare mk k c eo uoff hb true (.const b) (.const e) x := by
  simp only [writeEntryBare, writePairBare, writeAddrPair, writeAddress, Out.bind_assoc, Out.bind_ok,
    Out.pure_eq, Addr.const.injEq, Bool.not_true, if_true]

theorem writeEntryBare_startLength (hb : Bool) (b : Addr) (len : Nat) (x : WExpr) :
    writeEntryBare mk k c eo uoff hb (.startLength b len x) =
      (endOf b len >>= fun e => writePairBare mk k c eo uoff hb false b e x) :=
  rfl

theorem writePairBare_ok {hb need hb' : Bool} {b e : Addr} {x : WExpr} {bs : Bytes}
    (h : writePairBare mk k c eo uoff hb need b e x = .ok (bs, hb')) :
    ValidSize c.addrSize ∧ hb = need ∧ hb' = need ∧
      ∃ vb ve, b = .const vb ∧ e = .const ve ∧ BarePair mk k c eo uoff vb ve x bs := by
  obtain ⟨hne, h⟩ := Out.ite_err_eq_ok h
  obtain ⟨hhb, h⟩ := Out.ite_err_eq_ok h
  obtain ⟨bs', h0, h⟩ := Out.bind_eq_ok h
  cases h
  obtain ⟨hs, vb, ve, d, rfl, rfl, fb, fe, hd, rfl⟩ := writeAddrPair_ok h0
  have hhb : hb = need := by cases hb <;> cases need <;> first | rfl | exact absurd rfl hhb
  exact ⟨hs, hhb, hhb, vb, ve, rfl, rfl, fun h => hne (.inl (by rw [h])), fun h => hne (.inr (by rw [h])),
    fb, fe, d, hd, rfl⟩

theorem writePairBare_err (hb need : Bool) (b e : Addr) (x : WExpr) :
    (writePairBare mk k c eo uoff hb need b e x = .err .wInvalidRange ↔ (b = e ∨ b = .const mk)) ∧
    (writePairBare mk k c eo uoff hb need b e x =
        .err (if need then .wMissingBaseAddress else .wUnexpectedBaseAddress) ↔
      ¬ (b = e ∨ b = .const mk) ∧ hb = !need) := by
  -- writing the pair never returns one of the three errors
  have tail : Clean (do
      let bs ← writeAddrPair k c eo uoff b e x
      pure (bs, hb) : Out (Bytes × Bool)) := (writeAddrPair_clean k c eo uoff b e x).bind fun _ => trivial
  exact checks_err (by cases need <;> exact nofun)
    (fun h => tail.not_listErr h (by decide)) (fun h => tail.not_listErr h (by cases need <;> decide))

theorem writePairBare_normal (hb need : Bool) (b e : Addr) (x : WExpr) :
    (writePairBare mk k c eo uoff hb need b e x).Normal :=
  Out.Normal.ite trivial (Out.Normal.ite trivial
    ((writeAddrPair_clean k c eo uoff b e x).normal.bind fun _ _ => trivial))

/-- What it takes for `write_ranges` / `write_loc` to accept an entry, kind by kind: the
`have_base_address` state is the one the kind needs, the addresses are constants, and the pair of
words written is a `BarePair` (for `StartLength`: begin and the exact sum `begin + length`). -/
theorem writeEntryBare_ok
    {hb hb' : Bool} {x : WEntry} {bs : Bytes} (h : writeEntryBare mk k c eo uoff hb x = .ok (bs, hb')) :
    ValidSize c.addrSize ∧
    match (generalizing := false) x with
    | .baseAddress a => hb' = true ∧ ∃ v, a = .const v ∧ (v < 2 ^ 64 → v < addrMod c.addrSize) ∧
        bs = encAddr c mk ++ encAddr c v
    | .offsetPair b e x => hb = true ∧ hb' = true ∧ BarePair mk k c eo uoff b e x bs
    | .startEnd b e x => hb = false ∧ hb' = false ∧
        ∃ vb ve, b = .const vb ∧ e = .const ve ∧ BarePair mk k c eo uoff vb ve x bs
    | .startLength b len x => hb = false ∧ hb' = false ∧
        ∃ vb, b = .const vb ∧ vb + len < 2 ^ 64 ∧ BarePair mk k c eo uoff vb (vb + len) x bs
    | .defaultLocation _ => False := by
  cases x with
  | baseAddress a =>
    obtain ⟨b1, h1, h⟩ := Out.bind_eq_ok h
    obtain ⟨b2, h2, h⟩ := Out.bind_eq_ok h
    have hs : ValidSize _ := writeUdata_size h1
    obtain rfl := (writeUdata_ok h1).1
    obtain ⟨_, v, rfl, rfl, hfit⟩ := writeAddress_ok h2
    cases h
    exact ⟨hs, rfl, v, rfl, hfit, rfl⟩
  | offsetPair b e x =>
    rw [writeEntryBare_offsetPair] at h
    obtain ⟨hs, h1, h2, vb, ve, hvb, hve, p⟩ := writePairBare_ok h
    cases hvb; cases hve
    exact ⟨hs, h1, h2, p⟩
  | startEnd b e x => exact writePairBare_ok h
  | startLength b len x =>
    rw [writeEntryBare_startLength] at h
    obtain ⟨e, h00, h⟩ := Out.bind_eq_ok h
    obtain ⟨hs, h1, h2, vb, ve, rfl, rfl, p⟩ := writePairBare_ok h
    have hsum : vb + len < 2 ^ 64 ∧ ve = vb + len := by
      by_cases hlt : vb + len < 2 ^ 64
      · rw [endOf, if_pos hlt] at h00; cases h00; exact ⟨hlt, rfl⟩
      · rw [endOf, if_neg hlt] at h00; cases h00
    cases hsum.2
    exact ⟨hs, h1, h2, vb, rfl, hsum.1, p⟩
  | defaultLocation x => cases h

theorem BarePair.enc {w1 w2 : Nat}
    {x : WExpr} {bs : Bytes} (p : BarePair mk k c eo uoff w1 w2 x bs)
    (hmk : marker m c.addrSize = .ok mk) (hs : ValidSize c.addrSize) (h1 : w1 < 2 ^ 64) (h2 : w2 < 2 ^ 64)
    (hv : c.version ≤ 4)
    (hlen : (exprBytes c eo uoff x).length < 2 ^ 64) :
    bs = encodeEntry k c .bare (.pair w1 w2 (dataBytes k c eo uoff x)) ∧
      WfEntry k c .bare (.pair w1 w2 (dataBytes k c eo uoff x)) := by
  obtain ⟨d, hd, rfl⟩ := p.data
  obtain ⟨rfl, hwf⟩ := writeData_enc .bare hd (.inr hv) hlen
  exact ⟨rfl, p.lt1 h1, p.lt2 h2, fun h => p.ne (h.1.trans h.2.symm), marker_valid hmk hs ▸ p.notMarker, hwf⟩

/-- An accepted entry is emitted as the Spec encoding of `toBare` of it, which is well-formed and
adds to a resolution what the entry as built adds (`base` is 0 unless there is a base address). -/
theorem writeEntryBare_enc {hb hb' : Bool}
    {x : WEntry} {bs : Bytes} (hmk : marker m c.addrSize = .ok mk)
    (h : writeEntryBare mk k c eo uoff hb x = .ok (bs, hb'))
    (hm : Machine k c eo uoff x) (he : U64EOff eo) (hv : c.version ≤ 4)
    (base : Nat) (hbase : hb = false → base = 0) :
    ValidSize c.addrSize ∧
    bs = encodeEntry k c .bare (toBare (dataBytes k c eo uoff) x) ∧
    WfEntry k c .bare (toBare (dataBytes k c eo uoff) x) ∧
    contrib c.addrSize noTable base (toBare (dataBytes k c eo uoff) x) =
      contrib c.addrSize noTable base (asBuilt (dataBytes k c eo uoff) x) ∧
    (hb' = false → (contrib c.addrSize noTable base (asBuilt (dataBytes k c eo uoff) x)).1 = 0) := by
  obtain ⟨_, hu, hl⟩ := hm
  obtain ⟨hs, hx⟩ := writeEntryBare_ok h
  cases x with
  | baseAddress a =>
    obtain ⟨rfl, v, rfl, hv, rfl⟩ := hx
    exact ⟨hs, by rw [marker_valid hmk hs]; rfl, hv hu, rfl, nofun⟩
  | offsetPair b e x =>
    obtain ⟨rfl, rfl, p⟩ := hx
    obtain ⟨e1, w1⟩ := p.enc hmk hs hu.1 hu.2.1 hv hl
    exact ⟨hs, e1, w1, rfl, nofun⟩
  | startEnd b e x =>
    obtain ⟨rfl, rfl, vb, ve, rfl, rfl, p⟩ := hx
    obtain ⟨e1, w1⟩ := p.enc hmk hs hu.1 hu.2.1 hv hl
    cases hbase rfl
    exact ⟨hs, e1, w1, contrib_pair_zero _ _ hs w1.1 w1.2.1, fun _ => rfl⟩
  | startLength b len x =>
    obtain ⟨rfl, rfl, vb, rfl, hsum, p⟩ := hx
    obtain ⟨e1, w1⟩ := p.enc hmk hs hu.1 hsum hv hl
    cases hbase rfl
    refine ⟨hs, e1, w1, ?_, fun _ => rfl⟩
    -- the exact sum fits the address size, so the Spec's sum modulo the address space is the same
    rw [toBare, addrVal, contrib_pair_zero _ _ hs w1.1 w1.2.1]
    simp only [asBuilt, addrVal, contrib, resolve1, Nat.mod_eq_of_lt w1.2.1]
  | defaultLocation x => exact hx.elim

theorem writeTermBare_ok {bs : Bytes} (h : writeTermBare c = .ok bs) :
    ValidSize c.addrSize ∧ bs = terminator c .bare := by
  obtain ⟨z1, h1, h⟩ := Out.bind_eq_ok h
  obtain ⟨z2, h2, h⟩ := Out.bind_eq_ok h
  have hs : ValidSize _ := writeUdata_size h1
  obtain rfl := (writeUdata_ok h1).1
  obtain rfl := (writeUdata_ok h2).1
  cases h
  exact ⟨hs, rfl⟩

theorem writeEntriesBare_enc
    (hmk : marker m c.addrSize = .ok mk) (he : U64EOff eo)
    (hv : c.version ≤ 4) : ∀ (l : WList) (hb : Bool) (bs : Bytes) (base : Nat),
      writeEntriesBare mk k c eo uoff hb l = .ok bs →
      (∀ x ∈ l, Machine k c eo uoff x) → (hb = false → base = 0) →
      ValidSize c.addrSize ∧
      bs = encodeList k c .bare (l.map (toBare (dataBytes k c eo uoff))) ∧
      (∀ y ∈ l.map (toBare (dataBytes k c eo uoff)), WfEntry k c .bare y) ∧
      resolveList c.addrSize noTable base (l.map (toBare (dataBytes k c eo uoff))) =
        resolveList c.addrSize noTable base (l.map (asBuilt (dataBytes k c eo uoff)))
  | [], hb, bs, base, h, _, _ => by
    obtain ⟨hs, rfl⟩ := writeTermBare_ok h
    exact ⟨hs, rfl, (fun _ hy => nomatch hy), rfl⟩
  | x :: xs, hb, bs, base, h, hm, hbase => by
    obtain ⟨⟨b1, hb'⟩, h1, h⟩ := Out.bind_eq_ok h
    obtain ⟨b2, h2, h⟩ := Out.bind_eq_ok h
    cases h
    obtain ⟨hs, rfl, w1, r1, hbase'⟩ := writeEntryBare_enc hmk h1 (hm x (List.mem_cons_self ..)) he hv base hbase
    obtain ⟨_, rfl, w2, r2⟩ := writeEntriesBare_enc hmk he hv xs hb' b2 _ h2
      (fun y hy => hm y (List.mem_cons_of_mem _ hy)) hbase'
    refine ⟨hs, rfl, List.forall_mem_cons.mpr ⟨w1, w2⟩, ?_⟩
    rw [List.map_cons, List.map_cons, resolveList_cons, resolveList_cons, r1, r2]

theorem writeEntryBare_words {hb hb' : Bool}
    {x : WEntry} {bs : Bytes} (hmk : marker m c.addrSize = .ok mk)
    (h : writeEntryBare mk k c eo uoff hb x = .ok (bs, hb'))
    (hu : U64Entry x) :
    ValidSize c.addrSize ∧ ∃ w1 w2 tail, w1 < addrMod c.addrSize ∧ w2 < addrMod c.addrSize ∧
      ¬ (w1 = 0 ∧ w2 = 0) ∧ bs = encAddr c w1 ++ encAddr c w2 ++ tail := by
  obtain ⟨hs, hx⟩ := writeEntryBare_ok h
  have words : ∀ {w1 w2 x}, BarePair mk k c eo uoff w1 w2 x bs → w1 < 2 ^ 64 → w2 < 2 ^ 64 →
      ∃ w1 w2 tail, w1 < addrMod c.addrSize ∧ w2 < addrMod c.addrSize ∧ ¬ (w1 = 0 ∧ w2 = 0) ∧
        bs = encAddr c w1 ++ encAddr c w2 ++ tail :=
    fun p h1 h2 => p.data.elim fun d hd =>
      ⟨_, _, d, p.lt1 h1, p.lt2 h2, fun h => p.ne (h.1.trans h.2.symm), hd.2⟩
  cases x with
  | baseAddress a =>
    obtain ⟨_, v, rfl, hv, rfl⟩ := hx
    have := addrMod_ge c.addrSize hs
    cases marker_valid hmk hs
    exact ⟨hs, _, v, [], by omega, hv hu, fun h => by omega, (List.append_nil _).symm⟩
  | offsetPair b e x => exact ⟨hs, words hx.2.2 hu.1 hu.2.1⟩
  | startEnd b e x =>
    obtain ⟨_, _, vb, ve, rfl, rfl, p⟩ := hx
    exact ⟨hs, words p hu.1 hu.2.1⟩
  | startLength b len x =>
    obtain ⟨_, _, vb, rfl, hsum, p⟩ := hx
    exact ⟨hs, words p hu.1 hsum⟩
  | defaultLocation x => exact hx.elim

theorem parseRaw_words (k : Kind) (c : Cfg) (w1 w2 : Nat) (tail : Bytes) (hs : ValidSize c.addrSize)
    (h1 : w1 < addrMod c.addrSize) (h2 : w2 < addrMod c.addrSize) (hz : ¬ (w1 = 0 ∧ w2 = 0)) (r : Bytes) :
    parseRaw k c .bare (encAddr c w1 ++ encAddr c w2 ++ tail) ≠ .ok (none, r) := by
  simp only [parseRaw, List.append_assoc, readAddress_enc c w1 _ hs h1, readAddress_enc c w2 _ hs h2,
    Out.bind_ok, hz, if_false]
  split
  · exact nofun
  · intro hcontra
    obtain ⟨⟨d, r'⟩, _, h4⟩ := Out.bind_eq_ok hcontra
    cases h4

theorem endOf_eq_iff {b e : Addr} {len : Nat} (h : endOf b len = .ok e) : b = e ↔ len = 0 := by
  cases b with
  | const v =>
    simp only [endOf] at h
    split at h
    · cases h
      exact ⟨fun h => by have := Addr.const.inj h; omega, fun h => by rw [h]; rfl⟩
    · cases h
  | symbol s a =>
    simp only [endOf] at h
    split at h
    · cases h
      exact ⟨fun h => by have := (Addr.symbol.inj h).2; omega, fun h => by rw [h]; simp⟩
    · cases h

theorem endOf_err {b : Addr} {len : Nat} {er : Err} (h : endOf b len = .err er) : er = .wInvalidRange := by
  cases b <;> simp only [endOf] at h <;> split at h <;> cases h <;> rfl

theorem endOf_normal (b : Addr) (len : Nat) : (endOf b len).Normal := by
  cases b <;> exact Out.Normal.ite trivial trivial

theorem writeEntryBare_normal (mk : Nat) (k : Kind) (c : Cfg) (eo : EOff) (uoff : Nat) (hb : Bool)
    (x : WEntry) : (writeEntryBare mk k c eo uoff hb x).Normal := by
  cases x with
  | baseAddress a =>
    exact (writeUdata_clean _ _ _).normal.bind fun _ _ => (writeAddress_clean c a).normal.bind fun _ _ => trivial
  | offsetPair b e x => rw [writeEntryBare_offsetPair]; exact writePairBare_normal ..
  | startEnd b e x => exact writePairBare_normal hb false b e x
  | startLength b len x => exact (endOf_normal b len).bind fun e _ => writePairBare_normal hb false b e x
  | defaultLocation x => trivial

theorem writeEntriesBare_normal (mk : Nat) (k : Kind) (c : Cfg) (eo : EOff) (uoff : Nat) :
    ∀ (l : WList) (hb : Bool), (writeEntriesBare mk k c eo uoff hb l).Normal
  | [], _ =>
    (writeUdata_clean _ _ _).normal.bind fun _ _ => (writeUdata_clean _ _ _).normal.bind fun _ _ => trivial
  | x :: xs, hb =>
    (writeEntryBare_normal mk k c eo uoff hb x).bind fun p _ =>
      (writeEntriesBare_normal mk k c eo uoff xs p.2).bind fun _ _ => trivial

theorem writeEntryCoded_clean (k : Kind) (c : Cfg) (eo : EOff) (uoff : Nat) (x : WEntry) :
    Clean (writeEntryCoded k c eo uoff x) := by
  cases x with
  | baseAddress a => exact (writeAddress_clean c a).bind fun _ => trivial
  | offsetPair b e x | defaultLocation x => exact (writeData_clean k c eo uoff x).bind fun _ => trivial
  | startEnd b e x => exact (writeAddrPair_clean k c eo uoff b e x).bind fun _ => trivial
  | startLength b len x =>
    exact (writeAddress_clean c b).bind fun _ => (writeData_clean k c eo uoff x).bind fun _ => trivial

theorem writeEntriesCoded_normal (k : Kind) (c : Cfg) (eo : EOff) (uoff : Nat) : ∀ (l : WList),
    (writeEntriesCoded k c eo uoff l).Normal
  | [] => trivial
  | x :: xs =>
    (writeEntryCoded_clean k c eo uoff x).normal.bind fun _ _ =>
      (writeEntriesCoded_normal k c eo uoff xs).bind fun _ _ => trivial

theorem writeEntriesBare_pos :
    ∀ (l : WList) (hb : Bool) (bs : Bytes), writeEntriesBare mk k c eo uoff hb l = .ok bs → 1 ≤ bs.length
  | [], hb, bs, h => by
    obtain ⟨hs, rfl⟩ := writeTermBare_ok h
    have := validSize_bounds hs
    rw [terminator, List.length_append, encAddr_length]; omega
  | x :: xs, hb, bs, h => by
    obtain ⟨⟨b1, hb'⟩, _, h⟩ := Out.bind_eq_ok h
    obtain ⟨b2, h2, h⟩ := Out.bind_eq_ok h
    cases h
    have := writeEntriesBare_pos xs hb' b2 h2
    rw [List.length_append]; omega

theorem writeEntriesCoded_pos :
    ∀ (l : WList) (bs : Bytes), writeEntriesCoded k c eo uoff l = .ok bs → 1 ≤ bs.length
  | [], bs, h => by cases h; exact Nat.le_refl _
  | x :: xs, bs, h => by
    obtain ⟨b1, _, h⟩ := Out.bind_eq_ok h
    obtain ⟨b2, h2, h⟩ := Out.bind_eq_ok h
    cases h
    have := writeEntriesCoded_pos xs b2 h2
    rw [List.length_append]; omega

def NoSymbol : WEntry → Prop
  | .baseAddress a => ∃ v, a = .const v
  | .offsetPair _ _ _ => True
  | .startEnd b e _ => (∃ v, b = .const v) ∧ ∃ v, e = .const v
  | .startLength b _ _ => ∃ v, b = .const v
  | .defaultLocation _ => True

end Gimli.WLists
