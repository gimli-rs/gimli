import Gimli.Lemmas.Attr
import Gimli.Model.Die
/-! Lemmas for C02 that hold for every input (no forest is assumed): `read_entry` returns a value or
an error and consumes at least one byte (`readEntry_ensures`); `next_entry`, `next_dfs` and the
loops over all entries one round at a time; `next_dfs` in a loop is the raw loop minus the null
entries (`dfsAll_eq_rawAll`). -/
namespace Gimli.Die
open Gimli Gimli.Attr Gimli.Abbrev Gimli.Ints

theorem readEntry_depth {ctx : Ctx} {r r' : Raw} {e : Entry} (h : r.readEntry ctx = .ok (e, r')) :
    e.depth = r.depth := by
  obtain ⟨⟨ab, r1⟩, _, h⟩ := Out.bind_eq_ok h
  cases ab
  · cases h; rfl
  · obtain ⟨⟨vs, rest⟩, _, h⟩ := Out.bind_eq_ok (x := readAttributes ctx.enc _ r1.input) h
    cases h; rfl

open Gimli.Out

theorem readAbbreviation_ensures (ctx : Ctx) (r : Raw) : (r.readAbbreviation ctx).Ensures fun x =>
    x.2.input.length < r.input.length ∧ x.2.endOffset = r.endOffset :=
  (Leb.unsigned_ensures r.input).bind_rest
    fun code rest (hs : rest.length < r.input.length) =>
      Ensures.ite_cases (fun _ => ensures_ok ⟨hs, rfl⟩) fun _ => by
        cases ctx.abbrevs.get code
        · exact ensures_err _ _
        · exact ensures_ok ⟨hs, rfl⟩

theorem readEntry_ensures (ctx : Ctx) (r : Raw) : (r.readEntry ctx).Ensures fun x =>
    x.2.input.length < r.input.length ∧ x.2.endOffset = r.endOffset :=
  (readAbbreviation_ensures ctx r).bind_rest fun a r1 h1 => by
    cases a with
    | none => exact ensures_ok h1
    | some a =>
      exact (readAttributes_ensures ctx.enc a.attrs r1.input).bind_rest
        fun _ rest (h3 : rest.length ≤ r1.input.length) => ensures_ok ⟨Nat.lt_of_le_of_lt h3 h1.1, h1.2⟩

theorem readEntry_shrinks {ctx : Ctx} {r r' : Raw} {e : Entry} (h : r.readEntry ctx = .ok (e, r')) :
    r'.input.length < r.input.length ∧ r'.endOffset = r.endOffset :=
  (readEntry_ensures ctx r).2 _ h

theorem readEntry_normal (ctx : Ctx) (r : Raw) : (r.readEntry ctx).Normal := (readEntry_ensures ctx r).1

theorem Cursor.current_of_isNull_false {c : Cursor} (h : c.cur.isNull = false) : c.current = some c.cur := by
  rw [Cursor.current, h]; rfl

theorem Cursor.current_of_isNull_true {c : Cursor} (h : c.cur.isNull = true) : c.current = none := by
  rw [Cursor.current, h]; rfl

theorem nextEntry_empty {ctx : Ctx} {c : Cursor} (h : c.raw.input.isEmpty = true) :
    c.nextEntry ctx = .ok (false, { c with cur := c.cur.setNull }) := by
  simp [Cursor.nextEntry, h]

theorem nextEntry_read {ctx : Ctx} {c : Cursor} (h : c.raw.input.isEmpty = false) :
    c.nextEntry ctx = (c.raw.readEntry ctx >>= fun x => pure (true, { raw := x.2, cur := x.1 })) := by
  simp [Cursor.nextEntry, h]

theorem nextDfs_succ (ctx : Ctx) (g : Nat) (c : Cursor) :
    Cursor.nextDfs ctx (g + 1) c =
      (c.nextEntry ctx >>= fun x =>
        if x.1 then (if !x.2.cur.isNull then pure (some x.2.cur, x.2) else Cursor.nextDfs ctx g x.2)
        else pure (none, x.2)) := by
  rw [Cursor.nextDfs]

theorem nextDfs_empty {ctx : Ctx} {c : Cursor} (g : Nat) (h : c.raw.input.isEmpty = true) :
    Cursor.nextDfs ctx (g + 1) c = .ok (none, { c with cur := c.cur.setNull }) := by
  rw [nextDfs_succ, nextEntry_empty h]; rfl

theorem nextDfs_read {ctx : Ctx} {c : Cursor} (g : Nat) (h : c.raw.input.isEmpty = false) :
    Cursor.nextDfs ctx (g + 1) c =
      (c.raw.readEntry ctx >>= fun x =>
        if !x.1.isNull then pure (some x.1, { raw := x.2, cur := x.1 })
        else Cursor.nextDfs ctx g { raw := x.2, cur := x.1 }) := by
  rw [nextDfs_succ, nextEntry_read h, Out.bind_assoc]
  rfl

theorem nextDfs_fuel (ctx : Ctx) : ∀ (g g' : Nat) (c : Cursor), c.raw.input.length < g →
    c.raw.input.length < g' → Cursor.nextDfs ctx g c = Cursor.nextDfs ctx g' c := by
  intro g
  induction g with
  | zero => intro g' c h; exact absurd h (Nat.not_lt_zero _)
  | succ g ih =>
    intro g' c h h'
    obtain ⟨g', rfl⟩ := Nat.exists_eq_add_one_of_ne_zero (Nat.ne_zero_of_lt h')
    cases he : c.raw.input.isEmpty with
    | true => rw [nextDfs_empty _ he, nextDfs_empty _ he]
    | false =>
      rw [nextDfs_read _ he, nextDfs_read _ he]
      exact Out.All.bind_congr (readEntry_ensures ctx _).2 fun _ hp => congrArg (ite _ _)
        (ih g' _ (Nat.lt_of_lt_of_le hp.1 (Nat.le_of_lt_succ h)) (Nat.lt_of_lt_of_le hp.1 (Nat.le_of_lt_succ h')))

theorem rawAll_empty {ctx : Ctx} {r : Raw} (k : Nat) (h : r.input.isEmpty = true) :
    rawAll ctx (k + 1) r = ([], .ok ()) := by
  rw [rawAll, if_pos h]

theorem rawAll_read {ctx : Ctx} {r : Raw} (k : Nat) (h : r.input.isEmpty = false) :
    rawAll ctx (k + 1) r =
      match r.readEntry ctx with
      | .ok (e, r') => (rawAll ctx k r').cons e
      | o => Trace.fail o := by
  rw [rawAll, if_neg (by simp [h])]
  rfl

theorem dfsAll_empty {ctx : Ctx} {c : Cursor} (m : Nat) (h : c.raw.input.isEmpty = true) :
    dfsAll ctx (m + 1) c = ([], .ok ()) := by
  rw [dfsAll, nextDfs_empty _ h]

/-- a null entry is passed over inside the call of `next_dfs` that read it; any other entry is
what that call returns -/
theorem dfsAll_read {ctx : Ctx} {c : Cursor} (m : Nat) (h : c.raw.input.isEmpty = false) :
    dfsAll ctx (m + 1) c =
      match c.raw.readEntry ctx with
      | .ok (e, r') => if e.isNull then dfsAll ctx (m + 1) ⟨r', e⟩ else (dfsAll ctx m ⟨r', e⟩).cons e
      | o => Trace.fail o := by
  rw [dfsAll, nextDfs_read _ h]
  cases hr : c.raw.readEntry ctx with
  | ok p =>
    obtain ⟨e, r'⟩ := p
    have hlt := (readEntry_shrinks hr).1
    cases hn : e.isNull with
    | false => simp only [Out.bind_ok, hn, Bool.not_false, if_true, Bool.false_eq_true, if_false]; rfl
    | true =>
      simp only [Out.bind_ok, hn, Bool.not_true, Bool.false_eq_true, if_false, if_true]
      rw [dfsAll, nextDfs_fuel ctx _ (r'.input.length + 1) ⟨r', e⟩ hlt (Nat.lt_succ_self _)]
  | _ => rfl

/-- on every input, also one on which a read fails; `n` is any fuel on which the raw loop ends -/
theorem dfsAll_eq_rawAll (ctx : Ctx) (n : Nat) : ∀ (r : Raw), (rawAll ctx n r).2 ≠ .diverge →
    ∀ (m : Nat) (cur : Entry), n ≤ m →
    dfsAll ctx m ⟨r, cur⟩ = ((rawAll ctx n r).1.filter (fun e => !e.isNull), (rawAll ctx n r).2) := by
  induction n with
  | zero => intro r hd; exact absurd rfl hd
  | succ n ih =>
    intro r hd m cur hm
    obtain ⟨m, rfl⟩ := Nat.exists_eq_add_one_of_ne_zero (Nat.ne_zero_of_lt hm)
    cases he : r.input.isEmpty with
    | true => rw [rawAll_empty _ he, dfsAll_empty (c := ⟨r, cur⟩) _ he]; rfl
    | false =>
      rw [rawAll_read _ he] at hd ⊢
      rw [dfsAll_read (c := ⟨r, cur⟩) _ he]
      cases hr : r.readEntry ctx with
      | ok p =>
        obtain ⟨e, r'⟩ := p
        rw [hr] at hd
        dsimp only at hd ⊢
        cases hn : e.isNull with
        | true => rw [if_pos rfl, ih r' hd (m + 1) e (Nat.le_of_lt hm)]; simp [Trace.cons, hn]
        | false => rw [if_neg (by simp), ih r' hd m e (Nat.le_of_succ_le_succ hm)]; simp [Trace.cons, hn]
      | _ => rfl

theorem nextEntry_normal (ctx : Ctx) (c : Cursor) : (c.nextEntry ctx).Normal :=
  Normal.ite trivial (Normal.bind (readEntry_normal _ _) fun _ _ => trivial)

theorem nextDfs_total (ctx : Ctx) : ∀ (fuel : Nat) (c : Cursor), c.raw.input.length < fuel →
    (Cursor.nextDfs ctx fuel c).Normal := by
  intro fuel
  induction fuel with
  | zero => intro c h; exact absurd h (Nat.not_lt_zero _)
  | succ fuel ih =>
    intro c h
    cases he : c.raw.input.isEmpty with
    | true => rw [nextDfs_empty _ he]; trivial
    | false =>
      rw [nextDfs_read _ he]
      exact (readEntry_ensures _ _).bind_normal fun _ _ hlt =>
        Normal.ite trivial (ih _ (Nat.lt_of_lt_of_le hlt.1 (Nat.le_of_lt_succ h)))

end Gimli.Die
