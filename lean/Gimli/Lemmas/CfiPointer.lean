import Gimli.Model.CfiEntry
import Gimli.Lemmas.Ints
import Gimli.Lemmas.Out
import Gimli.Spec.Frame
/-!
# `DW_EH_PE` pointers: value formats, base selection, round trip, totality

The nine value formats fall into four kinds (`format_cases`): `absptr`, `uleb128`, `sleb128`, and the six
fixed-width ones, which are exactly those `tableEntrySize` accepts and are treated once, with the width as a
parameter (`pev_of_fixed`, `encodeOperand_of_fixed`).
-/
namespace Gimli.CfiEntry
open Gimli Gimli.Ints Gimli.Spec.Frame

theorem _root_.Gimli.Reads.lift {α : Type} {f : Bytes → Out (α × Bytes)} {pre : Bytes} {v : α} (h : Reads f pre v)
    (off : Nat) (rest : Bytes) : (⟨off, pre ++ rest⟩ : Rd).lift f = .ok (v, ⟨off + pre.length, rest⟩) := by
  simp only [Rd.lift, h rest, Out.bind_ok, Out.pure_eq, List.length_append]
  congr 3
  omega

theorem lift_ok_inv {α : Type} {f : Bytes → Out (α × Bytes)} {r : Rd} {a : α} {r' : Rd}
    (h : r.lift f = .ok (a, r')) : f r.bs = .ok (a, r'.bs) := by
  obtain ⟨⟨a', rest⟩, hf, h⟩ := Out.bind_eq_ok h
  cases h
  exact hf

theorem lift_readFixed (e : Endian) (k off : Nat) (bs : Bytes) (hl : k ≤ bs.length) :
    (⟨off, bs⟩ : Rd).lift (readFixed e k) = .ok (fromBytes e (bs.take k), ⟨off + k, bs.drop k⟩) := by
  rw [Rd.lift, readFixed_eq, if_pos hl]
  show Out.ok (_, (⟨off + (bs.length - (bs.drop k).length), _⟩ : Rd)) = _
  rw [List.length_drop, Nat.sub_sub_self hl]

theorem split_append (o : Nat) (pre rest : Bytes) :
    (⟨o, pre ++ rest⟩ : Rd).split pre.length = .ok (⟨o, pre⟩, ⟨o + pre.length, rest⟩) := by
  rw [Rd.split, if_pos (by simp), List.take_left' rfl, List.drop_left' rfl]

theorem skip_append (o : Nat) (pre rest : Bytes) :
    (⟨o, pre ++ rest⟩ : Rd).skip pre.length = .ok ⟨o + pre.length, rest⟩ := by
  rw [Rd.skip, if_pos (by simp), List.drop_left' rfl]

theorem lift_normal {α : Type} (f : Bytes → Out (α × Bytes)) (r : Rd) (hf : (f r.bs).Normal) :
    (r.lift f).Normal :=
  hf.bind fun _ _ => trivial

theorem lift_ensures {α : Type} {f : Bytes → Out (α × Bytes)} {r : Rd} {P : α × Bytes → Prop}
    (hf : (f r.bs).Ensures P) : (r.lift f).Ensures fun x => P (x.1, x.2.bs) :=
  ⟨lift_normal _ _ hf.1, fun _ h => hf.2 _ (lift_ok_inv h)⟩

theorem split_normal (n : Nat) (r : Rd) : (r.split n).Normal := by
  unfold Rd.split; split <;> trivial

theorem skip_normal (n : Nat) (r : Rd) : (r.skip n).Normal := by
  unfold Rd.skip; split <;> trivial

theorem u8_normal (r : Rd) : r.u8.Normal := by
  unfold Rd.u8; split <;> trivial

theorem u8_cons (o : Nat) (b : UInt8) (t : Bytes) : (⟨o, b :: t⟩ : Rd).u8 = .ok (b.toNat, ⟨o + 1, t⟩) := rfl

/-- `parse_encoded_value` result for the 2/4/8-byte formats from the raw positional value -/
def fixedVal (enc raw : Nat) : Nat :=
  if peFormat enc = 0x0a then sext 2 raw
  else if peFormat enc = 0x0b then sext 4 raw
  else if peFormat enc = 0x0c then sext 8 raw
  else raw

theorem tableEntrySize_eq_some {enc size : Nat} (h : tableEntrySize enc = some size) :
    (size = 2 ∧ (peFormat enc = 0x0a ∨ peFormat enc = 2)) ∨ (size = 4 ∧ (peFormat enc = 0x0b ∨ peFormat enc = 3)) ∨
    (size = 8 ∧ (peFormat enc = 0x0c ∨ peFormat enc = 4)) := by
  simp only [tableEntrySize] at h
  split at h
  · cases h; exact .inl ⟨rfl, ‹_›⟩
  · split at h
    · cases h; exact .inr (.inl ⟨rfl, ‹_›⟩)
    · split at h
      · cases h; exact .inr (.inr ⟨rfl, ‹_›⟩)
      · cases h

theorem tableEntrySize_cases {enc size : Nat} (h : tableEntrySize enc = some size) :
    size = 2 ∨ size = 4 ∨ size = 8 := by
  rcases tableEntrySize_eq_some h with ⟨h, _⟩ | ⟨h, _⟩ | ⟨h, _⟩ <;> simp [h]

theorem format_cases {enc : Nat} (hf : formatDefined (peFormat enc)) :
    peFormat enc = 0 ∨ peFormat enc = 1 ∨ peFormat enc = 9 ∨ ∃ size, tableEntrySize enc = some size := by
  rcases hf with h | h | h | h | h | h | h | h | h <;> simp [tableEntrySize, h]

theorem pev_absptr (e : Endian) {enc : Nat} (asz : Nat) (r : Rd) (h : peFormat enc = 0) :
    parseEncodedValue e enc asz r = r.lift (readAddress e asz) := by
  simp only [parseEncodedValue, h, reduceIte]

theorem pev_uleb (e : Endian) {enc : Nat} (asz : Nat) (r : Rd) (h : peFormat enc = 1) :
    parseEncodedValue e enc asz r = r.lift Leb.unsigned := by
  simp only [parseEncodedValue, h, Nat.reduceEqDiff, reduceIte]

theorem pev_sleb (e : Endian) {enc : Nat} (asz : Nat) (r : Rd) (h : peFormat enc = 9) :
    parseEncodedValue e enc asz r = r.lift Leb.signed >>= fun vr => pure (Leb.ofI64 vr.1, vr.2) := by
  simp only [parseEncodedValue, h, Nat.reduceEqDiff, reduceIte]

theorem pev_of_fixed (e : Endian) {enc size : Nat} (asz : Nat) (r : Rd) (h : tableEntrySize enc = some size) :
    parseEncodedValue e enc asz r = r.lift (readFixed e size) >>= fun vr => pure (fixedVal enc vr.1, vr.2) := by
  rcases tableEntrySize_eq_some h with ⟨rfl, hf | hf⟩ | ⟨rfl, hf | hf⟩ | ⟨rfl, hf | hf⟩ <;>
    simp only [parseEncodedValue, fixedVal, hf, Nat.reduceEqDiff, reduceIte] <;>
    cases r.lift (readFixed e _) <;> rfl

theorem pev_fixed (e : Endian) (enc asz size off : Nat) (bs : Bytes)
    (henc : tableEntrySize enc = some size) (hl : size ≤ bs.length) :
    parseEncodedValue e enc asz ⟨off, bs⟩ =
      .ok (fixedVal enc (fromBytes e (bs.take size)), ⟨off + size, bs.drop size⟩) := by
  rw [pev_of_fixed e asz _ henc, lift_readFixed e size off bs hl]
  rfl

theorem sext8 (x : Nat) (hx : x < 2 ^ 64) : sext 8 x = x := Leb.ofI64_toI64 x hx

theorem encodeOperand_of_fixed {e : Endian} {enc asz x size : Nat} {bytes : Bytes}
    (hs : tableEntrySize enc = some size) (h : encodeOperand e enc asz x = some bytes) :
    ∃ raw, raw < 256 ^ size ∧ bytes = toBytes e size raw ∧ fixedVal enc raw = x := by
  rcases tableEntrySize_eq_some hs with ⟨rfl, hf | hf⟩ | ⟨rfl, hf | hf⟩ | ⟨rfl, hf | hf⟩ <;>
    simp only [encodeOperand, hf, Nat.reduceEqDiff, reduceIte, Option.ite_none_right_eq_some,
      Option.some.injEq] at h <;>
    obtain ⟨hc, rfl⟩ := h
  · exact ⟨x % 2 ^ 16, Nat.mod_lt _ (by decide), rfl, by simpa only [fixedVal, hf, reduceIte] using hc⟩
  · exact ⟨x, hc, rfl, by simp only [fixedVal, hf, Nat.reduceEqDiff, reduceIte]⟩
  · exact ⟨x % 2 ^ 32, Nat.mod_lt _ (by decide), rfl, by
      simpa only [fixedVal, hf, Nat.reduceEqDiff, reduceIte] using hc⟩
  · exact ⟨x, hc, rfl, by simp only [fixedVal, hf, Nat.reduceEqDiff, reduceIte]⟩
  · exact ⟨x, hc, rfl, by simpa only [fixedVal, hf, Nat.reduceEqDiff, reduceIte] using sext8 x hc⟩
  · exact ⟨x, hc, rfl, by simp only [fixedVal, hf, Nat.reduceEqDiff, reduceIte]⟩

theorem formatDefined_of_encodeOperand {e : Endian} {enc asz x : Nat} {bytes : Bytes}
    (h : encodeOperand e enc asz x = some bytes) : formatDefined (peFormat enc) := by
  refine Decidable.byContradiction fun hn => ?_
  simp only [formatDefined, not_or] at hn
  simp [encodeOperand, hn] at h

theorem pev_roundtrip (e : Endian) (enc asz x off : Nat) (bytes rest : Bytes)
    (h : encodeOperand e enc asz x = some bytes) :
    parseEncodedValue e enc asz ⟨off, bytes ++ rest⟩ = .ok (x, ⟨off + bytes.length, rest⟩) := by
  rcases format_cases (formatDefined_of_encodeOperand h) with hf | hf | hf | ⟨size, hs⟩
  · simp only [encodeOperand, hf, reduceIte, Option.ite_none_right_eq_some, Option.some.injEq] at h
    obtain ⟨⟨hsz, hx⟩, rfl⟩ := h
    rw [pev_absptr e asz _ hf]
    exact (reads_address_fixed e hsz (by rwa [pow256])).lift off rest
  · simp only [encodeOperand, hf, Nat.reduceEqDiff, reduceIte, Option.ite_none_right_eq_some,
      Option.some.injEq] at h
    obtain ⟨hx, rfl⟩ := h
    rw [pev_uleb e asz _ hf]
    exact (Leb.reads_unsigned hx).lift off rest
  · simp only [encodeOperand, hf, Nat.reduceEqDiff, reduceIte, Option.ite_none_right_eq_some,
      Option.some.injEq] at h
    obtain ⟨hx, rfl⟩ := h
    obtain ⟨hlo, hhi⟩ := Leb.toI64_range x
    rw [pev_sleb e asz _ hf, (Leb.reads_signed hlo hhi).lift]
    simp only [Out.bind_ok, Out.pure_eq, Leb.ofI64_toI64 x hx]
  · obtain ⟨raw, hraw, rfl, rfl⟩ := encodeOperand_of_fixed hs h
    rw [pev_of_fixed e asz _ hs, (reads_fixed e size hraw).lift]
    rfl

-- `pev_roundtrip` in the `isSome` / `getD []` form in which Spec/Frame's encoders write an operand; so `pep_ptrOk` of `pep_roundtrip`
theorem pev_some (e : Endian) (enc asz x off : Nat) (t : Bytes)
    (h : (encodeOperand e enc asz x).isSome = true) :
    parseEncodedValue e enc asz ⟨off, (encodeOperand e enc asz x).getD [] ++ t⟩ =
      .ok (x, ⟨off + ((encodeOperand e enc asz x).getD []).length, t⟩) := by
  obtain ⟨bytes, hx⟩ := Option.isSome_iff_exists.mp h
  rw [hx]
  exact pev_roundtrip e enc asz x off bytes t hx

theorem op_length (e : Endian) (enc asz x size : Nat) (hs : tableEntrySize enc = some size)
    (hx : (encodeOperand e enc asz x).isSome = true) : (op e enc asz x).length = size := by
  obtain ⟨bytes, hb⟩ := Option.isSome_iff_exists.mp hx
  obtain ⟨raw, -, rfl, -⟩ := encodeOperand_of_fixed hs hb
  rw [op, hb]
  exact toBytes_length e size raw

/-- the address sizes for which `ones_sized` does not overflow, or a build without overflow checks -/
def SizeOk (m : Mode) (size : Nat) : Prop := (1 ≤ size ∧ size ≤ 8) ∨ m = .release

theorem wrappingAddSized_ok (m : Mode) (a len size : Nat) (h1 : 1 ≤ size) (h8 : size ≤ 8) :
    wrappingAddSized m a len size = .ok ((a + len) % 2 ^ 64 % 2 ^ (8 * size)) := by
  unfold wrappingAddSized; rw [if_pos ⟨h1, h8⟩]

theorem wrappingAddSized_normal (m : Mode) (a len size : Nat) (h : SizeOk m size) :
    (wrappingAddSized m a len size).Normal := by
  rcases h with h | rfl
  · rw [wrappingAddSized_ok m a len size h.1 h.2]; trivial
  · unfold wrappingAddSized; split <;> trivial

theorem isValidEncoding_eq_true {b : Nat} :
    isValidEncoding b = true ↔ b = 0xff ∨ (formatDefined (peFormat b) ∧ applicationDefined (peApplication b)) := by
  unfold isValidEncoding peAbsent
  by_cases h : b = 0xff
  · simp [h]
  · simp only [h, decide_false, Bool.false_eq_true, if_false, false_or]
    show (if ¬ formatDefined (peFormat b) then false
      else if ¬ applicationDefined (peApplication b) then false else true) = true ↔ _
    by_cases hf : formatDefined (peFormat b) <;> by_cases ha : applicationDefined (peApplication b) <;>
      simp [hf, ha]

theorem validFormat {enc : Nat} (hv : isValidEncoding enc = true) (ho : enc ≠ 0xff) :
    let f := peFormat enc
    (f = 0 ∨ f = 1 ∨ f = 2 ∨ f = 3 ∨ f = 4 ∨ f = 9 ∨ f = 0x0a ∨ f = 0x0b ∨ f = 0x0c) ∧
    (let a := peApplication enc
     a = 0 ∨ a = 0x10 ∨ a = 0x20 ∨ a = 0x30 ∨ a = 0x40 ∨ a = 0x50) :=
  (isValidEncoding_eq_true.mp hv).resolve_left ho

theorem isValidEncoding_iff (b : Nat) : isValidEncoding b = true ↔ validEncoding b := by
  rw [isValidEncoding_eq_true, validEncoding, peFormat, peApplication,
    show b % 128 / 16 * 16 = b / 16 % 8 * 16 by omega]

theorem pev_normal (e : Endian) (enc asz : Nat) (r : Rd) (hf : formatDefined (peFormat enc)) :
    (parseEncodedValue e enc asz r).Normal := by
  rcases format_cases hf with hf | hf | hf | ⟨size, hs⟩
  · rw [pev_absptr e asz r hf]
    exact lift_normal _ _ (Ints.readAddress_normal e asz r.bs)
  · rw [pev_uleb e asz r hf]
    exact lift_normal _ _ (Leb.unsigned_normal r.bs)
  · rw [pev_sleb e asz r hf]
    exact (lift_normal _ _ (Leb.signed_normal r.bs)).bind fun _ _ => trivial
  · rw [pev_of_fixed e asz r hs]
    exact (lift_normal _ _ (Ints.readFixed_normal e size r.bs)).bind fun _ _ => trivial

theorem pointerBase_normal (m : Mode) (enc : Nat) (p : PeParams) (off : Nat) (hs : SizeOk m p.asz)
    (ha : applicationDefined (peApplication enc)) : (pointerBase m enc p off).Normal := by
  unfold pointerBase
  rcases ha with h | h | h | h | h | h <;> simp only [h, Nat.reduceEqDiff, reduceIte]
  · trivial
  · cases p.bases.sect with
    | none => trivial
    | some sb => exact wrappingAddSized_normal m sb off p.asz hs
  · cases p.bases.text <;> trivial
  · cases p.bases.data <;> trivial
  · cases p.funcBase <;> trivial
  · trivial

theorem pep_normal (m : Mode) (e : Endian) (enc : Nat) (p : PeParams) (r : Rd) (hs : SizeOk m p.asz) :
    (parseEncodedPointer m e enc p r).Normal := by
  unfold parseEncodedPointer
  refine .ite_cases (fun _ => trivial) fun hv => .ite_cases (fun _ => trivial) fun ho => ?_
  obtain ⟨hf, ha⟩ := validFormat (Classical.not_not.mp hv) ho
  refine (pointerBase_normal m enc p r.off hs ha).bind fun b _ => ?_
  refine (pev_normal e enc p.asz r hf).bind fun ⟨v, r'⟩ _ => ?_
  exact (wrappingAddSized_normal m b v p.asz hs).bind fun _ _ => trivial

theorem valid_of_pep_ok {m : Mode} {e : Endian} {enc : Nat} {p : PeParams} {r : Rd} {x : Ptr × Rd}
    (h : parseEncodedPointer m e enc p r = .ok x) : isValidEncoding enc = true ∧ enc ≠ 0xff := by
  unfold parseEncodedPointer at h
  by_cases hv : isValidEncoding enc = true
  · by_cases ho : enc = 0xff
    · rw [if_neg (not_not_intro hv), if_pos ho] at h; cases h
    · exact ⟨hv, ho⟩
  · rw [if_pos hv] at h; cases h

theorem toDirect_normal (p : Ptr) : p.toDirect.Normal := by
  cases p <;> trivial

theorem parsePointerEncoding_ensures (r : Rd) :
    (parsePointerEncoding r).Ensures fun x => isValidEncoding x.1 = true := by
  unfold parsePointerEncoding
  refine (u8_normal r).ensures.bind fun ⟨b, r'⟩ _ _ => ?_
  exact .ite_cases (fun hv => Out.ensures_ok hv) fun _ => Out.ensures_err _ _

theorem parsePointerEncoding_normal (r : Rd) : (parsePointerEncoding r).Normal :=
  (parsePointerEncoding_ensures r).1

theorem pep_semantics (m : Mode) (e : Endian) (enc : Nat) (p : PeParams) (r : Rd)
    (hv : isValidEncoding enc = true) (ho : enc ≠ 0xff) (hal : peApplication enc ≠ 0x50)
    (h1 : 1 ≤ p.asz) (h8 : p.asz ≤ 8) :
    parseEncodedPointer m e enc p r =
      (match neededBase enc p r.off with
      | none => .err (missingBaseErr enc)
      | some b => (parseEncodedValue e enc p.asz r >>= fun xr =>
          pure (Ptr.new enc ((b + xr.1) % 2 ^ 64 % 2 ^ (8 * p.asz)), xr.2))) := by
  obtain ⟨_, ha⟩ := validFormat hv ho
  unfold parseEncodedPointer
  rw [if_neg (by simp [hv]), if_neg ho]
  unfold pointerBase neededBase missingBaseErr
  simp only [wrappingAddSized_ok m _ _ _ h1 h8]
  rcases ha with ha | ha | ha | ha | ha | ha <;> simp only [ha, Nat.reduceEqDiff, reduceIte]
  · simp only [Out.bind_ok, Nat.zero_add]
  · cases p.bases.sect <;> rfl
  · cases p.bases.text <;> rfl
  · cases p.bases.data <;> rfl
  · cases p.funcBase <;> rfl
  · exact absurd ha hal

theorem pep_roundtrip (m : Mode) (e : Endian) (enc : Nat) (p : PeParams) (off x b : Nat)
    (bytes rest : Bytes)
    (hv : isValidEncoding enc = true) (ho : enc ≠ 0xff) (hal : peApplication enc ≠ 0x50)
    (h1 : 1 ≤ p.asz) (h8 : p.asz ≤ 8)
    (hb : neededBase enc p off = some b)
    (hx : encodeOperand e enc p.asz x = some bytes) :
    parseEncodedPointer m e enc p ⟨off, bytes ++ rest⟩ =
      .ok (Ptr.new enc ((b + x) % 2 ^ 64 % 2 ^ (8 * p.asz)), ⟨off + bytes.length, rest⟩) := by
  rw [pep_semantics m e enc p _ hv ho hal h1 h8]
  simp only [hb, pev_roundtrip e enc p.asz x off bytes rest hx, Out.bind_ok, Out.pure_eq]

theorem pep_ptrOk (m : Mode) (e : Endian) (enc : Nat) (p : PeParams) (off x : Nat) (t : Bytes)
    (h : PtrOk e enc p off x) :
    parseEncodedPointer m e enc p ⟨off, (encodeOperand e enc p.asz x).getD [] ++ t⟩ =
      .ok (Ptr.new enc (((neededBase enc p off).getD 0 + x) % 2 ^ 64 % 2 ^ (8 * p.asz)),
           ⟨off + ((encodeOperand e enc p.asz x).getD []).length, t⟩) := by
  obtain ⟨hv, ho, hal, h1, h8, hb, hx⟩ := h
  obtain ⟨b, hb⟩ := Option.isSome_iff_exists.mp hb
  obtain ⟨bytes, hx⟩ := Option.isSome_iff_exists.mp hx
  rw [hb, hx]
  exact pep_roundtrip m e enc p off x b bytes t hv ho hal h1 h8 hb hx

theorem ptr_new_pointer (enc v : Nat) : (Ptr.new enc v).pointer = v := by
  unfold Ptr.new; split <;> rfl

theorem ptr_new_direct (enc v : Nat) (h : peIndirect enc = false) : Ptr.new enc v = .direct v := by
  unfold Ptr.new; simp [h]

theorem ptr_new_toDirect (enc v : Nat) :
    (Ptr.new enc v).toDirect = if peIndirect enc then .err .rUnsupportedIndirectPointer else .ok v := by
  unfold Ptr.new; split <;> rfl

theorem parsePointerEncoding_byte (o enc : Nat) (t : Bytes) (h : enc < 256) (hv : isValidEncoding enc = true) :
    parsePointerEncoding ⟨o, UInt8.ofNat enc :: t⟩ = .ok (enc, ⟨o + 1, t⟩) := by
  simp [parsePointerEncoding, u8_cons, UInt8.toNat_ofNat_of_lt' h, hv]

/-- the pointer decoded at section offset `off` from exactly the bytes `bs`: a field in a fixed-width
encoding needs only its own bytes (`pep_fixed`), so a table row can be decoded by itself -/
def ptrAt (m : Mode) (e : Endian) (enc : Nat) (p : PeParams) (off : Nat) (bs : Bytes) : Out Ptr := do
  let (q, _) ← parseEncodedPointer m e enc p ⟨off, bs⟩
  pure q

theorem pep_fixed (m : Mode) (e : Endian) (enc : Nat) (p : PeParams) (size off : Nat) (bs : Bytes)
    (henc : tableEntrySize enc = some size) (hl : size ≤ bs.length) :
    parseEncodedPointer m e enc p ⟨off, bs⟩ =
      (do let q ← ptrAt m e enc p off (bs.take size)
          pure (q, (⟨off + size, bs.drop size⟩ : Rd))) := by
  have hl' : size ≤ (bs.take size).length := by simp [List.length_take]; omega
  unfold ptrAt parseEncodedPointer
  by_cases hv : ¬ isValidEncoding enc = true
  · simp only [if_pos hv]; rfl
  · by_cases ho : enc = 0xff
    · simp only [if_neg hv, if_pos ho]; rfl
    · -- both sides read the same `size` bytes; what differs is where the binds are bracketed
      simp only [if_neg hv, if_neg ho, pev_fixed e enc p.asz size off _ henc hl,
        pev_fixed e enc p.asz size off _ henc hl', List.take_take, Nat.min_self]
      cases pointerBase m enc p off with
      | ok b =>
        simp only [Out.bind_ok]
        cases wrappingAddSized m b (fixedVal enc (fromBytes e (List.take size bs))) p.asz <;> rfl
      | err x => rfl
      | panic w => rfl
      | diverge => rfl

theorem ptrAt_exact (m : Mode) (e : Endian) (enc : Nat) (p : PeParams) (off x : Nat) (h : PtrOk e enc p off x) :
    ptrAt m e enc p off (op e enc p.asz x) =
      .ok (Ptr.new enc (((neededBase enc p off).getD 0 + x) % 2 ^ 64 % 2 ^ (8 * p.asz))) := by
  have := pep_ptrOk m e enc p off x [] h
  rw [List.append_nil] at this
  rw [ptrAt, op, this]
  rfl

end Gimli.CfiEntry
