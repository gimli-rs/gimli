import Gimli.Lemmas.Ints
import Gimli.Spec.Unit
/-! Lemmas for C02: parsing the encoding of a unit header gives back its fields, field by
field; `size_of_header()` is the encoded size; `parse_unit_header` is total. -/
namespace Gimli.Die
open Gimli Gimli.Attr Gimli.Ints Gimli.Spec.Unit

theorem parseUnitType_rt (e : Endian) (f : Format) (ut : UnitType)
    (hv : match ut with
      | .compilation | .partialUnit => True
      | .typeUnit sig off | .splitType sig off => sig < 2 ^ 64 ∧ off < 2 ^ (8 * f.wordSize)
      | .skeleton id | .splitCompilation id => id < 2 ^ 64) :
    Reads (parseUnitType e f (unitTypeCode ut)) (typeSpecific e f ut) ut := by
  cases ut with
  | compilation => exact fun _ => rfl
  | partialUnit => exact fun _ => rfl
  | typeUnit sig off =>
    exact .bind (reads_fixed e 8 hv.1) (.map (reads_word e f (pow256 _ ▸ hv.2)) fun _ => rfl)
  | splitType sig off =>
    exact .bind (reads_fixed e 8 hv.1) (.map (reads_word e f (pow256 _ ▸ hv.2)) fun _ => rfl)
  | skeleton id => exact .map (reads_fixed e 8 hv) fun _ => rfl
  | splitCompilation id => exact .map (reads_fixed e 8 hv) fun _ => rfl

theorem readInitialLength_rt (e : Endian) (f : Format) (len : Nat)
    (hl : match f with | .dwarf32 => len < 0xffff_fff0 | .dwarf64 => len < 2 ^ 64) :
    Reads (readInitialLength e 64) (encodeLength e f len) (len, f) :=
  Ints.reads_lengthField e hl

theorem readAddressSize_rt (n : Nat) (hn : n = 1 ∨ n = 2 ∨ n = 4 ∨ n = 8) :
    Reads readAddressSize [UInt8.ofNat n] n :=
  toBytes_one .little n ▸ reads_addressSize .little hn

theorem encodeLength_length (e : Endian) (f : Format) (len : Nat) :
    (encodeLength e f len).length = initialLengthSize f := by
  cases f <;> simp [encodeLength, initialLengthSize, toBytes_length]

theorem typeSpecific_length (e : Endian) (f : Format) (ut : UnitType) :
    (typeSpecific e f ut).length =
      (match ut with
       | .compilation | .partialUnit => 0
       | .typeUnit _ _ | .splitType _ _ => 8 + f.wordSize
       | .skeleton _ | .splitCompilation _ => 8) := by
  cases ut <;> simp [typeSpecific, toBytes_length]

theorem encodeBody_length (e : Endian) (h : Header) :
    (encodeBody e h).length =
      2 + h.format.wordSize + 1 + (if h.version = 5 then 1 else 0) +
        (match h.unitType with
         | .compilation | .partialUnit => 0
         | .typeUnit _ _ | .splitType _ _ => 8 + h.format.wordSize
         | .skeleton _ | .splitCompilation _ => 8) := by
  unfold encodeBody
  simp only [List.length_append, toBytes_length, typeSpecific_length]
  split <;> simp [toBytes_length] <;> omega

theorem sizeOfHeader_encode (e : Endian) (h : Header) (H : UnitHeader) (hf : H.enc.format = h.format)
    (hv : H.enc.version = h.version) (hu : H.unitType = h.unitType) :
    H.sizeOfHeader = initialLengthSize h.format + (encodeBody e h).length := by
  unfold UnitHeader.sizeOfHeader
  rw [hf, hv, hu, encodeBody_length]
  simp only [Nat.add_assoc]
  -- the two `match`es are different constants with the same arms
  cases h.unitType <;> rfl

open Gimli.Out

theorem parseUnitType_normal (e : Endian) (f : Format) (ut : Nat) (bs : Bytes) :
    (parseUnitType e f ut bs).Normal :=
  have sig : ∀ k : Nat → Nat → UnitType, (readFixed e 8 bs >>= fun x => readWord e 64 f x.2 >>= fun y =>
      (pure (k x.1 y.1, y.2) : Out (UnitType × Bytes))).Normal := fun _ =>
    Normal.bind (Ints.readFixed_normal _ _ _) fun _ _ => Normal.bind (Ints.readWord_normal _ _ _ _) fun _ _ => trivial
  have dwo : ∀ k : Nat → UnitType, (readFixed e 8 bs >>= fun x =>
      (pure (k x.1, x.2) : Out (UnitType × Bytes))).Normal := fun _ =>
    Normal.bind (Ints.readFixed_normal _ _ _) fun _ _ => trivial
  Normal.ite trivial <| Normal.ite (sig _) <| Normal.ite trivial <| Normal.ite (dwo _) <|
    Normal.ite (dwo _) <| Normal.ite (sig _) trivial

theorem parseUnitHeader_total (e : Endian) (sect : Sect) (off : Nat) (bs : Bytes) :
    (parseUnitHeader e sect off bs).Normal :=
  Normal.bind (Ints.readInitialLength_normal _ _ _) fun _ _ =>
  Normal.bind (Ints.take_normal _ _) fun _ _ =>
  Normal.bind (Ints.readFixed_normal _ _ _) fun _ _ =>
  Normal.bind
    (Normal.ite
      (Normal.bind (Ints.readWord_normal _ _ _ _) fun _ _ =>
        Normal.bind (Ints.readAddressSize_normal _) fun _ _ => trivial)
      (Normal.ite
        (Normal.bind (Ints.readFixed_normal _ _ _) fun _ _ => Normal.bind (Ints.readAddressSize_normal _) fun _ _ =>
          Normal.bind (Ints.readWord_normal _ _ _ _) fun _ _ => trivial)
        trivial))
    fun _ _ => Normal.bind (parseUnitType_normal _ _ _ _) fun _ _ => trivial

end Gimli.Die
