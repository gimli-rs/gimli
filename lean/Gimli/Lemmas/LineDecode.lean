import Gimli.Lemmas.Line
import Gimli.Lemmas.CStr
/-! Decoder lemmas for C04: every reader used by `LineInstruction::parse` is *local* (a successful
read consumes a prefix of its input and never looks beyond it), returns normally, and
`parseInstr` consumes at least one byte. -/
namespace Gimli.Line
open Gimli Gimli.Spec Gimli.Spec.Line

/-! ## the decoder's definitions with their error propagation written as `>>=` -/

theorem skipUlebs_succ (n : Nat) (bs : Bytes) :
    skipUlebs (n + 1) bs = Leb.unsigned bs >>= fun (_, rest) => skipUlebs n rest := by
  rw [skipUlebs]; cases Leb.unsigned bs <;> rfl

theorem readCStr_cons (b : UInt8) (rest : Bytes) :
    readCStr (b :: rest) =
      if b = 0 then .ok ([], rest) else readCStr rest >>= fun (s, r) => pure (b :: s, r) := by
  rw [readCStr]
  refine ite_congr rfl (fun _ => rfl) fun _ => ?_
  cases readCStr rest <;> rfl

theorem readCStr_isCStr : IsCStr readCStr := ⟨rfl, readCStr_cons⟩

theorem parseInstr_cons (h : Params) (opb : UInt8) (input : Bytes) :
    parseInstr h (opb :: input) =
      if opb.toNat = 0 then
        Leb.unsigned input >>= fun (len, input) => Ints.take len input >>= fun (ext, input) =>
          parseExtended h ext >>= fun i => pure (i, input)
      else if opb.toNat ≥ h.opcodeBase then .ok (.special opb.toNat, input)
      else parseStandard h opb.toNat input := by
  rw [parseInstr]
  refine ite_congr rfl (fun _ => ?_) fun _ => rfl
  cases Leb.unsigned input with
  | ok p =>
    dsimp only [Out.bind_ok]
    cases Ints.take p.1 p.2 with
    | ok q => dsimp only [Out.bind_ok]; cases parseExtended h q.1 <;> rfl
    | _ => rfl
  | _ => rfl

/-- a standard opcode without a meaning of its own: `standard_opcode_lengths` says how many
ULEB operands to skip -/
theorem parseStandard_unknown {h : Params} {op : Nat} (hop : op = 0 ∨ 13 ≤ op) (input : Bytes) :
    parseStandard h op input =
      match (h.stdLens.drop (op - 1)).head? with
      | none => .err .rUnexpectedEof
      | some n =>
        if n.toNat = 0 then .ok (.unknownStandard0 op, input)
        else if n.toNat = 1 then mapRead (.unknownStandard1 op) (Leb.unsigned input)
        else skipUlebs n.toNat input >>= fun rest =>
          pure (.unknownStandardN op (input.take (input.length - rest.length)), rest) := by
  have ne : ∀ k, 1 ≤ k ∧ k ≤ 12 → ¬ op = k := fun k hk e => by omega
  unfold parseStandard
  rw [if_neg (ne 1 (by decide)), if_neg (ne 2 (by decide)), if_neg (ne 3 (by decide)),
    if_neg (ne 4 (by decide)), if_neg (ne 5 (by decide)), if_neg (ne 6 (by decide)),
    if_neg (ne 7 (by decide)), if_neg (ne 8 (by decide)), if_neg (ne 9 (by decide)),
    if_neg (ne 10 (by decide)), if_neg (ne 11 (by decide)), if_neg (ne 12 (by decide))]
  cases h.stdLens.drop (op - 1) with
  | nil => rfl
  | cons n tl =>
    dsimp only [List.head?_cons]
    refine ite_congr rfl (fun _ => rfl) fun _ => ite_congr rfl (fun _ => rfl) fun _ => ?_
    cases skipUlebs n.toNat input <;> rfl

/-- **The arms of the standard-opcode decoder.** A property of readers that holds of each kind of
arm — no operand, one ULEB / SLEB / `u16` operand, `n` skipped ULEBs, no length entry — holds of
`parseStandard h opcode`. -/
theorem parseStandard_cases (h : Params) (opcode : Nat) (P : (Bytes → Out (Instr × Bytes)) → Prop)
    (const : ∀ i, P fun input => .ok (i, input))
    (uleb : ∀ g : Nat → Instr, P fun input => mapRead g (Leb.unsigned input))
    (sleb : P fun input => mapRead .advanceLine (Leb.signed input))
    (u16 : P fun input => mapRead .fixedAddPc (Ints.readFixed h.endian 2 input))
    (ulebs : ∀ n, P fun input => skipUlebs n input >>= fun rest =>
      pure (.unknownStandardN opcode (input.take (input.length - rest.length)), rest))
    (eof : P fun _ => .err .rUnexpectedEof) : P (parseStandard h opcode) := by
  -- a condition that does not depend on the input splits the reader into two readers
  have arm : ∀ (c : Prop) [Decidable c] (a b : Bytes → Out (Instr × Bytes)), P a → P b →
      P fun input => if c then a input else b input := by
    intro c _ a b ha hb
    by_cases hc : c
    · rw [show (fun input => if c then a input else b input) = a from funext fun _ => if_pos hc]
      exact ha
    · rw [show (fun input => if c then a input else b input) = b from funext fun _ => if_neg hc]
      exact hb
  show P fun input => parseStandard h opcode input
  unfold parseStandard
  -- the opcodes 1 to 12 in the order of the definition; what is left goes by `standard_opcode_lengths`
  refine arm _ _ _ (const _) <| arm _ _ _ (uleb _) <| arm _ _ _ sleb <| arm _ _ _ (uleb _) <|
    arm _ _ _ (uleb _) <| arm _ _ _ (const _) <| arm _ _ _ (const _) <| arm _ _ _ (const _) <|
    arm _ _ _ u16 <| arm _ _ _ (const _) <| arm _ _ _ (const _) <| arm _ _ _ (uleb _) ?_
  cases h.stdLens.drop (opcode - 1) with
  | nil => exact eof
  | cons n tl =>
    refine arm _ _ _ (const _) <| arm _ _ _ (uleb _) ?_
    refine Eq.mp (congrArg P (funext fun input => ?_)) (ulebs n.toNat)
    cases skipUlebs n.toNat input <;> rfl

/-! ## locality -/

def Local {α : Type} (f : Bytes → Out (α × Bytes)) : Prop :=
  ∀ bs v rest, f bs = .ok (v, rest) → ∃ pre, bs = pre ++ rest ∧ Reads f pre v

theorem take_prefix (a b : Bytes) : (a ++ b).take ((a ++ b).length - b.length) = a := by
  rw [List.length_append, Nat.add_sub_cancel, List.take_left']; rfl

theorem local_of_exact {α : Type} {rd : Bytes → Out (α × Bytes)} {P : α → Bytes → Prop} (h : Exact rd P) :
    Local rd := fun _ _ _ => h.local

theorem unsigned_local : Local Leb.unsigned := local_of_exact Leb.exact_unsigned

theorem take_local (n : Nat) : Local (Ints.take n) := local_of_exact (Ints.exact_take n)

theorem ok_local {α : Type} (v : α) : Local (fun bs => (.ok (v, bs) : Out (α × Bytes))) := by
  intro bs w rest h
  cases h
  exact ⟨[], rfl, .pure v⟩

theorem mapRead_local {α β : Type} (g : α → β) (f : Bytes → Out (α × Bytes)) (hf : Local f) :
    Local (fun bs => mapRead g (f bs)) := by
  intro bs w rest (h : mapRead g (f bs) = .ok (w, rest))
  cases hr : f bs with
  | ok p =>
    rw [hr] at h
    cases h
    obtain ⟨pre, hpre, hall⟩ := hf bs _ _ hr
    exact ⟨pre, hpre, fun rest' => congrArg (mapRead g) (hall rest')⟩
  | _ => rw [hr] at h; cases h

theorem local_congr {α : Type} {f g : Bytes → Out (α × Bytes)} (h : ∀ bs, f bs = g bs)
    (hg : Local g) : Local f :=
  (funext h : f = g) ▸ hg

theorem local_bind {α β : Type} {f : Bytes → Out (α × Bytes)} {g : α → Bytes → Out (β × Bytes)}
    (hf : Local f) (hg : ∀ a, Local (g a)) : Local fun bs => f bs >>= fun (a, r) => g a r := by
  intro bs v rest h
  obtain ⟨⟨a, r⟩, h1, h2⟩ := Out.bind_eq_ok h
  obtain ⟨pre1, rfl, hall1⟩ := hf bs a r h1
  obtain ⟨pre2, rfl, hall2⟩ := hg a r v rest h2
  exact ⟨pre1 ++ pre2, (List.append_assoc _ _ _).symm, Reads.bind (k := fun p => g p.1 p.2) hall1 hall2⟩

theorem local_const {β : Type} (x : Out β) : Local fun bs => x >>= fun i => pure (i, bs) := by
  intro bs v rest h
  obtain ⟨i, hx, h⟩ := Out.bind_eq_ok h
  cases h
  exact ⟨[], rfl, fun _ => Out.bind_eq_ok_iff.mpr ⟨v, hx, rfl⟩⟩

theorem skipUlebs_local (n : Nat) : ∀ (bs rest : Bytes), skipUlebs n bs = .ok rest →
    ∃ pre, bs = pre ++ rest ∧ ∀ rest', skipUlebs n (pre ++ rest') = .ok rest' := by
  induction n with
  | zero =>
    intro bs rest h
    cases h
    exact ⟨[], rfl, fun _ => rfl⟩
  | succ n ih =>
    intro bs rest h
    rw [skipUlebs_succ] at h
    obtain ⟨⟨v, r⟩, hu, hr⟩ := Out.bind_eq_ok h
    obtain ⟨pre1, rfl, hall1⟩ := unsigned_local bs v r hu
    obtain ⟨pre2, rfl, hall2⟩ := ih r rest hr
    refine ⟨pre1 ++ pre2, (List.append_assoc _ _ _).symm, fun rest' => ?_⟩
    rw [skipUlebs_succ, List.append_assoc, hall1]
    exact hall2 rest'

theorem parseStandard_local (h : Params) (opcode : Nat) : Local (parseStandard h opcode) := by
  refine parseStandard_cases h opcode Local ok_local (fun g => mapRead_local g _ unsigned_local)
    (mapRead_local _ _ (local_of_exact Leb.exact_signed)) (mapRead_local _ _ (local_of_exact (Ints.exact_fixed _ 2))) (fun n => ?_)
    (fun _ _ _ hp => nomatch hp)
  -- the operands of an unknown opcode are kept as the bytes that were skipped
  intro bs w rest hp
  obtain ⟨r, hs, hp⟩ := Out.bind_eq_ok hp
  cases hp
  obtain ⟨pre, rfl, hall⟩ := skipUlebs_local n bs rest hs
  refine ⟨pre, rfl, fun rest' => Out.bind_eq_ok_iff.mpr ⟨rest', hall rest', ?_⟩⟩
  rw [take_prefix, take_prefix]
  rfl

theorem parseInstr_local (h : Params) (input : Bytes) (ins : Instr) (rest : Bytes)
    (hp : parseInstr h input = .ok (ins, rest)) :
    ∃ pre, input = pre ++ rest ∧ pre ≠ [] ∧ Reads (parseInstr h) pre ins := by
  cases input with
  | nil => cases hp
  | cons opb tl =>
    have arm : Local fun tl => parseInstr h (opb :: tl) := by
      have eq := parseInstr_cons h opb
      by_cases h0 : opb.toNat = 0
      · exact local_congr (fun tl => (eq tl).trans (if_pos h0))
          (local_bind unsigned_local fun len => local_bind (take_local len) fun ext => local_const (parseExtended h ext))
      by_cases hs : opb.toNat ≥ h.opcodeBase
      · exact local_congr (fun tl => (eq tl).trans ((if_neg h0).trans (if_pos hs))) (ok_local _)
      · exact local_congr (fun tl => (eq tl).trans ((if_neg h0).trans (if_neg hs))) (parseStandard_local h _)
    obtain ⟨pre, rfl, hall⟩ := arm tl ins rest hp
    exact ⟨opb :: pre, rfl, List.cons_ne_nil _ _, hall⟩

theorem parseInstr_consumes (h : Params) (input : Bytes) (ins : Instr) (rest : Bytes)
    (hp : parseInstr h input = .ok (ins, rest)) : rest.length < input.length := by
  obtain ⟨pre, rfl, hne, _⟩ := parseInstr_local h input ins rest hp
  have := List.length_pos_iff.mpr hne
  rw [List.length_append]
  omega

/-! ## the decoder returns normally

In the proofs by `simp only`, `Normal` is pushed through `if` and `>>=` (`apply_ite`,
`Out.normal_bind_iff`); what remains is that each primitive read returns normally. -/

theorem normal_ok {α : Type} (a : α) : (Out.ok a).Normal := trivial
theorem normal_err {α : Type} (e : Err) : (Out.err e : Out α).Normal := trivial

theorem mapRead_normal {α β : Type} (g : α → β) (r : Out (α × Bytes)) (hr : r.Normal) :
    (mapRead g r).Normal := by
  cases r <;> exact hr

theorem skipUlebs_normal (n : Nat) : ∀ bs, (skipUlebs n bs).Normal := by
  induction n with
  | zero => intro bs; trivial
  | succ n ih =>
    intro bs
    simp only [skipUlebs_succ, Out.normal_bind_iff, Leb.unsigned_normal, ih, implies_true, and_self]

theorem readCStr_normal (bs : Bytes) : (readCStr bs).Normal := readCStr_isCStr.normal bs

theorem parseFileEntryV4_normal (path bs : Bytes) : (parseFileEntryV4 path bs).Normal := by
  simp only [parseFileEntryV4, Out.normal_bind_iff, Leb.unsigned_normal, Out.pure_eq, Out.normal_ok, implies_true,
    and_self]

theorem parseExtended_normal (h : Params) (ext : Bytes) : (parseExtended h ext).Normal := by
  cases ext with
  | nil => trivial
  | cons sub ext =>
    simp only [parseExtended, apply_ite Out.Normal, Out.normal_bind_iff, Ints.readAddress_normal, readCStr_normal,
      parseFileEntryV4_normal, Leb.unsigned_normal, Out.pure_eq, Out.normal_ok, implies_true, and_self, ite_self]

theorem parseStandard_normal (h : Params) (opcode : Nat) (input : Bytes) :
    (parseStandard h opcode input).Normal :=
  parseStandard_cases h opcode (fun f => ∀ input, (f input).Normal) (fun _ _ => trivial)
    (fun _ _ => mapRead_normal _ _ (Leb.unsigned_normal _)) (fun _ => mapRead_normal _ _ (Leb.signed_normal _))
    (fun _ => mapRead_normal _ _ (Ints.readFixed_normal _ _ _))
    (fun n input => (skipUlebs_normal n input).bind fun _ _ => trivial) (fun _ => trivial) input

theorem parseInstr_normal (h : Params) (input : Bytes) : (parseInstr h input).Normal := by
  cases input with
  | nil => trivial
  | cons opb input =>
    simp only [parseInstr_cons, apply_ite Out.Normal, Out.normal_bind_iff, Leb.unsigned_normal, Ints.take_normal,
      parseExtended_normal, parseStandard_normal, Out.pure_eq, Out.normal_ok, implies_true, and_self,
      ite_self]

theorem parseInstr_cases (h : Params) (input : Bytes) :
    (∃ e, parseInstr h input = .err e) ∨
    ∃ ins rest, parseInstr h input = .ok (ins, rest) ∧ rest.length < input.length := by
  rcases (parseInstr_normal h input).ok_or_err with ⟨p, hp⟩ | he
  · exact .inr ⟨p.1, p.2, hp, parseInstr_consumes h input p.1 p.2 hp⟩
  · exact .inl he

end Gimli.Line
