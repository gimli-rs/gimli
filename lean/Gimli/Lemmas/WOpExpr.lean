import Gimli.Lemmas.WOpDecode
import Gimli.Lemmas.ExecInv
import Gimli.Lemmas.Overwrite
/-!
# C15: whole expressions

`Expression::write` computes the offsets vector from `size()` in a first loop and writes in a
second. The second loop splits at any point and every operation lands at its entry of the offsets
vector; from that, what `OperationIter` lists on the emitted bytes, what the reader finds at the
start of each operation as built, and where `compute_pc` puts it after a branch. Then references to
unit entries and the fix-up pass.
-/
namespace Gimli.WOp
open Gimli.Op (Encoding)

section
variable (e : Endian) (enc : Encoding) (uo : UnitOffs) (hasRefs : Bool)

theorem exprSize_cons (op : Operation) (rest : List Operation) (n : Nat) :
    exprSize enc uo (op :: rest) = .ok n ↔
      ∃ a b, opSize enc uo op = .ok a ∧ exprSize enc uo rest = .ok b ∧ n = a + b := by
  simp only [exprSize, Out.bind_eq_ok_iff, Out.pure_eq, Out.ok.injEq]
  constructor
  · rintro ⟨a, ha, b, hb, h⟩; exact ⟨a, b, ha, hb, h.symm⟩
  · rintro ⟨a, b, ha, hb, h⟩; exact ⟨a, ha, b, hb, h.symm⟩

theorem exprSize_append (pre suf : List Operation) (n : Nat) :
    exprSize enc uo (pre ++ suf) = .ok n ↔
      ∃ a b, exprSize enc uo pre = .ok a ∧ exprSize enc uo suf = .ok b ∧ n = a + b := by
  induction pre generalizing n with
  | nil => simp [exprSize]
  | cons op pre ih =>
    simp only [List.cons_append, exprSize_cons, ih]
    constructor
    · rintro ⟨a, b, ha, ⟨c, d, hc, hd, rfl⟩, rfl⟩
      exact ⟨a + c, d, ⟨a, c, ha, hc, rfl⟩, hd, by omega⟩
    · rintro ⟨x, d, ⟨a, c, ha, hc, rfl⟩, hd, rfl⟩
      exact ⟨a, c + d, ha, ⟨c, d, hc, hd, rfl⟩, by omega⟩

theorem exprOffsets_head (ops : List Operation) (pos : Nat) (offs : List Nat)
    (h : exprOffsets enc uo ops pos = .ok offs) : ∃ tl, offs = pos :: tl := by
  cases ops with
  | nil => simp only [exprOffsets, Out.ok.injEq] at h; exact ⟨[], h.symm⟩
  | cons op rest =>
    simp only [exprOffsets, Out.bind_eq_ok_iff, Out.pure_eq, Out.ok.injEq] at h
    obtain ⟨s, _, r, _, h⟩ := h
    exact ⟨r, h.symm⟩

theorem exprOffsets_length (ops : List Operation) (pos : Nat) (offs : List Nat)
    (h : exprOffsets enc uo ops pos = .ok offs) : offs.length = ops.length + 1 := by
  induction ops generalizing pos offs with
  | nil => simp only [exprOffsets, Out.ok.injEq] at h; simp [← h]
  | cons op rest ih =>
    simp only [exprOffsets, Out.bind_eq_ok_iff, Out.pure_eq, Out.ok.injEq] at h
    obtain ⟨s, _, r, hr, h⟩ := h
    simp [← h, ih _ _ hr]

theorem exprOffsets_get (pre suf : List Operation) (pos : Nat) (offs : List Nat)
    (h : exprOffsets enc uo (pre ++ suf) pos = .ok offs) :
    ∃ n, exprSize enc uo pre = .ok n ∧ offs[pre.length]? = some (pos + n) ∧
      ∃ o2, exprOffsets enc uo suf (pos + n) = .ok o2 := by
  induction pre generalizing pos offs with
  | nil =>
    obtain ⟨tl, rfl⟩ := exprOffsets_head enc uo _ _ _ h
    exact ⟨0, by simp [exprSize], by simp, _, h⟩
  | cons op pre ih =>
    simp only [List.cons_append, exprOffsets, Out.bind_eq_ok_iff, Out.pure_eq, Out.ok.injEq] at h
    obtain ⟨s, hs, r, hr, h⟩ := h
    obtain ⟨n, hn, hg, o2, ho2⟩ := ih _ _ hr
    refine ⟨s + n, ?_, ?_, o2, ?_⟩
    · rw [exprSize_cons]; exact ⟨s, n, hs, hn, rfl⟩
    · rw [← h]; simpa [Nat.add_assoc] using hg
    · simpa [Nat.add_assoc] using ho2

theorem exprWriteOps_append (offs : List Nat) (pre suf : List Operation) (pos : Nat) (bs : Bytes) (fx : List Fixup) :
    exprWriteOps e enc uo hasRefs offs pos (pre ++ suf) = .ok (bs, fx) ↔
      ∃ b1 f1 b2 f2, exprWriteOps e enc uo hasRefs offs pos pre = .ok (b1, f1) ∧
        exprWriteOps e enc uo hasRefs offs (pos + b1.length) suf = .ok (b2, f2) ∧
        bs = b1 ++ b2 ∧ fx = f1 ++ f2 := by
  induction pre generalizing pos bs fx with
  | nil =>
    simp only [List.nil_append, exprWriteOps, Out.ok.injEq, Prod.mk.injEq]
    constructor
    · intro h; exact ⟨[], [], bs, fx, ⟨rfl, rfl⟩, by simpa using h, by simp, by simp⟩
    · rintro ⟨b1, f1, b2, f2, ⟨rfl, rfl⟩, h2, rfl, rfl⟩; simpa using h2
  | cons op pre ih =>
    simp only [List.cons_append, exprWriteOps, Out.bind_eq_ok_iff, Out.pure_eq, Out.ok.injEq, Prod.mk.injEq, Prod.exists, ih]
    constructor
    · rintro ⟨a, fa, ha, b, fb, ⟨b1, f1, b2, f2, h1, h2, rfl, rfl⟩, rfl, rfl⟩
      refine ⟨a ++ b1, fa ++ f1, b2, f2, ⟨a, fa, ha, b1, f1, h1, rfl, rfl⟩, ?_, by simp, by simp⟩
      simpa [Nat.add_assoc] using h2
    · rintro ⟨x, fx', b2, f2, ⟨a, fa, ha, b1, f1, h1, rfl, rfl⟩, h2, rfl, rfl⟩
      refine ⟨a, fa, ha, b1 ++ b2, f1 ++ f2, ⟨b1, f1, b2, f2, h1, ?_, rfl, rfl⟩, by simp, by simp⟩
      simpa [Nat.add_assoc] using h2

/-- **`debug_assert_eq!(w.len(), offset)` never fires**: in `Expression::write` every operation is
written exactly at its entry of the offsets vector, and the last entry is the end. -/
theorem exprWrite_at_offsets (pre suf : List Operation) (pos : Nat) (bs : Bytes) (fx : List Fixup) (offs : List Nat)
    (ho : exprOffsets enc uo (pre ++ suf) pos = .ok offs)
    (hw : exprWriteOps e enc uo hasRefs offs pos (pre ++ suf) = .ok (bs, fx)) :
    ∃ b1 f1 b2 f2, exprWriteOps e enc uo hasRefs offs pos pre = .ok (b1, f1) ∧
      exprWriteOps e enc uo hasRefs offs (pos + b1.length) suf = .ok (b2, f2) ∧
      bs = b1 ++ b2 ∧ fx = f1 ++ f2 ∧ offs[pre.length]? = some (pos + b1.length) := by
  obtain ⟨b1, f1, b2, f2, h1, h2, hb, hf⟩ := (exprWriteOps_append e enc uo hasRefs offs pre suf pos bs fx).mp hw
  obtain ⟨n, hn, hg, _⟩ := exprOffsets_get enc uo pre suf pos offs ho
  have := exprWriteOps_length e enc uo hasRefs pre _ _ _ _ h1
  rw [hn] at this
  simp only [Out.ok.injEq] at this
  exact ⟨b1, f1, b2, f2, h1, h2, hb, hf, by rw [hg, this]⟩

/-- `size()`, a length field made from it, then the expression: the field was made from the
emitted length -/
theorem exprWrite_prefixed (mk : Nat → Out Bytes) (pos : Nat) (ops : List Operation) (bs : Bytes) (fx : List Fixup)
    (h : (do
      let size ← exprSize enc uo ops
      let pre ← mk size
      let (body, fx) ← exprWrite e enc uo hasRefs (pos + pre.length) ops
      pure (pre ++ body, fx)) = .ok (bs, fx)) :
    ∃ pre body, mk body.length = .ok pre ∧
      exprWrite e enc uo hasRefs (pos + pre.length) ops = .ok (body, fx) ∧ bs = pre ++ body := by
  obtain ⟨size, hs, h⟩ := Out.bind_eq_ok h
  obtain ⟨pre, hpre, h⟩ := Out.bind_eq_ok h
  obtain ⟨⟨body, f⟩, hw, h⟩ := Out.bind_eq_ok h
  cases h
  obtain ⟨offs, -, hwo⟩ := Out.bind_eq_ok hw
  have hsz := exprWriteOps_length e enc uo hasRefs ops offs _ body _ hwo
  rw [hs, Out.ok.injEq] at hsz
  subst hsz
  exact ⟨pre, body, hpre, hw, rfl⟩

theorem computePc_lands (bs rest : Bytes) (A k : Nat) (hA : rest.length + A = bs.length)
    (hk : k ≤ bs.length) (hL : bs.length < 2 ^ 64) :
    Eval.computePc rest bs ((k : Int) - (A : Int)) = .ok (bs.drop k) := by
  have hw : ConvOp.wrapOff A ((k : Int) - (A : Int)) = k := by
    have h := ConvOp.wrapOff_cast A ((k : Int) - (A : Int))
    rw [show (A : Int) + ((k : Int) - (A : Int)) = k by omega, Int.emod_eq_of_lt (by omega) (by omega)] at h
    exact Int.ofNat_inj.mp h
  rw [Eval.computePc_eq, show bs.length - rest.length = A by omega, hw, if_neg (Nat.not_lt.mpr hk)]

theorem iterAll_emit (offs : List Nat)
    (hoffs : ∀ f, uo = some f → ∀ en o, f en = some o → o < 2 ^ 64)
    (ops : List Operation) (pos : Nat) (bs : Bytes) (fx : List Fixup) (L fuel : Nat)
    (hw : exprWriteOps e enc uo hasRefs offs pos ops = .ok (bs, fx)) (hwf : ∀ op ∈ ops, OpWf op)
    (hL : bs.length ≤ L) (hL64 : L < 2 ^ 64) (hfuel : ops.length ≤ fuel) :
    Op.iterAll e enc L fuel bs = (expectedDecode e enc uo hasRefs offs pos (L - bs.length) ops, none) := by
  induction ops generalizing pos bs fx fuel with
  | nil =>
    cases hw
    rw [Op.iterAll_nil]; rfl
  | cons op rest ih =>
    obtain ⟨⟨b1, f1⟩, h1, hw⟩ := Out.bind_eq_ok hw
    obtain ⟨⟨b2, f2⟩, h2, hw⟩ := Out.bind_eq_ok hw
    cases hw
    rw [List.length_append] at hL
    obtain ⟨img, himg, hparse⟩ := opWrite_decode e enc uo hasRefs op offs pos b1 f1 b2 hoffs (by omega) h1
      (hwf op (.head _))
    have hn := opLen_of_write h1
    cases fuel with
    | zero => simp at hfuel
    | succ fuel =>
      have ih := ih (pos + b1.length) b2 f2 fuel h2 (fun o ho => hwf o (.tail _ ho)) (by omega)
        (by simp at hfuel; omega)
      rw [Op.iterAll_ok hparse, ih]
      simp only [expectedDecode, himg, hn, Option.getD_some]
      rw [List.length_append, show L - (b1.length + b2.length) + b1.length = L - b2.length by omega]

end

/-! ## a written expression as a whole

`Emitted` collects what `Expression::write` was given and what came out, `Written` what is then known.
`AtOp W pc`: the reader `pc` stands at the start of an operation as built, or at the end. Operation `j`
sits behind what the operations before it emitted (`Laid.opAt`), which is entry `j` of the offsets
vector (`Laid.split`), so a branch, whose displacement is taken from that vector, lands on an
operation as built (`Laid.branchAt`).
For an induction on the index use `Laid.decodeAt` (it hands `Before (j + 1)` on, and takes the three facts it needs
unbundled so that one operation's `OpWf` suffices); for one operation of a list given as `pre ++ op :: suf` use
`parse_at` (Lemmas/WOpRun, from a `Written`). -/

structure Emitted where
  e : Endian
  enc : Encoding
  uo : UnitOffs
  hasRefs : Bool
  ops : List Operation
  pos : Nat
  bs : Bytes
  fx : List Fixup
  offs : List Nat

structure Written (W : Emitted) : Prop where
  ho : exprOffsets W.enc W.uo W.ops W.pos = .ok W.offs
  hw : exprWriteOps W.e W.enc W.uo W.hasRefs W.offs W.pos W.ops = .ok (W.bs, W.fx)
  hwf : ∀ op ∈ W.ops, OpWf op
  hoffs : ∀ f, W.uo = some f → ∀ en o, f en = some o → o < 2 ^ 64
  hL : W.bs.length < 2 ^ 64

/-- the part of `Written` that says where the bytes of each operation lie -/
structure Laid (W : Emitted) : Prop where
  ho : exprOffsets W.enc W.uo W.ops W.pos = .ok W.offs
  hw : exprWriteOps W.e W.enc W.uo W.hasRefs W.offs W.pos W.ops = .ok (W.bs, W.fx)

theorem Written.laid {W : Emitted} (hW : Written W) : Laid W := ⟨hW.ho, hW.hw⟩

/-- the operations before index `j` emitted `bj`; an equation, so two of them for the same `j` name the same bytes
(`cases h.symm.trans h'`) -/
def Emitted.Before (W : Emitted) (j : Nat) (bj : Bytes) (fj : List Fixup) : Prop :=
  exprWriteOps W.e W.enc W.uo W.hasRefs W.offs W.pos (W.ops.take j) = .ok (bj, fj)

def AtOp (W : Emitted) (pc : Bytes) : Prop :=
  ∃ j bj fj, j ≤ W.ops.length ∧ W.Before j bj fj ∧ pc = W.bs.drop bj.length

variable {W : Emitted}

theorem opWrite_nonempty {e : Endian} {enc : Encoding} {uo : UnitOffs} {hasRefs : Bool}
    (hoffs : ∀ f, uo = some f → ∀ en o, f en = some o → o < 2 ^ 64)
    (op : Operation) (offsets : List Nat) (p : Nat) (b : Bytes) (f : List Fixup)
    (hl : b.length < 2 ^ 64) (h : opWrite e enc uo hasRefs offsets p op = .ok (b, f)) (hwf : OpWf op) :
    1 ≤ b.length := by
  obtain ⟨img, _, hp⟩ := opWrite_decode e enc uo hasRefs op offsets p b f [] hoffs hl h hwf
  cases b with
  | nil => cases hp
  | cons x xs => exact Nat.succ_pos _

theorem atOp_start : AtOp W W.bs :=
  ⟨0, [], [], Nat.zero_le _, rfl, rfl⟩

theorem Laid.split (hW : Laid W) {j : Nat} (hj : j ≤ W.ops.length) :
    ∃ bj fj b2, W.Before j bj fj ∧ W.bs = bj ++ b2 ∧ W.offs[j]? = some (W.pos + bj.length) ∧
      ∃ f2, exprWriteOps W.e W.enc W.uo W.hasRefs W.offs (W.pos + bj.length) (W.ops.drop j) = .ok (b2, f2) ∧
        W.fx = fj ++ f2 := by
  have ho := hW.ho
  have hw := hW.hw
  rw [← List.take_append_drop j W.ops] at ho hw
  obtain ⟨bj, fj, b2, f2, h1, h2, hbs, hfx, hg⟩ := exprWrite_at_offsets _ _ _ _ _ _ _ _ _ _ ho hw
  rw [List.length_take_of_le hj] at hg
  exact ⟨bj, fj, b2, h1, hbs, hg, f2, h2, hfx⟩

theorem Laid.opAt (hW : Laid W) {j : Nat} (hj : j < W.ops.length) :
    ∃ bj fj bo fo b3, W.Before j bj fj ∧
      opWrite W.e W.enc W.uo W.hasRefs W.offs (W.pos + bj.length) W.ops[j] = .ok (bo, fo) ∧
      W.bs = bj ++ (bo ++ b3) ∧ W.Before (j + 1) (bj ++ bo) (fj ++ fo) := by
  obtain ⟨bj, fj, b2, h1, hbs, -, f2, h2, -⟩ := hW.split (Nat.le_of_lt hj)
  rw [← List.getElem_cons_drop hj] at h2
  obtain ⟨⟨bo, fo⟩, hop, h2⟩ := Out.bind_eq_ok h2
  obtain ⟨⟨b3, f3⟩, -, h2⟩ := Out.bind_eq_ok h2
  cases h2
  refine ⟨bj, fj, bo, fo, b3, h1, hop, hbs, ?_⟩
  rw [Emitted.Before, List.take_succ_eq_append_getElem hj, exprWriteOps_append]
  exact ⟨bj, fj, bo, fo, h1, by simp [exprWriteOps, hop], rfl, rfl⟩

/-- a reader at the start of operation `j` as built: the byte decoder reads the operation's image and
leaves the reader at the start of operation `j + 1` -/
theorem Laid.decodeAt (hW : Laid W) (hoffs : ∀ f, W.uo = some f → ∀ en o, f en = some o → o < 2 ^ 64)
    (hL : W.bs.length < 2 ^ 64) {j : Nat} (hj : j < W.ops.length) (hwf : OpWf W.ops[j]) {bj : Bytes} {fj : List Fixup}
    (hwj : W.Before j bj fj) :
    ∃ bo fo img, opWrite W.e W.enc W.uo W.hasRefs W.offs (W.pos + bj.length) W.ops[j] = .ok (bo, fo) ∧
      opImage W.e W.enc W.uo W.hasRefs W.offs (W.pos + bj.length) W.ops[j] = some img ∧
      1 ≤ bo.length ∧ bj.length + bo.length ≤ W.bs.length ∧
      Op.parse W.e W.enc (W.bs.drop bj.length) = .ok (img, W.bs.drop (bj.length + bo.length)) ∧
      W.Before (j + 1) (bj ++ bo) (fj ++ fo) := by
  obtain ⟨bj', fj', bo, fo, b3, hwj', hop, hbs, hnext⟩ := hW.opAt hj
  cases hwj.symm.trans hwj'
  have hlo : bo.length < 2 ^ 64 := by rw [hbs] at hL; simp at hL; omega
  obtain ⟨img, himg, hparse⟩ := opWrite_decode W.e W.enc W.uo W.hasRefs _ W.offs _ bo fo b3 hoffs hlo hop hwf
  refine ⟨bo, fo, img, hop, himg, opWrite_nonempty hoffs _ _ _ bo fo hlo hop hwf, by rw [hbs]; simp, ?_, hnext⟩
  rw [hbs, List.drop_left' rfl, ← List.append_assoc, List.drop_left' (by simp)]
  exact hparse

theorem Laid.branchAt (hW : Laid W) (hL : W.bs.length < 2 ^ 64) {j t : Nat} (hj : j < W.ops.length) (hb : isBranchTo W.ops[j] t)
    {bj : Bytes} {fj : List Fixup} (hwj : W.Before j bj fj) :
    t ≤ W.ops.length ∧ ∃ d bt ft, W.Before t bt ft ∧
      Op.parse W.e W.enc (W.bs.drop bj.length) = .ok (branchImage W.ops[j] d, W.bs.drop (bj.length + 3)) ∧
      Eval.computePc (W.bs.drop (bj.length + 3)) W.bs d = .ok (W.bs.drop bt.length) := by
  obtain ⟨bj', fj', bo, fo, b3, hwj', hop, hbs, -⟩ := hW.opAt hj
  cases hwj.symm.trans hwj'
  obtain ⟨tt, htt, hl3, hparse, -⟩ := opWrite_branch W.e W.enc W.uo W.hasRefs _ t hb W.offs _ bo fo b3 hop
  have htle : t ≤ W.ops.length := by
    have := exprOffsets_length _ _ _ _ _ hW.ho
    have : t < W.offs.length := by
      rcases Nat.lt_or_ge t W.offs.length with h | h
      · exact h
      · rw [List.getElem?_eq_none h] at htt; cases htt
    omega
  obtain ⟨bt, ft, btail, hwt, hbs2, hg, -⟩ := hW.split htle
  cases htt.symm.trans hg
  have hd3 : W.bs.drop (bj.length + 3) = b3 := by
    rw [hbs, ← hl3, ← List.append_assoc, List.drop_left' (by simp)]
  refine ⟨htle, _, bt, ft, hwt, by rw [hd3, hbs, List.drop_left' rfl]; exact hparse, ?_⟩
  have hA : b3.length + (bj.length + 3) = W.bs.length := by
    rw [hbs, List.length_append, List.length_append]; omega
  have hd : ((W.pos + bt.length : Nat) : Int) - (((W.pos + bj.length : Nat) : Int) + 3) =
      (bt.length : Int) - ((bj.length + 3 : Nat) : Int) := by omega
  rw [hd3, hd]
  exact computePc_lands W.bs b3 (bj.length + 3) bt.length hA (by rw [hbs2, List.length_append]; omega) hL

section
variable (e : Endian) (enc : Encoding) (uo : UnitOffs) (hasRefs : Bool)

theorem branch_lands_aux (pre suf : List Operation) (op : Operation) (t : Nat) (hb : isBranchTo op t)
    (pos : Nat) (bs : Bytes) (fx : List Fixup) (hL : bs.length < 2 ^ 64)
    (hw : exprWrite e enc uo hasRefs pos (pre ++ op :: suf) = .ok (bs, fx)) :
    t ≤ (pre ++ op :: suf).length ∧
    ∃ (offs : List Nat) (b1 : Bytes) (f1 : List Fixup) (d : Int) (after : Bytes) (bt : Bytes) (ft : List Fixup) (btail : Bytes) (ftail : List Fixup),
      exprOffsets enc uo (pre ++ op :: suf) pos = .ok offs ∧
      -- the operations before the branch emitted `b1`; at that offset the reader finds the branch
      exprWriteOps e enc uo hasRefs offs pos pre = .ok (b1, f1) ∧
      Op.parse e enc (bs.drop b1.length) = .ok (branchImage op d, after) ∧
      -- the operations before the target emitted `bt`; what remains after them is what the target
      -- and its successors emitted
      exprWriteOps e enc uo hasRefs offs pos ((pre ++ op :: suf).take t) = .ok (bt, ft) ∧
      exprWriteOps e enc uo hasRefs offs (pos + bt.length) ((pre ++ op :: suf).drop t) = .ok (btail, ftail) ∧
      bs = bt ++ btail ∧
      -- and that is where the evaluator's `compute_pc` puts the pc
      Eval.computePc after bs d = .ok btail := by
  obtain ⟨offs, ho, hwo⟩ := Out.bind_eq_ok hw
  let W : Emitted := ⟨e, enc, uo, hasRefs, pre ++ op :: suf, pos, bs, fx, offs⟩
  have hW : Laid W := ⟨ho, hwo⟩
  have hj : pre.length < W.ops.length := by simp [W]
  have hop : W.ops[pre.length] = op := by simp [W]
  obtain ⟨b1, f1, -, h1, -⟩ := hW.split (Nat.le_of_lt hj)
  obtain ⟨htle, d, bt, ft, hwt, hparse, hcp⟩ := hW.branchAt hL hj (hop ▸ hb) h1
  obtain ⟨bt', ft', btail, hwt', hbs, -, ftail, htail, -⟩ := hW.split htle
  cases hwt.symm.trans hwt'
  refine ⟨htle, offs, b1, f1, d, _, bt, ft, btail, ftail, ho, ?_, hop ▸ hparse, hwt, htail, hbs, ?_⟩
  · simpa [W, Emitted.Before] using h1
  · rw [hcp, hbs, List.drop_left' rfl]

/-! ## references without an offset -/

/-- an operation that refers to a unit entry directly resolves the reference before anything else -/
theorem opWrite_directRef (op : Operation) (en : Nat) (hd : directRef op = some en)
    (offsets : List Nat) (pos : Nat) :
    ∃ k, opWrite e enc uo hasRefs offsets pos op = entryOffset uo en >>= k := by
  unfold directRef at hd
  split at hd <;> cases hd <;> exact ⟨_, rfl⟩

theorem exprWriteOps_refsKnown_of (offs : Nat → Option Nat) (ops : List Operation)
    (hop : ∀ op ∈ ops, ∀ offsets pos bs fx,
      opWrite e enc (some offs) hasRefs offsets pos op = .ok (bs, fx) → refsKnown offs op = true)
    (offsets : List Nat) (pos : Nat) (bs : Bytes) (fx : List Fixup)
    (h : exprWriteOps e enc (some offs) hasRefs offsets pos ops = .ok (bs, fx)) : refsKnownAll offs ops = true := by
  induction ops generalizing pos bs fx with
  | nil => rfl
  | cons op rest ih =>
    obtain ⟨⟨b1, f1⟩, h1, h⟩ := Out.bind_eq_ok h
    obtain ⟨⟨b2, f2⟩, h2, -⟩ := Out.bind_eq_ok h
    simp [refsKnownAll, hop op (.head _) _ _ _ _ h1, ih (fun o ho => hop o (.tail _ ho)) _ _ _ h2]

theorem opWrite_refsKnown (offs : Nat → Option Nat) (op : Operation) :
    ∀ (offsets : List Nat) (pos : Nat) (bs : Bytes) (fx : List Fixup),
      opWrite e enc (some offs) hasRefs offsets pos op = .ok (bs, fx) → refsKnown offs op = true := by
  induction op using Operation.nest_induction with | step op ih => ?_
  intro offsets pos bs fx h
  -- an operation with a direct reference looked its entry up
  have href : ∀ {en k}, opWrite e enc (some offs) hasRefs offsets pos op = entryOffset (some offs) en >>= k →
      (offs en).isSome = true := by
    intro en k hk
    obtain ⟨o, ho, -⟩ := Out.bind_eq_ok (hk ▸ h)
    obtain ⟨_, hf, hfe⟩ := entryOffset_some _ _ _ ho
    cases hf
    simp [hfe]
  cases op with
  | entryValue body =>
    obtain ⟨len, -, h⟩ := Out.bind_eq_ok h
    obtain ⟨o2, -, h⟩ := Out.bind_eq_ok h
    obtain ⟨⟨b, f⟩, hw, -⟩ := Out.bind_eq_ok h
    exact exprWriteOps_refsKnown_of e enc hasRefs offs body (ih body rfl) _ _ _ _ hw
  | constantType | registerType | derefType | call | parameterRef => exact href rfl
  | convert base | reinterpret base =>
    cases base with
    | none => rfl
    | some => exact href rfl
  | _ => rfl

theorem exprWriteOps_refsKnown (offs : Nat → Option Nat) (ops : List Operation) :
    ∀ (offsets : List Nat) (pos : Nat) (bs : Bytes) (fx : List Fixup),
      exprWriteOps e enc (some offs) hasRefs offsets pos ops = .ok (bs, fx) → refsKnownAll offs ops = true :=
  exprWriteOps_refsKnown_of e enc hasRefs offs ops fun op _ => opWrite_refsKnown e enc hasRefs offs op
end

/-! ## section references and their fix-ups -/

theorem patchAt_one (b : UInt8) (z p tail : Bytes) (h : z.length = p.length) :
    patchAt (b :: (z ++ tail)) 1 p = b :: (p ++ tail) :=
  overwrite_segment (pre := [b]) h.symm

/-- the fix-up pass on an operation written at `pos` whose reference field `z` follows the opcode
byte: the field is overwritten with the offset of the entry, or the pass fails -/
theorem applyFixups_one (e : Endian) (info : Nat → Nat → Option Nat) (pos : Nat) (b : UInt8) (z tail : Bytes)
    (u en : Nat) :
    (info u en = none →
      applyFixups e info pos (b :: (z ++ tail)) [⟨pos + 1, z.length, u, en⟩] = .err .wInvalidReference) ∧
    ∀ o bs', info u en = some o →
      applyFixups e info pos (b :: (z ++ tail)) [⟨pos + 1, z.length, u, en⟩] = .ok bs' →
      ∃ p, Ints.writeUdata e o z.length = .ok p ∧ bs' = b :: (p ++ tail) := by
  refine ⟨fun hn => by simp [applyFixups, hn], fun o bs' ho hap => ?_⟩
  simp only [applyFixups, ho, Out.bind_eq_ok_iff, Out.ok.injEq] at hap
  obtain ⟨p, hp, rfl⟩ := hap
  have hpl := Ints.writeUdata_length hp
  exact ⟨p, hp, by rw [Nat.add_sub_cancel_left, patchAt_one b z p tail hpl.symm]⟩

end Gimli.WOp
