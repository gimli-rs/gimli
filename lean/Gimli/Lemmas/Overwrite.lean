import Gimli.Prim.Basic
/-!
# Overwriting a window of a list in place

`overwrite b off x` is `b` with the window `[off, off + x.length)` replaced by `x`: what every `write_at` of the crate
computes once its bounds check has passed (`Wr.patch`, the result of `WUnit.writeAt`, `WOp.patchAt` are this by `rfl`).
Its length, its elements, and the two readings of the latter that the patch loops use: inside the window stands `x`,
outside it `b` is untouched.
-/
namespace Gimli
variable {α : Type} {b x : List α} {off : Nat}

def overwrite (b : List α) (off : Nat) (x : List α) : List α := b.take off ++ x ++ b.drop (off + x.length)

theorem length_overwrite (h : off + x.length ≤ b.length) : (overwrite b off x).length = b.length := by
  rw [overwrite, List.length_append, List.length_append, List.length_drop,
    List.length_take_of_le (Nat.le_trans (Nat.le_add_right ..) h), Nat.add_sub_cancel' h]

/-- `write_at`'s two bounds checks in front of the overwrite, whatever errors they raise -/
theorem overwrite_guard_eq_ok {e1 e2 : Err} {b' : List α} :
    (if off > b.length then .err e1 else if x.length > b.length - off then .err e2
      else .ok (overwrite b off x) : Out (List α)) = .ok b' ↔ off + x.length ≤ b.length ∧ b' = overwrite b off x := by
  constructor
  · intro h
    split at h
    · cases h
    · split at h
      · cases h
      · exact ⟨Nat.add_le_of_le_sub' (Nat.le_of_not_lt ‹_›) (Nat.le_of_not_lt ‹_›), (Out.ok.inj h).symm⟩
  · rintro ⟨h, rfl⟩
    rw [if_neg (Nat.not_lt.mpr (Nat.le_of_add_right_le h)), if_neg (Nat.not_lt.mpr (Nat.le_sub_of_add_le' h))]

theorem getElem?_overwrite (h : off + x.length ≤ b.length) (i : Nat) :
    (overwrite b off x)[i]? = if i < off then b[i]? else if i < off + x.length then x[i - off]? else b[i]? := by
  have hp : (b.take off).length = off := List.length_take_of_le (Nat.le_trans (Nat.le_add_right ..) h)
  rw [overwrite, List.append_assoc]
  by_cases c1 : i < off
  · rw [if_pos c1, List.getElem?_append_left (hp.symm ▸ c1), List.getElem?_take_of_lt c1]
  · have c1' := Nat.le_of_not_lt c1
    rw [if_neg c1, List.getElem?_append_right (hp.symm ▸ c1'), hp]
    by_cases c2 : i < off + x.length
    · rw [if_pos c2, List.getElem?_append_left (Nat.sub_lt_left_of_lt_add c1' c2)]
    · have c2' := Nat.le_of_not_lt c2
      rw [if_neg c2, List.getElem?_append_right (Nat.le_sub_of_add_le' c2'), List.getElem?_drop, Nat.sub_sub,
        Nat.add_sub_cancel' c2']

theorem getElem?_overwrite_inside (h : off + x.length ≤ b.length) {i : Nat} (hi : i < x.length) :
    (overwrite b off x)[off + i]? = x[i]? := by
  rw [getElem?_overwrite h, if_neg (Nat.not_lt.mpr (Nat.le_add_right off i)), if_pos (Nat.add_lt_add_left hi off),
    Nat.add_sub_cancel_left]

theorem getElem?_overwrite_outside (h : off + x.length ≤ b.length) {i : Nat} (hi : i < off ∨ off + x.length ≤ i) :
    (overwrite b off x)[i]? = b[i]? := by
  rw [getElem?_overwrite h]
  rcases hi with hi | hi
  · rw [if_pos hi]
  · rw [if_neg (Nat.not_lt.mpr (Nat.le_of_add_right_le hi)), if_neg (Nat.not_lt.mpr hi)]

/-- a window that is known as a segment of the list -/
theorem overwrite_segment {pre z tail : List α} (h : x.length = z.length) :
    overwrite (pre ++ z ++ tail) pre.length x = pre ++ x ++ tail := by
  rw [overwrite, List.append_assoc pre, List.take_left' rfl, List.drop_append, h,
    List.drop_of_length_le (Nat.le_add_right ..), Nat.add_sub_cancel_left, List.drop_left' rfl, List.nil_append]

end Gimli
