import Gimli.Lemmas.WUnit.Holes
import Gimli.Lemmas.WUnit.Decode
/-!
# C11, `Unit::write` as a whole and the unit loop of `UnitTable::write`

`writeUnit_spec` says what a unit write does to `.debug_info` and to the queued fix-ups (`UnitWritten`);
what the later units and the fix-up loop need of it is its projection `writeUnit_appends`, carried over
the unit loop by `writeUnits_appends` (`Dwarf::write` itself, `writeDwarf`, is taken apart in Props/C11
`fixups_resolve`). Before that: a tree that is written has only attribute values that can be written.
-/
namespace Gimli.WUnit
open Gimli Gimli.Ints

mutual
def Tree.attrVals : Tree → List AttrVal
  | .node _ _ _ attrs ch => attrs.map (·.2) ++ ch.attrVals
def Forest.attrVals : Forest → List AttrVal
  | .nil => []
  | .cons t rest => t.attrVals ++ rest.attrVals
end

theorem attrsEmit_ok_each (cx : Ctx) (attrs : List (Nat × AttrVal)) (pos : Nat) (em : Emit)
    (h : attrsEmit cx pos attrs = .ok em) : ∀ v ∈ attrs.map (·.2), ∃ pos' em', attrEmit cx pos' v = .ok em' := by
  induction attrs generalizing pos em with
  | nil => exact fun _ hv => (List.not_mem_nil hv).elim
  | cons nv rest ih =>
    obtain ⟨n, v⟩ := nv
    rw [attrsEmit] at h
    obtain ⟨a, ha, h⟩ := Out.bind_eq_ok h
    obtain ⟨r, hr, -⟩ := Out.bind_eq_ok h
    intro w hw
    rcases List.mem_cons.mp hw with rfl | hw
    · exact ⟨pos, a, ha⟩
    · exact ih _ r hr w hw

theorem emit_ok_each (cx : Ctx) :
    (∀ (t : Tree) (pos : Nat) (em : Emit), emitTree cx pos t = .ok em →
      ∀ v ∈ t.attrVals, ∃ pos' em', attrEmit cx pos' v = .ok em') ∧
    (∀ (f : Forest) (pos : Nat) (em : Emit), emitForest cx pos f = .ok em →
      ∀ v ∈ f.attrVals, ∃ pos' em', attrEmit cx pos' v = .ok em') := by
  refine tree_induction (fun id tag sib attrs ch ih pos em h v hv => ?_) (fun _ _ _ _ hv => (List.not_mem_nil hv).elim)
    (fun t rest iht ihf pos em h v hv => ?_)
  · obtain ⟨code, sibBs, a, k, -, -, ha, hk, -, -⟩ := emitTree_node h
    rw [Tree.attrVals, List.mem_append] at hv
    exact hv.elim (attrsEmit_ok_each cx attrs _ a ha v) (ih _ k hk v)
  · rw [emitForest] at h
    obtain ⟨a, ha, h⟩ := Out.bind_eq_ok h
    obtain ⟨r, hr, -⟩ := Out.bind_eq_ok h
    rw [Forest.attrVals, List.mem_append] at hv
    exact hv.elim (iht pos a ha v) (ihf _ r hr v)

theorem emitForest_ok_each (cx : Ctx) : ∀ (f : Forest) (pos : Nat) (em : Emit), emitForest cx pos f = .ok em →
    ∀ v ∈ f.attrVals, ∃ pos' em', attrEmit cx pos' v = .ok em' :=
  (emit_ok_each cx).2

theorem unitHeader_err {e : Endian} {c : Enc} {off : Nat} (hv : ¬ (2 ≤ c.version ∧ c.version ≤ 5)) :
    unitHeader e c off = .err .wUnsupportedVersion := by
  rw [unitHeader, if_neg fun h => hv ⟨h.1, Nat.le_succ_of_le h.2⟩,
    if_neg fun (h : c.version = 5) => hv (by rw [h]; decide)]

theorem writeUnit_inv (e : Endian) (so lso : List Nat) (s s' : Sec) (u : UnitIn) (o : Offs)
    (h : writeUnit e so lso s u = .ok (s', o)) :
    ∃ hdr p1 em lf,
      unitHeader e u.enc s.abbr.length = .ok hdr ∧
      calcTree u.enc (p1Init (s.info.length + initLenSize u.enc.format + hdr.length) s.info.length u.nEntries)
        (unitRoot u) = .ok p1 ∧
      emitTree (unitCtx e so lso u p1) (s.info.length + initLenSize u.enc.format + hdr.length) (unitRoot u) = .ok em ∧
      writeInitialLength e u.enc.format (hdr.length + em.bytes.length) = .ok lf ∧
      patchUnitRefs e u.enc.word p1.offs (s.info ++ lf ++ hdr ++ em.bytes) em.urefs = .ok s'.info ∧
      s'.abbr = s.abbr ++ abbrevTableWrite p1.abbrevs ∧ s'.ifix = s.ifix ++ em.ifix ∧ o = p1.offs := by
  unfold writeUnit at h
  dsimp only at h
  split at h
  · cases h
  obtain ⟨hdr, h1, h⟩ := Out.bind_eq_ok h
  obtain ⟨p1, h2, h⟩ := Out.bind_eq_ok h
  obtain ⟨em, h3, h⟩ := Out.bind_eq_ok h
  obtain ⟨lf, h4, h⟩ := Out.bind_eq_ok h
  obtain ⟨info, h5, h⟩ := Out.bind_eq_ok h
  cases h
  exact ⟨hdr, p1, em, lf, h1, h2, h3, h4, h5, rfl, rfl, rfl⟩

/-- **Every `UnitRef` placeholder ends up holding the unit offset of the entry it names.**
`pre` is everything in `.debug_info` before the root entry (earlier units, this unit's header),
`em` what pass 2 emitted for the tree.  After the `unit_refs` loop, for every recorded reference
`(pos, id)`: the entry `id` was written by pass 2 at some position `target`, pass 1 had assigned
exactly `target` to it, and the `word` bytes at `pos` are the encoding of `target - unitOff`.
Nothing before the root entry is modified. -/
theorem unit_refs_resolve' (cx : Ctx) (t : Tree) (unitOff n : Nat) (p1 : P1) (em : Emit) (pre info' : Bytes)
    (hnd : t.ids.Nodup)
    (hc : calcTree cx.enc (p1Init pre.length unitOff n) t = .ok p1)
    (hoffs : cx.offs = p1.offs) (hcodes : cx.codes = p1.codes)
    (he : emitTree cx pre.length t = .ok em)
    (hp : patchUnitRefs cx.endian cx.enc.word p1.offs (pre ++ em.bytes) em.urefs = .ok info') :
    (∀ r ∈ em.urefs, ∃ target, (r.2, target) ∈ em.starts ∧ p1.offs.map r.2 = some target ∧
      ∀ i, i < cx.enc.word → info'[r.1 + i]? = (toBytes cx.endian cx.enc.word (target - unitOff))[i]?) ∧
    (∀ i, i < pre.length → info'[i]? = pre[i]?) ∧ info'.length = pre.length + em.bytes.length := by
  have hh : Holes cx.enc.word _ em := (emit_holes _).1 _ _ em he
  obtain ⟨-, e2, e3⟩ := (emit_exact cx).1 _ _ p1 em hc he hnd (fun _ _ => ⟨rfl, rfl⟩)
    ⟨hoffs ▸ Offs.Ext.refl _, fun _ _ hj => hcodes ▸ hj⟩
  obtain ⟨f1, -, f3⟩ := (calc_frame _).1 _ _ p1 hc
  obtain ⟨q1, q2, q3⟩ := patchUnitRefs_placed _ _ _ _ _ info' _ _ hp hh.urefs
  refine ⟨fun r hr => ?_, fun i hi => ?_, by rw [q3, List.length_append]⟩
  · obtain ⟨x, hx, hbytes⟩ := q1 r hr
    obtain ⟨-, off, hm, rfl⟩ := unitOffset_eq_some.mp hx
    -- pass 1 started from an empty table, so an id with an offset is an entry of the tree; pass 2
    -- started that entry exactly once, at the offset it reads for it
    have hmem : r.2 ∈ t.ids := Classical.byContradiction fun hn => by
      rw [(f3 r.2 hn).1] at hm; cases hm
    obtain ⟨p, hp1, hp2⟩ := List.mem_map.mp (e3 ▸ hmem)
    have hst : p1.offs.map p.1 = some p.2 := hoffs ▸ e2 p hp1
    rw [hp2, hm] at hst
    refine ⟨off, ?_, hm, fun i hi => ?_⟩
    · rwa [← hp2, Option.some.inj hst]
    · rw [hbytes i hi, f1]; rfl
  · rw [q2 i (.inl hi), List.getElem?_append_left hi]

/-- **What a unit write does to the sections**, for the header `hdr`, the pass-1 state `p1`, the pass-2
output `em` and the length field `lf` it went through. It appends the length field, the header and the
entries to `.debug_info` and leaves the earlier bytes alone; the fix-ups it queues lie in its own
bytes (`holes`); and, the entry ids being distinct, every `UnitRef` placeholder ends up holding the
unit offset of the entry it names (`refs`): for every reference `(pos, id)` that pass 2 recorded, the entry
`id` was written by pass 2 at some position `target`, pass 1 had assigned exactly `target` to it,
and the `word` bytes at `pos` are the encoding of `target - unit offset`. -/
structure UnitWritten (e : Endian) (so lso : List Nat) (s s' : Sec) (u : UnitIn) (o : Offs)
    (hdr : Bytes) (p1 : P1) (em : Emit) (lf : Bytes) : Prop where
  pass1 : calcTree u.enc (p1Init (s.info.length + initLenSize u.enc.format + hdr.length) s.info.length u.nEntries)
    (unitRoot u) = .ok p1
  pass2 : emitTree (unitCtx e so lso u p1) (s.info.length + initLenSize u.enc.format + hdr.length) (unitRoot u) = .ok em
  offs : o = p1.offs
  refs : (unitRoot u).ids.Nodup → ∀ r ∈ em.urefs, ∃ target, (r.2, target) ∈ em.starts ∧ p1.offs.map r.2 = some target ∧
    ∀ i, i < u.enc.word → s'.info[r.1 + i]? = (toBytes e u.enc.word (target - s.info.length))[i]?
  ifix : s'.ifix = s.ifix ++ em.ifix
  lenField : writeInitialLength e u.enc.format (hdr.length + em.bytes.length) = .ok lf
  length : s'.info.length = s.info.length + initLenSize u.enc.format + hdr.length + em.bytes.length
  earlier : ∀ i, i < s.info.length → s'.info[i]? = s.info[i]?
  holes : Holes u.enc.word (s.info.length + initLenSize u.enc.format + hdr.length) em

theorem writeUnit_spec (e : Endian) (so lso : List Nat) (s s' : Sec) (u : UnitIn) (o : Offs)
    (h : writeUnit e so lso s u = .ok (s', o)) : ∃ hdr p1 em lf, UnitWritten e so lso s s' u o hdr p1 em lf := by
  obtain ⟨hdr, p1, em, lf, -, hc, he, h4, hp, -, h7, ho⟩ := writeUnit_inv e so lso s s' u o h
  have hh : Holes u.enc.word _ em := (emit_holes _).1 _ _ em he
  obtain ⟨-, q2, q3⟩ := patchUnitRefs_placed _ _ _ _ _ s'.info _ _ hp hh.urefs
  have hlf : lf.length = initLenSize u.enc.format := writeInitialLength_length h4
  have hpre : (s.info ++ lf ++ hdr).length = s.info.length + initLenSize u.enc.format + hdr.length := by
    rw [List.length_append, List.length_append, hlf]
  refine ⟨hdr, p1, em, lf, hc, he, ho, fun hnd => ?_, h7, h4, ?_, fun i hi => ?_, hh⟩
  · rw [← hpre] at hc he
    exact (unit_refs_resolve' (unitCtx e so lso u p1) _ _ _ p1 em _ s'.info hnd hc rfl rfl he hp).1
  · rw [q3, List.length_append, hpre]
  · -- the entries start behind the old bytes, the length field and the header
    rw [q2 i (.inl (Nat.lt_of_lt_of_le hi (Nat.le_trans (Nat.le_add_right ..) (Nat.le_add_right ..)))),
      List.append_assoc, List.append_assoc, List.getElem?_append_left hi]

theorem writeUnit_appends (e : Endian) (so lso : List Nat) (s s' : Sec) (u : UnitIn) (o : Offs)
    (h : writeUnit e so lso s u = .ok (s', o)) :
    s.info.length ≤ s'.info.length ∧ (∀ i, i < s.info.length → s'.info[i]? = s.info[i]?) ∧
      ∃ later, s'.ifix = s.ifix ++ later ∧ Placed s.info.length s'.info.length (holesI later) := by
  obtain ⟨hdr, p1, em, lf, w⟩ := writeUnit_spec e so lso s s' u o h
  have hlo : s.info.length ≤ s.info.length + initLenSize u.enc.format + hdr.length :=
    Nat.le_trans (Nat.le_add_right ..) (Nat.le_add_right ..)
  exact ⟨w.length ▸ Nat.le_trans hlo (Nat.le_add_right ..), w.earlier, em.ifix, w.ifix,
    w.holes.ifix.weaken hlo (Nat.le_of_eq w.length.symm)⟩

theorem writeUnits_appends (e : Endian) (so lso : List Nat) (units : List UnitIn) (s s' : Sec)
    (offs : List Offs) (h : writeUnits e so lso s units = .ok (s', offs)) :
    s.info.length ≤ s'.info.length ∧ (∀ i, i < s.info.length → s'.info[i]? = s.info[i]?) ∧
      ∃ later, s'.ifix = s.ifix ++ later ∧ Placed s.info.length s'.info.length (holesI later) := by
  induction units generalizing s offs with
  | nil => cases h; exact ⟨Nat.le_refl _, fun _ _ => rfl, [], (List.append_nil _).symm, Nat.le_refl _⟩
  | cons u rest ih =>
    rw [writeUnits] at h
    obtain ⟨⟨s1, o⟩, h1, h⟩ := Out.bind_eq_ok h
    obtain ⟨⟨s2, os⟩, h2, h⟩ := Out.bind_eq_ok h
    cases h
    obtain ⟨a1, a2, l1, hl1, p1⟩ := writeUnit_appends e so lso s s1 u o h1
    obtain ⟨b1, b2, l2, hl2, p2⟩ := ih s1 _ h2
    refine ⟨Nat.le_trans a1 b1, fun i hi => ?_, l1 ++ l2, by rw [hl2, hl1, List.append_assoc], ?_⟩
    · rw [b2 i (Nat.lt_of_lt_of_le hi a1), a2 i hi]
    · rw [holesI_append]; exact p1.append p2

end Gimli.WUnit
