import Gimli.Lemmas.Attr
import Gimli.Spec.Attr
import Gimli.Lemmas.LebU16
/-! Lemmas for C03: decoding the DWARF encoding (`Spec.Attr.encodeForm`) of a value
gives the value back — per primitive reader, then per shape of form (`Shape.reads`), for one
attribute and for the attribute list of an entry (`reads_attribute`, `reads_attributes`), then
behind any number of `DW_FORM_indirect` (`parseLoop_indirect_chain`). -/
namespace Gimli.Attr
open Gimli Gimli.Ints Gimli.Spec.Attr

theorem readFixed_rt (e : Endian) (n v : Nat) (rest : Bytes) (hv : v < 2 ^ (8 * n)) :
    readFixed e n (toBytes e n v ++ rest) = .ok (v, rest) :=
  reads_fixed e n (pow256 n ▸ hv) rest

theorem readWord_rt (e : Endian) (f : Format) (v : Nat) (rest : Bytes) (hv : v < 2 ^ (8 * f.wordSize)) :
    readWord e 64 f (toBytes e f.wordSize v ++ rest) = .ok (v, rest) :=
  reads_word e f (pow256 _ ▸ hv) rest

theorem readFixed_one (e : Endian) (b : UInt8) (rest : Bytes) :
    readFixed e 1 (b :: rest) = .ok (b.toNat, rest) :=
  reads_byte e b rest

theorem take_rt (b rest : Bytes) : Ints.take b.length (b ++ rest) = .ok (b, rest) := take_prefix b rest

theorem encFixed_some {e : Endian} {n : Nat} {p : Payload} {bytes : Bytes}
    (h : encFixed e n p = some bytes) : ∃ v, p = .num v ∧ v < 2 ^ (8 * n) ∧ bytes = toBytes e n v := by
  cases p <;> simp only [encFixed, Option.ite_none_right_eq_some, Option.some.injEq, reduceCtorEq] at h
  exact ⟨_, rfl, h.1, h.2.symm⟩

theorem encUleb_some {p : Payload} {bytes : Bytes}
    (h : encUleb p = some bytes) : ∃ v, p = .num v ∧ v < 2 ^ 64 ∧ bytes = Leb.encodeU v := by
  cases p <;> simp only [encUleb, Option.ite_none_right_eq_some, Option.some.injEq, reduceCtorEq] at h
  exact ⟨_, rfl, h.1, h.2.symm⟩

theorem encBlock_some {e : Endian} {w : Nat} {p : Payload} {bytes : Bytes}
    (h : encBlock e w p = some bytes) :
    ∃ b, p = .bytes b ∧ b.length < 2 ^ (8 * w) ∧ bytes = toBytes e w b.length ++ b := by
  cases p <;> simp only [encBlock, Option.ite_none_right_eq_some, Option.some.injEq, reduceCtorEq] at h
  exact ⟨_, rfl, h.1, h.2.symm⟩

theorem encBlockLeb_some {p : Payload} {bytes : Bytes}
    (h : encBlockLeb p = some bytes) :
    ∃ b, p = .bytes b ∧ b.length < 2 ^ 64 ∧ bytes = Leb.encodeU b.length ++ b := by
  cases p <;> simp only [encBlockLeb, Option.ite_none_right_eq_some, Option.some.injEq, reduceCtorEq] at h
  exact ⟨_, rfl, h.1, h.2.symm⟩

namespace Shape

/-- the value class a shape denotes (`Spec.Attr.rawKind`) -/
def kind : Shape → Kind
  | .fixed k _ | .sized k _ | .uleb k | .block k _ => k
  | .sdata | .implicit _ => .sdata
  | .flag | .present => .flag
  | .string => .string
  | .bad => .data1

/-- `Spec.Attr.encodeForm` by shape; an implicit constant has to be the one the abbreviation holds -/
def encode (enc : Encoding) : Shape → Payload → Option Bytes
  | .fixed _ n, p => encFixed enc.endian n p
  | .sized _ _, p =>
    if validAddressSize enc.addressSize then encFixed enc.endian enc.addressSize p else none
  | .uleb _, p => encUleb p
  | .block _ (some w), p => encBlock enc.endian w p
  | .block _ none, p => encBlockLeb p
  | .sdata, p =>
    match p with
    | .int i => if -2 ^ 63 ≤ i ∧ i < 2 ^ 63 then some (Leb.encodeS i) else none
    | _ => none
  | .flag, p =>
    match p with
    | .flag b => some [if b then 1 else 0]
    | _ => none
  | .present, p =>
    match p with
    | .flag true => some []
    | _ => none
  | .string, p =>
    match p with
    | .bytes s => if (0 : UInt8) ∉ s then some (s ++ [0]) else none
    | _ => none
  | .implicit c, p =>
    match p with
    | .int i => if c = some i then some [] else none
    | _ => none
  | .bad, _ => none

theorem reads {enc : Encoding} {s : Shape} {p : Payload} {bytes : Bytes}
    (henc : s.encode enc p = some bytes) : Reads (s.parse enc) bytes ⟨s.kind, p⟩ := by
  cases s
  case fixed =>
    obtain ⟨v, rfl, hv, rfl⟩ := encFixed_some henc
    exact .map (reads_fixed _ _ (pow256 _ ▸ hv)) fun _ => rfl
  case sized =>
    simp only [encode, Option.ite_none_right_eq_some] at henc
    obtain ⟨v, rfl, hv, rfl⟩ := encFixed_some henc.2
    exact .map (.congr (reads_fixed _ _ (pow256 _ ▸ hv)) fun _ => if_pos henc.1) fun _ => rfl
  case uleb =>
    obtain ⟨v, rfl, hv, rfl⟩ := encUleb_some henc
    exact .map (Leb.reads_unsigned hv) fun _ => rfl
  case block w =>
    cases w
    · obtain ⟨b, rfl, hb, rfl⟩ := encBlockLeb_some henc
      exact .bind (Leb.reads_unsigned hb) (.map (reads_take b) fun _ => rfl)
    · obtain ⟨b, rfl, hb, rfl⟩ := encBlock_some henc
      exact .bind (reads_fixed _ _ (pow256 _ ▸ hb)) (.map (reads_take b) fun _ => rfl)
  case sdata =>
    cases p <;> simp only [encode, Option.ite_none_right_eq_some, Option.some.injEq, reduceCtorEq] at henc
    obtain ⟨hr, rfl⟩ := henc
    exact .map (Leb.reads_signed hr.1 hr.2) fun _ => rfl
  case flag =>
    cases p <;> simp only [encode, Option.some.injEq, reduceCtorEq] at henc
    subst henc
    rename_i b
    exact .map (reads_byte _ _) fun _ => by cases b <;> rfl
  case present =>
    cases p <;> try cases henc
    rename_i b
    cases b <;> cases henc
    exact .pure _
  case string =>
    cases p <;> simp only [encode, Option.ite_none_right_eq_some, Option.some.injEq, reduceCtorEq] at henc
    obtain ⟨h0, rfl⟩ := henc
    exact .map (readCStr_isCStr.reads h0) fun _ => rfl
  case implicit c =>
    cases p <;> simp only [encode, Option.ite_none_right_eq_some, Option.some.injEq, reduceCtorEq] at henc
    obtain ⟨rfl, rfl⟩ := henc
    exact .pure _
  case bad => cases henc

end Shape

theorem rawKind_eq (enc : Encoding) (spec : Spec) (form : Form) :
    rawKind enc spec.name form = (shape enc spec form).kind := by
  cases form
  case data4 | data8 | refAddr => unfold rawKind shape; dsimp only; split <;> rfl
  all_goals rfl

theorem encode_shape {enc : Encoding} {spec : Spec} {form : Form} {p : Payload} {bytes : Bytes}
    (henc : encodeForm enc form p = some bytes)
    (himp : form = .implicitConst → spec.form = .implicitConst ∧ p = .int spec.implicitConst) :
    (shape enc spec form).encode enc p = some bytes := by
  cases form
  case data4 | data8 =>
    unfold shape
    dsimp only
    split <;> exact henc
  case refAddr =>
    unfold shape encodeForm at *
    dsimp only at henc ⊢
    split <;> simp only [*, if_true, if_false] at henc <;> exact henc
  case implicitConst =>
    obtain ⟨hf, rfl⟩ := himp rfl
    unfold shape
    simp only [Shape.encode, Spec.implicitConstValue, hf, if_true]
    exact henc
  all_goals exact henc

theorem parseDirect_roundtrip (enc : Encoding) (spec : Spec) (form : Form) (p : Payload)
    (bytes rest : Bytes) (henc : encodeForm enc form p = some bytes)
    (himp : form = .implicitConst → spec.form = .implicitConst ∧ p = .int spec.implicitConst) :
    parseDirect enc spec form (bytes ++ rest) = .ok (⟨rawKind enc spec.name form, p⟩, rest) := by
  rw [parseDirect_eq, rawKind_eq]
  exact Shape.reads (encode_shape henc himp) rest

theorem reads_attribute (enc : Encoding) (spec : Spec) (p : Payload) (bytes : Bytes)
    (henc : encodeForm enc spec.form p = some bytes)
    (himp : spec.form = .implicitConst → p = .int spec.implicitConst) :
    Reads (parseAttribute enc spec) bytes ⟨rawKind enc spec.name spec.form, p⟩ := fun rest => by
  rw [parseAttribute_direct fun hi => by rw [hi] at henc; cases henc]
  exact parseDirect_roundtrip enc spec spec.form p bytes rest henc fun h => ⟨h, himp h⟩

theorem reads_attributes (enc : Encoding) (sps : List (Spec × Payload)) (bytes : Bytes)
    (h : encodeAttrs enc sps = some bytes)
    (himp : ∀ sp ∈ sps, sp.1.form = .implicitConst → sp.2 = .int sp.1.implicitConst) :
    Reads (readAttributes enc (sps.map (·.1))) bytes
      (sps.map fun sp => ⟨rawKind enc sp.1.name sp.1.form, sp.2⟩) := by
  induction sps generalizing bytes with
  | nil => exact Option.some.inj h ▸ .pure _
  | cons sp sps ih =>
    unfold encodeAttrs at h
    split at h
    · next b1 b2 h1 h2 =>
      exact Option.some.inj h ▸ .bind (reads_attribute enc sp.1 sp.2 b1 h1 (himp _ (.head _)))
        (.map (ih b2 h2 fun x hx => himp x (.tail _ hx)) fun _ => rfl)
    · cases h

/-- a form the decoder knows by name -/
def Form.Known : Form → Prop
  | .unknown _ => False
  | _ => True

theorem ofCode_code (f : Form) (h : f.Known) : Form.ofCode f.code = f := by
  cases f with
  | unknown _ => exact h.elim
  | _ => rfl

theorem code_lt (f : Form) (h : f.Known) : f.code < 2 ^ 16 := by
  cases f with
  | unknown _ => exact h.elim
  | _ => decide

/-- `k` times `DW_FORM_indirect` as the dynamic form, then the real form's code -/
def indirectPrefix (k : Nat) (form : Form) : Bytes := List.replicate k 0x16 ++ Leb.encodeU form.code

theorem parseLoop_indirect_chain (enc : Encoding) (spec : Spec) (form : Form) (hk : form.Known)
    (hni : form ≠ .indirect) : ∀ (k fuel : Nat) (tl : Bytes), k + 1 < fuel →
    parseLoop enc spec fuel .indirect (indirectPrefix k form ++ tl) = parseDirect enc spec form tl := by
  intro k
  induction k with
  | zero =>
    intro fuel tl hf
    obtain ⟨fuel, rfl⟩ := Nat.exists_eq_add_one_of_ne_zero (Nat.ne_zero_of_lt hf)
    obtain ⟨fuel, rfl⟩ := Nat.exists_eq_add_one_of_ne_zero (Nat.ne_zero_of_lt (Nat.lt_of_succ_lt_succ hf))
    simp only [indirectPrefix, List.replicate_zero, List.nil_append]
    rw [parseLoop_succ_indirect, Leb.u16_roundtrip _ (code_lt form hk)]
    simp only [Out.bind_ok, ofCode_code form hk]
    exact parseLoop_succ_direct _ _ _ _ _ hni
  | succ k ih =>
    intro fuel tl hf
    obtain ⟨fuel, rfl⟩ := Nat.exists_eq_add_one_of_ne_zero (Nat.ne_zero_of_lt hf)
    simp only [indirectPrefix, List.replicate_succ, List.cons_append, List.append_assoc]
    rw [parseLoop_succ_indirect]
    have : Leb.u16 (0x16 :: (List.replicate k 0x16 ++ (Leb.encodeU form.code ++ tl)))
        = .ok (0x16, List.replicate k 0x16 ++ (Leb.encodeU form.code ++ tl)) := by
      simp [Leb.u16]
    rw [this]
    simp only [Out.bind_ok]
    have h16 : Form.ofCode 0x16 = .indirect := by decide
    rw [h16]
    have := ih fuel tl (Nat.lt_of_succ_lt_succ hf)
    simp only [indirectPrefix, List.append_assoc] at this
    exact this

theorem indirectPrefix_length (k : Nat) (form : Form) : k + 1 ≤ (indirectPrefix k form).length := by
  have := List.length_pos_iff.mpr (Leb.encodeU_ne_nil form.code)
  simp only [indirectPrefix, List.length_append, List.length_replicate]
  omega

end Gimli.Attr
