import Gimli.Model.Leb
import Gimli.Spec.Leb
import Gimli.Lemmas.Out
import Gimli.Lemmas.Exact
import Gimli.Lemmas.TwosComp
/-!
# LEB128: the readers and writers of `Model/Leb` against the meaning in `Spec/Leb`

For each reader: *sound* (a returned value is `ulebVal`/`slebVal` of the prefix consumed, one complete number
that fits), *complete* (every such prefix is accepted), *reject* (a complete number that does not fit is
`Bad…Leb128`, never a truncation error). The 64-bit loops are followed with the bytes read so far as an
accumulator: the state is `(ulebVal acc, 7 * acc.length)`, one round is `or_group`. Each reader is first put in
closed form on a complete number (the `_lebEnc` lemmas); the three follow. An input that does not begin with a complete
number is an unfinished one (`lebEnc_or_allCont`, `Spec.AllCont`), on which every reader fails (`_allCont`): that
gives `_prefix` (a value means a complete number was consumed) and `_err_skip` (what an error can be). A signed number
is the unsigned one read in two's complement at `7·len` bits (`slebVal_eq_sval`): the signed reader builds the 64-bit pattern
of that value, so it returns it exactly when it is an `i64`, which is what the check on the tenth byte tests (`sfits_iff`). For the
writers: what is emitted is one complete number with the right value and the reported length, hence the round trips.
-/
namespace Gimli.Leb
open Gimli.Spec

theorem pow7_succ (k : Nat) : (2 : Nat) ^ (7 * (k + 1)) = 128 * 2 ^ (7 * k) := by
  rw [Nat.mul_add, Nat.pow_add]; omega

theorem ulebVal_lt (bs : Bytes) : ulebVal bs < 2 ^ (7 * bs.length) := by
  induction bs with
  | nil => exact Nat.one_pos
  | cons b rest ih => rw [ulebVal, List.length_cons, pow7_succ]; omega

theorem ulebVal_append (a b : Bytes) :
    ulebVal (a ++ b) = ulebVal a + 2 ^ (7 * a.length) * ulebVal b := by
  induction a with
  | nil => simp [ulebVal]
  | cons x a ih =>
    rw [List.cons_append, ulebVal, ulebVal, ih, List.length_cons, pow7_succ, Nat.mul_add, Nat.mul_assoc]
    omega

theorem ulebVal_concat (acc : Bytes) (b : UInt8) :
    ulebVal (acc ++ [b]) = ulebVal acc + 2 ^ (7 * acc.length) * (b.toNat % 128) := by
  rw [ulebVal_append, ulebVal, ulebVal, Nat.mul_zero, Nat.add_zero]

/-- `result |= low << shift` at width `w`: the bit ranges are disjoint, so `|` adds; what the shift drops, `%` drops -/
theorem or_shl (r x s w : Nat) (hr : r < 2 ^ s) (hs : s ≤ w) :
    r ||| (x <<< s) % 2 ^ w = (r + 2 ^ s * x) % 2 ^ w := by
  obtain ⟨t, ht⟩ : ∃ t, w = s + t := ⟨w - s, by omega⟩
  rw [ht, Nat.shiftLeft_eq, Nat.mul_comm x, Nat.pow_add, Nat.mul_mod_mul_left, Nat.mod_mul,
    Nat.add_mul_mod_self_left, Nat.mod_eq_of_lt hr, Nat.add_mul_div_left _ _ (Nat.two_pow_pos s),
    Nat.div_eq_of_lt hr, Nat.zero_add, Nat.or_comm, Nat.mul_comm, ← Nat.shiftLeft_eq,
    ← Nat.shiftLeft_add_eq_or_of_lt hr, Nat.add_comm]

/-- one round of `unsignedLoop` / `signedLoop` -/
theorem or_group (acc : Bytes) (b : UInt8) (h : acc.length ≤ 9) :
    ulebVal acc ||| ((b.toNat % 128) <<< (7 * acc.length)) % 2 ^ 64 = ulebVal (acc ++ [b]) % 2 ^ 64 := by
  rw [ulebVal_concat, or_shl _ _ _ 64 (ulebVal_lt acc) (by omega)]

theorem ulebVal_lt63 (acc : Bytes) (h : acc.length ≤ 9) : ulebVal acc < 2 ^ 63 :=
  Nat.lt_of_lt_of_le (ulebVal_lt acc) (Nat.pow_le_pow_right (by decide) (by omega))

theorem lebEnc_or_allCont (bs : Bytes) : (∃ pre rest, bs = pre ++ rest ∧ IsLebEnc pre) ∨ AllCont bs := by
  induction bs with
  | nil => exact .inr fun _ h => nomatch h
  | cons b tl ih =>
    by_cases hb : b.toNat < 128
    · exact .inl ⟨[b], tl, rfl, hb⟩
    · rcases ih with ⟨pre, rest, rfl, henc⟩ | hc
      · cases pre with
        | nil => exact henc.elim
        | cons c pre => exact .inl ⟨b :: c :: pre, rest, rfl, Nat.le_of_not_lt hb, henc⟩
      · exact .inr fun x hx => (List.mem_cons.mp hx).elim (fun e => e ▸ Nat.le_of_not_lt hb) (hc x)

theorem skip_allCont {bs : Bytes} (h : AllCont bs) : skip bs = .err .rUnexpectedEof := by
  induction bs with
  | nil => rfl
  | cons b tl ih =>
    obtain ⟨hb, h⟩ := List.forall_mem_cons.mp h
    rw [skip, if_neg (Nat.not_lt.mpr hb)]
    exact ih h

/-- an unfinished number ends the loop in an error: out of input, or the check on the tenth byte -/
theorem unsignedLoop_allCont (bs : Bytes) : ∀ (r s : Nat), AllCont bs →
    unsignedLoop bs r s = .err .rUnexpectedEof ∨ unsignedLoop bs r s = .err .rBadUnsignedLeb128 := by
  induction bs with
  | nil => intro _ _ _; exact .inl rfl
  | cons b tl ih =>
    intro r s h
    obtain ⟨hb, h⟩ := List.forall_mem_cons.mp h
    have hb : ¬ b.toNat < 128 := Nat.not_lt.mpr hb
    rw [unsignedLoop]
    split
    · exact .inr rfl
    · exact ih _ _ h

/-- the check on the tenth byte is exactly "the value fits in 64 bits"; an eleventh is never reached -/
theorem unsignedLoop_lebEnc (pre : Bytes) : ∀ (rest acc : Bytes), IsLebEnc pre → acc.length ≤ 9 →
    unsignedLoop (pre ++ rest) (ulebVal acc) (7 * acc.length) =
      if (acc ++ pre).length ≤ 10 ∧ ulebVal (acc ++ pre) < 2 ^ 64 then .ok (ulebVal (acc ++ pre), rest)
      else .err .rBadUnsignedLeb128 := by
  induction pre with
  | nil => intro _ _ h; exact h.elim
  | cons b tl ih =>
    intro rest acc henc h9
    rw [List.cons_append, unsignedLoop, or_group acc b h9]
    have hl : (acc ++ [b]).length = acc.length + 1 := by rw [List.length_append, List.length_singleton]
    cases tl with
    | nil =>
      have hb : b.toNat < 128 := henc
      have hfit : ulebVal (acc ++ [b]) < 2 ^ 64 ↔ ¬ (7 * acc.length = 63 ∧ b.toNat ≠ 0 ∧ b.toNat ≠ 1) := by
        by_cases h63 : 7 * acc.length = 63
        · have hU := ulebVal_lt63 acc h9
          rw [ulebVal_concat, h63]; omega
        · have := ulebVal_lt63 (acc ++ [b]) (by omega)
          omega
      by_cases hc : 7 * acc.length = 63 ∧ b.toNat ≠ 0 ∧ b.toNat ≠ 1
      · rw [if_pos hc, if_neg fun h => hfit.mp h.2 hc]
      · rw [if_neg hc, if_pos hb, if_pos ⟨hl ▸ Nat.succ_le_succ h9, hfit.mpr hc⟩,
          Nat.mod_eq_of_lt (hfit.mpr hc), List.nil_append]
    | cons c tl =>
      have hb : 128 ≤ b.toNat := henc.1
      by_cases h63 : 7 * acc.length = 63
      · rw [if_pos ⟨h63, by omega, by omega⟩, if_neg]
        rw [List.length_append, List.length_cons, List.length_cons]; omega
      · have := ulebVal_lt63 (acc ++ [b]) (by omega)
        rw [if_neg fun h => h63 h.1, if_neg (Nat.not_lt.mpr hb), Nat.mod_eq_of_lt (Nat.lt_trans this (by decide)),
          show 7 * acc.length + 7 = 7 * (acc ++ [b]).length by omega,
          ih rest (acc ++ [b]) henc.2 (by omega), List.append_assoc, List.singleton_append]

/-- the unpeeled first byte of `unsigned` is one more round of its loop -/
theorem unsigned_eq_loop (bs : Bytes) : unsigned bs = unsignedLoop bs 0 0 := by
  cases bs with
  | nil => rfl
  | cons b tl =>
    have h63 : ¬ ((0 : Nat) = 63 ∧ b.toNat ≠ 0 ∧ b.toNat ≠ 1) := by omega
    have hor : 0 ||| (b.toNat % 128) <<< 0 % 2 ^ 64 = b.toNat % 128 := by
      rw [Nat.zero_or, Nat.shiftLeft_zero]; omega
    rw [unsigned, unsignedLoop]
    simp only [h63, if_false, hor]
    split
    · rw [Nat.mod_eq_of_lt ‹_›]
    · rfl

theorem unsigned_lebEnc (pre rest : Bytes) (henc : IsLebEnc pre) :
    unsigned (pre ++ rest) =
      if pre.length ≤ 10 ∧ ulebVal pre < 2 ^ 64 then .ok (ulebVal pre, rest) else .err .rBadUnsignedLeb128 :=
  unsigned_eq_loop _ ▸ unsignedLoop_lebEnc pre rest [] henc (Nat.zero_le 9)

theorem unsigned_allCont {bs : Bytes} (hc : AllCont bs) :
    unsigned bs = .err .rUnexpectedEof ∨ unsigned bs = .err .rBadUnsignedLeb128 :=
  unsigned_eq_loop bs ▸ unsignedLoop_allCont bs 0 0 hc

theorem unsigned_prefix {bs : Bytes} {v : Nat} {rest : Bytes} (h : unsigned bs = .ok (v, rest)) :
    ∃ pre, bs = pre ++ rest ∧ IsLebEnc pre := by
  rcases lebEnc_or_allCont bs with ⟨pre, rest', rfl, henc⟩ | hc
  · rw [unsigned_lebEnc pre rest' henc] at h
    split at h
    · cases h; exact ⟨pre, rfl, henc⟩
    · cases h
  · rcases unsigned_allCont hc with h' | h' <;> rw [h'] at h <;> cases h

theorem unsigned_err_skip {bs : Bytes} {x : Err} (h : unsigned bs = .err x) :
    x = .rBadUnsignedLeb128 ∨ (x = .rUnexpectedEof ∧ skip bs = .err .rUnexpectedEof) := by
  rcases lebEnc_or_allCont bs with ⟨pre, rest, rfl, henc⟩ | hc
  · rw [unsigned_lebEnc pre rest henc] at h
    split at h
    · cases h
    · cases h; exact .inl rfl
  · rcases unsigned_allCont hc with h' | h' <;> rw [h'] at h <;> cases h
    · exact .inr ⟨rfl, skip_allCont hc⟩
    · exact .inl rfl

theorem unsigned_sound (bs : Bytes) (v : Nat) (rest : Bytes) (h : unsigned bs = .ok (v, rest)) :
    ∃ pre, bs = pre ++ rest ∧ IsLebEnc pre ∧ pre.length ≤ 10 ∧ v = ulebVal pre ∧ v < 2 ^ 64 := by
  obtain ⟨pre, rfl, henc⟩ := unsigned_prefix h
  rw [unsigned_lebEnc pre rest henc] at h
  split at h
  · cases h; exact ⟨pre, rfl, henc, ‹_ ∧ _›.1, rfl, ‹_ ∧ _›.2⟩
  · cases h

theorem unsigned_complete (pre rest : Bytes) (henc : IsLebEnc pre) (hlen : pre.length ≤ 10)
    (hfit : ulebVal pre < 2 ^ 64) : unsigned (pre ++ rest) = .ok (ulebVal pre, rest) := by
  rw [unsigned_lebEnc pre rest henc, if_pos ⟨hlen, hfit⟩]

theorem unsigned_reject (pre rest : Bytes) (henc : IsLebEnc pre)
    (hbad : 10 < pre.length ∨ 2 ^ 64 ≤ ulebVal pre) :
    unsigned (pre ++ rest) = .err .rBadUnsignedLeb128 := by
  rw [unsigned_lebEnc pre rest henc, if_neg (by omega)]

theorem pow7_le (k : Nat) (hk : k ≤ 8) : 2 ^ (7 * k) * 128 ≤ 2 ^ 63 := by
  have : 2 ^ (7 * k) * 128 = 2 ^ (7 * k + 7) := by rw [Nat.pow_add]
  rw [this]; exact Nat.pow_le_pow_right (by omega) (by omega)

/-- `uleb128_size` is the length of what `Leb128::unsigned` emits, for every value and fuel -/
theorem encodeUFuel_length (fuel v : Nat) : (encodeUFuel fuel v).length = sizeUFuel fuel v := by
  induction fuel generalizing v with
  | zero => rfl
  | succ n ih =>
    rw [encodeUFuel, sizeUFuel]
    by_cases h : v / 128 = 0
    · simp [h]
    · simp [h, ih]; omega

theorem encodeU_length (v : Nat) : (encodeU v).length = sizeU v := encodeUFuel_length 10 v

theorem lebEnc_length_pos {pre : Bytes} (h : IsLebEnc pre) : 1 ≤ pre.length := by
  cases pre with
  | nil => exact h.elim
  | cons b tl => exact Nat.succ_le_succ (Nat.zero_le _)

theorem encodeUFuel_small (fuel : Nat) {v : Nat} (h : v < 128) : encodeUFuel (fuel + 1) v = [UInt8.ofNat (v % 128)] := by
  rw [encodeUFuel]; exact if_neg (by omega)

theorem encodeUFuel_step (fuel : Nat) {v : Nat} (h : 128 ≤ v) :
    encodeUFuel (fuel + 1) v = UInt8.ofNat (v % 128 + 128) :: encodeUFuel fuel (v / 128) := by
  rw [encodeUFuel]; exact if_pos (by omega)

theorem encodeU_small (v : Nat) (h : v < 128) : encodeU v = [UInt8.ofNat v] := by
  rw [encodeU, encodeUFuel_small 9 h, Nat.mod_eq_of_lt h]

theorem encodeUFuel_le (fuel v : Nat) : (encodeUFuel fuel v).length ≤ fuel := by
  induction fuel generalizing v with
  | zero => exact Nat.le_refl 0
  | succ n ih =>
    by_cases h : v < 128
    · rw [encodeUFuel_small n h]; exact Nat.succ_le_succ (Nat.zero_le n)
    · rw [encodeUFuel_step n (by omega)]; exact Nat.succ_le_succ (ih _)

theorem encodeUFuel_enc (fuel : Nat) : ∀ (v : Nat), v < 128 ^ (fuel + 1) →
    IsLebEnc (encodeUFuel (fuel + 1) v) ∧ ulebVal (encodeUFuel (fuel + 1) v) = v := by
  have last (n : Nat) {v : Nat} (h : v < 128) :
      IsLebEnc (encodeUFuel (n + 1) v) ∧ ulebVal (encodeUFuel (n + 1) v) = v := by
    have hb : (UInt8.ofNat (v % 128)).toNat = v % 128 := UInt8.toNat_ofNat_of_lt' (show _ < 256 by omega)
    rw [encodeUFuel_small n h, IsLebEnc, ulebVal, ulebVal, hb]
    omega
  induction fuel with
  | zero => intro v hv; exact last 0 hv
  | succ n ih =>
    intro v hv
    by_cases h : v < 128
    · exact last (n + 1) h
    · have hb : (UInt8.ofNat (v % 128 + 128)).toNat = v % 128 + 128 := UInt8.toNat_ofNat_of_lt' (show _ < 256 by omega)
      obtain ⟨henc, hval⟩ := ih (v / 128) (by rw [Nat.div_lt_iff_lt_mul (by decide)]; exact hv)
      rw [encodeUFuel_step _ (by omega)]
      generalize encodeUFuel (n + 1) (v / 128) = tl at henc hval ⊢
      cases tl with
      | nil => exact henc.elim
      | cons c tl => exact ⟨⟨by omega, henc⟩, by rw [ulebVal, hval, hb]; omega⟩

theorem encodeU_spec (v : Nat) (hv : v < 2 ^ 64) :
    IsLebEnc (encodeU v) ∧ ulebVal (encodeU v) = v ∧ (encodeU v).length ≤ 10 ∧
      1 ≤ (encodeU v).length ∧ (encodeU v).length = sizeU v :=
  have h := encodeUFuel_enc 9 v (Nat.lt_of_lt_of_le hv (by decide))
  ⟨h.1, h.2, encodeUFuel_le 10 v, lebEnc_length_pos h.1, encodeU_length v⟩

theorem unsigned_roundtrip (v : Nat) (hv : v < 2 ^ 64) (rest : Bytes) :
    unsigned (encodeU v ++ rest) = .ok (v, rest) := by
  obtain ⟨henc, hval, hlen, _, _⟩ := encodeU_spec v hv
  have := unsigned_complete (encodeU v) rest henc hlen (by omega)
  rw [hval] at this; exact this

theorem reads_unsigned {v : Nat} (hv : v < 2 ^ 64) : Reads unsigned (encodeU v) v :=
  unsigned_roundtrip v hv

theorem u16_two (b0 b1 : UInt8) :
    (b0.toNat % 128) ||| (((b1.toNat % 128) <<< 7) % 2 ^ 16) = b0.toNat % 128 + 128 * (b1.toNat % 128) := by
  rw [or_shl _ _ 7 16 (by omega) (by decide)]
  exact Nat.mod_eq_of_lt (by omega)

theorem u16_lebEnc (pre rest : Bytes) (henc : IsLebEnc pre) :
    u16 (pre ++ rest) =
      if pre.length ≤ 3 ∧ ulebVal pre < 2 ^ 16 then .ok (ulebVal pre, rest) else .err .rBadUnsignedLeb128 := by
  match pre, henc with
  | [b0], h0 =>
    have h0 : b0.toNat < 128 := h0
    have hv : ulebVal [b0] = b0.toNat := by rw [ulebVal, ulebVal]; omega
    rw [List.singleton_append, u16.eq_def]
    dsimp only
    rw [if_pos h0, hv, if_pos ⟨by simp, by omega⟩]
  | [b0, b1], ⟨h0, h1⟩ =>
    have h1 : b1.toNat < 128 := h1
    have hv : ulebVal [b0, b1] = b0.toNat % 128 + 128 * (b1.toNat % 128) := by
      rw [ulebVal, ulebVal, ulebVal]; omega
    rw [List.cons_append, List.singleton_append, u16, if_neg (by omega)]
    dsimp only
    rw [u16_two, if_pos h1, hv, if_pos ⟨by simp, by omega⟩]
  | [b0, b1, b2], ⟨h0, h1, h2⟩ =>
    have h2 : b2.toNat < 128 := h2
    have hv : ulebVal [b0, b1, b2] = b0.toNat % 128 + 128 * (b1.toNat % 128) + 16384 * b2.toNat := by
      rw [ulebVal, ulebVal, ulebVal, ulebVal]; omega
    rw [List.cons_append, List.cons_append, List.singleton_append, u16, if_neg (by omega)]
    dsimp only
    rw [u16_two, if_neg (by omega), hv]
    -- the third byte is accepted exactly when the whole fits in 16 bits
    by_cases h3 : b2.toNat > 3
    · rw [if_pos h3, if_neg (by omega)]
    · have hsh : (b2.toNat <<< 14) % 2 ^ 16 = 16384 * b2.toNat := by
        rw [Nat.shiftLeft_eq, Nat.mul_comm]; exact Nat.mod_eq_of_lt (by omega)
      rw [if_neg h3, hsh, if_pos ⟨by simp, by omega⟩]
  | b0 :: b1 :: b2 :: b3 :: tl, ⟨h0, h1, h2, _⟩ =>
    rw [List.cons_append, List.cons_append, List.cons_append, u16, if_neg (by omega)]
    dsimp only
    rw [if_neg (by omega), if_pos (by omega), if_neg]
    intro h
    have := h.1
    simp only [List.length_cons] at this
    omega

theorem u16_allCont {bs : Bytes} (hc : AllCont bs) :
    u16 bs = .err .rUnexpectedEof ∨ u16 bs = .err .rBadUnsignedLeb128 := by
  match bs, hc with
  | [], _ => exact .inl rfl
  | [b0], h =>
    obtain ⟨h0, -⟩ := List.forall_mem_cons.mp h
    rw [u16, if_neg (by omega)]; exact .inl rfl
  | [b0, b1], h =>
    obtain ⟨h0, h⟩ := List.forall_mem_cons.mp h
    obtain ⟨h1, -⟩ := List.forall_mem_cons.mp h
    rw [u16, if_neg (by omega)]; dsimp only
    rw [if_neg (by omega)]; exact .inl rfl
  | b0 :: b1 :: b2 :: tl, h =>
    obtain ⟨h0, h⟩ := List.forall_mem_cons.mp h
    obtain ⟨h1, h⟩ := List.forall_mem_cons.mp h
    obtain ⟨h2, -⟩ := List.forall_mem_cons.mp h
    rw [u16, if_neg (by omega)]; dsimp only
    rw [if_neg (by omega), if_pos (by omega)]; exact .inr rfl

theorem u16_prefix {bs : Bytes} {v : Nat} {rest : Bytes} (h : u16 bs = .ok (v, rest)) :
    ∃ pre, bs = pre ++ rest ∧ IsLebEnc pre := by
  rcases lebEnc_or_allCont bs with ⟨pre, rest', rfl, henc⟩ | hc
  · rw [u16_lebEnc pre rest' henc] at h
    split at h
    · cases h; exact ⟨pre, rfl, henc⟩
    · cases h
  · rcases u16_allCont hc with h' | h' <;> rw [h'] at h <;> cases h

theorem u16_sound (bs : Bytes) (v : Nat) (rest : Bytes) (h : u16 bs = .ok (v, rest)) :
    ∃ pre, bs = pre ++ rest ∧ IsLebEnc pre ∧ pre.length ≤ 3 ∧ v = ulebVal pre ∧ v < 2 ^ 16 := by
  obtain ⟨pre, rfl, henc⟩ := u16_prefix h
  rw [u16_lebEnc pre rest henc] at h
  split at h
  · cases h; exact ⟨pre, rfl, henc, ‹_ ∧ _›.1, rfl, ‹_ ∧ _›.2⟩
  · cases h

theorem u16_complete (pre rest : Bytes) (henc : IsLebEnc pre) (hlen : pre.length ≤ 3)
    (hfit : ulebVal pre < 2 ^ 16) : u16 (pre ++ rest) = .ok (ulebVal pre, rest) := by
  rw [u16_lebEnc pre rest henc, if_pos ⟨hlen, hfit⟩]

theorem u16_reject (pre rest : Bytes) (henc : IsLebEnc pre)
    (hbad : 3 < pre.length ∨ 2 ^ 16 ≤ ulebVal pre) :
    u16 (pre ++ rest) = .err .rBadUnsignedLeb128 := by
  rw [u16_lebEnc pre rest henc, if_neg (by omega)]

def lastB : Bytes → UInt8
  | [] => 0
  | [b] => b
  | _ :: c :: tl => lastB (c :: tl)

theorem lastB_append_cons (a : Bytes) (b : UInt8) (tl : Bytes) : lastB (a ++ b :: tl) = lastB (b :: tl) := by
  induction a with
  | nil => rfl
  | cons x a ih =>
    cases a with
    | nil => simp [lastB]
    | cons y a => simpa [lastB] using ih

theorem lastB_concat (init : Bytes) (l : UInt8) : lastB (init ++ [l]) = l := by
  cases init with
  | nil => rfl
  | cons x xs => rw [List.cons_append, ← List.cons_append, lastB_append_cons]; rfl

/-- the condition under which the 64-bit signed reader accepts a complete number `full` -/
def SFits (full : Bytes) : Prop :=
  full.length ≤ 10 ∧ (full.length = 10 → (lastB full).toNat = 0 ∨ (lastB full).toNat = 0x7f)

instance (full : Bytes) : Decidable (SFits full) := by unfold SFits; exact inferInstance

/-- the check on the tenth byte is `SFits`; an eleventh is never reached -/
theorem signedLoop_lebEnc (pre : Bytes) : ∀ (rest acc : Bytes), IsLebEnc pre → acc.length ≤ 9 →
    signedLoop (pre ++ rest) (ulebVal acc) (7 * acc.length) =
      if SFits (acc ++ pre) then .ok (ulebVal (acc ++ pre) % 2 ^ 64, 7 * (acc ++ pre).length, lastB pre, rest)
      else .err .rBadSignedLeb128 := by
  induction pre with
  | nil => intro _ _ h; exact h.elim
  | cons b tl ih =>
    intro rest acc henc h9
    rw [List.cons_append, signedLoop, or_group acc b h9]
    cases tl with
    | nil =>
      have hb : b.toNat < 128 := henc
      have hf : SFits (acc ++ [b]) ↔ ¬ (7 * acc.length = 63 ∧ b.toNat ≠ 0 ∧ b.toNat ≠ 0x7f) := by
        rw [SFits, lastB_concat, List.length_append, List.length_singleton]; omega
      by_cases hc : 7 * acc.length = 63 ∧ b.toNat ≠ 0 ∧ b.toNat ≠ 0x7f
      · rw [if_pos hc, if_neg (fun h => hf.mp h hc)]
      · rw [if_neg hc, if_pos hb, if_pos (hf.mpr hc), List.nil_append, List.length_append,
          List.length_singleton, Nat.mul_add]
        rfl
    | cons c tl =>
      have hb : 128 ≤ b.toNat := henc.1
      by_cases h63 : 7 * acc.length = 63
      · rw [if_pos ⟨h63, by omega, by omega⟩, if_neg]
        intro h
        have := h.1
        rw [List.length_append, List.length_cons, List.length_cons] at this
        omega
      · have hl : (acc ++ [b]).length = acc.length + 1 := by rw [List.length_append, List.length_singleton]
        have := ulebVal_lt63 (acc ++ [b]) (by omega)
        rw [if_neg fun h => h63 h.1, if_neg (Nat.not_lt.mpr hb), Nat.mod_eq_of_lt (Nat.lt_trans this (by decide)),
          show 7 * acc.length + 7 = 7 * (acc ++ [b]).length by omega,
          ih rest (acc ++ [b]) henc.2 (by omega), List.append_assoc]
        rfl

theorem signedLoop_zero (pre rest : Bytes) (henc : IsLebEnc pre) :
    signedLoop (pre ++ rest) 0 0 =
      if SFits pre then .ok (ulebVal pre % 2 ^ 64, 7 * pre.length, lastB pre, rest)
      else .err .rBadSignedLeb128 :=
  signedLoop_lebEnc pre rest [] henc (Nat.zero_le 9)

theorem signedLoop_allCont (bs : Bytes) : ∀ (r s : Nat), AllCont bs →
    signedLoop bs r s = .err .rUnexpectedEof ∨ signedLoop bs r s = .err .rBadSignedLeb128 := by
  induction bs with
  | nil => intro _ _ _; exact .inl rfl
  | cons b tl ih =>
    intro r s h
    obtain ⟨hb, h⟩ := List.forall_mem_cons.mp h
    have hb : ¬ b.toNat < 128 := Nat.not_lt.mpr hb
    rw [signedLoop]
    split
    · exact .inr rfl
    · exact ih _ _ h

theorem slebVal_cons (b : UInt8) {tl : Bytes} (h : tl ≠ []) :
    slebVal (b :: tl) = (b.toNat % 128 : Int) + 128 * slebVal tl := by
  cases tl with
  | nil => exact absurd rfl h
  | cons c tl => rw [slebVal]

theorem slebVal_concat (init : Bytes) (l : UInt8) (hl : l.toNat < 128) :
    slebVal (init ++ [l]) =
      (ulebVal (init ++ [l]) : Int) - (if 64 ≤ l.toNat then (2 : Int) ^ (7 * (init.length + 1)) else 0) := by
  induction init with
  | nil =>
    have h7 : (2 : Int) ^ (7 * (([] : Bytes).length + 1)) = 128 := rfl
    rw [List.nil_append, slebVal, ulebVal, ulebVal, Nat.mod_eq_of_lt hl, h7]
    split <;> omega
  | cons b tl ih =>
    have hp : (2 : Int) ^ (7 * ((b :: tl).length + 1)) = 128 * 2 ^ (7 * (tl.length + 1)) := by
      exact_mod_cast pow7_succ (tl.length + 1)
    rw [List.cons_append, slebVal_cons b (List.append_ne_nil_of_right_ne_nil _ (List.cons_ne_nil _ _)), ih,
      ulebVal, hp]
    split <;> omega

theorem isLebEnc_concat (pre : Bytes) (h : IsLebEnc pre) :
    ∃ init l, pre = init ++ [l] ∧ l.toNat < 128 := by
  induction pre with
  | nil => simp [IsLebEnc] at h
  | cons b tl ih =>
    cases tl with
    | nil => exact ⟨[], b, rfl, by simpa [IsLebEnc] using h⟩
    | cons c tl =>
      obtain ⟨init, l, he, hl⟩ := ih h.2
      exact ⟨b :: init, l, by rw [he]; rfl, hl⟩

/-- the sign extension `result |= !0 << s` on `u64` adds `2^64 - 2^s` -/
theorem signext (s U : Nat) (hs : s ≤ 64) (hU : U < 2 ^ s) :
    U ||| ((2 ^ 64 - 1) <<< s % 2 ^ 64) = U + 2 ^ 64 - 2 ^ s := by
  have hle : 2 ^ s ≤ 2 ^ 64 := Nat.pow_le_pow_right (by decide) hs
  have hge : 2 ^ 64 ≤ 2 ^ 64 * 2 ^ s := Nat.le_mul_of_pos_right _ (Nat.two_pow_pos s)
  have : U + 2 ^ s * (2 ^ 64 - 1) = (U + 2 ^ 64 - 2 ^ s) + 2 ^ 64 * (2 ^ s - 1) := by
    rw [Nat.mul_sub, Nat.mul_sub, Nat.mul_one, Nat.mul_one, Nat.mul_comm]
    omega
  rw [or_shl U _ s 64 hU hs, this, Nat.add_mul_mod_self_left, Nat.mod_eq_of_lt (by omega)]

/-! `toI64` is `Twos.sval 64` and `ofI64` is `Twos.pat 64`, both by `rfl`. -/

theorem toI64_range (n : Nat) : -(2 : Int) ^ 63 ≤ toI64 n ∧ toI64 n < 2 ^ 63 :=
  Twos.sval_range (w := 64) (by decide) n

theorem ofI64_toI64 (x : Nat) (hx : x < 2 ^ 64) : ofI64 (toI64 x) = x := Twos.pat_sval (w := 64) hx

theorem toI64_of_lt {n : Nat} (h : n < 2 ^ 63) : toI64 n = (n : Int) := Twos.sval_of_lt (w := 64) h

theorem toI64_of_ge {n : Nat} (h1 : 2 ^ 63 ≤ n) (h2 : n < 2 ^ 64) : toI64 n = (n : Int) - 2 ^ 64 :=
  Twos.sval_of_ge (w := 64) h1 h2

/-- the sign bit of the last group is the top bit of the `7·len`-bit value -/
theorem sign_iff {pre : Bytes} (henc : IsLebEnc pre) :
    64 ≤ (lastB pre).toNat ↔ 2 ^ (7 * pre.length - 1) ≤ ulebVal pre := by
  obtain ⟨init, l, rfl, hl⟩ := isLebEnc_concat pre henc
  have hI := ulebVal_lt init
  have hH : 2 ^ (7 * (init ++ [l]).length - 1) = 2 ^ (7 * init.length) * 64 :=
    (congrArg (2 ^ ·) (show 7 * (init ++ [l]).length - 1 = 7 * init.length + 6 by
      rw [List.length_append, List.length_singleton]; omega)).trans (Nat.pow_add ..)
  rw [lastB_concat, ulebVal_concat, Nat.mod_eq_of_lt hl, hH]
  constructor
  · intro h; have := Nat.mul_le_mul_left (2 ^ (7 * init.length)) h; omega
  · intro h
    refine Nat.le_of_not_lt fun hlt => ?_
    have := Nat.mul_le_mul_left (2 ^ (7 * init.length)) (Nat.le_of_lt_succ hlt); omega

theorem slebVal_eq_sval {pre : Bytes} (henc : IsLebEnc pre) :
    slebVal pre = Twos.sval (7 * pre.length) (ulebVal pre) := by
  have hs := sign_iff henc
  have hU := ulebVal_lt pre
  obtain ⟨init, l, rfl, hl⟩ := isLebEnc_concat pre henc
  rw [lastB_concat] at hs
  rw [slebVal_concat init l hl]
  rw [List.length_append, List.length_singleton] at hs hU ⊢
  by_cases h : 64 ≤ l.toNat
  · rw [if_pos h, Twos.sval_of_ge (hs.mp h) hU]
  · rw [if_neg h, Twos.sval_of_lt (Nat.lt_of_not_le (mt hs.mpr h)), Int.sub_zero]

theorem lastB_lt : ∀ {pre : Bytes}, IsLebEnc pre → (lastB pre).toNat < 128
  | [_], h => h
  | _ :: c :: tl, h => lastB_lt (pre := c :: tl) h.2

/-- ten groups: the last one is 0 or 0x7f exactly when the value is an `i64` -/
theorem ten_iff {init : Bytes} {l : UInt8} (henc : IsLebEnc (init ++ [l])) (h9 : init.length = 9) :
    (l.toNat = 0 ∨ l.toNat = 0x7f) ↔
      -(2 : Int) ^ 63 ≤ slebVal (init ++ [l]) ∧ slebVal (init ++ [l]) < 2 ^ 63 := by
  have hl : l.toNat < 128 := lastB_concat init l ▸ lastB_lt henc
  have hI := ulebVal_lt init
  have hU := ulebVal_lt (init ++ [l])
  have hdec := ulebVal_concat init l
  rw [slebVal_eq_sval henc, List.length_append, List.length_singleton, h9]
  rw [List.length_append, List.length_singleton, h9] at hU
  rw [h9, Nat.mod_eq_of_lt hl] at hdec
  rw [h9] at hI
  generalize ulebVal (init ++ [l]) = U at *
  generalize ulebVal init = I at *
  by_cases h : U < 2 ^ (7 * (9 + 1) - 1)
  · rw [Twos.sval_of_lt h]; omega
  · rw [Twos.sval_of_ge (Nat.le_of_not_lt h) hU]; omega

/-- the check on the tenth byte is exactly "the value is an `i64`"; fewer than ten groups always fit -/
theorem sfits_iff {pre : Bytes} (henc : IsLebEnc pre) :
    SFits pre ↔ pre.length ≤ 10 ∧ -(2 : Int) ^ 63 ≤ slebVal pre ∧ slebVal pre < 2 ^ 63 := by
  refine and_congr_right fun hlen => ?_
  by_cases h10 : pre.length = 10
  · obtain ⟨init, l, rfl, -⟩ := isLebEnc_concat pre henc
    have h9 : init.length = 9 := by simpa using h10
    rw [lastB_concat]
    exact ⟨fun h => (ten_iff henc h9).mp (h h10), fun h _ => (ten_iff henc h9).mpr h⟩
  · have hr := Twos.range_mono (w := 64) (k := 7 * pre.length) (by omega)
      (Twos.sval_range (Nat.mul_pos (by decide) (lebEnc_length_pos henc)) (ulebVal pre))
    rw [← slebVal_eq_sval henc] at hr
    exact ⟨fun _ => hr, fun _ h => absurd h h10⟩

theorem sfits_of_range (pre : Bytes) (henc : IsLebEnc pre) (hlen : pre.length ≤ 10)
    (hlo : -(2 : Int) ^ 63 ≤ slebVal pre) (hhi : slebVal pre < 2 ^ 63) : SFits pre :=
  (sfits_iff henc).mpr ⟨hlen, hlo, hhi⟩

theorem signed_complete (pre rest : Bytes) (henc : IsLebEnc pre) (hfits : SFits pre) :
    signed (pre ++ rest) = .ok (slebVal pre, rest) := by
  have hloop := signedLoop_zero pre rest henc
  rw [if_pos hfits] at hloop
  have hr := ((sfits_iff henc).mp hfits).2
  have hU := ulebVal_lt pre
  have hl := lastB_lt henc
  rw [signed, hloop]
  dsimp only
  refine congrArg (fun v => Out.ok (v, rest)) ?_
  -- what the reader has built is the 64-bit pattern of the value, and `toI64` reads an `i64` back from its pattern
  refine Eq.trans (congrArg toI64 ?_) ((Twos.sval_pat (w := 64) (by decide) _).mpr hr)
  rw [slebVal_eq_sval henc]
  by_cases hk : 7 * pre.length ≤ 63
  · have hk' : 7 * pre.length ≤ 64 := Nat.le_succ_of_le hk
    rw [Twos.pat_sval_widen hk' hU, Nat.mod_eq_of_lt (Nat.lt_of_lt_of_le hU (Nat.pow_le_pow_right (by decide) hk'))]
    by_cases hs : 2 ^ (7 * pre.length - 1) ≤ ulebVal pre
    · have := (sign_iff henc).mpr hs
      rw [if_pos ⟨Nat.lt_succ_of_le hk, by omega⟩, if_neg (Nat.not_lt.mpr hs), signext _ _ hk' hU]
    · have := mt (sign_iff henc).mp hs
      rw [if_neg (fun h => by omega), if_pos (Nat.lt_of_not_le hs)]
  · rw [if_neg (fun h => hk (Nat.le_of_lt_succ h.1)), Twos.pat_sval_mod (by have := hfits.1; omega)]

theorem signed_range {bs : Bytes} {v : Int} {rest : Bytes} (h : signed bs = .ok (v, rest)) :
    -(2 : Int) ^ 63 ≤ v ∧ v < 2 ^ 63 := by
  unfold signed at h
  split at h
  · cases h; exact toI64_range _
  all_goals cases h

theorem signed_lebEnc (pre rest : Bytes) (henc : IsLebEnc pre) :
    signed (pre ++ rest) = if SFits pre then .ok (slebVal pre, rest) else .err .rBadSignedLeb128 := by
  split
  · exact signed_complete pre rest henc ‹_›
  · rw [signed, signedLoop_zero pre rest henc, if_neg ‹_›]

theorem signed_allCont {bs : Bytes} (hc : AllCont bs) :
    signed bs = .err .rUnexpectedEof ∨ signed bs = .err .rBadSignedLeb128 := by
  rcases signedLoop_allCont bs 0 0 hc with h | h
  · exact .inl (by rw [signed, h])
  · exact .inr (by rw [signed, h])

theorem signed_prefix {bs : Bytes} {v : Int} {rest : Bytes} (h : signed bs = .ok (v, rest)) :
    ∃ pre, bs = pre ++ rest ∧ IsLebEnc pre := by
  rcases lebEnc_or_allCont bs with ⟨pre, rest', rfl, henc⟩ | hc
  · rw [signed_lebEnc pre rest' henc] at h
    split at h
    · cases h; exact ⟨pre, rfl, henc⟩
    · cases h
  · rcases signed_allCont hc with h' | h' <;> rw [h'] at h <;> cases h

theorem signed_err_skip {bs : Bytes} {x : Err} (h : signed bs = .err x) :
    x = .rBadSignedLeb128 ∨ (x = .rUnexpectedEof ∧ skip bs = .err .rUnexpectedEof) := by
  rcases lebEnc_or_allCont bs with ⟨pre, rest, rfl, henc⟩ | hc
  · rw [signed_lebEnc pre rest henc] at h
    split at h
    · cases h
    · cases h; exact .inl rfl
  · rcases signed_allCont hc with h' | h' <;> rw [h'] at h <;> cases h
    · exact .inr ⟨rfl, skip_allCont hc⟩
    · exact .inl rfl

theorem signed_sound (bs : Bytes) (v : Int) (rest : Bytes) (h : signed bs = .ok (v, rest)) :
    ∃ pre, bs = pre ++ rest ∧ IsLebEnc pre ∧ pre.length ≤ 10 ∧ v = slebVal pre ∧
      -(2 : Int) ^ 63 ≤ v ∧ v < 2 ^ 63 := by
  obtain ⟨pre, rfl, henc⟩ := signed_prefix h
  rw [signed_lebEnc pre rest henc] at h
  split at h
  · cases h; exact ⟨pre, rfl, henc, ‹SFits pre›.1, rfl, ((sfits_iff henc).mp ‹_›).2⟩
  · cases h

theorem signed_reject (pre rest : Bytes) (henc : IsLebEnc pre)
    (hbad : 10 < pre.length ∨ slebVal pre < -(2 : Int) ^ 63 ∨ 2 ^ 63 ≤ slebVal pre) :
    signed (pre ++ rest) = .err .rBadSignedLeb128 := by
  rw [signed_lebEnc pre rest henc, if_neg fun hf => by have := (sfits_iff henc).mp hf; omega]

/-- `sleb128_size` is the length of what `Leb128::signed` emits, for every value and fuel -/
theorem encodeSFuel_length (fuel : Nat) (v : Int) : (encodeSFuel fuel v).length = sizeSFuel fuel v := by
  induction fuel generalizing v with
  | zero => rfl
  | succ n ih =>
    rw [encodeSFuel, sizeSFuel]
    by_cases h : v / 64 = 0 ∨ v / 64 = -1
    · simp [h]
    · simp [h, ih]; omega

theorem encodeS_length (v : Int) : (encodeS v).length = sizeS v := encodeSFuel_length 10 v

theorem encodeSFuel_small (fuel : Nat) {v : Int} (h : -64 ≤ v ∧ v < 64) :
    encodeSFuel (fuel + 1) v = [UInt8.ofNat ((v % 256).toNat % 128)] := by
  rw [encodeSFuel]; exact if_pos (by omega)

theorem encodeSFuel_step (fuel : Nat) {v : Int} (h : ¬ (-64 ≤ v ∧ v < 64)) :
    encodeSFuel (fuel + 1) v =
      UInt8.ofNat ((v % 256).toNat % 128 + 128) :: encodeSFuel fuel (v / 64 / 2) := by
  rw [encodeSFuel]; exact if_neg (by omega)

theorem encodeSFuel_le (fuel : Nat) (v : Int) : (encodeSFuel fuel v).length ≤ fuel := by
  induction fuel generalizing v with
  | zero => exact Nat.le_refl 0
  | succ n ih =>
    by_cases h : -64 ≤ v ∧ v < 64
    · rw [encodeSFuel_small n h]; exact Nat.succ_le_succ (Nat.zero_le n)
    · rw [encodeSFuel_step n h]; exact Nat.succ_le_succ (ih _)

/-- `val as u8 & 0x7f` is `val mod 128`, and the two arithmetic shifts are one division by 128 -/
theorem low_group (v : Int) : (((v % 256).toNat % 128 : Nat) : Int) = v % 128 ∧ v / 64 / 2 = v / 128 := by
  omega

theorem encodeSFuel_enc (fuel : Nat) : ∀ (v : Int),
    -(64 * (128 : Int) ^ fuel) ≤ v → v < 64 * (128 : Int) ^ fuel →
    IsLebEnc (encodeSFuel (fuel + 1) v) ∧ slebVal (encodeSFuel (fuel + 1) v) = v := by
  have last (n : Nat) {v : Int} (h : -64 ≤ v ∧ v < 64) :
      IsLebEnc (encodeSFuel (n + 1) v) ∧ slebVal (encodeSFuel (n + 1) v) = v := by
    have hb : (UInt8.ofNat ((v % 256).toNat % 128)).toNat = (v % 256).toNat % 128 :=
      UInt8.toNat_ofNat_of_lt' (Nat.lt_trans (Nat.mod_lt _ (by decide)) (by decide))
    have hg := (low_group v).1
    rw [encodeSFuel_small n h, IsLebEnc, slebVal, hb]
    refine ⟨Nat.mod_lt _ (by decide), ?_⟩
    generalize (v % 256).toNat % 128 = x at hg ⊢
    split <;> omega
  induction fuel with
  | zero =>
    intro v hlo hhi
    rw [Int.pow_zero, Int.mul_one] at hlo hhi
    exact last 0 ⟨hlo, hhi⟩
  | succ n ih =>
    intro v hlo hhi
    by_cases h : -64 ≤ v ∧ v < 64
    · exact last (n + 1) h
    · have hb : (UInt8.ofNat ((v % 256).toNat % 128 + 128)).toNat = (v % 256).toNat % 128 + 128 :=
        UInt8.toNat_ofNat_of_lt' (Nat.add_lt_add_right (Nat.mod_lt _ (by decide)) 128)
      obtain ⟨hg, hd⟩ := low_group v
      rw [Int.pow_succ] at hlo hhi
      rw [encodeSFuel_step _ h, hd]
      obtain ⟨henc, hval⟩ := ih (v / 128) (by omega) (by omega)
      generalize encodeSFuel (n + 1) (v / 128) = tl at henc hval ⊢
      generalize (v % 256).toNat % 128 = x at hg hb ⊢
      cases tl with
      | nil => exact henc.elim
      | cons c tl => exact ⟨⟨by omega, henc⟩, by rw [slebVal, hval, hb]; omega⟩

theorem encodeS_spec (v : Int) (hlo : -(2 : Int) ^ 63 ≤ v) (hhi : v < 2 ^ 63) :
    IsLebEnc (encodeS v) ∧ slebVal (encodeS v) = v ∧ (encodeS v).length ≤ 10 ∧
      1 ≤ (encodeS v).length ∧ (encodeS v).length = sizeS v :=
  have h69 : (64 : Int) * 128 ^ 9 = 2 ^ 69 := by decide
  have h := encodeSFuel_enc 9 v (by rw [h69]; omega) (by rw [h69]; omega)
  ⟨h.1, h.2, encodeSFuel_le 10 v, lebEnc_length_pos h.1, encodeS_length v⟩

theorem signed_roundtrip (v : Int) (hlo : -(2 : Int) ^ 63 ≤ v) (hhi : v < 2 ^ 63) (rest : Bytes) :
    signed (encodeS v ++ rest) = .ok (v, rest) := by
  obtain ⟨henc, hval, hlen, _, _⟩ := encodeS_spec v hlo hhi
  have hf := sfits_of_range (encodeS v) henc hlen (by rw [hval]; exact hlo) (by rw [hval]; exact hhi)
  have := signed_complete (encodeS v) rest henc hf
  rw [hval] at this; exact this

theorem reads_signed {v : Int} (hlo : -(2 : Int) ^ 63 ≤ v) (hhi : v < 2 ^ 63) : Reads signed (encodeS v) v :=
  signed_roundtrip v hlo hhi

protected theorem unsignedLoop_normal (bs : Bytes) : ∀ r s, (unsignedLoop bs r s).Normal := by
  induction bs with
  | nil => intro r s; trivial
  | cons b tl ih =>
    intro r s
    rw [unsignedLoop]
    split
    · trivial
    · split
      · trivial
      · exact ih _ _

protected theorem unsigned_normal (bs : Bytes) : (unsigned bs).Normal :=
  unsigned_eq_loop bs ▸ Leb.unsignedLoop_normal bs 0 0

protected theorem signedLoop_normal (bs : Bytes) : ∀ r s, (signedLoop bs r s).Normal := by
  induction bs with
  | nil => intro r s; trivial
  | cons b tl ih =>
    intro r s
    rw [signedLoop]
    split
    · trivial
    · split
      · trivial
      · exact ih _ _

protected theorem signed_normal (bs : Bytes) : (signed bs).Normal := by
  have := Leb.signedLoop_normal bs 0 0
  unfold signed
  cases h : signedLoop bs 0 0 <;> rw [h] at this <;> first | trivial | exact this

protected theorem u16_normal (bs : Bytes) : (u16 bs).Normal := by
  unfold u16
  repeat' split
  all_goals trivial

protected theorem skip_normal (bs : Bytes) : (skip bs).Normal := by
  induction bs with
  | nil => trivial
  | cons b tl ih => rw [skip]; split <;> first | trivial | exact ih

theorem unsigned_zero (rest : Bytes) : unsigned (0 :: rest) = .ok (0, rest) := by
  rw [unsigned, if_pos (by decide)]; rfl

theorem u16_zero (rest : Bytes) : u16 (0 :: rest) = .ok (0, rest) := by simp [u16]

theorem unsigned_small (n : Nat) (h : n < 128) (r : Bytes) : unsigned (UInt8.ofNat n :: r) = .ok (n, r) := by
  have hb : (UInt8.ofNat n).toNat = n := UInt8.toNat_ofNat_of_lt' (show n < 256 by omega)
  rw [unsigned, if_pos (by omega), hb]

theorem skip_lebEnc {pre : Bytes} (rest : Bytes) (h : IsLebEnc pre) : skip (pre ++ rest) = .ok rest := by
  induction pre with
  | nil => exact h.elim
  | cons b tl ih =>
    rw [List.cons_append, skip]
    cases tl with
    | nil => exact if_pos h
    | cons c tl => rw [if_neg (Nat.not_lt.mpr h.1)]; exact ih h.2

theorem skip_of_unsigned {bs : Bytes} {v : Nat} {rest : Bytes}
    (h : unsigned bs = .ok (v, rest)) : skip bs = .ok rest := by
  obtain ⟨pre, rfl, henc, _⟩ := unsigned_sound bs v rest h
  exact skip_lebEnc rest henc

theorem skip_of_signed {bs : Bytes} {v : Int} {rest : Bytes}
    (h : signed bs = .ok (v, rest)) : skip bs = .ok rest := by
  obtain ⟨pre, rfl, henc, _⟩ := signed_sound bs v rest h
  exact skip_lebEnc rest henc

theorem lebEnc_shrinks {pre rest : Bytes} (h : IsLebEnc pre) : rest.length < (pre ++ rest).length := by
  cases pre with
  | nil => exact h.elim
  | cons b tl => simp only [List.cons_append, List.length_cons, List.length_append]; omega

theorem encodeU_ne_nil (v : Nat) : encodeU v ≠ [] := by
  unfold encodeU encodeUFuel
  simp only
  split <;> simp

theorem unsigned_shrinks {bs : Bytes} {v : Nat} {rest : Bytes} (h : unsigned bs = .ok (v, rest)) :
    rest.length < bs.length := by
  obtain ⟨pre, rfl, henc, _⟩ := unsigned_sound bs v rest h
  exact lebEnc_shrinks henc

theorem u16_shrinks {bs : Bytes} {c : Nat} {rest : Bytes} (h : u16 bs = .ok (c, rest)) :
    rest.length < bs.length := by
  obtain ⟨pre, rfl, henc, _⟩ := u16_sound bs c rest h
  exact lebEnc_shrinks henc

theorem signed_shrinks {bs : Bytes} {v : Int} {rest : Bytes} (h : signed bs = .ok (v, rest)) :
    rest.length < bs.length := by
  obtain ⟨pre, rfl, henc⟩ := signed_prefix h
  exact lebEnc_shrinks henc

theorem skip_le (bs : Bytes) : ∀ rest, skip bs = .ok rest → rest.length < bs.length := by
  induction bs with
  | nil => intro rest h; cases h
  | cons b tl ih =>
    intro rest h
    rw [skip] at h
    split at h
    · cases h; exact Nat.lt_succ_self _
    · exact Nat.lt_succ_of_lt (ih rest h)

theorem unsigned_ensures (bs : Bytes) : (unsigned bs).Ensures fun x => x.2.length < bs.length :=
  ⟨Leb.unsigned_normal bs, fun _ h => unsigned_shrinks h⟩

theorem u16_ensures (bs : Bytes) : (u16 bs).Ensures fun x => x.2.length < bs.length :=
  ⟨Leb.u16_normal bs, fun _ h => u16_shrinks h⟩

theorem signed_ensures (bs : Bytes) : (signed bs).Ensures fun x => x.2.length < bs.length :=
  ⟨Leb.signed_normal bs, fun _ h => signed_shrinks h⟩

theorem exact_unsigned :
    Exact unsigned fun v pre => IsLebEnc pre ∧ pre.length ≤ 10 ∧ ulebVal pre = v ∧ v < 2 ^ 64 where
  read := by rintro _ pre ⟨h1, h2, rfl, h4⟩ rest; exact unsigned_complete pre rest h1 h2 h4
  sound := fun h => have ⟨pre, h1, h2, h3, h4, h5⟩ := unsigned_sound _ _ _ h; ⟨pre, h1, h2, h3, h4.symm, h5⟩
  normal := Leb.unsigned_normal

theorem exact_signed :
    Exact signed fun v pre =>
      IsLebEnc pre ∧ pre.length ≤ 10 ∧ slebVal pre = v ∧ -(2 : Int) ^ 63 ≤ v ∧ v < 2 ^ 63 where
  read := by
    rintro _ pre ⟨h1, h2, rfl, h4, h5⟩ rest
    exact signed_complete pre rest h1 (sfits_of_range pre h1 h2 h4 h5)
  sound := fun h =>
    have ⟨pre, h1, h2, h3, h4, h5⟩ := signed_sound _ _ _ h
    ⟨pre, h1, h2, h3, h4.symm, h5⟩
  normal := Leb.signed_normal

end Gimli.Leb
