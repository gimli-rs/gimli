import Gimli.Spec.Expr
import Gimli.Lemmas.TwosComp
/-!
# Helper lemmas for C07 `value_refines`: `src/read/value.rs` (Model) against the Spec arithmetic

A Model value is a type and a bit pattern, a Spec value a type and an integer; `absV` reads the
pattern as the integer. Everything rests on two facts about `absV`: the integer is congruent to the
pattern modulo `2 ^ width` (`absV_val_emod`), and a pattern congruent to `z` denotes the canonical
representative of `z` (`absV_eq_canon`). Each family of operations then is one congruence between
what the Model computes on patterns and what the Spec computes on integers, and a walk through the
arms of the Rust `match` (generic / signed / unsigned).

No `bv_decide`: `sign_extend`'s xor/subtract trick is proved from `Nat.testBit` lemmas.
-/
open Gimli Gimli.Value Gimli.Spec.Expr

/-! ## `sign_extend` -/

theorem Gimli.Value.xor_two_pow_of_lt (k x : Nat) (hx : x < 2 ^ k) : x ^^^ 2 ^ k = 2 ^ k + x := by
  apply Nat.eq_of_testBit_eq
  intro i
  rw [Nat.testBit_xor, Nat.testBit_two_pow]
  rcases Nat.lt_trichotomy i k with h | h | h
  · rw [Nat.testBit_two_pow_add_gt h, decide_eq_false (by omega), Bool.xor_false]
  · subst h
    rw [Nat.testBit_two_pow_add_eq, Nat.testBit_lt_two_pow hx, decide_eq_true rfl]; rfl
  · have hle : 2 ^ (k + 1) ≤ 2 ^ i := Nat.pow_le_pow_right (by omega) h
    rw [Nat.testBit_lt_two_pow (by omega), Nat.testBit_lt_two_pow (by rw [Nat.pow_succ] at hle; omega),
      decide_eq_false (by omega)]; rfl

theorem Gimli.Value.xor_two_pow (k x : Nat) (hx : x < 2 ^ (k + 1)) :
    x ^^^ 2 ^ k = if x < 2 ^ k then x + 2 ^ k else x - 2 ^ k := by
  rw [Nat.pow_succ] at hx
  split
  · next h => rw [xor_two_pow_of_lt k x h, Nat.add_comm]
  · next h =>
    -- `x` is `x - 2^k` with the top bit set; xor clears it again
    have hx' : x = (x - 2 ^ k) ^^^ 2 ^ k := by rw [xor_two_pow_of_lt k _ (by omega)]; omega
    conv => lhs; rw [hx', Nat.xor_assoc, Nat.xor_self, Nat.xor_zero]

theorem Gimli.Value.toI64_of_lt_two64 (n : Nat) (hn : n < 2 ^ 64) :
    Leb.toI64 n = if n < 2 ^ 63 then (n : Int) else (n : Int) - 2 ^ 64 := by
  unfold Leb.toI64; rw [Nat.mod_eq_of_lt hn]

/-- `sign_extend(value, 2^n - 1)` is the two's complement reading of the low `n` bits: with
`r` the low `n` bits and `P = 2^(n-1)` the sign bit, `(r ^ P) - P` is `r` below `P` and `r - 2P`
from `P` on, and the wrapping subtraction on `u64` read as `i64` is exact since `2P ≤ 2^64` -/
theorem Gimli.Value.signExtend_two_pow (n : Nat) (h1 : 1 ≤ n) (h64 : n ≤ 64) (x : Nat) :
    signExtend x (2 ^ n - 1) = sval n x := by
  obtain ⟨k, rfl⟩ : ∃ k, n = k + 1 := ⟨n - 1, by omega⟩
  have hQ : 2 ^ (k + 1) ≤ 2 ^ 64 := Nat.pow_le_pow_right (by omega) h64
  have hr : x % 2 ^ (k + 1) < 2 ^ (k + 1) := Nat.mod_lt _ (Nat.two_pow_pos _)
  have hc : ((2 : Int) ^ (k + 1)) = ((2 ^ (k + 1) : Nat) : Int) := by push_cast; rfl
  have hs : (2 ^ (k + 1) - 1) >>> 1 + 1 = 2 ^ k := by
    rw [Nat.shiftRight_eq_div_pow, Nat.pow_succ]; have := Nat.two_pow_pos k; omega
  unfold signExtend sval
  simp only [Nat.and_two_pow_sub_one_eq_mod, Nat.add_sub_cancel, hs, hc, xor_two_pow k _ hr]
  rw [Nat.pow_succ] at hQ hr ⊢
  generalize x % (2 ^ k * 2) = r at *
  generalize 2 ^ k = P at *
  by_cases h : r < P
  · rw [if_pos h, if_pos h, show r + P + (2 ^ 64 - P) = r + 2 ^ 64 by omega, Nat.add_mod_right,
      Nat.mod_eq_of_lt (by omega), toI64_of_lt_two64 r (by omega), if_pos (by omega)]
  · rw [if_neg h, if_neg h, Nat.mod_eq_of_lt (by omega), toI64_of_lt_two64 _ (by omega), if_neg (by omega)]
    omega

/-! ## residues modulo `2 ^ w`

`Value.sval`, `Value.pat` and `Spec.Expr.smod` are `Twos.sval`, `Twos.pat`, `Twos.smod` by `rfl`; the general facts are
restated for them so that `rw` finds the Model's constants. -/

theorem Gimli.Value.two_pow_pos_int (w : Nat) : (0 : Int) < 2 ^ w := Int.pow_pos (by decide)

theorem two_pow_emod_self (w : Nat) : (2 ^ w : Int) % 2 ^ w = 0 := Int.emod_self

theorem add_congr (P i i' j j' : Int) (h1 : i % P = i' % P) (h2 : j % P = j' % P) : (i + j) % P = (i' + j') % P := by
  rw [Int.add_emod, h1, h2, ← Int.add_emod]
theorem Gimli.Value.sub_congr (P i i' j j' : Int) (h1 : i % P = i' % P) (h2 : j % P = j' % P) : (i - j) % P = (i' - j') % P := by
  rw [Int.sub_emod, h1, h2, ← Int.sub_emod]
theorem Gimli.Value.mul_congr (P i i' j j' : Int) (h1 : i % P = i' % P) (h2 : j % P = j' % P) : (i * j) % P = (i' * j') % P := by
  rw [Int.mul_emod, h1, h2, ← Int.mul_emod]
theorem neg_congr (P i i' : Int) (h1 : i % P = i' % P) : (-i) % P = (-i') % P := by
  have := sub_congr P 0 0 i i' rfl h1
  simpa using this

theorem smod_congr (w : Nat) (i j : Int) (h : i % 2 ^ w = j % 2 ^ w) : smod w i = smod w j := Twos.smod_congr h

theorem Gimli.Value.smod_emod (w : Nat) (i : Int) : smod w i % 2 ^ w = i % 2 ^ w := Twos.smod_emod w i

theorem pat_cast (w : Nat) (i : Int) : ((pat w i : Nat) : Int) = i % 2 ^ w := Twos.pat_cast w i

theorem pat_lt (w : Nat) (i : Int) : pat w i < 2 ^ w := Twos.pat_lt w i

theorem Gimli.Value.pat_cast_nat (w n : Nat) : pat w (n : Int) = n % 2 ^ w := by
  have := pat_cast w (n : Int)
  rw [← Twos.cast_mod] at this
  exact_mod_cast this

theorem Gimli.Value.pat_mod_nat (w n : Nat) (h : w ≤ n) (i : Int) : pat n i % 2 ^ w = pat w i := by
  have h1 : ((pat n i % 2 ^ w : Nat) : Int) = (pat w i : Nat) := by
    rw [Twos.cast_mod, pat_cast, pat_cast, Twos.emod_emod_pow h]
  exact_mod_cast h1

theorem Gimli.Value.pat_neg_one (w : Nat) : pat w (-1) = 2 ^ w - 1 := by
  have h := pat_cast w (-1)
  rw [Int.emod_eq_add_self_emod, Int.emod_eq_of_lt (by have := two_pow_pos_int w; omega) (by omega)] at h
  have := Nat.two_pow_pos w
  have hc : ((2 ^ w : Nat) : Int) = (2 : Int) ^ w := by push_cast; rfl
  omega

theorem bitsOf_eq_pat (w : Nat) (i : Int) : bitsOf w i = pat w i := rfl

theorem sval_eq_smod (w b : Nat) : sval w b = smod w (b : Int) := Twos.sval_eq_smod w b

theorem Gimli.Value.sval_emod (w b : Nat) : sval w b % 2 ^ w = (b : Int) % 2 ^ w := by
  rw [sval_eq_smod, smod_emod]

theorem Gimli.Value.smod_cast_mod (w x : Nat) : smod w ((x % 2 ^ w : Nat) : Int) = sval w x := by
  rw [sval_eq_smod]; exact smod_congr _ _ _ (by rw [Twos.cast_mod, Int.emod_emod])

theorem Gimli.Value.sval_eq_zero (w b : Nat) : sval w b = 0 ↔ b % 2 ^ w = 0 := by
  constructor
  · intro h
    have := sval_emod w b
    rw [h, Int.zero_emod, ← Twos.cast_mod] at this
    exact_mod_cast this.symm
  · intro h
    unfold sval
    rw [h, if_pos (Nat.two_pow_pos _)]; rfl

theorem Gimli.Value.sval_nonneg_eq (w b : Nat) (hb : b < 2 ^ w) (h : 0 ≤ sval w b) : sval w b = (b : Int) := by
  unfold sval at h ⊢
  rw [Nat.mod_eq_of_lt hb] at h ⊢
  split at h
  · rw [if_pos ‹_›]
  · exact absurd h (Int.not_le.mpr (Int.sub_neg_of_lt (by exact_mod_cast hb)))

/-- `wrapping_sub` on `u64` patterns, read modulo `2^w` -/
theorem Gimli.Value.sub_cast (w x y : Nat) (hw : w ≤ 64) (hy : y < 2 ^ 64) :
    ((2 ^ 64 + x - y : Nat) : Int) % 2 ^ w = ((x : Int) - (y : Int)) % 2 ^ w := by
  rw [show ((2 ^ 64 + x - y : Nat) : Int) = (x : Int) - (y : Int) + 2 ^ 64 by omega,
    ← Int.add_emod_emod, ← Twos.emod_emod_pow hw (2 ^ 64), Int.emod_self, Int.zero_emod, Int.add_zero]

/-- `!p` on `u64` patterns, read modulo `2^w` -/
theorem Gimli.Value.not_cast (w p : Nat) (hw : w ≤ 64) (hp : p < 2 ^ 64) :
    ((2 ^ 64 - 1 - p : Nat) : Int) % 2 ^ w = ((2 : Int) ^ w - 1 - ((p % 2 ^ w : Nat) : Int)) % 2 ^ w := by
  rw [show ((2 ^ 64 - 1 - p : Nat) : Int) = 2 ^ 64 - 1 - (p : Int) by omega]
  refine sub_congr _ _ _ _ _ (sub_congr _ _ _ _ _ ?_ rfl) (by rw [Twos.cast_mod, Int.emod_emod])
  rw [two_pow_emod_self, ← Twos.emod_emod_pow hw, Int.emod_self, Int.zero_emod]

theorem Gimli.Value.shr_cast (n c : Nat) : ((n >>> c : Nat) : Int) = (n : Int) / 2 ^ c := by
  rw [Nat.shiftRight_eq_div_pow]; push_cast; rfl

/-! ## the abstraction -/
namespace Gimli.Value

def absV (a : Nat) (v : Value) : SVal :=
  ⟨v.ty, match v.ty.kind with
    | .generic => ((v.bits % 2 ^ (8 * a) : Nat) : Int)
    | .sint => sval v.ty.width v.bits
    | _ => (v.bits : Int)⟩

def WF (v : Value) : Prop := v.bits < 2 ^ v.ty.width

def IsInt (v : Value) : Prop := v.ty.kind ≠ .float

def AddrSize (a : Nat) : Prop := a = 1 ∨ a = 2 ∨ a = 4 ∨ a = 8

def maskOf (a : Nat) : Nat := 2 ^ (8 * a) - 1

theorem AddrSize.le {a : Nat} (ha : AddrSize a) : 8 * a ≤ 64 := by
  rcases ha with h | h | h | h <;> subst h <;> decide

theorem AddrSize.pos {a : Nat} (ha : AddrSize a) : 0 < a := by
  rcases ha with h | h | h | h <;> subst h <;> decide

theorem width_le (t : ValueType) : t.width ≤ 64 := by cases t <;> decide

end Gimli.Value
open Gimli.Value

theorem and_mask (a x : Nat) : x &&& maskOf a = x % 2 ^ (8 * a) := Nat.and_two_pow_sub_one_eq_mod x (8 * a)

theorem two64_emod (a : Nat) (ha : AddrSize a) : (2 ^ 64 : Int) % 2 ^ (8 * a) = 0 := by
  rw [← Twos.emod_emod_pow ha.le, Int.emod_self, Int.zero_emod]

theorem signExtend_mask (a : Nat) (ha : AddrSize a) (x : Nat) : signExtend x (maskOf a) = sval (8 * a) x :=
  signExtend_two_pow (8 * a) (by have := ha.pos; omega) ha.le x

theorem maskBitSize_mask (a : Nat) (ha : AddrSize a) : maskBitSize (maskOf a) = 8 * a := by
  rcases ha with h | h | h | h <;> subst h <;> decide

theorem wf_lt64 (v : Value) (h : WF v) : v.bits < 2 ^ 64 :=
  Nat.lt_of_lt_of_le h (Nat.pow_le_pow_right (by decide) (width_le v.ty))

theorem Gimli.Value.isFloat_of_int {t : ValueType} (ht : t.kind ≠ .float) : isFloat t = false := by
  cases t <;> first | rfl | exact absurd rfl ht

theorem Gimli.Value.isFloat_absV {a : Nat} {v : Value} (iv : IsInt v) : ¬ isFloat (absV a v).ty = true := by
  rw [show (absV a v).ty = v.ty from rfl, isFloat_of_int iv]; decide

theorem Gimli.Value.spec_width_le {a : Nat} (ha : AddrSize a) (t : ValueType) : width a t ≤ t.width := by
  cases t
  case generic => exact ha.le
  all_goals exact Nat.le_refl _

theorem Gimli.Value.spec_width_le64 {a : Nat} (ha : AddrSize a) (t : ValueType) : width a t ≤ 64 :=
  Nat.le_trans (spec_width_le ha t) (width_le t)

theorem absV_generic (a b : Nat) : absV a ⟨.generic, b⟩ = ⟨.generic, ((b % 2 ^ (8 * a) : Nat) : Int)⟩ := rfl

theorem Gimli.Value.absV_val_emod (a : Nat) (v : Value) :
    (absV a v).val % 2 ^ width a v.ty = (v.bits : Int) % 2 ^ width a v.ty := by
  obtain ⟨t, b⟩ := v
  cases t
  case generic => show ((b % 2 ^ (8 * a) : Nat) : Int) % 2 ^ (8 * a) = _; rw [Twos.cast_mod, Int.emod_emod]; rfl
  case i8 | i16 | i32 | i64 => exact sval_emod _ b
  all_goals rfl

/-- `hp`: a generic pattern may carry anything above the address size, a typed one has to fit its type -/
theorem Gimli.Value.absV_eq_canon (a : Nat) (t : ValueType) (p : Nat) (hp : t = .generic ∨ p < 2 ^ t.width) (z : Int)
    (h : (p : Int) % 2 ^ width a t = z % 2 ^ width a t) : absV a ⟨t, p⟩ = ⟨t, canon a t z⟩ := by
  have hs : ∀ w, (p : Int) % 2 ^ w = z % 2 ^ w → sval w p = smod w z := fun w h => by
    rw [sval_eq_smod]; exact smod_congr _ _ _ h
  have hu : ∀ w, p < 2 ^ w → (p : Int) % 2 ^ w = z % 2 ^ w → (p : Int) = umod w z := fun w hp h => by
    rw [umod, ← h, ← Twos.cast_mod, Nat.mod_eq_of_lt hp]
  cases t
  case generic => exact congrArg (SVal.mk _) ((Twos.cast_mod _ p).trans h)
  case i8 | i16 | i32 | i64 => exact congrArg (SVal.mk _) (hs _ h)
  all_goals exact congrArg (SVal.mk _) (hu _ (hp.resolve_left (by decide)) h)

theorem Gimli.Value.absV_wrap {a : Nat} (ha : AddrSize a) (t : ValueType) (n : Nat) (z : Int)
    (h : (n : Int) % 2 ^ width a t = z % 2 ^ width a t) : absV a ⟨t, n % 2 ^ t.width⟩ = ⟨t, canon a t z⟩ :=
  absV_eq_canon a t _ (.inr (Nat.mod_lt _ (Nat.two_pow_pos _))) z
    (by rw [Twos.cast_mod, Twos.emod_emod_pow (spec_width_le ha t), h])

theorem Gimli.Value.absV_pat {a : Nat} (ha : AddrSize a) (t : ValueType) (i : Int) :
    absV a ⟨t, pat t.width i⟩ = ⟨t, canon a t i⟩ :=
  absV_eq_canon a t _ (.inr (pat_lt _ _)) i (by rw [pat_cast, Twos.emod_emod_pow (spec_width_le ha t)])

theorem Gimli.Value.absV_zero (a : Nat) (t : ValueType) : absV a ⟨t, 0⟩ = ⟨t, 0⟩ := by
  cases t
  case generic => rw [absV_generic, Nat.zero_mod]; rfl
  all_goals rfl

theorem Gimli.Value.absV_ite_zero {a : Nat} {t : ValueType} {n : Nat} {v : Int} (c : Prop) [Decidable c]
    (h : absV a ⟨t, n⟩ = ⟨t, v⟩) : absV a ⟨t, if c then 0 else n⟩ = ⟨t, if c then 0 else v⟩ := by
  split
  · exact absV_zero a t
  · exact h

theorem Gimli.Value.fromU64_abs {a : Nat} (ha : AddrSize a) (t : ValueType) (ht : t.kind ≠ .float) (n : Nat) (z : Int)
    (h : (n : Int) % 2 ^ width a t = z % 2 ^ width a t) : (fromU64 t n).map (absV a) = .ok ⟨t, canon a t z⟩ := by
  cases t
  case f32 | f64 => exact absurd rfl ht
  case generic => exact congrArg Out.ok (absV_eq_canon a .generic n (.inl rfl) z h)
  all_goals exact congrArg Out.ok (absV_wrap ha _ n z h)

theorem Gimli.Value.toU64_bits {a : Nat} (ha : AddrSize a) (v : Value) (iv : IsInt v) :
    ∃ u, v.toU64 (maskOf a) = .ok u ∧ u % 2 ^ width a v.ty = bitsOf (width a v.ty) (absV a v).val ∧
      (WF v → u = pat 64 (absV a v).val) := by
  obtain ⟨t, p⟩ := v
  cases t
  case f32 | f64 => exact absurd rfl iv
  case generic =>
    have hlt : p % 2 ^ (8 * a) < 2 ^ 64 :=
      Nat.lt_of_lt_of_le (Nat.mod_lt _ (Nat.two_pow_pos _)) (Nat.pow_le_pow_right (by decide) ha.le)
    refine ⟨_, rfl, ?_, fun _ => ?_⟩
    · show (p &&& maskOf a) % 2 ^ (8 * a) = pat (8 * a) ((p % 2 ^ (8 * a) : Nat) : Int)
      rw [and_mask, pat_cast_nat]
    · show p &&& maskOf a = pat 64 ((p % 2 ^ (8 * a) : Nat) : Int)
      rw [and_mask, pat_cast_nat, Nat.mod_eq_of_lt hlt]
  case i8 | i16 | i32 | i64 => exact ⟨_, rfl, pat_mod_nat _ 64 (spec_width_le64 ha _) _, fun _ => rfl⟩
  all_goals exact ⟨_, rfl, (pat_cast_nat _ p).symm, fun h => ((pat_cast_nat 64 p).trans (Nat.mod_eq_of_lt (wf_lt64 _ h))).symm⟩

/-- how the signed operations read a generic operand: `sign_extend` on the Model side, `asSigned`
on the Spec side (for the typed arms the two sides agree by definition) -/
theorem Gimli.Value.asSigned_generic {a : Nat} (ha : AddrSize a) (p : Nat) :
    asSigned a (absV a ⟨.generic, p⟩) = signExtend p (maskOf a) := by
  rw [signExtend_mask a ha]; exact smod_cast_mod _ p

/-! ## the shapes operations share -/

theorem Gimli.Value.same_type_refines (a : Nat) {m : Out Value} {s : Out SVal} (x y : Value)
    (h : x.ty = y.ty → m.map (absV a) = s) :
    (if x.ty ≠ y.ty then .err .rTypeMismatch else m).map (absV a) =
      if (absV a x).ty ≠ (absV a y).ty then .err .rTypeMismatch else s := by
  by_cases hty : x.ty = y.ty
  · rw [if_neg (fun h => h hty), if_neg (fun h : (absV a x).ty ≠ (absV a y).ty => h hty)]
    exact h hty
  · rw [if_pos hty, if_pos (show (absV a x).ty ≠ (absV a y).ty from hty)]; rfl

/-- `div` and `rem` test the divisor first, the Model in two steps -/
theorem Gimli.Value.zero_guard_refines (a : Nat) {Z1 Z2 Z' : Prop} [Decidable Z1] [Decidable Z2] [Decidable Z']
    (hz : Z' ↔ (Z1 ∨ Z2)) {m : Out Value} {s : Out SVal} (h : m.map (absV a) = s) :
    (if Z1 then .err .rDivisionByZero else if Z2 then .err .rDivisionByZero else m).map (absV a) =
      if Z' then .err .rDivisionByZero else s := by
  by_cases h' : Z'
  · rw [if_pos h']
    rcases hz.mp h' with h1 | h2
    · rw [if_pos h1]; rfl
    · rw [if_pos h2, ite_self]; rfl
  · rw [if_neg h', if_neg (fun h1 => h' (hz.mpr (.inl h1))), if_neg (fun h2 => h' (hz.mpr (.inr h2)))]
    exact h

theorem Gimli.Value.arith_refines {a : Nat} (ha : AddrSize a) (g : Nat → Nat → Nat) (f : Int → Int → Int) (f32 f64)
    (x y : Value) (ix : IsInt x) (hy : y.bits < 2 ^ 64)
    (hg : ∀ w, w ≤ 64 → ∀ (p q : Nat) (i j : Int), q < 2 ^ 64 →
      i % 2 ^ w = (p : Int) % 2 ^ w → j % 2 ^ w = (q : Int) % 2 ^ w → ((g p q : Nat) : Int) % 2 ^ w = f i j % 2 ^ w) :
    (arith g f32 f64 x y (maskOf a)).map (absV a) =
      if (absV a x).ty ≠ (absV a y).ty then .err .rTypeMismatch
      else if isFloat (absV a x).ty then .ok (absV a x)
      else .ok ⟨(absV a x).ty, canon a (absV a x).ty (f (absV a x).val (absV a y).val)⟩ := by
  unfold arith
  refine same_type_refines a x y (fun hty => ?_)
  obtain ⟨t, p⟩ := x
  obtain ⟨_, q⟩ := y
  cases hty
  have hz := hg (width a t) (spec_width_le64 ha t) p q _ _ hy (absV_val_emod a ⟨t, p⟩) (absV_val_emod a ⟨t, q⟩)
  rw [if_neg (isFloat_absV ix)]
  cases t
  case f32 | f64 => exact absurd rfl ix
  case generic =>
    -- `& mask` after wrapping to 64 bits: the same value modulo the address size
    refine congrArg Out.ok (Eq.trans ?_ (absV_wrap ha .generic _ _ hz))
    rw [absV_generic, absV_generic, and_mask, Nat.mod_mod]; rfl
  all_goals exact congrArg Out.ok (absV_wrap ha _ _ _ hz)

/-- what `and`, `or`, `xor` have in common: they commute with reduction modulo `2^n` -/
def ModCompat (f : Nat → Nat → Nat) : Prop := ∀ p q n, f p q % 2 ^ n = f (p % 2 ^ n) (q % 2 ^ n)

theorem Gimli.Value.bitwise_refines {a : Nat} (ha : AddrSize a) (f : Nat → Nat → Nat) (hf : ModCompat f) (x y : Value)
    (ix : IsInt x) :
    (Value.bitwise f x y (maskOf a)).map (absV a) =
      if (absV a x).ty ≠ (absV a y).ty then .err .rTypeMismatch
      else if isFloat (absV a x).ty then .err .rIntegralTypeRequired
      else .ok ⟨(absV a x).ty, canon a (absV a x).ty
        (f (bitsOf (width a (absV a x).ty) (absV a x).val) (bitsOf (width a (absV a x).ty) (absV a y).val) : Nat)⟩ := by
  unfold bitwise
  refine same_type_refines a x y (fun hty => ?_)
  obtain ⟨u1, h1, e1, _⟩ := toU64_bits ha x ix
  obtain ⟨u2, h2, e2, _⟩ := toU64_bits ha y (show y.ty.kind ≠ .float from hty ▸ ix)
  rw [h1, h2, if_neg (isFloat_absV ix)]
  show (fromU64 x.ty (f u1 u2)).map (absV a) = _
  rw [show (absV a x).ty = x.ty from rfl, ← e1, hty, ← e2, ← hf, ← hty]
  exact fromU64_abs ha x.ty ix _ _ (by rw [Twos.cast_mod, Int.emod_emod])

theorem Gimli.Value.compare_refines {a : Nat} (ha : AddrSize a) (op : BinOp) {ri : Int → Int → Bool}
    {rf32 : Float32 → Float32 → Bool} {rf64 : Float → Float → Bool} (x y : Value) (ix : IsInt x)
    (hrel : ∀ i j, rel op i j = ri i j) :
    (Value.compare ri rf32 rf64 x y (maskOf a)).map (absV a) =
      if (absV a x).ty ≠ (absV a y).ty then .err .rTypeMismatch
      else if isFloat (absV a x).ty then .ok ⟨.generic, 0⟩
      else .ok ⟨.generic, if rel op (asSigned a (absV a x)) (asSigned a (absV a y)) then 1 else 0⟩ := by
  unfold Value.compare
  refine same_type_refines a x y (fun hty => ?_)
  rw [if_neg (isFloat_absV ix)]
  have hb : ∀ b : Bool, absV a ⟨.generic, b.toNat⟩ = ⟨.generic, if b = true then 1 else 0⟩ := fun b => by
    have h8 : b.toNat < 2 ^ (8 * a) :=
      Nat.lt_of_le_of_lt (Bool.toNat_le b) (Nat.one_lt_two_pow (by have := ha.pos; omega))
    rw [absV_generic, Nat.mod_eq_of_lt h8]; cases b <;> rfl
  obtain ⟨t, p⟩ := x
  obtain ⟨_, q⟩ := y
  cases hty
  simp only [hrel]
  cases t
  case f32 | f64 => exact absurd rfl ix
  case generic => rw [asSigned_generic ha, asSigned_generic ha]; exact congrArg Out.ok (hb _)
  all_goals exact congrArg Out.ok (hb _)

/-- the Spec's divisor-is-zero test, on patterns: a generic divisor is zero modulo the address size -/
theorem Gimli.Value.val_zero_iff (a : Nat) (y : Value) (hy : WF y) :
    (¬ (isFloat (absV a y).ty = true) ∧ (absV a y).val = 0) ↔
      ((y.ty = .generic ∧ y.bits % 2 ^ (8 * a) = 0) ∨ isTypedIntZero y = true) := by
  obtain ⟨t, b⟩ := y
  have hb : b % 2 ^ t.width = b := Nat.mod_eq_of_lt hy
  cases t
  case generic =>
    have h : ((b % 2 ^ (8 * a) : Nat) : Int) = 0 ↔ b % 2 ^ (8 * a) = 0 := Int.natCast_eq_zero
    exact ⟨fun ⟨_, hv⟩ => .inl ⟨rfl, h.mp hv⟩,
      fun hr => hr.elim (fun ⟨_, hv⟩ => ⟨Bool.false_ne_true, h.mpr hv⟩) (fun hz => absurd hz Bool.false_ne_true)⟩
  case f32 | f64 => simp [isTypedIntZero, ValueType.kind, absV, isFloat]
  case u8 | u16 | u32 | u64 => simp [isTypedIntZero, ValueType.kind, absV, isFloat]
  -- signed: the value is zero exactly when the pattern is (`sval_eq_zero`, `hb`)
  case i8 | i16 | i32 | i64 => simp [isTypedIntZero, ValueType.kind, absV, isFloat, sval_eq_zero, hb]

theorem Gimli.Value.div_refines {a : Nat} (ha : AddrSize a) (x y : Value) (ix : IsInt x) (hy : WF y) :
    (Value.div x y (maskOf a)).map (absV a) = binary a .div (absV a x) (absV a y) := by
  unfold Value.div
  refine zero_guard_refines a ((val_zero_iff a y hy).trans ?_) (same_type_refines a x y (fun hty => ?_))
  · rw [signExtend_mask a ha, sval_eq_zero]
  rw [if_neg (isFloat_absV ix), if_pos rfl]
  obtain ⟨t, p⟩ := x
  obtain ⟨_, q⟩ := y
  cases hty
  cases t
  case f32 | f64 => exact absurd rfl ix
  case generic =>
    show Out.ok _ = Out.ok (SVal.mk _ (canon a _ (Int.tdiv (asSigned a _) (asSigned a _))))
    rw [asSigned_generic ha, asSigned_generic ha]; exact congrArg Out.ok (absV_pat ha .generic _)
  case i8 | i16 | i32 | i64 => exact congrArg Out.ok (absV_pat ha _ _)
  all_goals exact congrArg (fun v => Out.ok (SVal.mk _ v)) (Int.natCast_ediv p q)

theorem Gimli.Value.rem_refines {a : Nat} (ha : AddrSize a) (x y : Value) (ix : IsInt x) (hy : WF y) :
    (Value.rem x y (maskOf a)).map (absV a) = binary a .rem (absV a x) (absV a y) := by
  unfold Value.rem
  refine zero_guard_refines a ((val_zero_iff a y hy).trans ?_) (same_type_refines a x y (fun hty => ?_))
  · rw [and_mask]
  rw [if_neg (isFloat_absV ix), if_neg (fun h => nomatch h)]
  obtain ⟨t, p⟩ := x
  obtain ⟨_, q⟩ := y
  cases hty
  cases t
  case f32 | f64 => exact absurd rfl ix
  case generic =>
    -- the remainder of two residues is below the modulus already
    show Out.ok (SVal.mk _ (((p &&& maskOf a) % (q &&& maskOf a) % 2 ^ (8 * a) : Nat) : Int)) =
      Out.ok (SVal.mk _ (((p % 2 ^ (8 * a) : Nat) : Int) % ((q % 2 ^ (8 * a) : Nat) : Int)))
    rw [and_mask, and_mask, Nat.mod_eq_of_lt (Nat.lt_of_le_of_lt (Nat.mod_le _ _) (Nat.mod_lt _ (Nat.two_pow_pos _))),
      Int.natCast_emod]
    rfl
  case i8 | i16 | i32 | i64 => exact congrArg Out.ok (absV_pat ha _ _)
  all_goals exact congrArg (fun v => Out.ok (SVal.mk _ v)) (Int.natCast_emod p q)

theorem Gimli.Value.shiftCount_nat (t : ValueType) (hf : isFloat t = false) (b : Nat) : shiftCount ⟨t, (b : Int)⟩ = .ok b := by
  unfold shiftCount
  rw [if_neg (by rw [hf]; decide), if_neg (Int.not_lt.mpr (Int.natCast_nonneg b))]; rfl

theorem Gimli.Value.shiftLength_sint (t : ValueType) (hf : isFloat t = false) (w b : Nat) (hb : b < 2 ^ w) :
    (if 0 ≤ sval w b then Out.ok b else Out.err Err.rInvalidShiftExpression) = shiftCount ⟨t, sval w b⟩ := by
  unfold shiftCount
  simp only [hf, Bool.false_eq_true, ite_false]
  by_cases h : 0 ≤ sval w b
  · rw [if_pos h, if_neg (Int.not_lt.mpr h), sval_nonneg_eq w b hb h, Int.toNat_natCast]
  · rw [if_neg h, if_pos (Int.not_le.mp h)]

/-- the count of a shift: the Model's `shift_length` is the Spec's count — a generic count is
masked to the address size (finding C07-1) -/
theorem Gimli.Value.shiftLength_refines (a : Nat) (y : Value) (hy : WF y) :
    Value.shiftLength y (maskOf a) = shiftCount (absV a y) := by
  obtain ⟨t, b⟩ := y
  cases t
  case f32 | f64 => rfl
  case generic => exact (congrArg Out.ok (and_mask a b)).trans (shiftCount_nat _ rfl _).symm
  case i8 | i16 | i32 | i64 => exact shiftLength_sint _ rfl _ b hy
  all_goals exact (shiftCount_nat _ rfl b).symm

theorem Gimli.Value.shl_refines {a : Nat} (ha : AddrSize a) (x y : Value) (ix : IsInt x) (hy : WF y) :
    (Value.shl x y (maskOf a)).map (absV a) = binary a .shl (absV a x) (absV a y) := by
  unfold Value.shl binary
  rw [shiftLength_refines a y hy, maskBitSize_mask a ha]
  cases shiftCount (absV a y) with
  | ok c =>
    have hz : ∀ w (n : Nat), (n : Int) % 2 ^ w = (absV a x).val % 2 ^ w →
        ((n <<< c : Nat) : Int) % 2 ^ w = ((absV a x).val * 2 ^ c) % 2 ^ w := fun w n hn => by
      rw [Nat.shiftLeft_eq]; push_cast; exact mul_congr _ _ _ _ _ hn rfl
    obtain ⟨t, p⟩ := x
    cases t
    case f32 | f64 => exact absurd rfl ix
    case generic =>
      refine congrArg Out.ok (absV_ite_zero _ (absV_wrap ha .generic _ _ (hz _ _ ?_)))
      rw [and_mask, Twos.cast_mod]; exact (Int.emod_emod _ _).trans (absV_val_emod a ⟨.generic, p⟩).symm
    all_goals exact congrArg Out.ok (absV_ite_zero _ (absV_wrap ha _ _ _ (hz _ _ (absV_val_emod a ⟨_, p⟩).symm)))
  | _ => rfl

theorem Gimli.Value.shr_refines {a : Nat} (ha : AddrSize a) (x y : Value) (ix : IsInt x) (hy : WF y) :
    (Value.shr x y (maskOf a)).map (absV a) = binary a .shr (absV a x) (absV a y) := by
  unfold Value.shr binary
  rw [shiftLength_refines a y hy, maskBitSize_mask a ha]
  cases shiftCount (absV a y) with
  | ok c =>
    obtain ⟨t, p⟩ := x
    cases t
    case f32 | f64 => exact absurd rfl ix
    case generic =>
      refine congrArg Out.ok (absV_ite_zero _ ?_)
      have hlt : (p % 2 ^ (8 * a)) >>> c < 2 ^ (8 * a) := by
        rw [Nat.shiftRight_eq_div_pow]
        exact Nat.lt_of_le_of_lt (Nat.div_le_self _ _) (Nat.mod_lt _ (Nat.two_pow_pos _))
      show (⟨_, (((p &&& maskOf a) >>> c % 2 ^ (8 * a) : Nat) : Int)⟩ : SVal) = ⟨_, ((p % 2 ^ (8 * a) : Nat) : Int) / 2 ^ c⟩
      rw [and_mask, Nat.mod_eq_of_lt hlt, shr_cast]
    case i8 | i16 | i32 | i64 => rfl
    all_goals exact congrArg Out.ok (absV_ite_zero _ (congrArg (SVal.mk _) (shr_cast p c)))
  | _ => rfl

/-- the result of an arithmetic shift right: all sign bits when the count reaches the width -/
theorem Gimli.Value.absV_shra {a : Nat} (ha : AddrSize a) (t : ValueType) (C N : Prop) [Decidable C] [Decidable N] (z : Int) :
    absV a ⟨t, if C then (if N then 2 ^ t.width - 1 else 0) else pat t.width z⟩ =
      ⟨t, if C then (if N then canon a t (-1) else 0) else canon a t z⟩ := by
  split
  · split
    · rw [← pat_neg_one]; exact absV_pat ha t _
    · exact absV_zero a t
  · exact absV_pat ha t z

theorem Gimli.Value.shra_refines {a : Nat} (ha : AddrSize a) (x y : Value) (ix : IsInt x) (hy : WF y) :
    (Value.shra x y (maskOf a)).map (absV a) = binary a .shra (absV a x) (absV a y) := by
  unfold Value.shra binary
  rw [shiftLength_refines a y hy, maskBitSize_mask a ha]
  cases shiftCount (absV a y) with
  | ok c =>
    obtain ⟨t, p⟩ := x
    cases t
    case f32 | f64 => exact absurd rfl ix
    case generic =>
      show Out.ok _ = Out.ok (SVal.mk _ (if _ then (if asSigned a _ < 0 then _ else _) else canon a _ (asSigned a _ / _)))
      rw [asSigned_generic ha]
      exact congrArg Out.ok (absV_shra ha .generic _ _ _)
    case i8 | i16 | i32 | i64 => exact congrArg Out.ok (absV_shra ha _ _ _ _)
    all_goals rfl
  | _ => rfl

/-! ## the dispatchers the property theorem is stated over -/
namespace Gimli.Value

def unaryOf : UnOp → Value → Nat → Out Value
  | .abs => Value.abs | .neg => Value.neg | .not => Value.not

def binaryOf : BinOp → Value → Value → Nat → Out Value
  | .add => Value.add | .sub => Value.sub | .mul => Value.mul | .div => Value.div | .rem => Value.rem
  | .and => Value.and | .or => Value.or | .xor => Value.xor
  | .shl => Value.shl | .shr => Value.shr | .shra => Value.shra
  | .eq => Value.eq | .ge => Value.ge | .gt => Value.gt | .le => Value.le | .lt => Value.lt | .ne => Value.ne

end Gimli.Value

theorem unary_refines (a : Nat) (ha : AddrSize a) (op : UnOp) (x : Value) (ix : IsInt x) (hx : WF x) :
    (unaryOf op x (maskOf a)).map (absV a) = unary a op (absV a x) := by
  cases op
  case not =>
    obtain ⟨u, hu, eu, hlt⟩ := toU64_bits ha x ix
    show (x.toU64 (maskOf a) >>= fun u => fromU64 x.ty (2 ^ 64 - 1 - u)).map (absV a) = _
    rw [hu]
    have hs : unary a .not (absV a x) =
        .ok ⟨x.ty, canon a x.ty (2 ^ width a x.ty - 1 - bitsOf (width a x.ty) (absV a x).val)⟩ := by
      obtain ⟨t, p⟩ := x
      cases t <;> first | rfl | exact absurd rfl ix
    rw [hs, ← eu]
    exact fromU64_abs ha x.ty ix _ _ (not_cast _ u (spec_width_le64 ha _) (hlt hx ▸ pat_lt 64 _))
  all_goals
    obtain ⟨t, p⟩ := x
    cases t
    case f32 | f64 => exact absurd rfl ix
    case generic =>
      show Out.ok _ = Out.ok (SVal.mk _ (canon a _ (_ : Int)))
      rw [asSigned_generic ha]; exact congrArg Out.ok (absV_pat ha .generic _)
    case i8 | i16 | i32 | i64 => exact congrArg Out.ok (absV_pat ha _ _)
    all_goals rfl

theorem binary_refines (a : Nat) (ha : AddrSize a) (op : BinOp) (x y : Value) (ix : IsInt x)
    (hy : WF y) :
    (binaryOf op x y (maskOf a)).map (absV a) = binary a op (absV a x) (absV a y) := by
  have h64 := wf_lt64 y hy
  cases op
  case add =>
    exact arith_refines ha _ (· + ·) _ _ x y ix h64 (fun w _ p q i j _ hi hj => by
      push_cast; exact (add_congr _ _ _ _ _ hi hj).symm)
  case sub =>
    exact arith_refines ha _ (· - ·) _ _ x y ix h64 (fun w hw p q i j hq hi hj => by
      rw [sub_cast w p q hw hq]; exact (sub_congr _ _ _ _ _ hi hj).symm)
  case mul =>
    exact arith_refines ha _ (· * ·) _ _ x y ix h64 (fun w _ p q i j _ hi hj => by
      push_cast; exact (mul_congr _ _ _ _ _ hi hj).symm)
  case div => exact div_refines ha x y ix hy
  case rem => exact rem_refines ha x y ix hy
  case and => exact bitwise_refines ha _ (fun _ _ _ => Nat.and_mod_two_pow) x y ix
  case or => exact bitwise_refines ha _ (fun _ _ _ => Nat.or_mod_two_pow) x y ix
  case xor => exact bitwise_refines ha _ (fun _ _ _ => Nat.xor_mod_two_pow) x y ix
  case shl => exact shl_refines ha x y ix hy
  case shr => exact shr_refines ha x y ix hy
  case shra => exact shra_refines ha x y ix hy
  -- the six comparisons; `binaryOf` has to be unfolded before the relation can be read off
  all_goals
    simp only [binaryOf]
    exact compare_refines ha _ x y ix (fun _ _ => rfl)
