import Gimli.Model.Unwind
/-!
# `RegisterRuleMap` as an association vector: lemmas (C06)

`Rules.get / set / clear` of `Model/Unwind.lean` against the extensional view
`fun r => Rules.get m r`, under the invariant `NodupKeys` (no register has two entries), which
every reachable map satisfies (`set` overwrites an existing entry, `clear` removes one).
A duplicate-free vector is its set of entries (`get_some_iff_mem`), so reordering it changes nothing
(`get_perm`): that is why `try_push` at the end and `swap_remove` are as good as any insertion and
deletion.
-/
namespace Gimli.Unwind
open Gimli.Cfi

def Cap.fits (c : Cap) (n : Nat) : Prop :=
  match c with
  | none => True
  | some k => n ≤ k

theorem Cap.hasRoom_iff (c : Cap) (n : Nat) : c.hasRoom n = true ↔ c.fits (n + 1) := by
  cases c <;> simp [Cap.hasRoom, Cap.fits]; omega

theorem Cap.fits_mono {c : Cap} {a b : Nat} (h : a ≤ b) (hb : c.fits b) : c.fits a := by
  cases c <;> simp [Cap.fits] at *; omega

namespace Rules

def keys (m : Rules) : List Reg := m.map Prod.fst

def NodupKeys (m : Rules) : Prop := (keys m).Nodup

@[simp] theorem keys_nil : keys [] = [] := rfl
@[simp] theorem keys_cons (k : Reg) (v : Rule) (t : Rules) : keys ((k, v) :: t) = k :: keys t := rfl
@[simp] theorem keys_append (a b : Rules) : keys (a ++ b) = keys a ++ keys b := by simp [keys]
@[simp] theorem get_nil (r : Reg) : get [] r = none := rfl
theorem get_cons (k : Reg) (v : Rule) (t : Rules) (r : Reg) :
    get ((k, v) :: t) r = if k = r then some v else get t r := rfl

theorem mem_keys_of_mem {m : Rules} {x : Reg} {w : Rule} (h : (x, w) ∈ m) : x ∈ keys m :=
  List.mem_map_of_mem (f := Prod.fst) h

theorem get_eq_none_iff (m : Rules) (r : Reg) : get m r = none ↔ r ∉ keys m := by
  induction m with
  | nil => simp
  | cons kv t ih =>
    obtain ⟨k, v⟩ := kv
    rw [get_cons]
    by_cases h : k = r
    · simp [h]
    · simp [h, ih, Ne.symm h]

theorem get_some_iff_mem {m : Rules} (h : NodupKeys m) (r : Reg) (v : Rule) :
    get m r = some v ↔ (r, v) ∈ m := by
  induction m with
  | nil => simp
  | cons kv t ih =>
    obtain ⟨k, w⟩ := kv
    have hn : k ∉ keys t ∧ NodupKeys t := by simpa [NodupKeys, List.nodup_cons] using h
    rw [get_cons, List.mem_cons, Prod.mk.injEq]
    by_cases hk : k = r
    · subst hk
      simp only [if_true, Option.some.injEq, true_and]
      exact ⟨fun e => .inl e.symm, fun e => e.elim Eq.symm fun e => absurd (mem_keys_of_mem e) hn.1⟩
    · simp only [hk, if_false, ih hn.2]
      exact ⟨.inr, fun e => e.elim (fun e => absurd e.1.symm hk) id⟩

theorem get_perm {m m' : Rules} (hn : NodupKeys m) (hp : m.Perm m') :
    NodupKeys m' ∧ ∀ x, get m' x = get m x := by
  have hn' : NodupKeys m' := (hp.map Prod.fst).nodup_iff.mp hn
  refine ⟨hn', fun x => Option.ext fun w => ?_⟩
  rw [get_some_iff_mem hn', get_some_iff_mem hn, hp.mem_iff]

theorem replaceFirst_none_iff (m : Rules) (r : Reg) (v : Rule) :
    replaceFirst m r v = none ↔ r ∉ keys m := by
  induction m with
  | nil => simp [replaceFirst]
  | cons kv t ih =>
    obtain ⟨k, w⟩ := kv
    rw [replaceFirst]
    by_cases h : k = r
    · simp [h]
    · cases hr : replaceFirst t r v <;> simp [h, Ne.symm h, ← ih, hr]

theorem replaceFirst_some {m m' : Rules} {r : Reg} {v : Rule} (h : replaceFirst m r v = some m') :
    keys m' = keys m ∧ (∀ x, get m' x = if x = r then some v else get m x) := by
  induction m generalizing m' with
  | nil => simp [replaceFirst] at h
  | cons kv t ih =>
    obtain ⟨k, w⟩ := kv
    rw [replaceFirst] at h
    by_cases hk : k = r
    · simp only [hk, if_true, Option.some.injEq] at h
      subst h; subst hk
      refine ⟨rfl, fun x => ?_⟩
      simp only [get_cons]
      by_cases hx : k = x
      · simp [hx]
      · simp [hx, Ne.symm hx]
    · simp only [hk, if_false] at h
      cases hr : replaceFirst t r v with
      | none => rw [hr] at h; cases h
      | some t' =>
        rw [hr] at h
        cases h
        obtain ⟨hk', hg⟩ := ih hr
        refine ⟨by simp [hk'], fun x => ?_⟩
        simp only [get_cons, hg]
        by_cases hx : k = x
        · subst hx; simp [hk]
        · simp [hx]

theorem get_append_single (m : Rules) (r : Reg) (v : Rule) (h : r ∉ keys m) (x : Reg) :
    get (m ++ [(r, v)]) x = if x = r then some v else get m x := by
  induction m with
  | nil => simp [get_cons, eq_comm]
  | cons kv t ih =>
    obtain ⟨k, w⟩ := kv
    simp only [keys_cons, List.mem_cons, not_or] at h
    simp only [List.cons_append, get_cons, ih h.2]
    by_cases hx : k = x
    · subst hx; simp [Ne.symm h.1]
    · simp [hx]

theorem set_ok {N : Cap} {m m' : Rules} {r : Reg} {v : Rule} (h : set N m r v = .ok m') :
    (∀ x, get m' x = if x = r then some v else get m x) ∧
    (NodupKeys m → NodupKeys m') ∧
    m'.length = (if get m r = none then m.length + 1 else m.length) ∧
    (N.fits m.length → N.fits m'.length) := by
  unfold set at h
  cases hr : replaceFirst m r v with
  | some m1 =>
    rw [hr] at h
    cases h
    obtain ⟨hk, hg⟩ := replaceFirst_some hr
    have hne : get m r ≠ none := fun hh =>
      absurd ((replaceFirst_none_iff m r v).mpr ((get_eq_none_iff m r).mp hh)) (by simp [hr])
    have hl : m'.length = m.length := by simpa [keys] using congrArg List.length hk
    exact ⟨hg, fun hn => by rwa [NodupKeys, hk], by simp [hne, hl], by simp [hl]⟩
  | none =>
    rw [hr] at h
    have hnot := (replaceFirst_none_iff m r v).mp hr
    simp only at h
    split at h <;> cases h
    rename_i hroom
    refine ⟨get_append_single m r v hnot, fun hn => ?_, by simp [(get_eq_none_iff m r).mpr hnot],
      fun _ => by simpa using (Cap.hasRoom_iff N m.length).mp hroom⟩
    exact (get_perm (m := (r, v) :: m) (List.nodup_cons.mpr ⟨hnot, hn⟩)
      (List.perm_append_singleton (r, v) m).symm).1

theorem set_eq_err {N : Cap} {m : Rules} {r : Reg} {v : Rule} :
    (∃ m', set N m r v = .ok m') ∨
    (set N m r v = .err .rTooManyRegisterRules ∧ get m r = none ∧ N.hasRoom m.length = false) := by
  unfold set
  cases hr : replaceFirst m r v with
  | some m1 => exact .inl ⟨m1, rfl⟩
  | none =>
    cases hroom : N.hasRoom m.length with
    | true => exact .inl ⟨m ++ [(r, v)], by simp⟩
    | false => exact .inr ⟨by simp, (get_eq_none_iff m r).mpr ((replaceFirst_none_iff m r v).mp hr), rfl⟩

theorem indexOf_none_iff (m : Rules) (r : Reg) : indexOf m r = none ↔ r ∉ keys m := by
  induction m with
  | nil => simp [indexOf]
  | cons kv t ih =>
    obtain ⟨k, w⟩ := kv
    rw [indexOf]
    by_cases h : k = r
    · simp [h]
    · simp [h, ih, Ne.symm h]

theorem indexOf_some {m : Rules} {r : Reg} {i : Nat} (h : indexOf m r = some i) :
    ∃ a v b, m = a ++ (r, v) :: b ∧ a.length = i := by
  induction m generalizing i with
  | nil => simp [indexOf] at h
  | cons kv t ih =>
    obtain ⟨k, w⟩ := kv
    rw [indexOf] at h
    by_cases hk : k = r
    · simp only [hk, if_true, Option.some.injEq] at h
      subst hk
      exact ⟨[], w, t, rfl, by simpa using h⟩
    · simp only [hk, if_false, Option.map_eq_some_iff] at h
      obtain ⟨j, hj, hi⟩ := h
      obtain ⟨a, v, b, hm, hl⟩ := ih hj
      exact ⟨(k, w) :: a, v, b, by simp [hm], by simp [hl, hi]⟩

theorem swapRemove_perm (a : Rules) (kv : Reg × Rule) (b : Rules) :
    (swapRemove (a ++ kv :: b) a.length).Perm (a ++ b) := by
  unfold swapRemove
  rcases List.eq_nil_or_concat b with rfl | ⟨b', l, rfl⟩
  · simp
  · -- the last entry `l` takes the place of `kv`, and is dropped from the end
    have hl : a ++ kv :: (b' ++ [l]) = (a ++ kv :: b') ++ [l] := by simp
    rw [List.concat_eq_append, hl, List.getLast?_concat]
    simp only
    rw [← hl, List.set_append_right _ _ (Nat.le_refl _), Nat.sub_self, List.set_cons_zero,
      show a ++ l :: (b' ++ [l]) = (a ++ l :: b') ++ [l] by simp, List.dropLast_concat]
    exact List.Perm.append_left a (List.perm_append_singleton l b').symm

theorem clear_spec {m : Rules} (hn : NodupKeys m) (r : Reg) :
    NodupKeys (clear m r) ∧ (∀ x, get (clear m r) x = if x = r then none else get m x) ∧
    (clear m r).length ≤ m.length := by
  unfold clear
  cases hi : indexOf m r with
  | none =>
    refine ⟨hn, fun x => ?_, Nat.le_refl _⟩
    simp only
    split
    · rename_i hx; rw [hx]; exact (get_eq_none_iff m r).mpr ((indexOf_none_iff m r).mp hi)
    · rfl
  | some i =>
    obtain ⟨a, v, b, rfl, rfl⟩ := indexOf_some hi
    -- with the entry moved to the front the vector is `(r, v) :: (a ++ b)`, and `swap_remove` leaves a
    -- reordering of `a ++ b`
    obtain ⟨hn1, hg1⟩ := get_perm hn (List.perm_middle (l₁ := a) (l₂ := b) (a := (r, v)))
    obtain ⟨hr, hab⟩ : r ∉ keys (a ++ b) ∧ NodupKeys (a ++ b) := List.nodup_cons.mp hn1
    have hp := swapRemove_perm a (r, v) b
    obtain ⟨hnc, hg⟩ := get_perm hab hp.symm
    refine ⟨hnc, fun x => ?_, by rw [hp.length_eq]; simp⟩
    rw [hg, ← hg1 x, get_cons]
    by_cases hx : x = r
    · rw [if_pos hx, hx]
      exact (get_eq_none_iff _ r).mpr hr
    · rw [if_neg hx, if_neg (Ne.symm hx)]

theorem clear_get {m : Rules} (hn : NodupKeys m) (r x : Reg) :
    get (clear m r) x = if x = r then none else get m x :=
  (clear_spec hn r).2.1 x

theorem clear_nodup {m : Rules} (hn : NodupKeys m) (r : Reg) : NodupKeys (clear m r) :=
  (clear_spec hn r).1

theorem clear_length_le {m : Rules} (hn : NodupKeys m) (r : Reg) : (clear m r).length ≤ m.length :=
  (clear_spec hn r).2.2

/-- `impl PartialEq for RegisterRuleMap` decides extensional equality (of duplicate-free maps) -/
theorem eq_iff_ext {a b : Rules} (ha : NodupKeys a) (hb : NodupKeys b) :
    eq a b = true ↔ ∀ r, get a r = get b r := by
  have half : ∀ (x y : Rules), NodupKeys x →
      ((x.all (fun kv => decide (some kv.2 = get y kv.1)) = true) ↔
      (∀ r v, get x r = some v → get y r = some v)) := by
    intro x y hx
    simp only [List.all_eq_true, decide_eq_true_eq, Prod.forall]
    constructor
    · intro h r v hm; exact (h r v ((get_some_iff_mem hx r v).mp hm)).symm
    · intro h r v hm; exact (h r v ((get_some_iff_mem hx r v).mpr hm)).symm
  unfold eq
  rw [Bool.and_eq_true, half a b ha, half b a hb]
  constructor
  · rintro ⟨h1, h2⟩ r
    apply Option.ext
    intro v
    exact ⟨h1 r v, h2 r v⟩
  · intro h
    exact ⟨fun r v hv => by rw [← h r]; exact hv, fun r v hv => by rw [h r]; exact hv⟩

end Rules
end Gimli.Unwind
