import Gimli.Model.Ints
import Gimli.Lemmas.Leb
import Gimli.Lemmas.Out
/-!
# Fixed-width integers, words, initial lengths, addresses (`Model/Ints`)

Positional value of `n` bytes in either byte order (`fromBytes`, `toBytes`), then each reader in closed form
(`readFixed_eq`, `readInitialLength_cases`, `readAddress_ok_iff`, …) and each writer inverted once, with the value
it wrote (`writeUdata_eq_ok`, `writeSdata_ok`, `writeInitialLength_ok`), so that users never unfold a primitive.
Each round trip is restated as a `Reads` leaf (`reads_fixed`, `reads_udata`, …) for the areas' own round trips.
Last: totality of every reader, and `take`, `readFixed`, `readWord`, `readAddress` characterised exactly (`exact_…`).
-/
namespace Gimli.Ints
open Gimli.Spec

theorem leBytes_length (n v : Nat) : (leBytes n v).length = n := by
  induction n generalizing v with
  | zero => rfl
  | succ n ih => simp [leBytes, ih]

theorem leVal_leBytes (n v : Nat) : leVal (leBytes n v) = v % 256 ^ n := by
  induction n generalizing v with
  | zero => simp [leBytes, leVal, Nat.mod_one]
  | succ n ih =>
    simp only [leBytes, leVal, ih]
    have h : (UInt8.ofNat (v % 256)).toNat = v % 256 := by simp
    rw [h, Nat.pow_succ, Nat.mul_comm (256 ^ n) 256, Nat.mod_mul]

theorem leVal_lt (bs : Bytes) : leVal bs < 256 ^ bs.length := by
  induction bs with
  | nil => simp [leVal]
  | cons b rest ih =>
    simp only [leVal, List.length_cons, Nat.pow_succ]
    have := UInt8.toNat_lt b
    omega

theorem toBytes_length (e : Endian) (n v : Nat) : (toBytes e n v).length = n := by
  cases e <;> simp [toBytes, leBytes_length]

theorem fromBytes_toBytes (e : Endian) (n v : Nat) : fromBytes e (toBytes e n v) = v % 256 ^ n := by
  cases e <;> simp [fromBytes, toBytes, leVal_leBytes]

theorem leBytes_leVal (bs : Bytes) : leBytes bs.length (leVal bs) = bs := by
  induction bs with
  | nil => rfl
  | cons b tl ih =>
    have := b.toNat_lt
    rw [List.length_cons, leBytes, leVal, show (b.toNat + 256 * leVal tl) % 256 = b.toNat by omega,
      show (b.toNat + 256 * leVal tl) / 256 = leVal tl by omega, ih, UInt8.ofNat_toNat]

theorem toBytes_fromBytes (e : Endian) (bs : Bytes) : toBytes e bs.length (fromBytes e bs) = bs := by
  cases e with
  | little => exact leBytes_leVal bs
  | big =>
    have := leBytes_leVal bs.reverse
    rw [List.length_reverse] at this
    rw [toBytes, fromBytes, this, List.reverse_reverse]

theorem fromBytes_lt (e : Endian) (bs : Bytes) : fromBytes e bs < 256 ^ bs.length := by
  cases e
  · exact leVal_lt bs
  · simpa [fromBytes] using leVal_lt bs.reverse

theorem take_ok (n : Nat) (bs : Bytes) (h : n ≤ bs.length) : take n bs = .ok (bs.take n, bs.drop n) := by
  simp [take, h]

theorem take_eof (n : Nat) (bs : Bytes) (h : bs.length < n) : take n bs = .err .rUnexpectedEof := by
  simp [take, Nat.not_le.mpr h]

theorem take_prefix (a b : Bytes) : take a.length (a ++ b) = .ok (a, b) := by
  rw [take_ok _ _ (by simp)]; simp

theorem take_all (l : Bytes) : take l.length l = .ok (l, []) := by
  simpa using take_prefix l []

theorem reads_take (a : Bytes) : Reads (take a.length) a a := take_prefix a

theorem take_eq_ok {n : Nat} {bs a r : Bytes} : take n bs = .ok (a, r) ↔ bs = a ++ r ∧ a.length = n := by
  constructor
  · intro h
    unfold take at h
    split at h
    · cases h; exact ⟨(List.take_append_drop n bs).symm, List.length_take_of_le ‹_›⟩
    · cases h
  · rintro ⟨rfl, rfl⟩; exact take_prefix a r

theorem readFixed_toBytes (e : Endian) (n v : Nat) (rest : Bytes) (hv : v < 256 ^ n) :
    readFixed e n (toBytes e n v ++ rest) = .ok (v, rest) := by
  have hl := toBytes_length e n v
  rw [readFixed, take_ok _ _ (by simp [hl])]
  simp only [Out.bind_ok, Out.pure_eq]
  rw [List.take_left' hl, List.drop_left' hl, fromBytes_toBytes, Nat.mod_eq_of_lt hv]

theorem reads_fixed (e : Endian) (n : Nat) {v : Nat} (hv : v < 256 ^ n) : Reads (readFixed e n) (toBytes e n v) v :=
  fun rest => readFixed_toBytes e n v rest hv

theorem toBytes_one (e : Endian) (v : Nat) : toBytes e 1 v = [UInt8.ofNat v] := by
  have : UInt8.ofNat (v % 256) = UInt8.ofNat v := by
    apply UInt8.toNat_inj.mp; simp
  cases e <;> simp [toBytes, leBytes, this]

theorem readFixed_byte (e : Endian) (v : Nat) (h : v < 256) (r : Bytes) :
    readFixed e 1 (UInt8.ofNat v :: r) = .ok (v, r) := by
  simpa [toBytes_one] using readFixed_toBytes e 1 v r (by omega)

theorem reads_byte (e : Endian) (b : UInt8) : Reads (readFixed e 1) [b] b.toNat := fun rest => by
  have := readFixed_byte e b.toNat b.toNat_lt rest
  rwa [UInt8.ofNat_toNat] at this

theorem readFixed_ok (e : Endian) (n : Nat) (bs : Bytes) (v : Nat) (rest : Bytes)
    (h : readFixed e n bs = .ok (v, rest)) :
    n ≤ bs.length ∧ rest = bs.drop n ∧ v = fromBytes e (bs.take n) ∧ v < 256 ^ n := by
  by_cases hn : n ≤ bs.length
  · rw [readFixed, take_ok _ _ hn] at h
    simp only [Out.bind_ok, Out.pure_eq, Out.ok.injEq, Prod.mk.injEq] at h
    refine ⟨hn, h.2.symm, h.1.symm, ?_⟩
    rw [← h.1]
    have := fromBytes_lt e (List.take n bs)
    rwa [List.length_take, Nat.min_eq_left hn] at this
  · rw [readFixed, take_eof _ _ (by omega)] at h
    simp at h

theorem readFixed_eof (e : Endian) (n : Nat) (bs : Bytes) (h : bs.length < n) :
    readFixed e n bs = .err .rUnexpectedEof := by
  rw [readFixed, take_eof _ _ h]; rfl

theorem pow256 (n : Nat) : 256 ^ n = 2 ^ (8 * n) := by
  rw [Nat.pow_mul]

theorem size_cases {n : Nat} : (n = 1 ∨ n = 2 ∨ n = 4 ∨ n = 8) ↔ (n = 1 ∨ n = 2 ∨ n = 4) ∨ n = 8 := by
  simp only [or_assoc]

theorem writeUdata_eq_ok {e : Endian} {v size : Nat} {bs : Bytes} :
    writeUdata e v size = .ok bs ↔
      bs = toBytes e size v ∧ (size = 8 ∨ (size = 1 ∨ size = 2 ∨ size = 4) ∧ v < 2 ^ (8 * size)) := by
  unfold writeUdata
  split
  · rename_i hs
    have h8 : size ≠ 8 := by omega
    split
    · rename_i hbad
      exact ⟨fun h => (nomatch h), fun ⟨_, h⟩ => absurd (Nat.mod_eq_of_lt (h.resolve_left h8).2) hbad⟩
    · rename_i hfit
      have hv : v % 2 ^ (8 * size) = v := Decidable.not_not.mp hfit
      exact ⟨fun h => ⟨(Out.ok.inj h).symm, .inr ⟨hs, hv ▸ Nat.mod_lt _ (Nat.two_pow_pos _)⟩⟩, fun h => h.1 ▸ rfl⟩
  · rename_i hs
    split
    · rename_i h8
      exact ⟨fun h => ⟨h8 ▸ (Out.ok.inj h).symm, .inl h8⟩, fun h => by rw [h.1, h8]⟩
    · rename_i h8
      exact ⟨fun h => (nomatch h), fun ⟨_, h⟩ => (h.elim h8 fun h' => hs h'.1).elim⟩

theorem writeUdata_ok {e : Endian} {v size : Nat} {bs : Bytes} (h : writeUdata e v size = .ok bs) :
    bs = toBytes e size v ∧ (size = 8 ∨ (size = 1 ∨ size = 2 ∨ size = 4) ∧ v < 2 ^ (8 * size)) :=
  writeUdata_eq_ok.mp h

theorem writeUdata_length {e : Endian} {v size : Nat} {bs : Bytes} (h : writeUdata e v size = .ok bs) :
    bs.length = size :=
  (writeUdata_ok h).1 ▸ toBytes_length e size v

theorem writeUdata_size {e : Endian} {v size : Nat} {bs : Bytes} (h : writeUdata e v size = .ok bs) :
    size = 1 ∨ size = 2 ∨ size = 4 ∨ size = 8 := by
  rcases (writeUdata_ok h).2 with h8 | ⟨h124, -⟩
  · exact size_cases.mpr (.inr h8)
  · exact size_cases.mpr (.inl h124)

theorem writeUdata_ok_iff (e : Endian) (v size : Nat) (hv : v < 2 ^ 64) :
    (∃ bs, writeUdata e v size = .ok bs) ↔
      (size = 1 ∨ size = 2 ∨ size = 4 ∨ size = 8) ∧ v < 2 ^ (8 * size) := by
  constructor
  · rintro ⟨bs, h⟩
    refine ⟨writeUdata_size h, ?_⟩
    rcases (writeUdata_ok h).2 with rfl | ⟨_, hfit⟩
    · exact hv
    · exact hfit
  · rintro ⟨hs, hfit⟩
    exact ⟨_, writeUdata_eq_ok.mpr ⟨rfl, (size_cases.mp hs).symm.imp_right fun h => ⟨h, hfit⟩⟩⟩

theorem writeUdata_fits {e : Endian} {v size : Nat} {bs : Bytes} (h : writeUdata e v size = .ok bs)
    (hv : v < 2 ^ 64) : v < 2 ^ (8 * size) :=
  ((writeUdata_ok_iff e v size hv).mp ⟨bs, h⟩).2

theorem writeUdata_roundtrip (e : Endian) (v size : Nat) (bs rest : Bytes)
    (h : writeUdata e v size = .ok bs) (hv : v < 2 ^ 64) :
    bs.length = size ∧ readFixed e size (bs ++ rest) = .ok (v, rest) := by
  obtain rfl := (writeUdata_ok h).1
  exact ⟨toBytes_length e size v, readFixed_toBytes e size v rest (by rw [pow256]; exact writeUdata_fits h hv)⟩

theorem reads_udata {e : Endian} {v size : Nat} {bs : Bytes} (h : writeUdata e v size = .ok bs) (hv : v < 2 ^ 64) :
    Reads (readFixed e size) bs v :=
  fun rest => (writeUdata_roundtrip e v size bs rest h hv).2

theorem readAddress_of_size {n : Nat} (hn : n = 1 ∨ n = 2 ∨ n = 4 ∨ n = 8) (e : Endian) (bs : Bytes) :
    readAddress e n bs = readFixed e n bs := if_pos hn

theorem reads_address {e : Endian} {v size : Nat} {bs : Bytes} (h : writeUdata e v size = .ok bs) (hv : v < 2 ^ 64) :
    Reads (readAddress e size) bs v :=
  (reads_udata h hv).congr (readAddress_of_size (writeUdata_size h) e)

theorem reads_address_fixed (e : Endian) {n v : Nat} (hn : n = 1 ∨ n = 2 ∨ n = 4 ∨ n = 8) (hv : v < 256 ^ n) :
    Reads (readAddress e n) (toBytes e n v) v :=
  (reads_fixed e n hv).congr (readAddress_of_size hn e)

theorem readFixed_eq (e : Endian) (n : Nat) (bs : Bytes) :
    readFixed e n bs =
      if n ≤ bs.length then .ok (fromBytes e (bs.take n), bs.drop n) else .err .rUnexpectedEof := by
  by_cases hn : n ≤ bs.length
  · rw [readFixed, take_ok _ _ hn]; simp [hn]
  · rw [readFixed_eof _ _ _ (by omega)]; simp [hn]

theorem offsetFromU64_eq_ok {ob v w : Nat} : offsetFromU64 ob v = .ok w ↔ w = v ∧ v < 2 ^ ob := by
  unfold offsetFromU64
  split
  · exact ⟨fun h => ⟨(Out.ok.inj h).symm, ‹_›⟩, fun h => h.1 ▸ rfl⟩
  · exact ⟨fun h => (by cases h), fun h => absurd h.2 ‹_›⟩

/-- `R::Offset::from_u64` cannot fail after a read of at most 8 bytes: offsets have 64 bits -/
theorem readFixed_bind_offset (e : Endian) {n : Nat} (hn : n ≤ 8) (bs : Bytes) :
    (readFixed e n bs >>= fun x => offsetFromU64 64 x.1 >>= fun v => pure (v, x.2)) = readFixed e n bs := by
  have hlt : fromBytes e (bs.take n) < 2 ^ 64 :=
    calc _ < 256 ^ (bs.take n).length := fromBytes_lt e _
      _ ≤ 256 ^ 8 := Nat.pow_le_pow_right (by decide) (by rw [List.length_take]; omega)
  rw [readFixed_eq]
  split
  · simp only [Out.bind_ok, offsetFromU64, hlt, if_true]; rfl
  · rfl

theorem readWord_eq_fixed (e : Endian) (f : Format) (bs : Bytes) :
    readWord e 64 f bs = readFixed e f.wordSize bs := by
  cases f
  · rfl
  · exact readFixed_bind_offset e (Nat.le_refl 8) bs

theorem reads_word (e : Endian) (f : Format) {v : Nat} (hv : v < 256 ^ f.wordSize) :
    Reads (readWord e 64 f) (toBytes e f.wordSize v) v :=
  (reads_fixed e _ hv).congr (readWord_eq_fixed e f)

theorem readInitialLength_cases (e : Endian) (offBits : Nat) (bs : Bytes) :
    readInitialLength e offBits bs =
      if bs.length < 4 then .err .rUnexpectedEof
      else
        let w := fromBytes e (bs.take 4)
        if w < 0xffff_fff0 then .ok ((w, .dwarf32), bs.drop 4)
        else if w = 0xffff_ffff then
          if bs.length < 12 then .err .rUnexpectedEof
          else
            let v := fromBytes e ((bs.drop 4).take 8)
            if v < 2 ^ offBits then .ok ((v, .dwarf64), bs.drop 12) else .err .rUnsupportedOffset
        else .err .rUnknownReservedLength := by
  unfold readInitialLength
  rw [readFixed_eq]
  by_cases h4 : bs.length < 4
  · rw [if_neg (Nat.not_le.mpr h4), if_pos h4]; rfl
  · rw [if_pos (Nat.le_of_not_lt h4), if_neg h4, Out.bind_ok]
    -- both sides branch on the same word; they differ only in how the 64-bit length is read
    refine ite_congr rfl (fun _ => rfl) fun _ => ite_congr rfl (fun _ => ?_) fun _ => rfl
    rw [readFixed_eq, List.length_drop]
    by_cases h12 : bs.length < 12
    · rw [if_neg (by omega), if_pos h12]; rfl
    · rw [if_pos (by omega), if_neg h12, Out.bind_ok, List.drop_drop]
      exact apply_ite (· >>= _) _ _ _

/-- `write_initial_length` inverted: the 4-byte form below the reserved values, or the escape and 8 bytes -/
theorem writeInitialLength_ok {e : Endian} {f : Format} {len : Nat} {bs : Bytes}
    (h : writeInitialLength e f len = .ok bs) :
    (f = .dwarf32 ∧ len < 0xffff_fff0 ∧ bs = toBytes e 4 len) ∨
      (f = .dwarf64 ∧ bs = toBytes e 4 0xffff_ffff ++ toBytes e 8 len) := by
  cases f <;> dsimp only [writeInitialLength] at h
  · split at h
    · cases h
    · have := (writeUdata_ok h).2
      exact .inl ⟨rfl, by omega, (writeUdata_ok h).1⟩
  · obtain ⟨b8, hb, h⟩ := Out.bind_eq_ok h
    cases h
    exact .inr ⟨rfl, (writeUdata_ok hb).1 ▸ rfl⟩

theorem writeInitialLength_length {e : Endian} {f : Format} {len : Nat} {bs : Bytes}
    (h : writeInitialLength e f len = .ok bs) :
    bs.length = (match (generalizing := false) f with | .dwarf32 => 4 | .dwarf64 => 12) := by
  rcases writeInitialLength_ok h with ⟨rfl, -, rfl⟩ | ⟨rfl, rfl⟩
  · exact toBytes_length ..
  · rw [List.length_append, toBytes_length, toBytes_length]

/-- the two forms of an initial length, whatever wrote them -/
theorem reads_length32 (e : Endian) (ob : Nat) {len : Nat} (hl : len < 0xffff_fff0) :
    Reads (readInitialLength e ob) (toBytes e 4 len) (len, .dwarf32) :=
  .map (reads_fixed e 4 (Nat.lt_trans hl (by decide))) fun _ => if_pos hl

theorem reads_length64 (e : Endian) {ob len : Nat} (hl : len < 2 ^ ob) (h64 : len < 2 ^ 64) :
    Reads (readInitialLength e ob) (toBytes e 4 0xffff_ffff ++ toBytes e 8 len) (len, .dwarf64) :=
  .bind (reads_fixed e 4 (by decide)) <| .map (reads_fixed e 8 h64) fun _ => by
    show (offsetFromU64 ob len >>= _) = _
    rw [offsetFromU64_eq_ok.mpr ⟨rfl, hl⟩]; rfl

/-- the length field as three encoders write it (`Spec.Unit.encodeLength`, `Spec.Frame.lengthField`, and `Pub.initLen`
of Lemmas/Pub) -/
theorem reads_lengthField (e : Endian) {f : Format} {n : Nat}
    (h : match f with | .dwarf32 => n < 0xffff_fff0 | .dwarf64 => n < 2 ^ 64) :
    Reads (readInitialLength e 64)
      (match (generalizing := false) f with
        | .dwarf32 => toBytes e 4 n
        | .dwarf64 => toBytes e 4 0xffff_ffff ++ toBytes e 8 n) (n, f) := by
  cases f with
  | dwarf32 => exact reads_length32 e 64 h
  | dwarf64 => exact reads_length64 e h h

theorem writeInitialLength_roundtrip (e : Endian) (f : Format) (len : Nat) (bs rest : Bytes)
    (hlen : len < 2 ^ 64) (h : writeInitialLength e f len = .ok bs) :
    readInitialLength e 64 (bs ++ rest) = .ok ((len, f), rest) ∧
      bs.length = (match f with | .dwarf32 => 4 | .dwarf64 => 12) := by
  have hl := writeInitialLength_length h
  rcases writeInitialLength_ok h with ⟨rfl, hl32, rfl⟩ | ⟨rfl, rfl⟩
  · exact ⟨reads_length32 e 64 hl32 rest, hl⟩
  · exact ⟨reads_length64 e hlen hlen rest, hl⟩

theorem reads_initialLength {e : Endian} {f : Format} {len : Nat} {bs : Bytes} (hlen : len < 2 ^ 64)
    (h : writeInitialLength e f len = .ok bs) : Reads (readInitialLength e 64) bs (len, f) :=
  fun rest => (writeInitialLength_roundtrip e f len bs rest hlen h).1

theorem readAddress_ok_iff (e : Endian) (size : Nat) (bs : Bytes) :
    (∃ v rest, readAddress e size bs = .ok (v, rest)) ↔
      (size = 1 ∨ size = 2 ∨ size = 4 ∨ size = 8) ∧ size ≤ bs.length := by
  unfold readAddress
  constructor
  · rintro ⟨v, rest, h⟩
    split at h
    · rename_i hs
      exact ⟨hs, (readFixed_ok _ _ _ _ _ h).1⟩
    · simp at h
  · rintro ⟨hs, hl⟩
    simp only [hs, if_true]
    rw [readFixed_eq]; simp [hl]

theorem readAddress_value (e : Endian) (size : Nat) (bs : Bytes) (v : Nat) (rest : Bytes)
    (h : readAddress e size bs = .ok (v, rest)) :
    rest = bs.drop size ∧ v = fromBytes e (bs.take size) ∧ v < 2 ^ (8 * size) := by
  unfold readAddress at h
  split at h
  · obtain ⟨_, h2, h3, h4⟩ := readFixed_ok _ _ _ _ _ h
    exact ⟨h2, h3, by rw [← pow256]; exact h4⟩
  · simp at h

theorem readAddressSize_ok_iff (bs : Bytes) (v : Nat) (rest : Bytes) :
    readAddressSize bs = .ok (v, rest) ↔
      ∃ b, bs = b :: rest ∧ v = b.toNat ∧ (v = 1 ∨ v = 2 ∨ v = 4 ∨ v = 8) := by
  cases bs with
  | nil => simp [readAddressSize]
  | cons b tl =>
    simp only [readAddressSize]
    split
    · rename_i hb
      constructor
      · intro h
        simp only [Out.ok.injEq, Prod.mk.injEq] at h
        exact ⟨b, by simp [h.2], h.1.symm, by rw [← h.1]; exact hb⟩
      · rintro ⟨b', hbs, hv, _⟩
        simp only [List.cons.injEq] at hbs
        simp [hbs.1, hbs.2, hv]
    · rename_i hb
      constructor
      · intro h; simp at h
      · rintro ⟨b', hbs, hv, hv4⟩
        simp only [List.cons.injEq] at hbs
        rw [hv, ← hbs.1] at hv4
        exact absurd hv4 hb

theorem reads_addressSize (e : Endian) {a : Nat} (ha : a = 1 ∨ a = 2 ∨ a = 4 ∨ a = 8) :
    Reads readAddressSize (toBytes e 1 a) a := fun rest =>
  have hb : (UInt8.ofNat a).toNat = a :=
    UInt8.toNat_ofNat_of_lt' (by rcases ha with rfl | rfl | rfl | rfl <;> decide)
  (readAddressSize_ok_iff _ a rest).mpr ⟨UInt8.ofNat a, by rw [toBytes_one]; rfl, hb.symm, ha⟩

theorem readUlebU32_iff (bs : Bytes) (v : Nat) (rest : Bytes) :
    readUlebU32 bs = .ok (v, rest) ↔ Leb.unsigned bs = .ok (v, rest) ∧ v < 2 ^ 32 := by
  unfold readUlebU32
  rw [Out.bind_eq_ok_iff]
  constructor
  · rintro ⟨⟨v', rest'⟩, hu, hf⟩
    dsimp only at hf
    split at hf
    · cases hf; exact ⟨hu, ‹_›⟩
    · cases hf
  · rintro ⟨hu, hlt⟩
    exact ⟨_, hu, if_pos hlt⟩

theorem reads_ulebU32 {v : Nat} (hv : v < 2 ^ 32) : Reads readUlebU32 (Leb.encodeU v) v :=
  fun rest => (readUlebU32_iff _ v rest).mpr ⟨Leb.unsigned_roundtrip v (Nat.lt_trans hv (by decide)) rest, hv⟩

/-! `toSigned n` is `Twos.sval (8 * n)` by `rfl`. -/

theorem toSigned_range (n : Nat) (hn : 0 < n) (v : Nat) :
    -(2 : Int) ^ (8 * n - 1) ≤ toSigned n v ∧ toSigned n v < 2 ^ (8 * n - 1) :=
  Twos.sval_range (w := 8 * n) (by omega) v

theorem toSigned_pat (n : Nat) (hn : 0 < n) (val : Int) :
    toSigned n (val % 2 ^ (8 * n)).toNat = val ↔
      -(2 : Int) ^ (8 * n - 1) ≤ val ∧ val < 2 ^ (8 * n - 1) :=
  Twos.sval_pat (w := 8 * n) (by omega) val

theorem writeSdata_ok {e : Endian} {val : Int} {size : Nat} {bs : Bytes} (h : writeSdata e val size = .ok bs) :
    bs = toBytes e size (val % 2 ^ (8 * size)).toNat ∧
      (size = 8 ∨ (size = 1 ∨ size = 2 ∨ size = 4) ∧ toSigned size (val % 2 ^ (8 * size)).toNat = val) := by
  unfold writeSdata at h
  split at h
  · rename_i hs
    dsimp only at h
    split at h
    · cases h
    · cases h; exact ⟨rfl, .inr ⟨hs, Decidable.of_not_not ‹_›⟩⟩
  · split at h
    · rename_i h8; cases h; subst h8; exact ⟨rfl, .inl rfl⟩
    · cases h

theorem writeSdata_ok_iff (e : Endian) (val : Int) (size : Nat)
    (hlo : -(2 : Int) ^ 63 ≤ val) (hhi : val < 2 ^ 63) :
    (∃ bs, writeSdata e val size = .ok bs) ↔
      (size = 1 ∨ size = 2 ∨ size = 4 ∨ size = 8) ∧
        -(2 : Int) ^ (8 * size - 1) ≤ val ∧ val < 2 ^ (8 * size - 1) := by
  constructor
  · rintro ⟨bs, h⟩
    rcases (writeSdata_ok h).2 with rfl | ⟨hs, hfit⟩
    · exact ⟨by decide, hlo, hhi⟩
    · exact ⟨size_cases.mpr (.inl hs), (toSigned_pat size (by omega) val).mp hfit⟩
  · rintro ⟨hs, hlo', hhi'⟩
    unfold writeSdata
    rcases size_cases.mp hs with h124 | rfl
    · simp [h124, (toSigned_pat size (by omega) val).mpr ⟨hlo', hhi'⟩]
    · simp

theorem writeSdata_err {e : Endian} {val : Int} {size : Nat} (hs : size = 1 ∨ size = 2 ∨ size = 4)
    (h : ¬(-(2 : Int) ^ (8 * size - 1) ≤ val ∧ val < 2 ^ (8 * size - 1))) :
    writeSdata e val size = .err .wValueTooLarge := by
  rw [writeSdata, if_pos hs]
  exact if_pos fun heq => h ((toSigned_pat size (by omega) val).mp heq)

theorem writeSdata_length {e : Endian} {v : Int} {size : Nat} {bs : Bytes} (h : writeSdata e v size = .ok bs) :
    bs.length = size :=
  (writeSdata_ok h).1 ▸ toBytes_length e size _

theorem writeSdata_size {e : Endian} {v : Int} {size : Nat} {bs : Bytes} (h : writeSdata e v size = .ok bs) :
    size = 1 ∨ size = 2 ∨ size = 4 ∨ size = 8 :=
  size_cases.mpr ((writeSdata_ok h).2.symm.imp_left (·.1))

theorem writeSdata_range {e : Endian} {x : Int} {k : Nat} {bs : Bytes} (h : writeSdata e x k = .ok bs) (h8 : k ≠ 8) :
    -(2 : Int) ^ (8 * k - 1) ≤ x ∧ x < 2 ^ (8 * k - 1) :=
  have ⟨hs, hfit⟩ := (writeSdata_ok h).2.resolve_left h8
  (toSigned_pat k (by omega) x).mp hfit

theorem writeSdata_pat {e : Endian} {x : Int} {k : Nat} {bs : Bytes} (h : writeSdata e x k = .ok bs)
    (hx : k = 8 → -(2 ^ 63 : Int) ≤ x ∧ x < 2 ^ 63) :
    ∃ p, bs = toBytes e k p ∧ p < 256 ^ k ∧ toSigned k p = x := by
  obtain ⟨rfl, hc⟩ := writeSdata_ok h
  refine ⟨_, rfl, ?_, hc.elim (fun h8 => ?_) (·.2)⟩
  · rw [pow256, Int.toNat_lt (Twos.emod_pow x (8 * k)).1, Int.natCast_pow]
    exact (Twos.emod_pow x (8 * k)).2
  · subst h8; exact (toSigned_pat 8 (by decide) x).mpr (hx rfl)

theorem reads_sdata {e : Endian} {x : Int} {k : Nat} {bs : Bytes} (h : writeSdata e x k = .ok bs)
    (hx : k = 8 → -(2 ^ 63 : Int) ≤ x ∧ x < 2 ^ 63) :
    Reads (fun b => do let (v, rest) ← readFixed e k b; pure (toSigned k v, rest)) bs x := by
  obtain ⟨p, rfl, hlt, rfl⟩ := writeSdata_pat h hx
  exact .map (reads_fixed e k hlt) fun _ => rfl

theorem leVal_zeros (k : Nat) : leVal (List.replicate k (0 : UInt8)) = 0 := by
  induction k with
  | zero => rfl
  | succ k ih => simp [List.replicate_succ, leVal, ih]

theorem leVal_append_zeros (a : Bytes) (k : Nat) : leVal (a ++ List.replicate k 0) = leVal a := by
  induction a with
  | nil => simp [leVal_zeros, leVal]
  | cons b a ih => simp [leVal, ih]

/-- `read_uint` pads what it took to 8 bytes on the high-order side in both byte orders, so the
padding does not show in the value -/
theorem readUint_eq (e : Endian) (n : Nat) (bs : Bytes) (hn : n ≤ 8) :
    readUint e n bs =
      if n ≤ bs.length then .ok (fromBytes e (bs.take n), bs.drop n) else .err .rUnexpectedEof := by
  unfold readUint
  have h8 : ¬ n > 8 := by omega
  simp only [h8, if_false]
  by_cases hl : n ≤ bs.length
  · rw [take_ok _ _ hl]
    simp only [Out.bind_ok, Out.pure_eq, hl, if_true]
    cases e with
    | little => simp [fromBytes, leVal_append_zeros]
    | big => simp [fromBytes, List.reverse_append, leVal_append_zeros]
  · rw [take_eof _ _ (by omega)]; simp [hl]

protected theorem readFixed_normal (e : Endian) (n : Nat) (bs : Bytes) : (readFixed e n bs).Normal := by
  rw [readFixed_eq]; split <;> trivial

protected theorem readAddress_normal (e : Endian) (size : Nat) (bs : Bytes) : (readAddress e size bs).Normal := by
  unfold readAddress; split
  · exact Ints.readFixed_normal _ _ _
  · trivial

protected theorem take_normal (n : Nat) (bs : Bytes) : (take n bs).Normal := by
  unfold take; split <;> trivial

protected theorem offsetFromU64_normal (ob v : Nat) : (offsetFromU64 ob v).Normal := by
  unfold offsetFromU64; split <;> trivial

protected theorem readWord_normal (e : Endian) (ob : Nat) (f : Format) (bs : Bytes) : (readWord e ob f bs).Normal := by
  cases f
  · exact Ints.readFixed_normal _ _ _
  · exact (Ints.readFixed_normal _ _ _).bind fun _ _ => (Ints.offsetFromU64_normal _ _).bind fun _ _ => trivial

protected theorem readSizedOffset_normal (e : Endian) (ob size : Nat) (bs : Bytes) :
    (readSizedOffset e ob size bs).Normal := by
  unfold readSizedOffset; split
  · exact (Ints.readFixed_normal _ _ _).bind fun _ _ => (Ints.offsetFromU64_normal _ _).bind fun _ _ => trivial
  · trivial

protected theorem readUlebU32_normal (bs : Bytes) : (readUlebU32 bs).Normal :=
  (Leb.unsigned_normal bs).bind fun _ _ => .ite trivial trivial

protected theorem readAddressSize_normal (bs : Bytes) : (readAddressSize bs).Normal := by
  unfold readAddressSize; split
  · trivial
  · split <;> trivial

protected theorem readInitialLength_normal (e : Endian) (ob : Nat) (bs : Bytes) : (readInitialLength e ob bs).Normal := by
  rw [readInitialLength_cases]
  exact .ite trivial (.ite trivial (.ite (.ite trivial (.ite trivial trivial)) trivial))

theorem exact_take (n : Nat) : Exact (take n) fun a pre => pre = a ∧ a.length = n where
  read := by rintro a _ ⟨rfl, rfl⟩; exact reads_take _
  sound := fun h => have ⟨hb, hl⟩ := take_eq_ok.mp h; ⟨_, hb, rfl, hl⟩
  normal := Ints.take_normal n

theorem exact_fixed (e : Endian) (n : Nat) : Exact (readFixed e n) fun v pre => pre = toBytes e n v ∧ v < 256 ^ n where
  read := by rintro v _ ⟨rfl, hv⟩; exact reads_fixed e n hv
  sound := by
    intro bs v rest h
    obtain ⟨hn, rfl, rfl, hlt⟩ := readFixed_ok e n bs v rest h
    have := toBytes_fromBytes e (bs.take n)
    rw [List.length_take_of_le hn] at this
    exact ⟨bs.take n, (List.take_append_drop n bs).symm, this.symm, hlt⟩
  normal := Ints.readFixed_normal e n

theorem exact_word (e : Endian) (f : Format) :
    Exact (readWord e 64 f) fun v pre => pre = toBytes e f.wordSize v ∧ v < 256 ^ f.wordSize :=
  (funext (readWord_eq_fixed e f) : readWord e 64 f = readFixed e f.wordSize) ▸ exact_fixed e f.wordSize

theorem exact_address (e : Endian) (n : Nat) :
    Exact (readAddress e n) fun v pre => (n = 1 ∨ n = 2 ∨ n = 4 ∨ n = 8) ∧ pre = toBytes e n v ∧ v < 256 ^ n where
  read := fun ⟨hn, h⟩ => ((exact_fixed e n).read h).congr (readAddress_of_size hn e)
  sound := by
    intro bs v rest h
    unfold readAddress at h
    split at h
    · exact ((exact_fixed e n).sound h).imp fun _ hp => ⟨hp.1, ‹_›, hp.2⟩
    · cases h
  normal := Ints.readAddress_normal e n

end Gimli.Ints
