import Gimli.Model.Eval
import Gimli.Spec.ConvOp
import Gimli.Lemmas.Out
/-!
# What one operation can do to the machine

`execute` touches the machine through `pop`, `push` and `pushPiece` only (`skip` / `bra` also set `pc`), and every
`Value` operation in between returns. So an operation returns, and a property of machines that survives those
three (`MachInv`) survives it (`execute_inv`): no panic (`execute_normal`), the bound on a fixed-capacity stack
(`Lemmas/StackInv`) and the position of the reader (`Lemmas/WOpEval`) are instances. A property that also ignores the
control fields survives whole calls (`evaluateInternal_inv`, `resume_inv`).
-/
open Gimli Gimli.Op Gimli.Eval

namespace Gimli.Value

/-! every `Value` operation returns: each arm of its `match` is a value or an error -/

theorem toU64_normal (v : Value) (mask : Nat) : (v.toU64 mask).Normal := by unfold toU64; split <;> trivial
theorem fromU64_normal (t : ValueType) (n : Nat) : (fromU64 t n).Normal := by unfold fromU64; split <;> trivial
theorem fromF32_normal (t : ValueType) (f : Float32) : (fromF32 t f).Normal := by unfold fromF32; split <;> trivial
theorem fromF64_normal (t : ValueType) (f : Float) : (fromF64 t f).Normal := by unfold fromF64; split <;> trivial
theorem convert_normal (v : Value) (t : ValueType) (mask : Nat) : (v.convert t mask).Normal := by
  unfold convert
  split
  · exact fromF32_normal _ _
  · exact fromF64_normal _ _
  · exact (toU64_normal _ _).bind fun _ _ => fromU64_normal _ _
theorem reinterpret_normal (v : Value) (t : ValueType) (mask : Nat) : (v.reinterpret t mask).Normal := by
  unfold reinterpret
  refine .ite trivial ?_
  cases t <;> trivial
theorem abs_normal (v : Value) (mask : Nat) : (v.abs mask).Normal := by
  unfold abs; split
  · trivial
  · trivial
  · trivial
  · split <;> trivial
theorem neg_normal (v : Value) (mask : Nat) : (v.neg mask).Normal := by
  unfold neg; split
  · trivial
  · trivial
  · trivial
  · split <;> trivial
theorem not_normal (v : Value) (mask : Nat) : (v.not mask).Normal :=
  (toU64_normal _ _).bind fun _ _ => fromU64_normal _ _
theorem arith_normal (g f32 f64) (a b : Value) (mask : Nat) : (arith g f32 f64 a b mask).Normal := by
  unfold arith; split
  · trivial
  · split <;> trivial
theorem div_normal (a b : Value) (mask : Nat) : (a.div b mask).Normal := by
  unfold div
  refine .ite trivial (.ite trivial (.ite trivial ?_))
  split
  · trivial
  · trivial
  · trivial
  · split <;> trivial
theorem rem_normal (a b : Value) (mask : Nat) : (a.rem b mask).Normal := by
  unfold rem
  refine .ite trivial (.ite trivial (.ite trivial ?_))
  split <;> trivial
theorem bitwise_normal (f) (a b : Value) (mask : Nat) : (bitwise f a b mask).Normal :=
  .ite trivial ((toU64_normal _ _).bind fun _ _ => (toU64_normal _ _).bind fun _ _ => fromU64_normal _ _)
theorem shiftLength_normal (v : Value) (mask : Nat) : (v.shiftLength mask).Normal := by
  unfold shiftLength; split
  · trivial
  · trivial
  · exact .ite trivial trivial
  · trivial
theorem shl_normal (a b : Value) (mask : Nat) : (a.shl b mask).Normal := by
  unfold shl; refine (shiftLength_normal _ _).bind fun _ _ => ?_; split <;> trivial
theorem shr_normal (a b : Value) (mask : Nat) : (a.shr b mask).Normal := by
  unfold shr; refine (shiftLength_normal _ _).bind fun _ _ => ?_; split <;> trivial
theorem shra_normal (a b : Value) (mask : Nat) : (a.shra b mask).Normal := by
  unfold shra; refine (shiftLength_normal _ _).bind fun _ _ => ?_; split <;> trivial
theorem compare_normal (ri rf32 rf64) (a b : Value) (mask : Nat) : (compare ri rf32 rf64 a b mask).Normal :=
  .ite trivial trivial
end Gimli.Value

namespace Gimli.Eval
open Gimli.Value

theorem pop_eq_ok {m m' : Mach} {v : Value} :
    pop m = .ok (v, m') ↔ ∃ rest, m.stack = v :: rest ∧ m' = { m with stack := rest } := by
  unfold pop
  cases m.stack with
  | nil => simp
  | cons v0 rest =>
    simp only [Out.ok.injEq, Prod.mk.injEq, List.cons.injEq]
    exact ⟨fun ⟨h1, h2⟩ => ⟨rest, ⟨h1, rfl⟩, h2.symm⟩, fun ⟨_, ⟨h1, h3⟩, h2⟩ => ⟨h1, h3 ▸ h2.symm⟩⟩

theorem push_eq_ok {c : Config} {v : Value} {m m' : Mach} :
    push c v m = .ok m' ↔ hasRoom c.caps.stack m.stack.length = true ∧ m' = { m with stack := v :: m.stack } := by
  unfold push
  split <;> simp [*, eq_comm]

theorem push_full_iff (c : Config) (v : Value) (m : Mach) :
    push c v m = .err .rStackFull ↔ ∃ n, c.caps.stack = some n ∧ n ≤ m.stack.length := by
  unfold push hasRoom
  cases hc : c.caps.stack with
  | none => simp
  | some n => simp

theorem push_ok_of_room (c : Config) (v : Value) (m : Mach)
    (h : ∀ n, c.caps.stack = some n → m.stack.length < n) :
    push c v m = .ok { m with stack := v :: m.stack } := by
  refine push_eq_ok.mpr ⟨?_, rfl⟩
  cases hc : c.caps.stack with
  | none => rfl
  | some n => exact decide_eq_true (h n hc)

theorem pushPiece_eq_ok {c : Config} {p : Piece} {m m' : Mach} :
    pushPiece c p m = .ok m' ↔
      hasRoom c.caps.pieces m.result.length = true ∧ m' = { m with result := m.result ++ [p] } := by
  unfold pushPiece
  split <;> simp [*, eq_comm]

theorem pop_normal (m : Mach) : (pop m).Normal := by unfold pop; split <;> trivial
theorem push_normal (c : Config) (v : Value) (m : Mach) : (push c v m).Normal := .ite trivial trivial
theorem pushPiece_normal (c : Config) (p : Piece) (m : Mach) : (pushPiece c p m).Normal := .ite trivial trivial
theorem computePc_normal (pc bc : Bytes) (off : Int) : (computePc pc bc off).Normal := .ite trivial trivial

/-- As an integer, the wrapping `u64` sum of an offset and an `i64` displacement (`compute_pc`, and the branch targets of
`Expression::from`) is the integer sum `mod 2^64`: the sum itself when that is not negative and below `2^64`, and
`2^64` more, beyond every length, when it is negative. -/
theorem _root_.Gimli.ConvOp.wrapOff_cast (a : Nat) (d : Int) :
    ((ConvOp.wrapOff a d : Nat) : Int) = ((a : Int) + d) % 2 ^ 64 := by
  unfold ConvOp.wrapOff
  rw [Int.natCast_emod, Int.natCast_add, Int.toNat_of_nonneg (Int.emod_nonneg _ (by decide))]
  exact Int.add_emod_emod _ _ _

theorem computePc_eq (pc bc : Bytes) (d : Int) :
    computePc pc bc d =
      if ConvOp.wrapOff (bc.length - pc.length) d > bc.length then .err .rBadBranchTarget
      else .ok (bc.drop (ConvOp.wrapOff (bc.length - pc.length) d)) := rfl

/-- `I` survives what an operation does to the machine -/
structure MachInv (c : Config) (I : Mach → Prop) : Prop where
  pop : ∀ {m}, I m → (pop m).All fun p => I p.2
  push : ∀ {m} (v : Value), I m → (push c v m).All I
  pushPiece : ∀ {m} (p : Piece), I m → (pushPiece c p m).All I

theorem MachInv.of_updates {c : Config} {I : Mach → Prop}
    (hpop : ∀ m v rest, I m → m.stack = v :: rest → I { m with stack := rest })
    (hpush : ∀ m v, I m → hasRoom c.caps.stack m.stack.length = true → I { m with stack := v :: m.stack })
    (hpiece : ∀ m p, I m → hasRoom c.caps.pieces m.result.length = true → I { m with result := m.result ++ [p] }) :
    MachInv c I where
  pop {m} h p hp := by
    obtain ⟨rest, hs, hm⟩ := pop_eq_ok.mp (show Eval.pop m = .ok (p.1, p.2) from hp)
    exact hm ▸ hpop m _ rest h hs
  push {m} v h m' hp := (push_eq_ok.mp hp).2 ▸ hpush m v h (push_eq_ok.mp hp).1
  pushPiece {m} p h m' hp := (pushPiece_eq_ok.mp hp).2 ▸ hpiece m p h (pushPiece_eq_ok.mp hp).1

theorem MachInv.of_frame {c : Config} {I : Mach → Prop}
    (hf : ∀ m st rs, I m → I { m with stack := st, result := rs }) : MachInv c I :=
  .of_updates (fun m _ rest h _ => hf m rest m.result h) (fun m v h _ => hf m (v :: m.stack) m.result h)
    fun m p h _ => hf m m.stack (m.result ++ [p]) h

/-! `hI : MachInv c I` and `h : I m` are the first two explicit arguments of every lemma down to `applyAnswer_inv`. -/
section
variable {c : Config} {I : Mach → Prop} (hI : MachInv c I) {m : Mach} (h : I m)
include hI h

theorem MachInv.popE : (Eval.pop m).Ensures fun p => I p.2 := ⟨pop_normal m, hI.pop h⟩

theorem MachInv.pushE (v : Value) : (Eval.push c v m).Ensures I := ⟨push_normal c v m, hI.push v h⟩

theorem MachInv.push_ret {ρ} (v : Value) (r : ρ) : (Eval.push c v m >>= fun m => pure (r, m)).Ensures fun p => I p.2 :=
  (hI.pushE h v).bind fun _ _ h => Out.ensures_ok h

theorem MachInv.pushPiece_ret {ρ} (p : Piece) (r : ρ) :
    (Eval.pushPiece c p m >>= fun m => pure (r, m)).Ensures fun p => I p.2 :=
  Out.Ensures.bind ⟨pushPiece_normal c p m, hI.pushPiece p h⟩ fun _ _ h => Out.ensures_ok h

theorem binop_inv (f : Value → Value → Nat → Out Value) (hf : ∀ a b k, (f a b k).Normal) :
    (binop c f m).Ensures fun p => I p.2 :=
  (hI.popE h).bind fun ⟨_, _⟩ _ h => (hI.popE h).bind fun ⟨_, _⟩ _ h => (hf _ _ _).andThen fun _ => hI.push_ret h _ _

theorem unop_inv (f : Value → Nat → Out Value) (hf : ∀ a k, (f a k).Normal) : (unop c f m).Ensures fun p => I p.2 :=
  (hI.popE h).bind fun ⟨_, _⟩ _ h => (hf _ _).andThen fun _ => hI.push_ret h _ _

theorem execute_inv (op : Operation)
    (hpc : (∃ t, op = .skip t ∨ op = .bra t) → ∀ m pc, I m → I { m with pc := pc }) :
    (execute c op m).Ensures fun p => I p.2 := by
  cases op
  case abs => exact unop_inv hI h _ abs_normal
  case neg => exact unop_inv hI h _ neg_normal
  case not => exact unop_inv hI h _ not_normal
  case and | or | xor => exact binop_inv hI h _ (bitwise_normal _)
  case minus | mul | plus => exact binop_inv hI h _ (arith_normal _ _ _)
  case eq | ge | gt | le | lt | ne => exact binop_inv hI h _ (compare_normal _ _ _)
  case div => exact binop_inv hI h _ div_normal
  case mod => exact binop_inv hI h _ rem_normal
  case shl => exact binop_inv hI h _ shl_normal
  case shr => exact binop_inv hI h _ shr_normal
  case shra => exact binop_inv hI h _ shra_normal
  case unsignedConstant | signedConstant => exact hI.push_ret h _ _
  case pushObjectAddress =>
    show Out.Ensures (match c.objectAddress with | some v => _ | none => _) _
    cases c.objectAddress with
    | none => exact Out.ensures_err _ _
    | some v => exact hI.push_ret h _ _
  case pick i =>
    show Out.Ensures (match m.stack[i]? with | none => _ | some v => _) _
    cases m.stack[i]? with
    | none => exact Out.ensures_err _ _
    | some v => exact hI.push_ret h _ _
  case swap =>
    exact (hI.popE h).bind fun ⟨_, _⟩ _ h => (hI.popE h).bind fun ⟨_, _⟩ _ h =>
      (hI.pushE h _).bind fun _ _ h => hI.push_ret h _ _
  case rot =>
    exact (hI.popE h).bind fun ⟨_, _⟩ _ h => (hI.popE h).bind fun ⟨_, _⟩ _ h => (hI.popE h).bind fun ⟨_, _⟩ _ h =>
      (hI.pushE h _).bind fun _ _ h => (hI.pushE h _).bind fun _ _ h => hI.push_ret h _ _
  case plusConstant =>
    exact (hI.popE h).bind fun ⟨_, _⟩ _ h => (fromU64_normal _ _).andThen fun _ =>
      (arith_normal _ _ _ _ _ _).andThen fun _ => hI.push_ret h _ _
  case drop | stackValue => exact (hI.popE h).bind fun ⟨_, _⟩ _ h => Out.ensures_ok h
  case tls => exact (hI.popE h).bind fun ⟨_, _⟩ _ h => (toU64_normal _ _).andThen fun _ => Out.ensures_ok h
  case skip t => exact (computePc_normal _ _ _).andThen fun _ => Out.ensures_ok (hpc ⟨t, .inl rfl⟩ _ _ h)
  case bra t =>
    exact (hI.popE h).bind fun ⟨_, _⟩ _ h => (toU64_normal _ _).andThen fun _ => .ite_cases
      (fun _ => (computePc_normal _ _ _).andThen fun _ => Out.ensures_ok (hpc ⟨t, .inr rfl⟩ _ _ h))
      fun _ => Out.ensures_ok h
  case deref =>
    exact .ite_cases (fun _ => Out.ensures_err _ _) fun _ => (hI.popE h).bind fun ⟨_, _⟩ _ h =>
      (toU64_normal _ _).andThen fun _ => .ite_cases
        (fun _ => (hI.popE h).bind fun ⟨_, _⟩ _ h => (toU64_normal _ _).andThen fun _ => Out.ensures_ok h)
        fun _ => Out.ensures_ok h
  case piece =>
    simp only [execute]
    split
    · exact hI.pushPiece_ret h _ _
    · exact (hI.popE h).bind fun ⟨_, _⟩ _ h => (toU64_normal _ _).andThen fun _ => hI.pushPiece_ret h _ _
  case variableValue | uninitialized => exact Out.ensures_err _ _
  all_goals exact Out.ensures_ok h

theorem finish_inv (hv : ∀ m v, I m → I { m with valueResult := v }) : (finish c m).All I := by
  unfold finish
  split
  · exact (hI.pop h).bind fun ⟨v, m1⟩ h1 => .bind_any _ fun _ => hI.pushPiece _ (hv m1 (some v) h1)
  · exact .ok h

/-- `henter` is asked of the answer that enters a called expression -/
theorem applyAnswer_inv
    (henter : ∀ m bytes, I m → I { m with pc := bytes, bytecode := bytes, exprStack := (m.pc, m.bytecode) :: m.exprStack })
    (w : Waiting) (a : Answer) : (applyAnswer c w a m).All I := by
  unfold applyAnswer
  split
  case h_2 => exact .bind_any _ fun _ => .bind_any _ fun _ => hI.push _ h       -- register: offset, add, push
  case h_12 => exact .bind_any _ fun _ => hI.push _ h                            -- typed literal
  case h_13 | h_14 =>                                                            -- convert, reinterpret
    exact (hI.pop h).bind fun ⟨_, _⟩ h => .bind_any _ fun _ => hI.push _ h
  case h_7 =>
    split
    · exact .ok h
    · split
      · exact .ok (henter _ _ h)
      · exact .err _
  case h_15 => exact .panic _
  all_goals exact hI.push _ h

end

/-! ## the loop: an invariant of the three primitives that ignores the control fields is an invariant of whole calls

`I` may depend on the configuration (a capacity), which no call changes. -/

def Keeps (I : Config → Mach → Prop) (k : Eval → Out (Request × Eval)) : Prop :=
  ∀ s : Eval, I s.cfg s.m → (k s).All fun p => p.2.cfg = s.cfg ∧ I p.2.cfg p.2.m

section
variable {I : Config → Mach → Prop} (hI : ∀ c, MachInv c (I c))
  (hctl : ∀ c m pc bc es vr, I c m → I c { m with pc := pc, bytecode := bc, exprStack := es, valueResult := vr })
include hI hctl

theorem evaluateOneOperation_inv {c : Config} {m : Mach} (h : I c m) :
    (evaluateOneOperation c m).All fun p => I c p.2 :=
  .bind_any _ fun ⟨op, rest⟩ => (execute_inv (hI c) (hctl c m rest _ _ _ h) op fun _ m pc h => hctl c m pc _ _ _ h).2

theorem afterComplete_inv {c : Config} (l : Location) {m : Mach} (h : I c m) :
    (afterComplete c l m).All fun p => I c p.1 := by
  unfold afterComplete
  have he : I c (endOfExpression m).2 := hctl c m _ _ _ _ h
  split
  · next m1 heq =>
    rw [heq] at he
    split
    · exact ((hI c).pushPiece _ he).bind fun _ h => .ok h
    · exact .err _
  · next m1 heq =>
    rw [heq] at he
    refine .bind_any _ fun ⟨op, rest⟩ => ?_
    simp only []
    split
    · exact ((hI c).pushPiece _ (hctl c m1 rest _ _ _ he)).bind fun _ h => .ok h
    · exact .err _

theorem loopBody_inv (k) (hk : Keeps I k) : Keeps I (loopBody k) := by
  intro s h0
  unfold loopBody
  have he : I s.cfg (endOfExpression s.m).2 := hctl _ s.m _ _ _ _ h0
  split
  · next m1 heq =>
    rw [heq] at he
    exact (finish_inv (hI _) he fun m v h => hctl _ m _ _ _ v h).bind fun _ h => .ok ⟨rfl, h⟩
  · next m1 heq =>
    rw [heq] at he
    split
    · exact .err _
    · refine (evaluateOneOperation_inv hI hctl he).bind fun ⟨res, m2⟩ h2 => ?_
      cases res with
      | piece => exact hk { s with m := m2, iteration := _, decodes := _ } h2
      | incomplete =>
        simp only [afterOp]
        split
        · exact .err _
        · exact hk { s with m := (endOfExpression m2).2, iteration := _, decodes := _ } (hctl _ m2 _ _ _ _ h2)
      | complete loc =>
        exact (afterComplete_inv hI hctl _ h2).bind fun ⟨m3, extra⟩ h3 =>
          hk { s with m := m3, iteration := _, decodes := _ } h3
      | waiting w rq => exact .ok ⟨rfl, h2⟩

theorem evaluateInternal_inv (fuel : Nat) : Keeps I (evaluateInternal fuel) := by
  induction fuel with
  | zero => exact fun _ _ _ h => nomatch h
  | succ fuel ih => exact loopBody_inv hI hctl _ ih

theorem resume_inv (fuel : Nat) (a : Answer) (s : Eval) (h0 : I s.cfg s.m) :
    (resume fuel a s).All fun p => p.2.cfg = s.cfg ∧ I p.2.cfg p.2.m := by
  unfold resume
  split
  · exact .err _
  · exact (applyAnswer_inv (hI _) h0 (fun m b h => hctl _ m _ _ _ _ h) _ a).bind fun m1 h1 =>
      evaluateInternal_inv hI hctl fuel { s with m := m1 } h1
  · exact .panic _

end
end Gimli.Eval
