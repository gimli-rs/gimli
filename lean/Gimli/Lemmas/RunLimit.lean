import Gimli.Lemmas.Eval
import Gimli.Lemmas.EvalRun
import Gimli.Lemmas.Out
/-! # C07 `iter_limit` over whole runs: `evaluate()` and any script of `resume_with_*` answers -/
open Gimli Gimli.Op Gimli.Eval

namespace Gimli.Eval

theorem finalOf_ne_diverged_of_normal {α} (x : Out α) (h : x.Normal) : finalOf x ≠ .diverged := by
  cases x <;> simp [finalOf, Out.Normal] at h ⊢

/-- `applyAnswer` is built from total operations; an answer of the wrong kind is the documented panic -/
theorem applyAnswer_ne_diverge (c : Config) (w : Waiting) (a : Answer) (m : Mach) : applyAnswer c w a m ≠ .diverge := by
  have hn : ∀ {x : Out Mach}, x.Normal → x ≠ .diverge := fun h e => by rw [e] at h; exact h
  have hpush : ∀ v, push c v m ≠ .diverge := fun v => hn (push_normal c v m)
  unfold applyAnswer
  split
  case h_2 =>       -- register
    exact hn (.bind (Value.fromU64_normal _ _) fun _ _ => .bind (Value.arith_normal _ _ _ _ _ _) fun _ _ => push_normal _ _ _)
  case h_7 =>       -- at_location
    split
    · exact fun h => nomatch h
    · split <;> exact fun h => nomatch h
  case h_12 => exact hn (.bind (Value.parse_normal _ _ _) fun _ _ => push_normal _ _ _)
  case h_13 => exact hn (.bind (pop_normal _) fun _ _ => .bind (Value.convert_normal _ _ _) fun _ _ => push_normal _ _ _)
  case h_14 => exact hn (.bind (pop_normal _) fun _ _ => .bind (Value.reinterpret_normal _ _ _) fun _ _ => push_normal _ _ _)
  case h_15 => exact fun h => nomatch h
  all_goals exact hpush _

theorem resume_bound (m : Nat) (hm : m < 2 ^ 32) (fuel : Nat) (a : Answer) (s : Eval) (r : Request) (s' : Eval)
    (hmax : s.cfg.maxIterations = some m) (hit : s.iteration ≤ m) (h : resume fuel a s = .ok (r, s')) :
    Advance m 0 s s' := by
  unfold resume at h
  split at h
  · cases h
  · obtain ⟨m1, _, h2⟩ := Out.bind_eq_ok h
    exact evalInternal_bound m hm fuel { s with m := m1 } r s' hmax hit h2
  · cases h

theorem resume_not_diverge (m : Nat) (hm : m < 2 ^ 32) (fuel : Nat) (hf : m + 2 ≤ fuel) (a : Answer) (s : Eval)
    (hmax : s.cfg.maxIterations = some m) (hit : s.iteration ≤ m) : resume fuel a s ≠ .diverge := by
  unfold resume
  split
  · exact fun h => nomatch h
  · next w hw =>
    cases hx : applyAnswer s.cfg w a s.m with
    | ok m1 =>
      have := evalInternal_terminates m hm fuel { s with m := m1 } hmax hit
        (Nat.le_trans (Nat.le_of_succ_le hf) (Nat.le_add_right _ _))
      exact fun h => by rw [show evaluateInternal fuel { s with m := m1 } = .diverge from h] at this; exact this
    | diverge => exact absurd hx (applyAnswer_ne_diverge _ _ _ _)
    | _ => exact fun h => nomatch h
  · exact fun h => nomatch h

/-- a run from `s` that did not run out of fuel and ended, if it left a state, within the limit -/
def RunOk (m : Nat) (s : Eval) (res : List Request × Final × Option Eval) : Prop :=
  res.2.1 ≠ .diverged ∧ ∀ e, res.2.2 = some e → Advance m 0 s e

theorem RunOk.here (m : Nat) (s : Eval) (hit : s.iteration ≤ m) (rs : List Request) (f : Final) (hf : f ≠ .diverged) :
    RunOk m s (rs, f, some s) :=
  ⟨hf, fun _ he => Option.some.inj he ▸ .refl hit⟩

theorem RunOk.after {m : Nat} {s s1 : Eval} {res : List Request × Final × Option Eval} (h : Advance m 0 s s1)
    (hres : RunOk m s1 res) : RunOk m s res :=
  ⟨hres.1, fun e he => h.trans (hres.2 e he)⟩

theorem RunOk.stopped (m : Nat) (s : Eval) (rs : List Request) {α} {x : Out α} (hx : x ≠ .diverge) :
    RunOk m s (rs, finalOf x, none) :=
  ⟨by cases x <;> first | exact (hx rfl).elim | exact Final.noConfusion, fun _ he => nomatch he⟩

theorem runFrom_limit (m : Nat) (hm : m < 2 ^ 32) (fuel : Nat) (hf : m + 2 ≤ fuel) :
    ∀ (toks : List Tok) (r : Request) (s : Eval), s.cfg.maxIterations = some m → s.iteration ≤ m →
      RunOk m s (runFrom fuel toks r s) := by
  intro toks
  induction toks with
  | nil =>
    intro r s hmax hit
    by_cases hr : r = .complete
    · rw [hr, runFrom_complete]; exact .here m s hit _ _ (fun h => nomatch h)
    · rw [runFrom_nil fuel r s hr]; exact .here m s hit _ _ (fun h => nomatch h)
  | cons t toks ih =>
    intro r s hmax hit
    by_cases hr : r = .complete
    · rw [hr, runFrom_complete]; exact .here m s hit _ _ (fun h => nomatch h)
    · rw [runFrom_cons fuel t toks r s hr]
      cases hx : resume fuel (answerFor r t) s with
      | ok p =>
        obtain ⟨r', s'⟩ := p
        have hb := resume_bound m hm fuel _ s r' s' hmax hit hx
        exact .after hb (ih r' s' (hb.1 ▸ hmax) hb.2.2.1)
      | diverge => exact absurd hx (resume_not_diverge m hm fuel hf _ s hmax hit)
      | err e => exact .stopped m s _ (fun h => nomatch h)
      | panic w => exact .stopped m s _ (fun h => nomatch h)

theorem run_limit (m : Nat) (hm : m < 2 ^ 32) (fuel : Nat) (hf : m + 2 ≤ fuel) (toks : List Tok) (s : Eval)
    (hmax : s.cfg.maxIterations = some m) (hit : s.iteration ≤ m) : RunOk m s (run fuel toks s) := by
  cases he : enter s with
  | inl o =>
    unfold run
    rw [evaluate_eq, he]
    rcases enter_inl he with rfl | ⟨e, rfl⟩ | ⟨w, rfl⟩
    · exact runFrom_limit m hm fuel hf toks .complete s hmax hit
    · exact .stopped m s _ (fun h => nomatch h)
    · exact .stopped m s _ (fun h => nomatch h)
  | inr s1 =>
    obtain ⟨hc, hi, hd, _⟩ := enter_inr he
    have hn := evalInternal_terminates m hm fuel s1 (hc ▸ hmax) (hi ▸ hit) (by omega)
    rw [run_of_enter he]
    cases hx : evaluateInternal fuel s1 with
    | ok p =>
      obtain ⟨r, s'⟩ := p
      -- `s1` is `s` as far as `Advance` looks
      have hb : Advance m 0 s s' := by
        have := evalInternal_bound m hm fuel s1 r s' (hc ▸ hmax) (hi ▸ hit) hx
        unfold Advance at this ⊢
        rwa [hc, hi, hd] at this
      exact .after hb (runFrom_limit m hm fuel hf toks r s' (hb.1 ▸ hmax) hb.2.2.1)
    | err e => exact .stopped m s _ (fun h => nomatch h)
    | panic w => rw [hx] at hn; exact hn.elim
    | diverge => rw [hx] at hn; exact hn.elim

end Gimli.Eval
