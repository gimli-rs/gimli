import Gimli.Lemmas.WOpExpr
/-!
# C15: one step of the evaluator on emitted bytes = executing the operation as built

First what `execute` (C07's Model of the `match operation` in `evaluate_one_operation`) does to the reader position: only
`skip` and `bra` move it, every other operation returns a machine that is the `Same` as the one it was given
(`execute_keeps`, an instance of `execute_inv`; `execute_control` for all operations). Then the step on emitted bytes
(`Laid.stepAt`).
-/
namespace Gimli.WOp
open Gimli.Op (Encoding)
open Gimli.Eval

def Same (m m' : Mach) : Prop := m'.pc = m.pc ∧ m'.bytecode = m.bytecode ∧ m'.exprStack = m.exprStack

theorem same_refl (m : Mach) : Same m m := ⟨rfl, rfl, rfl⟩

/-- `x.All P` for a computation that returns a machine, as a structure -/
structure KeepsM (P : Mach → Prop) (x : Out Mach) : Prop where
  out : ∀ m', x = .ok m' → P m'

theorem keepsM_err (P) (er : Err) : KeepsM P (.err er) := ⟨Out.All.err er⟩
theorem keepsM_ok (P : Mach → Prop) (m : Mach) (h : P m) : KeepsM P (.ok m) := ⟨Out.All.ok h⟩

theorem same_inv (c : Config) (m0 : Mach) : MachInv c (Same m0) := .of_frame fun _ _ _ h => h

theorem pop_keeps (m0 m1 : Mach) (h : Same m0 m1) : (pop m1).All fun p => Same m0 p.2 :=
  (same_inv default m0).pop h

theorem push_keeps (c : Config) (v : Value) (m0 m1 : Mach) (h : Same m0 m1) : (push c v m1).All (Same m0) :=
  (same_inv c m0).push v h

theorem pushPiece_keeps (c : Config) (p : Piece) (m0 m1 : Mach) (h : Same m0 m1) :
    (pushPiece c p m1).All (Same m0) :=
  (same_inv c m0).pushPiece p h

theorem execute_keeps (c : Config) (op : Op.Operation) (m : Mach)
    (hs : ∀ t, op ≠ .skip t) (hb : ∀ t, op ≠ .bra t) : (execute c op m).All fun p => Same m p.2 :=
  (execute_inv (same_inv c m) (same_refl m) op fun ⟨t, ht⟩ => (ht.elim (hs t) (hb t)).elim).2

theorem execute_control (c : Config) (op : Op.Operation) (m : Mach) :
    (execute c op m).All fun p => p.2.bytecode = m.bytecode ∧ p.2.exprStack = m.exprStack ∧
      (p.2.pc = m.pc ∨ ∃ t, (op = .skip t ∨ op = .bra t) ∧ computePc m.pc m.bytecode t = .ok p.2.pc) := by
  intro p h
  by_cases hs : ∃ t, op = .skip t
  · obtain ⟨t, rfl⟩ := hs
    obtain ⟨pc, hpc, h⟩ := Out.bind_eq_ok h
    cases h
    exact ⟨rfl, rfl, .inr ⟨t, .inl rfl, hpc⟩⟩
  by_cases hb : ∃ t, op = .bra t
  · obtain ⟨t, rfl⟩ := hb
    obtain ⟨⟨entry, m2⟩, hpop, h⟩ := Out.bind_eq_ok h
    obtain ⟨v, -, h⟩ := Out.bind_eq_ok h
    obtain ⟨hpc2, hbc2, hes2⟩ : Same m m2 := pop_keeps _ _ (same_refl _) _ hpop
    split at h
    · obtain ⟨pc, hpc, h⟩ := Out.bind_eq_ok h
      cases h
      exact ⟨hbc2, hes2, .inr ⟨t, .inr rfl, hpc2 ▸ hbc2 ▸ hpc⟩⟩
    · cases h
      exact ⟨hbc2, hes2, .inl hpc2⟩
  · obtain ⟨h1, h2, h3⟩ := execute_keeps c op m (fun t ht => hs ⟨t, ht⟩) (fun t ht => hb ⟨t, ht⟩) _ h
    exact ⟨h2, h3, .inl h1⟩

section
variable (e : Endian) (enc : Encoding) (uo : UnitOffs) (hasRefs : Bool)

theorem opImage_not_branch (offsets : List Nat) (pos : Nat) (op : Operation) (img : Op.Operation)
    (h : opImage e enc uo hasRefs offsets pos op = some img) (hnb : ∀ t, ¬ isBranchTo op t) :
    (∀ t, img ≠ .skip t) ∧ (∀ t, img ≠ .bra t) := by
  unfold opImage at h
  cases op with
  | skip t => exact absurd (.inl rfl) (hnb t)
  | branch t => exact absurd (.inr rfl) (hnb t)
  | simple opc => exact (simpleImage_spec e enc [] opc img h).2
  | raw b => cases h
  | address a => cases a <;> cases h; exact ⟨fun _ => nofun, fun _ => nofun⟩
  -- the image of an operation with a unit reference is built over the entry's offset
  | constantType | registerType | derefType | call | parameterRef =>
    obtain ⟨_, -, rfl⟩ := Option.map_eq_some_iff.mp h
    exact ⟨fun _ => nofun, fun _ => nofun⟩
  | convert b | reinterpret b =>
    cases b
    · cases h; exact ⟨fun _ => nofun, fun _ => nofun⟩
    · obtain ⟨_, -, rfl⟩ := Option.map_eq_some_iff.mp h
      exact ⟨fun _ => nofun, fun _ => nofun⟩
  | _ => cases h; exact ⟨fun _ => nofun, fun _ => nofun⟩

end

variable {W : Emitted}

/-- One step of the evaluator from the start of operation `j` as built: decode + execute on the bytes is `execute` of
the operation's image, and afterwards the reader stands again at the start of an operation as built (the next one,
or the target of a taken branch) or at the end. -/
theorem Laid.stepAt (hW : Laid W) (hoffs : ∀ f, W.uo = some f → ∀ en o, f en = some o → o < 2 ^ 64)
    (hL : W.bs.length < 2 ^ 64) (c : Config) (hce : c.endian = W.e) (hcenc : c.encoding = W.enc)
    {j : Nat} (hj : j < W.ops.length) (hwf : OpWf W.ops[j]) {bj : Bytes} {fj : List Fixup} (hwj : W.Before j bj fj) :
    ∃ bo fo img, opWrite W.e W.enc W.uo W.hasRefs W.offs (W.pos + bj.length) W.ops[j] = .ok (bo, fo) ∧
      opImage W.e W.enc W.uo W.hasRefs W.offs (W.pos + bj.length) W.ops[j] = some img ∧
      ∀ m : Mach, m.bytecode = W.bs → m.pc = W.bs.drop bj.length →
        evaluateOneOperation c m = execute c img { m with pc := W.bs.drop (bj.length + bo.length) } ∧
        (evaluateOneOperation c m).All fun p =>
          p.2.bytecode = W.bs ∧ p.2.exprStack = m.exprStack ∧ AtOp W p.2.pc := by
  obtain ⟨bo, fo, img, hop, himg, -, -, hparse, hnext⟩ := hW.decodeAt hoffs hL hj hwf hwj
  refine ⟨bo, fo, img, hop, himg, fun m hmb hmpc => ?_⟩
  have hstep : evaluateOneOperation c m = execute c img { m with pc := W.bs.drop (bj.length + bo.length) } := by
    unfold evaluateOneOperation
    rw [hmpc, hce, hcenc, hparse]
    rfl
  refine ⟨hstep, fun p hp => ?_⟩
  obtain ⟨hbc, hes, hpc⟩ := execute_control c img _ p (hstep ▸ hp)
  refine ⟨hbc.trans hmb, hes, ?_⟩
  rcases hpc with hpc | ⟨d, hd, hcp⟩
  · exact ⟨j + 1, _, _, hj, hnext, by rw [hpc, List.length_append]⟩
  · -- the image is a branch, so the operation is one, and `compute_pc` lands on its target
    have hbr : ∃ t, isBranchTo W.ops[j] t := Classical.byContradiction fun hn => by
      obtain ⟨h1, h2⟩ := opImage_not_branch _ _ _ _ _ _ _ img himg fun t ht => hn ⟨t, ht⟩
      rcases hd with rfl | rfl
      · exact h1 _ rfl
      · exact h2 _ rfl
    obtain ⟨t, hbt⟩ := hbr
    obtain ⟨htle, d', bt, ft, hwt, hparse', hcp'⟩ := hW.branchAt hL hj hbt hwj
    obtain ⟨himg', hrest⟩ := Prod.mk.inj (Out.ok.inj (hparse.symm.trans hparse'))
    subst himg'
    have hdd : d' = d := by
      rcases hbt with h | h <;> rw [h] at hd <;> rcases hd with hd | hd <;> cases hd <;> rfl
    subst hdd
    have hcp : computePc (W.bs.drop (bj.length + bo.length)) m.bytecode d' = .ok p.2.pc := hcp
    rw [hmb, hrest, hcp'] at hcp
    exact ⟨t, bt, ft, htle, hwt, (Out.ok.inj hcp).symm⟩

section
variable (e : Endian) (enc : Encoding) (uo : UnitOffs) (hasRefs : Bool)

theorem eval_step_aux (c : Config) (hce : c.endian = e) (hcenc : c.encoding = enc)
    (pre suf : List Operation) (op : Operation) (pos : Nat) (bs : Bytes) (fx : List Fixup)
    (hoffs : ∀ f, uo = some f → ∀ en o, f en = some o → o < 2 ^ 64)
    (hL : bs.length < 2 ^ 64) (hwf : OpWf op)
    (hw : exprWrite e enc uo hasRefs pos (pre ++ op :: suf) = .ok (bs, fx)) :
    ∃ (offs : List Nat) (b1 : Bytes) (f1 : List Fixup) (bo : Bytes) (fo : List Fixup) (img : Op.Operation),
      exprOffsets enc uo (pre ++ op :: suf) pos = .ok offs ∧
      exprWriteOps e enc uo hasRefs offs pos pre = .ok (b1, f1) ∧
      opWrite e enc uo hasRefs offs (pos + b1.length) op = .ok (bo, fo) ∧
      opImage e enc uo hasRefs offs (pos + b1.length) op = some img ∧
      ∀ m : Mach, m.bytecode = bs → m.pc = bs.drop b1.length →
        -- decode + execute on the bytes = execute of the image, continuing after the operation
        evaluateOneOperation c m = execute c img { m with pc := bs.drop (b1.length + bo.length) } ∧
        -- and afterwards the reader is again at the start of an operation as built (or at the end)
        ∀ r m', evaluateOneOperation c m = .ok (r, m') →
          m'.bytecode = bs ∧
          ∃ j bj fj, j ≤ (pre ++ op :: suf).length ∧
            exprWriteOps e enc uo hasRefs offs pos ((pre ++ op :: suf).take j) = .ok (bj, fj) ∧
            m'.pc = bs.drop bj.length := by
  obtain ⟨offs, ho, hwo⟩ := Out.bind_eq_ok hw
  let W : Emitted := ⟨e, enc, uo, hasRefs, pre ++ op :: suf, pos, bs, fx, offs⟩
  have hW : Laid W := ⟨ho, hwo⟩
  have hj : pre.length < W.ops.length := by simp [W]
  have hop : W.ops[pre.length] = op := by simp [W]
  obtain ⟨b1, f1, -, h1, -⟩ := hW.split (Nat.le_of_lt hj)
  have h1' : exprWriteOps e enc uo hasRefs offs pos pre = .ok (b1, f1) := by simpa [W, Emitted.Before] using h1
  obtain ⟨bo, fo, img, hwo, himg, hstep⟩ := hW.stepAt hoffs hL c hce hcenc hj (hop ▸ hwf) h1
  rw [hop] at hwo himg
  exact ⟨offs, b1, f1, bo, fo, img, ho, h1', hwo, himg, fun m hmb hmpc =>
    ⟨(hstep m hmb hmpc).1, fun r m' hr => have h := (hstep m hmb hmpc).2 (r, m') hr; ⟨h.1, h.2.2⟩⟩⟩
end
end Gimli.WOp
