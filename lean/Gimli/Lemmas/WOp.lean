import Gimli.Model.WOp
import Gimli.Lemmas.Leb
import Gimli.Lemmas.Ints
import Gimli.Lemmas.Out
/-!
# C15: `Operation::size` predicts what `Operation::write` emits

The lengths of the operand writers (`writeAddress`, `writeDRef`, `writeBranch`), then
`opWrite_length` / `exprWriteOps_length` by induction over the nesting of `entry_value`
(`Operation.nest_induction`): each arm inverts the write with `Out.bind_eq_ok` and computes the size
from the operand lengths.
-/
namespace Gimli.WOp
open Gimli.Op (Encoding)

theorem writeAddress_length (e : Endian) (a : Addr) (size : Nat) (bs : Bytes)
    (h : writeAddress e a size = .ok bs) : bs.length = size := by
  cases a with
  | constant v => exact Ints.writeUdata_length h
  | symbol s a => simp [writeAddress] at h

theorem writeDRef_entry (e : Endian) (hasRefs : Bool) (r : DRef) (size at_ : Nat) (bs : Bytes) (fx : List Fixup)
    (h : writeDRef e hasRefs r size at_ = .ok (bs, fx)) :
    Ints.writeUdata e 0 size = .ok bs ∧ ∃ u en, r = .entry u en ∧ fx = [⟨at_, size, u, en⟩] := by
  cases r with
  | symbol s => cases h
  | entry u en =>
    cases hasRefs with
    | false => cases h
    | true =>
      obtain ⟨b, hb, h⟩ := Out.bind_eq_ok h
      cases h
      exact ⟨hb, _, _, rfl, rfl⟩

theorem writeDRef_length (e : Endian) (hasRefs : Bool) (r : DRef) (size at_ : Nat) (bs : Bytes) (fx : List Fixup)
    (h : writeDRef e hasRefs r size at_ = .ok (bs, fx)) : bs.length = size :=
  Ints.writeUdata_length (writeDRef_entry e hasRefs r size at_ bs fx h).1

theorem writeBranch_length (e : Endian) (offsets : List Nat) (t wlen : Nat) (bs : Bytes)
    (h : writeBranch e offsets t wlen = .ok bs) : bs.length = 2 := by
  unfold writeBranch at h
  split at h
  · simp at h
  · exact Ints.writeSdata_length h

theorem entryOffset_baseSize (uo : UnitOffs) (entry o : Nat) (h : entryOffset uo entry = .ok o) :
    baseSize uo entry = .ok (Leb.sizeU o) := by
  unfold entryOffset at h
  unfold baseSize
  cases uo with
  | none => simp at h
  | some f =>
    simp only at h ⊢
    cases hf : f entry with
    | none => simp [hf] at h
    | some x => simp only [hf, Out.ok.injEq] at h; rw [h]

/-- `op_piece`: the size in bits must fit `u64` (`size_in_bytes > u64::MAX / 8` is refused) -/
theorem opWrite_piece (e : Endian) (enc : Encoding) (uo : UnitOffs) (hasRefs : Bool) (offsets : List Nat) (pos n : Nat) :
    opWrite e enc uo hasRefs offsets pos (.piece n) =
      if 2 ^ 61 ≤ n then .err .wValueTooLarge else .ok (0x93 :: Leb.encodeU n, []) := by
  have hq : ((2 : Nat) ^ 64 - 1) / 8 = 2 ^ 61 - 1 := by decide
  simp only [opWrite, hq]
  split
  · rw [if_pos (by omega)]
  · rw [if_neg (by omega)]

theorem exprWriteOps_length_of (e : Endian) (enc : Encoding) (uo : UnitOffs) (hasRefs : Bool) (ops : List Operation)
    (hop : ∀ op ∈ ops, ∀ offsets pos bs fx,
      opWrite e enc uo hasRefs offsets pos op = .ok (bs, fx) → opSize enc uo op = .ok bs.length)
    (offsets : List Nat) (pos : Nat) (bs : Bytes) (fx : List Fixup)
    (h : exprWriteOps e enc uo hasRefs offsets pos ops = .ok (bs, fx)) : exprSize enc uo ops = .ok bs.length := by
  induction ops generalizing pos bs fx with
  | nil => cases h; rfl
  | cons op rest ih =>
    obtain ⟨⟨b1, f1⟩, h1, h⟩ := Out.bind_eq_ok h
    obtain ⟨⟨b2, f2⟩, h2, h⟩ := Out.bind_eq_ok h
    cases h
    simp [exprSize, hop op (.head _) _ _ _ _ h1, ih (fun o ho => hop o (.tail _ ho)) _ _ _ h2]

/-- Induction over the nesting of `entry_value`, the only operation that contains operations: to
prove `P op` one may assume `P` of every operation of the body. -/
theorem Operation.nest_induction {P : Operation → Prop}
    (step : ∀ op, (∀ body, op = .entryValue body → ∀ o ∈ body, P o) → P op) (op : Operation) : P op :=
  step op fun body hb o ho =>
    have : sizeOf o < sizeOf op := by
      have := List.sizeOf_lt_of_mem ho
      rw [hb, Operation.entryValue.sizeOf_spec]; omega
    nest_induction step o
termination_by sizeOf op

theorem opWrite_length (e : Endian) (enc : Encoding) (uo : UnitOffs) (hasRefs : Bool) (op : Operation) :
    ∀ (offsets : List Nat) (pos : Nat) (bs : Bytes) (fx : List Fixup),
      opWrite e enc uo hasRefs offsets pos op = .ok (bs, fx) → opSize enc uo op = .ok bs.length := by
  induction op using Operation.nest_induction with | step op ih => ?_
  intro offsets pos bs fx h
  cases op with
  | raw | simple | deref | derefSize => cases h; rfl
  | pick i =>
    match i, h with
    | 0, h | 1, h => cases h; rfl
    | i + 2, h => cases h; simp [opSize]
  | plusConstant | implicitValue | bitPiece | wasmLocal | wasmGlobal | wasmStack =>
    cases h; simp [opSize, Leb.encodeU_length]; omega
  | signedConstant | frameOffset =>
    cases h; simp [opSize, Leb.encodeS_length]; omega
  | unsignedConstant | register =>
    simp only [opWrite] at h
    split at h <;> cases h <;> rename_i hv
    · simp [opSize, hv]
    · simp [opSize, hv, Leb.encodeU_length]; omega
  | registerOffset r o =>
    simp only [opWrite] at h
    split at h <;> cases h <;> rename_i hv
    · simp [opSize, hv, Leb.encodeS_length]; omega
    · simp [opSize, hv, Leb.encodeS_length, Leb.encodeU_length]; omega
  | piece n =>
    simp only [opWrite] at h
    split at h <;> cases h
    simp [opSize, Leb.encodeU_length]; omega
  | address a =>
    obtain ⟨b, hb, h⟩ := Out.bind_eq_ok h
    cases h
    simp [opSize, writeAddress_length _ _ _ _ hb]; omega
  | skip | branch =>
    obtain ⟨d, hd, h⟩ := Out.bind_eq_ok h
    cases h
    simp [opSize, writeBranch_length _ _ _ _ _ hd]
  | callRef | variableValue =>
    obtain ⟨⟨b, f⟩, hb, h⟩ := Out.bind_eq_ok h
    cases h
    simp [opSize, writeDRef_length _ _ _ _ _ _ _ hb]; omega
  | implicitPointer r o =>
    obtain ⟨⟨b, f⟩, hb, h⟩ := Out.bind_eq_ok h
    cases h
    simp [opSize, writeDRef_length _ _ _ _ _ _ _ hb, Leb.encodeS_length]; omega
  -- a reference to a unit entry: `base_size` is the ULEB128 length of the offset written
  | call | parameterRef =>
    obtain ⟨o, -, h⟩ := Out.bind_eq_ok h
    obtain ⟨b, hb, h⟩ := Out.bind_eq_ok h
    cases h
    simp [opSize, Ints.writeUdata_length hb]
  | registerType | derefType =>
    obtain ⟨o, ho, h⟩ := Out.bind_eq_ok h
    cases h
    simp [opSize, entryOffset_baseSize _ _ _ ho, Leb.encodeU_length]; omega
  | convert base | reinterpret base =>
    cases base with
    | none => cases h; rfl
    | some =>
      obtain ⟨o, ho, h⟩ := Out.bind_eq_ok h
      cases h
      simp [opSize, entryOffset_baseSize _ _ _ ho, Leb.encodeU_length]; omega
  | constantType base value =>
    obtain ⟨o, ho, h⟩ := Out.bind_eq_ok h
    obtain ⟨l, hl, h⟩ := Out.bind_eq_ok h
    cases h
    simp [opSize, entryOffset_baseSize _ _ _ ho, Leb.encodeU_length, Ints.writeUdata_length hl]; omega
  | entryValue body =>
    obtain ⟨len, hlen, h⟩ := Out.bind_eq_ok h
    obtain ⟨offs, -, h⟩ := Out.bind_eq_ok h
    obtain ⟨⟨b, f⟩, hw, h⟩ := Out.bind_eq_ok h
    cases h
    have ih := exprWriteOps_length_of e enc uo hasRefs body (ih body rfl) _ _ _ _ hw
    rw [hlen, Out.ok.injEq] at ih
    simp [opSize, hlen, Leb.encodeU_length, ih]; omega

theorem opLen_of_write {e : Endian} {enc : Encoding} {uo : UnitOffs} {hasRefs : Bool} {op : Operation}
    {offsets : List Nat} {pos : Nat} {bs : Bytes} {fx : List Fixup}
    (h : opWrite e enc uo hasRefs offsets pos op = .ok (bs, fx)) : opLen enc uo op = bs.length := by
  rw [opLen, opWrite_length e enc uo hasRefs op offsets pos bs fx h]

theorem exprWriteOps_length (e : Endian) (enc : Encoding) (uo : UnitOffs) (hasRefs : Bool) (ops : List Operation) :
    ∀ (offsets : List Nat) (pos : Nat) (bs : Bytes) (fx : List Fixup),
      exprWriteOps e enc uo hasRefs offsets pos ops = .ok (bs, fx) → exprSize enc uo ops = .ok bs.length :=
  exprWriteOps_length_of e enc uo hasRefs ops fun op _ => opWrite_length e enc uo hasRefs op
end Gimli.WOp
