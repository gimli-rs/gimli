import Gimli.Lemmas.ReaderEnsures
import Gimli.Lemmas.LebU16
import Gimli.Model.Abbrev
import Gimli.Spec.AbbrevTable
/-! Lemmas for C02: the abbreviation table. Every parser returns a value or an error and
consumes input (`parseAbbreviation_ensures`); `Abbreviations::insert` against `Abbreviations::get`
(dense vector + map, `insert_some_of_get_none`), folded over the declarations that
`Abbreviations::parse` reads (`insertAll_get`, `parseLoop_of_parseDecls`); and parsing the encoding
of a table reads back exactly its declarations (`parseDecls_rt`). -/
namespace Gimli.Abbrev
open Gimli Gimli.Attr Gimli.Out

def lookup (ds : List Abbreviation) (c : Nat) : Option Abbreviation := ds.find? (fun a => a.code = c)

def insertAll (t : Abbreviations) : List Abbreviation → Option Abbreviations
  | [] => some t
  | a :: as =>
    match t.insert a with
    | none => none
    | some t' => insertAll t' as

/-- the reading half of `Abbreviations::parse`: the declarations up to the null one (or the end of
input), nothing inserted -/
def parseDecls : Nat → Bytes → Out (List Abbreviation)
  | 0, _ => .diverge
  | fuel + 1, bs => do
    let (a, rest) ← parseAbbreviation bs
    match a with
    | none => pure []
    | some a => do
      let ds ← parseDecls fuel rest
      pure (a :: ds)

theorem parseSpec_ensures (bs : Bytes) : (parseSpec bs).Ensures fun x => x.2.length < bs.length :=
  (Leb.u16_ensures bs).bind_rest fun _ r1 (h1 : r1.length < bs.length) =>
  (Leb.u16_ensures r1).bind_rest fun _ r2 (h2 : r2.length < r1.length) =>
  Ensures.ite_cases (fun _ => ensures_ok (Nat.lt_trans h2 h1)) fun _ =>
  Ensures.ite_cases (fun _ => ensures_err _ _) fun _ =>
  Ensures.ite_cases (fun _ => ensures_err _ _) fun _ =>
  Ensures.ite_cases
    (fun _ => (Leb.signed_ensures r2).bind_rest fun _ r3 (h3 : r3.length < r2.length) =>
      ensures_ok (Nat.lt_trans h3 (Nat.lt_trans h2 h1)))
    fun _ => ensures_ok (Nat.lt_trans h2 h1)

theorem parseSpecs_ensures : ∀ (fuel : Nat) (bs : Bytes), bs.length < fuel →
    (parseSpecs fuel bs).Ensures fun x => x.2.length ≤ bs.length := by
  intro fuel
  induction fuel with
  | zero => intro bs h; exact absurd h (Nat.not_lt_zero _)
  | succ fuel ih =>
    intro bs h
    refine (parseSpec_ensures bs).bind_rest fun s r1 (h1 : r1.length < bs.length) => ?_
    cases s with
    | none => exact ensures_ok (Nat.le_of_lt h1)
    | some s =>
      exact (ih r1 (Nat.lt_of_lt_of_le h1 (Nat.le_of_lt_succ h))).bind_rest fun _ r2 (h2 : r2.length ≤ r1.length) =>
        ensures_ok (Nat.le_trans h2 (Nat.le_of_lt h1))

theorem parseAbbreviation_ensures (bs : Bytes) :
    (parseAbbreviation bs).Ensures fun x => ∀ a, x.1 = some a → a.code ≠ 0 ∧ x.2.length < bs.length :=
  Ensures.ite_cases (fun _ => ensures_ok fun _ h => nomatch h) fun _ =>
  (Leb.unsigned_ensures bs).bind_rest fun code r1 (h1 : r1.length < bs.length) =>
  Ensures.ite_cases (fun _ => ensures_ok fun _ h => nomatch h) fun h0 =>
  (Leb.u16_ensures r1).bind_rest fun _ r2 (h2 : r2.length < r1.length) =>
  Ensures.ite_cases (fun _ => ensures_err _ _) fun _ =>
  ((Ints.readFixed_ensures _ _ r2).mono fun _ t => t.le).bind_rest
    fun _ r3 (h3 : r3.length ≤ r2.length) =>
  Ensures.ite_cases (fun _ => ensures_err _ _) fun _ =>
  (parseSpecs_ensures _ r3 (Nat.lt_succ_self _)).bind_rest fun _ r4 (h4 : r4.length ≤ r3.length) =>
  ensures_ok fun a h => by cases h; exact ⟨h0, show r4.length < bs.length by omega⟩

theorem get_zero (t : Abbreviations) : t.get 0 = none := by simp [Abbreviations.get]

theorem insert_none_of_get_some (t : Abbreviations) (a : Abbreviation) (h0 : a.code ≠ 0)
    (h : (t.get a.code).isSome) : t.insert a = none := by
  unfold Abbreviations.get at h
  unfold Abbreviations.insert
  simp only [h0, if_false] at h
  by_cases h1 : a.code - 1 < t.vec.length
  · simp [h1]
  · simp only [h1, dite_false, if_false] at h ⊢
    by_cases h2 : a.code - 1 = t.vec.length
    · simp only [h2, if_true]
      have hne : t.map.isEmpty = false := by
        cases hm : t.map with
        | nil => rw [hm] at h; simp [mapGet] at h
        | cons x xs => rfl
      simp [hne, h]
    · simp only [h2, if_false]
      unfold Abbreviations.mapInsert
      cases hg : mapGet t.map a.code with
      | none => rw [hg] at h; simp at h
      | some x => rfl

theorem mapGet_cons (k : Nat) (a : Abbreviation) (m : List (Nat × Abbreviation)) (c : Nat) :
    mapGet ((k, a) :: m) c = if k = c then some a else mapGet m c := by
  rw [mapGet]

theorem insert_some_of_get_none (t : Abbreviations) (a : Abbreviation) (h0 : a.code ≠ 0)
    (h : t.get a.code = none) :
    ∃ t', t.insert a = some t' ∧ ∀ c, t'.get c = if c = a.code then some a else t.get c := by
  unfold Abbreviations.get at h
  simp only [h0, if_false] at h
  by_cases h1 : a.code - 1 < t.vec.length
  · simp [h1] at h
  · simp only [h1, dite_false] at h
    unfold Abbreviations.insert
    simp only [h1, if_false]
    by_cases h2 : a.code - 1 = t.vec.length
    · refine ⟨{ t with vec := t.vec ++ [a] }, by simp [h2, h], ?_⟩
      intro c
      unfold Abbreviations.get
      by_cases hc0 : c = 0
      · subst hc0; simp [Ne.symm h0]
      · simp only [hc0, if_false, List.length_append, List.length_singleton]
        by_cases hca : c = a.code
        · subst hca
          have : a.code - 1 < t.vec.length + 1 := by omega
          simp only [this, dite_true, if_true]
          rw [List.getElem_append_right (by omega)]
          simp [h2]
        · simp only [hca, if_false]
          by_cases hlt : c - 1 < t.vec.length
          · have : c - 1 < t.vec.length + 1 := by omega
            simp only [this, hlt, dite_true]
            rw [List.getElem_append_left hlt]
          · have : ¬ c - 1 < t.vec.length + 1 := by omega
            simp only [this, hlt, dite_false]
    · simp only [h2, if_false]
      unfold Abbreviations.mapInsert
      rw [h]
      refine ⟨_, rfl, ?_⟩
      intro c
      unfold Abbreviations.get
      by_cases hc0 : c = 0
      · subst hc0; simp [Ne.symm h0]
      · simp only [hc0, if_false]
        by_cases hlt : c - 1 < t.vec.length
        · have hca : c ≠ a.code := by omega
          simp [hlt, hca]
        · simp only [hlt, dite_false, mapGet_cons]
          by_cases hca : c = a.code
          · simp [hca]
          · have : ¬ a.code = c := fun h => hca h.symm
            simp [hca, this]

theorem get_empty (c : Nat) : Abbreviations.empty.get c = none := by
  simp [Abbreviations.get, Abbreviations.empty, mapGet]

/-- `t.get` is the finite map that `t` stands for. Folding `insert` over `ds` succeeds exactly when the codes
of `ds` are distinct and new to `t`, and then extends that map by `ds`. -/
theorem insertAll_get : ∀ (ds : List Abbreviation) (t : Abbreviations), (∀ a ∈ ds, a.code ≠ 0) →
    ((ds.map (·.code)).Nodup ∧ (∀ a ∈ ds, t.get a.code = none) →
      ∃ t', insertAll t ds = some t' ∧ ∀ c, t'.get c = (t.get c).or (lookup ds c)) ∧
    (¬ ((ds.map (·.code)).Nodup ∧ ∀ a ∈ ds, t.get a.code = none) → insertAll t ds = none)
  | [], t, _ => ⟨fun _ => ⟨t, rfl, fun c => (Option.or_none).symm⟩,
      fun h => absurd ⟨List.nodup_nil, fun _ h => nomatch h⟩ h⟩
  | a :: ds, t, hnz => by
    have ha0 := hnz a List.mem_cons_self
    unfold insertAll
    cases hg : t.get a.code with
    | some x =>
      rw [insert_none_of_get_some t a ha0 (by rw [hg]; rfl)]
      exact ⟨fun h => absurd ((h.2 a List.mem_cons_self).symm.trans hg) nofun, fun _ => rfl⟩
    | none =>
      obtain ⟨t', hins, hget'⟩ := insert_some_of_get_none t a ha0 hg
      have ih := insertAll_get ds t' fun b hb => hnz b (List.mem_cons_of_mem _ hb)
      have hnew : ∀ b : Abbreviation, t'.get b.code = none ↔ b.code ≠ a.code ∧ t.get b.code = none := fun b => by
        rw [hget']; by_cases hb : b.code = a.code <;> simp [hb]
      have hiff : ((ds.map (·.code)).Nodup ∧ ∀ b ∈ ds, t'.get b.code = none) ↔
          (((a :: ds).map (·.code)).Nodup ∧ ∀ b ∈ a :: ds, t.get b.code = none) := by
        constructor
        · rintro ⟨hnd, hf⟩
          refine ⟨List.nodup_cons.mpr ⟨fun hin => ?_, hnd⟩,
            List.forall_mem_cons.mpr ⟨hg, fun b hb => ((hnew b).mp (hf b hb)).2⟩⟩
          obtain ⟨b, hb, hbc⟩ := List.mem_map.mp hin
          exact ((hnew b).mp (hf b hb)).1 hbc
        · rintro ⟨hnd, hf⟩
          have ⟨hni, hnd⟩ := List.nodup_cons.mp hnd
          exact ⟨hnd, fun b hb => (hnew b).mpr
            ⟨fun hbc => hni (List.mem_map.mpr ⟨b, hb, hbc⟩), hf b (List.mem_cons_of_mem _ hb)⟩⟩
      rw [hins, ← hiff]
      refine ⟨fun h => ?_, ih.2⟩
      obtain ⟨t'', h1, h2⟩ := ih.1 h
      refine ⟨t'', h1, fun c => ?_⟩
      rw [h2, hget']
      unfold lookup
      rw [List.find?_cons]
      by_cases hca : c = a.code
      · rw [if_pos hca, hca, hg]; simp
      · rw [if_neg hca, decide_eq_false fun h : a.code = c => hca h.symm]

theorem insertAll_spec : ∀ (new ds : List Abbreviation) (t : Abbreviations),
    (∀ c, t.get c = lookup ds c) → (∀ a ∈ new, a.code ≠ 0) → ((ds.map (·.code)).Nodup) →
    (((ds ++ new).map (·.code)).Nodup →
      ∃ t', insertAll t new = some t' ∧ ∀ c, t'.get c = lookup (ds ++ new) c) ∧
    (¬ ((ds ++ new).map (·.code)).Nodup → insertAll t new = none) := by
  intro new ds t ht hz hnd
  have hiff : ((ds ++ new).map (·.code)).Nodup ↔
      ((new.map (·.code)).Nodup ∧ ∀ a ∈ new, t.get a.code = none) := by
    simp only [List.map_append, List.nodup_append, hnd, true_and, ht, lookup, List.find?_eq_none, List.mem_map,
      forall_exists_index, and_imp, forall_apply_eq_imp_iff₂, decide_eq_true_eq, ne_eq]
    exact and_congr_right fun _ => ⟨fun h a ha x hx => h x hx a ha, fun h x hx a ha => h a ha x hx⟩
  have h := insertAll_get new t hz
  rw [← hiff] at h
  refine ⟨fun hn => ?_, h.2⟩
  obtain ⟨t', h1, h2⟩ := h.1 hn
  exact ⟨t', h1, fun c => by rw [h2, ht]; exact List.find?_append.symm⟩

theorem parseLoop_of_parseDecls : ∀ (fuel : Nat) (t : Abbreviations) (bs : Bytes) (ds : List Abbreviation),
    parseDecls fuel bs = .ok ds →
    parseLoop fuel t bs =
      (match insertAll t ds with
       | some t' => .ok t'
       | none => .err .rDuplicateAbbreviationCode) ∧ ∀ a ∈ ds, a.code ≠ 0 := by
  intro fuel
  induction fuel with
  | zero => intro t bs ds h; cases h
  | succ fuel ih =>
    intro t bs ds h
    obtain ⟨⟨a, rest⟩, h1, h2⟩ := bind_eq_ok h
    rw [parseLoop, h1, Out.bind_ok]
    cases a with
    | none => cases h2; exact ⟨rfl, fun _ h => nomatch h⟩
    | some a =>
      obtain ⟨ds', h3, h4⟩ := bind_eq_ok (x := parseDecls fuel rest) h2
      cases h4
      refine ⟨?_, List.forall_mem_cons.mpr ⟨((parseAbbreviation_ensures bs).2 _ h1 a rfl).1, (ih t rest ds' h3).2⟩⟩
      simp only [insertAll]
      cases t.insert a with
      | none => rfl
      | some t' => exact (ih t' rest ds' h3).1

theorem parseLoop_total : ∀ (fuel : Nat) (t : Abbreviations) (bs : Bytes), bs.length < fuel →
    (parseLoop fuel t bs).Normal := by
  intro fuel
  induction fuel with
  | zero => intro t bs h; exact absurd h (Nat.not_lt_zero _)
  | succ fuel ih =>
    intro t bs h
    refine (parseAbbreviation_ensures bs).bind_normal fun (a, rest) _ ha => ?_
    cases a with
    | none => trivial
    | some ab =>
      have : rest.length < bs.length := (ha ab rfl).2
      show (match t.insert ab with
        | none => Out.err .rDuplicateAbbreviationCode
        | some t => parseLoop fuel t rest).Normal
      cases t.insert ab
      · trivial
      · exact ih _ _ (Nat.lt_of_lt_of_le this (Nat.le_of_lt_succ h))

theorem abbreviationsParse_total (bs : Bytes) : (Abbreviations.parse bs).Normal :=
  parseLoop_total _ _ _ (Nat.lt_succ_self _)

open Gimli.Spec.AbbrevTable

theorem parseSpec_null (rest : Bytes) : parseSpec (0 :: 0 :: rest) = .ok (none, rest) := by
  unfold parseSpec
  simp [Leb.u16_zero]

theorem parseSpec_rt (s : Spec) (hv : SpecValid s) : Reads parseSpec (encodeSpec s) (some s) := by
  obtain ⟨hn0, hn16, hof, hf0, hf16, himp⟩ := hv
  refine .bind (Leb.reads_u16 hn16) <| .bind (Leb.reads_u16 hf16) <|
    .ite_neg (fun h => hn0 h.1) <| .ite_neg hn0 <| .ite_neg hf0 ?_
  obtain ⟨name, form, ic⟩ := s
  dsimp only at hof himp
  by_cases hi : form = .implicitConst
  · subst hi
    exact .congr (.map (Leb.reads_signed himp.1 himp.2) fun _ => rfl) fun _ => if_pos rfl
  · rw [if_neg hi] at himp ⊢
    subst himp
    exact .ite_neg (fun h21 => hi (hof ▸ congrArg Form.ofCode h21)) fun _ => by rw [hof]; rfl

theorem encodeSpec_length (s : Spec) : 2 ≤ (encodeSpec s).length := by
  have h1 := List.length_pos_iff.mpr (Leb.encodeU_ne_nil s.name)
  have h2 := List.length_pos_iff.mpr (Leb.encodeU_ne_nil s.form.code)
  simp only [encodeSpec, List.length_append]
  omega

theorem parseSpecs_rt : ∀ (ss : List Spec) (fuel : Nat), (∀ s ∈ ss, SpecValid s) → ss.length < fuel →
    Reads (parseSpecs fuel) (encodeSpecs ss) ss
  | _, 0, _, hf => absurd hf (Nat.not_lt_zero _)
  | [], _ + 1, _, _ => .map (w := [0, 0]) parseSpec_null fun _ => rfl
  | s :: ss, fuel + 1, hv, hf =>
    .bind (parseSpec_rt s (hv s List.mem_cons_self)) <|
      .map (parseSpecs_rt ss fuel (fun x hx => hv x (List.mem_cons_of_mem _ hx)) (Nat.lt_of_succ_lt_succ hf))
        fun _ => rfl

theorem encodeSpecs_length (ss : List Spec) : ss.length < (encodeSpecs ss).length := by
  induction ss with
  | nil => simp [encodeSpecs]
  | cons s ss ih =>
    have := encodeSpec_length s
    simp only [encodeSpecs, List.length_append, List.length_cons]
    omega

theorem parseAbbreviation_null (rest : Bytes) : parseAbbreviation (0 :: rest) = .ok (none, rest) := by
  unfold parseAbbreviation
  simp [Leb.unsigned_zero]

theorem parseAbbreviation_rt (a : Abbreviation) (hv : DeclValid a) :
    Reads parseAbbreviation (encodeDecl a) (some a) := by
  obtain ⟨hc0, hc64, ht0, ht16, hss⟩ := hv
  -- the flag byte passes the 0/1 test and reads back as the flag
  have hb : ∀ c : Bool,
      ¬ ((if c = true then (1 : UInt8) else 0).toNat ≠ 0 ∧ (if c = true then (1 : UInt8) else 0).toNat ≠ 1) ∧
        decide ((if c = true then (1 : UInt8) else 0).toNat = 1) = c := by decide
  have hl := encodeSpecs_length a.attrs
  -- `parse_attributes` gets the length of what is left as fuel
  have hss : Reads (fun bs => parseSpecs (bs.length + 1) bs) (encodeSpecs a.attrs) a.attrs := fun rest =>
    parseSpecs_rt a.attrs _ hss (by simp only [List.length_append]; omega) rest
  refine fun rest => (if_neg ?_).trans (Reads.bind (Leb.reads_unsigned hc64) (.ite_neg hc0 ?_) rest)
  · cases h : Leb.encodeU a.code with
    | nil => exact absurd h (Leb.encodeU_ne_nil a.code)
    | cons b t => rw [encodeDecl, h]; exact Bool.false_ne_true
  refine .bind (Leb.reads_u16 ht16) <| .ite_neg ht0 ?_
  refine .bind (w := [_]) (Ints.reads_byte .little _) <| .ite_neg (hb _).1 ?_
  exact .map hss fun _ => by rw [(hb _).2]; rfl

theorem parseDecls_rt : ∀ (ds : List Abbreviation) (fuel : Nat) (rest : Bytes), (∀ a ∈ ds, DeclValid a) →
    ds.length < fuel → parseDecls fuel (encodeTable ds ++ rest) = .ok ds := by
  intro ds
  induction ds with
  | nil =>
    intro fuel rest _ hf
    obtain ⟨fuel, rfl⟩ := Nat.exists_eq_add_one_of_ne_zero (Nat.ne_zero_of_lt hf)
    simp only [encodeTable, List.cons_append, List.nil_append]
    rw [parseDecls, parseAbbreviation_null]
    rfl
  | cons a ds ih =>
    intro fuel rest hv hf
    obtain ⟨fuel, rfl⟩ := Nat.exists_eq_add_one_of_ne_zero (Nat.ne_zero_of_lt hf)
    simp only [encodeTable, List.append_assoc]
    rw [parseDecls, parseAbbreviation_rt a (hv a (by simp))]
    simp only [Out.bind_ok]
    rw [ih fuel rest (fun x hx => hv x (by simp [hx])) (Nat.lt_of_succ_lt_succ hf)]
    rfl

theorem encodeTable_length (ds : List Abbreviation) : ds.length < (encodeTable ds).length := by
  induction ds with
  | nil => exact Nat.zero_lt_one
  | cons a ds ih =>
    have h1 := List.length_pos_iff.mpr (Leb.encodeU_ne_nil a.code)
    simp only [encodeTable, encodeDecl, List.length_append, List.length_cons]
    omega

end Gimli.Abbrev
