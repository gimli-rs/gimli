import Gimli.Model.Eval
/-! # C07: the equations of `Eval.evaluate` and `Eval.runFrom` (a run after the first call: one `resume_with_*` per request)

`evaluate` is `enter`, then the loop, then `settle`; `enter` and `settle` know nothing of the loop, so the same equation
holds of `WOp.evaluateD` (`Spec/BuiltEval.lean`), whatever the decoder. -/
open Gimli Gimli.Op

namespace Gimli.Eval

/-- `evaluate` before the loop: the answer of a call that does not run it (`.inl`; the state stays), or the state the
loop starts in (`.inr`; the first call pushes the initial value) -/
def enter (s : Eval) : Out (Request × Eval) ⊕ Eval :=
  match s.state with
  | .start none => .inr { s with state := .ready }
  | .start (some v) =>
    match push s.cfg (.generic v) s.m with
    | .ok m => .inr { s with m := m, state := .ready }
    | .err e => .inl (.err e)
    | .panic w => .inl (.panic w)
    | .diverge => .inl .diverge
  | .ready => .inr s
  | .error e => .inl (.err e)
  | .complete => .inl (.ok (.complete, s))
  | .waiting _ => .inl (.panic "evaluate() while waiting")

/-- `evaluate` after the loop `k`, run from `s`: an error is recorded in the state -/
def settle (k : Eval → Out (Request × Eval)) (s : Eval) : Out (Request × Eval) × Eval :=
  match k s with
  | .ok (r, s') => (.ok (r, s'), s')
  | .err e => (.err e, { s with state := .error e })
  | .panic w => (.panic w, s)
  | .diverge => (.diverge, s)

theorem evaluate_eq (fuel : Nat) (s : Eval) :
    evaluate fuel s = match enter s with
      | .inl o => (o, s)
      | .inr s1 => settle (evaluateInternal fuel) s1 := by
  unfold evaluate enter
  cases s.state with
  | start init =>
    cases init with
    | none => rfl
    | some v => simp only []; cases push s.cfg (.generic v) s.m <;> rfl
  | _ => rfl

theorem enter_inr {s s1 : Eval} (h : enter s = .inr s1) :
    s1.cfg = s.cfg ∧ s1.iteration = s.iteration ∧ s1.decodes = s.decodes ∧
      (s1.m = s.m ∨ ∃ v, push s.cfg v s.m = .ok s1.m) := by
  unfold enter at h
  split at h
  · cases h; exact ⟨rfl, rfl, rfl, .inl rfl⟩
  · split at h <;> cases h
    exact ⟨rfl, rfl, rfl, .inr ⟨_, ‹_›⟩⟩
  · cases h; exact ⟨rfl, rfl, rfl, .inl rfl⟩
  all_goals cases h

theorem enter_inl {s : Eval} {o : Out (Request × Eval)} (h : enter s = .inl o) :
    o = .ok (.complete, s) ∨ (∃ e, o = .err e) ∨ ∃ w, o = .panic w := by
  unfold enter at h
  split at h
  · cases h
  · split at h <;> cases h
    · exact .inr (.inl ⟨_, rfl⟩)
    · exact .inr (.inr ⟨_, rfl⟩)
    · next hp => unfold push at hp; split at hp <;> cases hp   -- `push` does not diverge
  · cases h
  · cases h; exact .inr (.inl ⟨_, rfl⟩)
  · cases h; exact .inl rfl
  · cases h; exact .inr (.inr ⟨_, rfl⟩)

theorem settle_fst (k : Eval → Out (Request × Eval)) (s : Eval) : (settle k s).1 = k s := by
  unfold settle
  cases k s <;> rfl

theorem run_of_enter {s s1 : Eval} (h : enter s = .inr s1) (fuel : Nat) (toks : List Tok) :
    run fuel toks s =
      (match evaluateInternal fuel s1 with
       | .ok (r, s') => runFrom fuel toks r s'
       | o => ([], finalOf o, none)) := by
  unfold run
  rw [evaluate_eq, h]
  dsimp only [settle]
  cases evaluateInternal fuel s1 <;> rfl

theorem runFrom_complete (fuel : Nat) (toks : List Tok) (s : Eval) :
    runFrom fuel toks .complete s = ([.complete], .done s.m.result s.m.valueResult, some s) := by
  cases toks <;> rfl

theorem runFrom_nil (fuel : Nat) (r : Request) (s : Eval) (hr : r ≠ .complete) :
    runFrom fuel [] r s = ([r], .scriptEnd, some s) := by
  cases r with
  | complete => exact (hr rfl).elim
  | _ => rfl

theorem runFrom_cons (fuel : Nat) (t : Tok) (toks : List Tok) (r : Request) (s : Eval) (hr : r ≠ .complete) :
    runFrom fuel (t :: toks) r s =
      (match resume fuel (answerFor r t) s with
       | .ok (r', s') => (match runFrom fuel toks r' s' with | (tr, f, e) => (r :: tr, f, e))
       | o => ([r], finalOf o, none)) := by
  cases r with
  | complete => exact (hr rfl).elim
  | _ => rfl

end Gimli.Eval
