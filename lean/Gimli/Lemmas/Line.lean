import Gimli.Model.Line
import Gimli.Spec.Line
import Gimli.Lemmas.Ints
import Gimli.Lemmas.Out
/-! Lemmas for C04 about the state machine of `LineRow::execute`: what the register arithmetic
computes when nothing wraps, what it can never do to the address, one step of `next_row`'s loop
(`stepEv`, in terms of which `traceLoop` and `traceInstrs` unfold), monotone addresses on every
input, and the refinement of the Spec machine: on every stretch of a program whose steps fit the
reader (`Fits`, `Runs`, `runs_trace`), in particular on well-formed programs. -/
namespace Gimli.Line
open Gimli Gimli.Spec.Line

/-! ## register arithmetic -/

theorem addSized_eq_some {a l s x : Nat} :
    addSized a l s = some x ↔ a + l < 2 ^ 64 ∧ a + l ≤ onesSized s ∧ x = a + l := by
  unfold addSized
  by_cases h1 : a + l < 2 ^ 64 <;> by_cases h2 : a + l ≤ onesSized s <;> simp [h1, h2, eq_comm]

theorem addSized_some {a l s x : Nat} (h : addSized a l s = some x) :
    x = a + l ∧ x ≤ onesSized s :=
  have ⟨_, h2, h3⟩ := addSized_eq_some.mp h
  ⟨h3, h3 ▸ h2⟩

theorem minTombstone_le (size : Nat) : minTombstone size ≤ onesSized size + 1 := by
  unfold minTombstone onesSized
  have : 0 < 2 ^ (8 * size) := Nat.two_pow_pos _
  have := Nat.mod_lt (2 ^ 64 - 2) this
  omega

/-! ### without wrap-around, in closed form -/

theorem onesSized_lt (size : Nat) (h : size ≤ 8) : onesSized size < 2 ^ 64 := by
  unfold onesSized
  have : 2 ^ (8 * size) ≤ 2 ^ 64 := Nat.pow_le_pow_right (by decide) (by omega)
  have : 0 < 2 ^ (8 * size) := Nat.two_pow_pos _
  omega

theorem lt_pow_of_le_ones {a size : Nat} (h : a ≤ onesSized size) : a < 2 ^ (8 * size) := by
  have : 0 < 2 ^ (8 * size) := Nat.two_pow_pos _
  unfold onesSized at h
  omega

theorem addSized_fits {a l s : Nat} (hs : s ≤ 8) (h : a + l < 2 ^ (8 * s)) :
    addSized a l s = some (a + l) := by
  have := onesSized_lt s hs
  refine addSized_eq_some.mpr ⟨?_, ?_, rfl⟩ <;> unfold onesSized at * <;> omega

theorem applyLineAdvance_eq (row : Row) (inc : Int) (hl : row.line < 2 ^ 64) :
    applyLineAdvance row inc =
      { row with line := if (row.line : Int) + inc < 0 then 0 else ((row.line : Int) + inc).toNat % 2 ^ 64 } := by
  unfold applyLineAdvance
  by_cases hneg : inc < 0
  · rw [if_pos hneg]
    by_cases hc : inc.natAbs ≤ row.line
    · have h3 : ((row.line : Int) + inc).toNat = row.line - inc.natAbs := by omega
      rw [if_pos hc, if_neg (by omega), h3, Nat.mod_eq_of_lt (by omega)]
    · rw [if_neg hc, if_pos (by omega)]
  · have h3 : ((row.line : Int) + inc).toNat = row.line + inc.toNat := by omega
    rw [if_neg hneg, if_neg (by omega), h3]

theorem operationPointer_small (h : Params) (opIndex adv : Nat)
    (hidx : opIndex < h.maxOps) (hsum : opIndex + adv < 2 ^ 64)
    (hprod : h.minInstLen * ((opIndex + adv) / h.maxOps) < 2 ^ 64) :
    operationPointer h opIndex adv =
      ((opIndex + adv) % h.maxOps, h.minInstLen * ((opIndex + adv) / h.maxOps)) := by
  unfold operationPointer
  by_cases h1 : h.maxOps = 1
  · have : opIndex = 0 := by omega
    subst this
    simp only [h1, ↓reduceIte, Nat.zero_add, Nat.mod_one, Nat.div_one] at hprod ⊢
    rw [Nat.mod_eq_of_lt hprod]
  · simp only [h1, ↓reduceIte]
    rw [Nat.mod_eq_of_lt hsum, Nat.mod_eq_of_lt hprod]

theorem applyOperationAdvance_eq (h : Params) (row : Row) (adv : Nat) (hnt : row.tombstone = false)
    (hsz : h.addrSize ≤ 8) (_hmax1 : 1 ≤ h.maxOps) (hidx : row.opIndex < h.maxOps)
    (hsum : row.opIndex + adv < 2 ^ 64)
    (hprod : h.minInstLen * ((row.opIndex + adv) / h.maxOps) < 2 ^ 64) :
    applyOperationAdvance h row adv =
      if row.address + h.minInstLen * ((row.opIndex + adv) / h.maxOps) ≤ onesSized h.addrSize then
        ({ row with opIndex := (row.opIndex + adv) % h.maxOps,
                    address := row.address + h.minInstLen * ((row.opIndex + adv) / h.maxOps) }, none)
      else ({ row with opIndex := (row.opIndex + adv) % h.maxOps }, some .rAddressOverflow) := by
  have hptr := operationPointer_small h row.opIndex adv hidx hsum hprod
  have hones := onesSized_lt h.addrSize hsz
  unfold applyOperationAdvance
  rw [if_neg (by rw [hnt]; decide)]
  simp only [hptr]
  unfold addSized
  by_cases hfit : row.address + h.minInstLen * ((row.opIndex + adv) / h.maxOps) ≤ onesSized h.addrSize
  · have : row.address + h.minInstLen * ((row.opIndex + adv) / h.maxOps) < 2 ^ 64 := by omega
    simp only [this, hfit, ↓reduceIte]
  · simp only [hfit, ↓reduceIte, ite_self]

theorem applyOperationAdvance_inv (h : Params) (row : Row) (adv : Nat) :
    row.address ≤ (applyOperationAdvance h row adv).1.address ∧
    (row.address ≤ onesSized h.addrSize →
      (applyOperationAdvance h row adv).1.address ≤ onesSized h.addrSize) ∧
    (applyOperationAdvance h row adv).1.endSequence = row.endSequence ∧
    (applyOperationAdvance h row adv).1.tombstone = row.tombstone := by
  unfold applyOperationAdvance
  by_cases ht : row.tombstone = true
  · rw [if_pos ht]
    exact ⟨Nat.le_refl _, id, rfl, rfl⟩
  · rw [if_neg ht]
    dsimp only
    cases ha : addSized row.address (operationPointer h row.opIndex adv).2 h.addrSize with
    | some a =>
      obtain ⟨rfl, hle⟩ := addSized_some ha
      exact ⟨Nat.le_add_right _ _, fun _ => hle, rfl, rfl⟩
    | none => exact ⟨Nat.le_refl _, id, rfl, rfl⟩

theorem applyLineAdvance_inv (row : Row) (i : Int) :
    (applyLineAdvance row i).address = row.address ∧
    (applyLineAdvance row i).endSequence = row.endSequence ∧
    (applyLineAdvance row i).tombstone = row.tombstone ∧
    (applyLineAdvance row i).opIndex = row.opIndex := by
  unfold applyLineAdvance
  split
  · simp only; split <;> simp
  · simp

theorem execSpecial_inv (h : Params) (row : Row) (op : Nat) :
    row.address ≤ (execSpecial h row op).1.address ∧
    (row.address ≤ onesSized h.addrSize → (execSpecial h row op).1.address ≤ onesSized h.addrSize) ∧
    (execSpecial h row op).1.endSequence = row.endSequence ∧
    (execSpecial h row op).1.tombstone = row.tombstone := by
  unfold execSpecial
  simp only
  have h1 := applyLineAdvance_inv row (h.lineBase + ((adjustOpcode h op % h.lineRange : Nat) : Int))
  have h2 := applyOperationAdvance_inv h
    (applyLineAdvance row (h.lineBase + ((adjustOpcode h op % h.lineRange : Nat) : Int)))
    (adjustOpcode h op / h.lineRange)
  rw [h1.1, h1.2.1, h1.2.2.1] at h2
  exact h2

theorem execute_inv (h : Params) (row : Row) (ins : Instr) :
    row.address ≤ (execute h row ins).1.address ∧
    (row.address ≤ onesSized h.addrSize → (execute h row ins).1.address ≤ onesSized h.addrSize) ∧
    ((execute h row ins).2 ≠ .emit → (execute h row ins).1.endSequence = row.endSequence) := by
  cases ins with
  | special op =>
    have := execSpecial_inv h row op
    simp only [execute]
    exact ⟨this.1, this.2.1, fun _ => this.2.2.1⟩
  | advancePc n =>
    have := applyOperationAdvance_inv h row n
    simp only [execute]
    exact ⟨this.1, this.2.1, fun _ => this.2.2.1⟩
  | constAddPc =>
    have := applyOperationAdvance_inv h row (adjustOpcode h 255 / h.lineRange)
    simp only [execute]
    exact ⟨this.1, this.2.1, fun _ => this.2.2.1⟩
  | advanceLine i =>
    have := applyLineAdvance_inv row i
    exact ⟨Nat.le_of_eq this.1.symm, fun hm => this.1 ▸ hm, fun _ => this.2.1⟩
  | fixedAddPc n =>
    rw [execute]
    split
    · exact ⟨Nat.le_refl _, id, fun _ => rfl⟩
    · cases ha : addSized row.address n h.addrSize with
      | some a =>
        obtain ⟨rfl, hle⟩ := addSized_some ha
        exact ⟨Nat.le_add_right _ _, fun _ => hle, fun _ => rfl⟩
      | none => exact ⟨Nat.le_refl _, id, fun _ => rfl⟩
  | setAddress a =>
    rw [execute]
    split
    · exact ⟨Nat.le_refl _, id, fun _ => rfl⟩
    · rename_i hn
      rw [Bool.or_eq_true, not_or, decide_eq_true_eq, decide_eq_true_eq] at hn
      have := minTombstone_le h.addrSize
      exact ⟨Nat.le_of_not_lt hn.1, fun _ => Nat.le_of_lt_succ (Nat.lt_of_lt_of_le (Nat.lt_of_not_le hn.2) this),
        fun _ => rfl⟩
  | endSequence => exact ⟨Nat.le_refl _, id, fun hne => absurd rfl hne⟩
  | _ => exact ⟨Nat.le_refl _, id, fun _ => rfl⟩

theorem reset_of_end {h : Params} {r : Row} (he : r.endSequence = true) : reset h r = Row.new h := by
  rw [reset, if_pos he]

theorem reset_of_not_end {h : Params} {r : Row} (he : r.endSequence = false) :
    reset h r = { r with discriminator := 0, basicBlock := false, prologueEnd := false, epilogueBegin := false } := by
  rw [reset, if_neg (by rw [he]; decide)]

theorem reset_endSequence (h : Params) (row : Row) : (reset h row).endSequence = false := by
  unfold reset
  split
  · rfl
  · simp only; simpa using ‹¬row.endSequence = true›

theorem reset_address (h : Params) (row : Row) :
    (reset h row).address = if row.endSequence then 0 else row.address := by
  unfold reset
  split <;> simp [Row.new]

theorem reset_new (h : Params) : reset h (Row.new h) = Row.new h := by
  simp [reset, Row.new]

/-! ## one iteration of `next_row`'s loop -/

/-- the events of one instruction, the registers the next instruction starts from, the next `in_sequence` -/
def stepEv (h : Params) (row : Row) (inSeq : Bool) (ins : Instr) : List Ev × Row × Bool :=
  match execute h row ins with
  | (row, .err e) => ([.err e], reset h row, inSeq)
  | (row, .noEmit) => ([], row, inSeq)
  | (row, .emit) =>
    if skipRow row inSeq then ([.hidden row], reset h row, inSeq)
    else ([.row row], reset h row, !row.endSequence)

theorem stepEv_err (h : Params) (row row' : Row) (inSeq : Bool) (ins : Instr) (e : Err)
    (hex : execute h row ins = (row', .err e)) :
    stepEv h row inSeq ins = ([.err e], reset h row', inSeq) := by
  unfold stepEv; rw [hex]

theorem stepEv_noEmit (h : Params) (row row' : Row) (inSeq : Bool) (ins : Instr)
    (hex : execute h row ins = (row', .noEmit)) : stepEv h row inSeq ins = ([], row', inSeq) := by
  unfold stepEv; rw [hex]

theorem stepEv_hidden (h : Params) (row row' : Row) (inSeq : Bool) (ins : Instr)
    (hex : execute h row ins = (row', .emit)) (ht : skipRow row' inSeq = true) :
    stepEv h row inSeq ins = ([.hidden row'], reset h row', inSeq) := by
  unfold stepEv; rw [hex]; exact if_pos ht

theorem stepEv_row (h : Params) (row row' : Row) (inSeq : Bool) (ins : Instr)
    (hex : execute h row ins = (row', .emit)) (ht : ¬ skipRow row' inSeq = true) :
    stepEv h row inSeq ins = ([.row row'], reset h row', !row'.endSequence) := by
  unfold stepEv; rw [hex]; exact if_neg ht

theorem stepEv_not_stuck (h : Params) (row : Row) (inSeq : Bool) (ins : Instr) :
    Ev.stuck ∉ (stepEv h row inSeq ins).1 := by
  unfold stepEv
  cases execute h row ins with
  | mk r e =>
    cases e with
    | emit => dsimp only; cases skipRow r inSeq <;> simp
    | _ => simp

theorem traceLoop_succ (h : Params) (fuel : Nat) (row : Row) (inSeq : Bool) (input : Bytes) :
    traceLoop h (fuel + 1) row inSeq input =
      if input.isEmpty then []
      else match parseInstr h input with
        | .ok (ins, rest) =>
          (stepEv h row inSeq ins).1 ++
            traceLoop h fuel (stepEv h row inSeq ins).2.1 (stepEv h row inSeq ins).2.2 rest
        | .err e => [.err e]
        | _ => [.stuck] := by
  rw [traceLoop]
  by_cases hem : input.isEmpty = true
  · rw [if_pos hem, if_pos hem]
  · rw [if_neg hem, if_neg hem]
    cases parseInstr h input with
    | ok p =>
      dsimp only [stepEv]
      cases execute h row p.1 with
      | mk r e =>
        cases e with
        | emit => dsimp only; cases skipRow r inSeq <;> rfl
        | _ => rfl
    | _ => rfl

/-- `traceLoop` on an already decoded program -/
def traceInstrs (h : Params) : Row → Bool → List Instr → List Ev
  | _, _, [] => []
  | row, inSeq, ins :: is =>
    match execute h row ins with
    | (row, .err e) => .err e :: traceInstrs h (reset h row) inSeq is
    | (row, .noEmit) => traceInstrs h row inSeq is
    | (row, .emit) =>
      if skipRow row inSeq then .hidden row :: traceInstrs h (reset h row) inSeq is
      else .row row :: traceInstrs h (reset h row) (!row.endSequence) is

theorem traceInstrs_cons (h : Params) (row : Row) (inSeq : Bool) (ins : Instr) (is : List Instr) :
    traceInstrs h row inSeq (ins :: is) =
      (stepEv h row inSeq ins).1 ++
        traceInstrs h (stepEv h row inSeq ins).2.1 (stepEv h row inSeq ins).2.2 is := by
  rw [traceInstrs, stepEv]
  cases execute h row ins with
  | mk r e =>
    cases e with
    | emit => dsimp only; cases skipRow r inSeq <;> rfl
    | _ => rfl

theorem decodeAll_succ (h : Params) (fuel : Nat) (input : Bytes) :
    decodeAll h (fuel + 1) input =
      if input.isEmpty then .ok []
      else parseInstr h input >>= fun (ins, rest) => decodeAll h fuel rest >>= fun is => pure (ins :: is) := by
  rw [decodeAll]
  by_cases hem : input.isEmpty = true
  · rw [if_pos hem, if_pos hem]
  · rw [if_neg hem, if_neg hem]
    cases parseInstr h input with
    | ok p => dsimp only [Out.bind_ok]; cases decodeAll h fuel p.2 <;> rfl
    | _ => rfl

theorem traceLoop_decodeAll (h : Params) (fuel : Nat) :
    ∀ (row : Row) (inSeq : Bool) (input : Bytes) (prog : List Instr),
    decodeAll h fuel input = .ok prog → traceLoop h fuel row inSeq input = traceInstrs h row inSeq prog := by
  induction fuel with
  | zero => intro row inSeq input prog hd; cases hd
  | succ fuel ih =>
    intro row inSeq input prog hd
    rw [decodeAll_succ] at hd
    rw [traceLoop_succ]
    by_cases hem : input.isEmpty = true
    · rw [if_pos hem] at hd ⊢
      cases hd
      rfl
    · rw [if_neg hem] at hd ⊢
      obtain ⟨⟨ins, rest⟩, hp, hd⟩ := Out.bind_eq_ok hd
      obtain ⟨is, hrest, hd⟩ := Out.bind_eq_ok hd
      cases hd
      rw [hp, traceInstrs_cons]
      exact congrArg _ (ih _ _ rest is hrest)

theorem trace_decodeAll (h : Params) (bs : Bytes) (prog : List Instr)
    (hd : decodeAll h (bs.length + 1) bs = .ok prog) : trace h bs = traceInstrs h (Row.new h) false prog := by
  unfold trace
  rw [traceLoop_decodeAll h _ _ _ _ _ hd, reset_new]

theorem definedFiles_decodeAll (h : Params) (fuel : Nat) : ∀ (input : Bytes) (prog : List Instr),
    decodeAll h fuel input = .ok prog → Line.definedFiles h fuel input = Spec.Line.definedFiles prog := by
  induction fuel with
  | zero => intro input prog hd; cases hd
  | succ fuel ih =>
    intro input prog hd
    rw [decodeAll_succ] at hd
    rw [Line.definedFiles]
    split at hd
    · cases hd; rw [if_pos ‹_›]; rfl
    · obtain ⟨⟨ins, rest⟩, hp, hd⟩ := Out.bind_eq_ok hd
      obtain ⟨is, hrest, hd⟩ := Out.bind_eq_ok hd
      cases hd
      rw [if_neg ‹_›, hp]
      cases ins with
      | defineFile f => exact congrArg _ (ih rest is hrest)
      | _ => exact ih rest is hrest

/-! ## monotone addresses on every input -/

theorem skipRow_tombstone {row : Row} {inSeq : Bool} (hs : skipRow row inSeq = true) : row.tombstone = true := by
  unfold skipRow at hs
  exact (Bool.and_eq_true _ _ ▸ hs).1

theorem tombstone_of_not_skipRow {row : Row} {inSeq : Bool} (hs : skipRow row inSeq = false)
    (he : row.endSequence = false) : row.tombstone = false := by
  unfold skipRow at hs
  rw [he] at hs
  simpa using hs

theorem skipRow_end {row : Row} {inSeq : Bool} (hs : skipRow row inSeq = true)
    (he : row.endSequence = true) : inSeq = false := by
  unfold skipRow at hs
  rw [he] at hs
  cases inSeq with
  | false => rfl
  | true => rw [Bool.and_self, Bool.not_true, Bool.and_false] at hs; cases hs

/-- the invariant of `next_row`: `lo` (address of the last returned row of the sequence, 0 at its
start) is at most the address register, which is at most the mask; `in_sequence = false` means no
row of the sequence has been returned, i.e. `lo = 0` -/
theorem traceLoop_mono (h : Params) (fuel : Nat) : ∀ (row : Row) (inSeq : Bool) (input : Bytes) (lo : Nat),
    row.endSequence = false → lo ≤ row.address → row.address ≤ onesSized h.addrSize →
    (inSeq = false → lo = 0) →
    MonoObserved h.addrSize lo (traceLoop h fuel row inSeq input) := by
  induction fuel with
  | zero => intro row inSeq input lo _ _ _ _; exact trivial
  | succ fuel ih =>
    intro row inSeq input lo hes hlo hmask hseq
    rw [traceLoop_succ]
    by_cases hem : input.isEmpty = true
    · rw [if_pos hem]; exact trivial
    · rw [if_neg hem]
      cases parseInstr h input with
      | ok p =>
        dsimp only
        obtain ⟨ha, hb, he⟩ := execute_inv h row p.1
        have hb := hb hmask
        cases hex : execute h row p.1 with
        | mk row' e =>
          rw [hex] at ha hb he
          have hra := reset_address h row'
          have hre := reset_endSequence h row'
          -- the reset keeps the address unless the row ended a sequence, and then the bound is 0
          have hreset : ∀ lo', lo' ≤ row'.address → (row'.endSequence = true → lo' = 0) →
              lo' ≤ (reset h row').address ∧ (reset h row').address ≤ onesSized h.addrSize := by
            intro lo' h1 h2
            rw [hra]
            split
            · exact ⟨Nat.le_of_eq (h2 ‹_›), Nat.zero_le _⟩
            · exact ⟨h1, hb⟩
          cases e with
          | err e =>
            rw [stepEv_err h row row' inSeq p.1 e hex]
            obtain ⟨h1, h2⟩ := hreset lo (Nat.le_trans hlo ha) fun ht => by rw [he nofun, hes] at ht; cases ht
            exact ih _ _ _ lo hre h1 h2 hseq
          | noEmit =>
            rw [stepEv_noEmit h row row' inSeq p.1 hex]
            exact ih _ _ _ lo ((he nofun).trans hes) (Nat.le_trans hlo ha) hb hseq
          | emit =>
            by_cases hskip : skipRow row' inSeq = true
            · -- a swallowed `end_sequence` row has no returned row before it: `lo = 0`
              rw [stepEv_hidden h row row' inSeq p.1 hex hskip]
              obtain ⟨h1, h2⟩ := hreset lo (Nat.le_trans hlo ha) fun ht => hseq (skipRow_end hskip ht)
              exact ih _ _ _ lo hre h1 h2 hseq
            · rw [stepEv_row h row row' inSeq p.1 hex hskip]
              refine ⟨Nat.le_trans hlo ha, hb, ih _ _ _ _ hre (Nat.le_of_eq hra.symm)
                (hreset 0 (Nat.zero_le _) fun _ => rfl).2 fun hn => ?_⟩
              rw [if_pos (by simpa using hn)]
      | _ => exact trivial

theorem monoObserved_filter (size : Nat) (evs : List Ev) : ∀ lo,
    MonoObserved size lo evs → MonoObserved size lo (evs.filter Ev.visible) := by
  induction evs with
  | nil => intro lo _; exact trivial
  | cons e evs ih =>
    intro lo hm
    cases e with
    | row r => exact ⟨hm.1, hm.2.1, ih _ hm.2.2⟩
    | _ => exact ih _ hm

theorem row_bound_of_observed (size : Nat) (evs : List Ev) : ∀ lo,
    MonoObserved size lo evs → ∀ r, Ev.row r ∈ evs → r.address ≤ onesSized size := by
  induction evs with
  | nil => intro lo _ r hr; cases hr
  | cons e evs ih =>
    intro lo hm r hr
    cases e with
    | row r' =>
      rcases List.mem_cons.mp hr with hr | hr
      · cases hr; exact hm.2.1
      · exact ih _ hm.2.2 r hr
    | _ => exact ih _ hm r ((List.mem_cons.mp hr).resolve_left nofun)

theorem monoObserved_bounds (size : Nat) (rows : List Row) (last : Row) : ∀ lo,
    (∀ r ∈ rows, r.endSequence = false) →
    MonoObserved size lo (rows.map Ev.row ++ [Ev.row last]) →
    lo ≤ last.address ∧ ∀ r ∈ rows, lo ≤ r.address ∧ r.address ≤ last.address := by
  induction rows with
  | nil => intro lo _ h; exact ⟨h.1, fun _ hr => nomatch hr⟩
  | cons r rs ih =>
    intro lo hne h
    simp only [List.map_cons, List.cons_append, MonoObserved, hne r List.mem_cons_self,
      Bool.false_eq_true, ↓reduceIte] at h
    obtain ⟨h1, h2⟩ := ih r.address (fun x hx => hne x (List.mem_cons_of_mem _ hx)) h.2.2
    refine ⟨Nat.le_trans h.1 h1, fun x hx => ?_⟩
    rcases List.mem_cons.mp hx with rfl | hx
    · exact ⟨h.1, h1⟩
    · exact ⟨Nat.le_trans h.1 (h2 x hx).1, (h2 x hx).2⟩

/-! ## refinement of the Spec machine -/

theorem applyOperationAdvance_spec (h : Params) (r : Regs) (adv : Nat)
    (hsz : h.addrSize ≤ 8) (hop : r.opIndex < h.maxOps)
    (hadv : r.opIndex + adv < 2 ^ 64)
    (hfit : (advance h r adv).address < 2 ^ (8 * h.addrSize)) :
    applyOperationAdvance h (toRow r) adv = (toRow (advance h r adv), none) := by
  have hones := onesSized_lt h.addrSize hsz
  have hfit' : r.address + h.minInstLen * ((r.opIndex + adv) / h.maxOps) ≤ onesSized h.addrSize :=
    Nat.le_pred_of_lt hfit
  rw [applyOperationAdvance_eq h (toRow r) adv rfl hsz (Nat.zero_lt_of_lt hop) hop hadv
    (show h.minInstLen * ((r.opIndex + adv) / h.maxOps) < 2 ^ 64 by omega)]
  exact if_pos hfit'

theorem applyLineAdvance_spec (r : Regs) (inc : Int) (h0 : 0 ≤ r.line) (h1 : r.line < 2 ^ 64)
    (hlo : 0 ≤ r.line + inc) (hhi : r.line + inc < 2 ^ 64) :
    applyLineAdvance (toRow r) inc = toRow { r with line := r.line + inc } := by
  have hl : (toRow r).line < 2 ^ 64 := by show r.line.toNat < 2 ^ 64; omega
  have e : ((toRow r).line : Int) = r.line := Int.toNat_of_nonneg h0
  rw [applyLineAdvance_eq _ inc hl, e, if_neg (by omega), Nat.mod_eq_of_lt (by omega)]
  rfl

theorem minTombstone_valid (size : Nat) (h : size = 1 ∨ size = 2 ∨ size = 4 ∨ size = 8) :
    minTombstone size = 2 ^ (8 * size) - 2 := by
  rcases h with h | h | h | h <;> subst h <;> decide

theorem regsOk_iff (h : Params) (r : Regs) :
    RegsOk h r = true ↔ r.address < 2 ^ (8 * h.addrSize) ∧ 0 ≤ r.line ∧ r.line < 2 ^ 64 :=
  decide_eq_true_iff

/-- **What the reader asks of one step of the §6.2 machine in order to take exactly that step.** It computes in
`u64`, keeps the address inside the address size and refuses a `DW_LNE_set_address` that goes backwards or is a
tombstone; a register the instruction does not touch is not looked at (so the line register may hold anything
while the address is advanced, and conversely). -/
def Fits (h : Params) (r : Regs) : Instr → Prop
  | .special op =>
    (0 ≤ r.line ∧ r.line < 2 ^ 64) ∧
    (0 ≤ (step h r (.special op)).1.line ∧ (step h r (.special op)).1.line < 2 ^ 64) ∧
    r.opIndex + (op - h.opcodeBase) / h.lineRange < 2 ^ 64 ∧
    (step h r (.special op)).1.address < 2 ^ (8 * h.addrSize)
  | .advanceLine d => (0 ≤ r.line ∧ r.line < 2 ^ 64) ∧ 0 ≤ r.line + d ∧ r.line + d < 2 ^ 64
  | .advancePc n => r.opIndex + n < 2 ^ 64 ∧ (advance h r n).address < 2 ^ (8 * h.addrSize)
  | .constAddPc =>
    r.opIndex + (255 - h.opcodeBase) / h.lineRange < 2 ^ 64 ∧
    (advance h r ((255 - h.opcodeBase) / h.lineRange)).address < 2 ^ (8 * h.addrSize)
  | .fixedAddPc n => r.address + n < 2 ^ (8 * h.addrSize)
  | .setAddress a => r.address ≤ a ∧ a < minTombstone h.addrSize
  | _ => True

theorem step_opIndex_lt (h : Params) (r : Regs) (i : Instr) (hop : r.opIndex < h.maxOps) :
    (step h r i).1.opIndex < h.maxOps := by
  have hmax : 0 < h.maxOps := Nat.zero_lt_of_lt hop
  cases i with
  | special op => exact Nat.mod_lt _ hmax
  | advancePc n => exact Nat.mod_lt _ hmax
  | constAddPc => exact Nat.mod_lt _ hmax
  | fixedAddPc n => exact hmax
  | setAddress a => exact hmax
  | _ => exact hop

theorem execute_fits (h : Params) (hsz : h.addrSize ≤ 8) (r : Regs) (i : Instr) (hop : r.opIndex < h.maxOps)
    (hf : Fits h r i) :
    execute h (toRow r) i = (toRow (step h r i).1, if (step h r i).2 then .emit else .noEmit) := by
  cases i with
  | special op =>
    obtain ⟨hl, hl', hsum, haddr⟩ := hf
    rw [execute, execSpecial]
    dsimp only [adjustOpcode]
    rw [applyLineAdvance_spec r (h.lineBase + (((op - h.opcodeBase) % h.lineRange : Nat) : Int)) hl.1 hl.2 hl'.1 hl'.2,
      applyOperationAdvance_spec h
        { r with line := r.line + (h.lineBase + (((op - h.opcodeBase) % h.lineRange : Nat) : Int)) }
        ((op - h.opcodeBase) / h.lineRange) hsz hop hsum haddr]
    rfl
  | advancePc n =>
    rw [execute, applyOperationAdvance_spec h r n hsz hop hf.1 hf.2]
    rfl
  | constAddPc =>
    rw [execute]
    dsimp only [adjustOpcode]
    rw [applyOperationAdvance_spec h r ((255 - h.opcodeBase) / h.lineRange) hsz hop hf.1 hf.2]
    rfl
  | advanceLine n =>
    rw [execute, applyLineAdvance_spec r n hf.1.1 hf.1.2 hf.2.1 hf.2.2]
    rfl
  | fixedAddPc n =>
    rw [execute, if_neg (show ¬ (toRow r).tombstone = true from Bool.false_ne_true)]
    show (match addSized r.address n h.addrSize with | some a => _ | none => _) = _
    rw [addSized_fits hsz hf]
    rfl
  | setAddress a =>
    have : (decide (a < (toRow r).address) || decide (a ≥ minTombstone h.addrSize)) = false := by
      rw [Bool.or_eq_false_iff, decide_eq_false_iff_not, decide_eq_false_iff_not]
      exact ⟨Nat.not_lt.mpr hf.1, Nat.not_le.mpr hf.2⟩
    rw [execute, this]
    rfl
  | _ => rfl

theorem ofRegs_afterRow (h : Params) (r : Regs) :
    toRow (afterRow h r) = reset h (toRow r) := by
  unfold afterRow reset
  cases hE : r.endSequence <;> simp [toRow, hE, init, Row.new]

/-- from `r` every step over `is` fits the reader (`Fits`); the machine appends the rows `out` and is left in `r'`
(after the `afterRow` of the last row) -/
inductive Runs (h : Params) : Regs → List Instr → List Regs → Regs → Prop
  | nil (r : Regs) : Runs h r [] [] r
  | quiet {r r' r'' : Regs} {i : Instr} {is : List Instr} {out : List Regs} :
      Fits h r i → step h r i = (r', false) → Runs h r' is out r'' → Runs h r (i :: is) out r''
  | row {r r' r'' : Regs} {i : Instr} {is : List Instr} {out : List Regs} :
      Fits h r i → step h r i = (r', true) → Runs h (afterRow h r') is out r'' → Runs h r (i :: is) (r' :: out) r''

theorem runs_append {h : Params} {r r' r'' : Regs} {is is2 : List Instr} {out out2 : List Regs}
    (a : Runs h r is out r') (b : Runs h r' is2 out2 r'') : Runs h r (is ++ is2) (out ++ out2) r'' := by
  induction a with
  | nil => exact b
  | quiet h1 h2 _ ih => exact .quiet h1 h2 (ih b)
  | row h1 h2 _ ih => exact .row h1 h2 (ih b)

/-- `in_sequence` after the rows `out` have been reported -/
def inSeqAfter : Bool → List Regs → Bool
  | b, [] => b
  | _, x :: out => inSeqAfter (!x.endSequence) out

/-- **The bridge: on a stretch of a program that fits, the reader is the §6.2 machine — whatever follows.** -/
theorem runs_trace {h : Params} (hsz : h.addrSize ≤ 8) {r r' : Regs} {is : List Instr} {out : List Regs}
    (hr : Runs h r is out r') : r.opIndex < h.maxOps → ∀ (inSeq : Bool) (rest : List Instr),
      traceInstrs h (toRow r) inSeq (is ++ rest) =
        out.map (fun x => Ev.row (toRow x)) ++ traceInstrs h (toRow r') (inSeqAfter inSeq out) rest := by
  induction hr with
  | nil r => exact fun _ _ _ => rfl
  | @quiet r r1 r2 i is out hf hst _ ih =>
    intro hop inSeq rest
    have hx := execute_fits h hsz r i hop hf
    rw [hst] at hx
    rw [List.cons_append, traceInstrs, hx]
    exact ih (by have := step_opIndex_lt h r i hop; rwa [hst] at this) inSeq rest
  | @row r r1 r2 i is out hf hst _ ih =>
    intro hop inSeq rest
    have hx := execute_fits h hsz r i hop hf
    rw [hst] at hx
    have hop1 : r1.opIndex < h.maxOps := by have := step_opIndex_lt h r i hop; rwa [hst] at this
    have hnext : (afterRow h r1).opIndex < h.maxOps := by
      unfold afterRow
      split
      · exact Nat.zero_lt_of_lt hop
      · exact hop1
    rw [List.cons_append, traceInstrs, hx]
    simp only [skipRow, toRow, Bool.false_and, Bool.false_eq_true, ↓reduceIte, List.map_cons, List.cons_append]
    exact congrArg _ (ofRegs_afterRow h r1 ▸ ih hnext (!r1.endSequence) rest)

/-! ### well-formed programs (`Spec.Line.WFFrom`) fit -/

theorem fits_of_wf {h : Params} (hsz : h.addrSize = 1 ∨ h.addrSize = 2 ∨ h.addrSize = 4 ∨ h.addrSize = 8)
    (hmax2 : h.maxOps ≤ 255) {r : Regs} {i : Instr} (hop : r.opIndex < h.maxOps) (hr : RegsOk h r = true)
    (hi : InstrOk h i = true) (hs : StepOk h r i = true) (hr' : RegsOk h (step h r i).1 = true) : Fits h r i := by
  rw [regsOk_iff] at hr hr'
  -- the operation advance of a special opcode or of `const_add_pc` is at most 255
  have hadv : ∀ x, x ≤ 255 → r.opIndex + x / h.lineRange < 2 ^ 64 := fun x hx => by
    have := Nat.div_le_self x h.lineRange
    omega
  cases i with
  | special op =>
    have hi : h.opcodeBase ≤ op ∧ op ≤ 255 := of_decide_eq_true hi
    exact ⟨hr.2, hr'.2, hadv _ (Nat.le_trans (Nat.sub_le _ _) hi.2), hr'.1⟩
  | advancePc n => exact ⟨of_decide_eq_true hs, hr'.1⟩
  | constAddPc => exact ⟨hadv _ (Nat.sub_le _ _), hr'.1⟩
  | advanceLine n => exact ⟨hr.2, hr'.2⟩
  | fixedAddPc n => exact hr'.1
  | setAddress a =>
    have hs : r.address ≤ a ∧ a + 2 < 2 ^ (8 * h.addrSize) := of_decide_eq_true hs
    exact ⟨hs.1, minTombstone_valid h.addrSize hsz ▸ Nat.lt_sub_of_add_lt hs.2⟩
  | _ => trivial

theorem execute_spec (h : Params) (hsz : h.addrSize = 1 ∨ h.addrSize = 2 ∨ h.addrSize = 4 ∨ h.addrSize = 8)
    (hmax2 : h.maxOps ≤ 255) (r : Regs) (i : Instr) (hop : r.opIndex < h.maxOps) (hr : RegsOk h r = true)
    (hi : InstrOk h i = true) (hs : StepOk h r i = true)
    (hr' : RegsOk h (step h r i).1 = true) :
    execute h (toRow r) i =
      (toRow (step h r i).1, if (step h r i).2 then .emit else .noEmit) ∧
    (step h r i).1.opIndex < h.maxOps :=
  ⟨execute_fits h (by omega) r i hop (fits_of_wf hsz hmax2 hop hr hi hs hr'), step_opIndex_lt h r i hop⟩

theorem init_ok (h : Params) (hmax : 1 ≤ h.maxOps) :
    (init h).opIndex < h.maxOps ∧ RegsOk h (init h) = true :=
  ⟨hmax, (regsOk_iff h _).mpr ⟨Nat.two_pow_pos _, (by decide : (0 : Int) ≤ 1), (by decide : (1 : Int) < 2 ^ 64)⟩⟩

theorem runs_of_wf {h : Params} (hsz : h.addrSize = 1 ∨ h.addrSize = 2 ∨ h.addrSize = 4 ∨ h.addrSize = 8)
    (hmax2 : h.maxOps ≤ 255) : ∀ (is : List Instr) (r : Regs), r.opIndex < h.maxOps → RegsOk h r = true →
    WFFrom h r is = true → ∃ r', Runs h r is (rowsFrom h r is) r' := by
  intro is
  induction is with
  | nil => exact fun r _ _ _ => ⟨r, .nil r⟩
  | cons i is ih =>
    intro r hop hr hwf
    rw [WFFrom] at hwf
    simp only [Bool.and_eq_true] at hwf
    obtain ⟨⟨hi, hs⟩, hrest⟩ := hwf
    have hop1 := step_opIndex_lt h r i hop
    rw [rowsFrom]
    cases hst : step h r i with
    | mk r1 emit =>
      rw [hst] at hrest hop1
      cases emit with
      | false =>
        obtain ⟨hok, hw⟩ := (Bool.and_eq_true _ _).mp hrest
        obtain ⟨r2, hruns⟩ := ih r1 hop1 hok hw
        exact ⟨r2, .quiet (fits_of_wf hsz hmax2 hop hr hi hs (hst ▸ hok)) hst hruns⟩
      | true =>
        obtain ⟨hok, hw⟩ := (Bool.and_eq_true _ _).mp hrest
        have hnext : (afterRow h r1).opIndex < h.maxOps ∧ RegsOk h (afterRow h r1) = true := by
          unfold afterRow
          split
          · exact init_ok h (Nat.zero_lt_of_lt hop)
          · exact ⟨hop1, hok⟩
        obtain ⟨r2, hruns⟩ := ih (afterRow h r1) hnext.1 hnext.2 hw
        exact ⟨r2, .row (fits_of_wf hsz hmax2 hop hr hi hs (hst ▸ hok)) hst hruns⟩

theorem traceInstrs_spec (h : Params) (hsz : h.addrSize = 1 ∨ h.addrSize = 2 ∨ h.addrSize = 4 ∨ h.addrSize = 8)
    (hmax2 : h.maxOps ≤ 255) (prog : List Instr) : ∀ (r : Regs) (inSeq : Bool),
    r.opIndex < h.maxOps → RegsOk h r = true → WFFrom h r prog = true →
    traceInstrs h (toRow r) inSeq prog = (rowsFrom h r prog).map (fun x => Ev.row (toRow x)) := by
  intro r inSeq hop hr hwf
  obtain ⟨r', hruns⟩ := runs_of_wf hsz hmax2 prog r hop hr hwf
  have := runs_trace (by omega) hruns hop inSeq []
  rw [List.append_nil] at this
  exact this.trans (List.append_nil _)

end Gimli.Line

/-! ## the operation advance of the §6.2 machine (`Spec.Line.advance`) -/
namespace Gimli.Spec.Line
open Gimli Gimli.Line

theorem div_mod_add (x b m : Nat) (hm : 0 < m) : (x % m + b) / m + x / m = (x + b) / m := by
  have h1 : x = m * (x / m) + x % m := (Nat.div_add_mod x m).symm
  have h2 : x + b = (x % m + b) + m * (x / m) := by omega
  rw [h2, Nat.add_mul_div_left _ _ hm]

theorem advance_advance (h : Params) (r : Regs) (a b : Nat) (hm : 0 < h.maxOps) :
    advance h (advance h r a) b = advance h r (a + b) := by
  unfold advance
  simp only
  have e1 : ((r.opIndex + a) % h.maxOps + b) % h.maxOps = (r.opIndex + (a + b)) % h.maxOps := by
    rw [Nat.mod_add_mod]; congr 1; omega
  have e2 : ((r.opIndex + a) % h.maxOps + b) / h.maxOps + (r.opIndex + a) / h.maxOps =
      (r.opIndex + (a + b)) / h.maxOps := by
    rw [div_mod_add _ _ _ hm]; congr 1; omega
  rw [e1, ← e2, Nat.mul_add]
  congr 1
  omega

theorem advance_zero (h : Params) (r : Regs) (hidx : r.opIndex < h.maxOps) : advance h r 0 = r := by
  unfold advance
  simp only [Nat.add_zero]
  rw [Nat.mod_eq_of_lt hidx, Nat.div_eq_of_lt hidx]
  simp

theorem advance_address_mono (h : Params) (r : Regs) (a b : Nat) (hab : a ≤ b) :
    (advance h r a).address ≤ (advance h r b).address := by
  unfold advance
  simp only
  have : (r.opIndex + a) / h.maxOps ≤ (r.opIndex + b) / h.maxOps := Nat.div_le_div_right (by omega)
  have := Nat.mul_le_mul_left h.minInstLen this
  omega

end Gimli.Spec.Line
