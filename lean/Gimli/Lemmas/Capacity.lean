import Gimli.Lemmas.Eval
/-!
# C07 `stack_capacity`: a fixed-capacity `EvaluationStorage` changes nothing except by `StackFull`
-/
open Gimli Gimli.Op Gimli.Eval

namespace Gimli.Eval

/-- the same configuration with `Vec` storage everywhere -/
def Config.heap (c : Config) : Config := { c with caps := {} }

/-- `x` is what `y` is, unless a fixed-capacity `ArrayVec` was full -/
def CapRel {α} (x y : Out α) : Prop := x = .err .rStackFull ∨ x = y

theorem CapRel.refl {α} (x : Out α) : CapRel x x := Or.inr rfl

theorem CapRel.bind {α β} {x y : Out α} {f g : α → Out β} (h : CapRel x y) (hf : ∀ a, CapRel (f a) (g a)) :
    CapRel (x >>= f) (y >>= g) := by
  rcases h with h | h
  · left; rw [h]; rfl
  · subst h
    cases x with
    | ok a => exact hf a
    | _ => exact .inr rfl

/-- `try_push`: with room it is the heap's push -/
theorem CapRel.room {α} (b : Bool) (x : Out α) : CapRel (if b then x else .err .rStackFull) x := by
  cases b
  · exact .inl rfl
  · exact .inr rfl

theorem push_cap (c : Config) (v : Value) (m : Mach) : CapRel (push c v m) (push c.heap v m) := .room _ _

theorem pushPiece_cap (c : Config) (p : Piece) (m : Mach) : CapRel (pushPiece c p m) (pushPiece c.heap p m) := .room _ _

theorem CapRel.bind_same {α β} (x : Out α) {f g : α → Out β} (hf : ∀ a, CapRel (f a) (g a)) :
    CapRel (x >>= f) (x >>= g) := CapRel.bind (.refl x) hf

theorem push_bind_cap {β} (c : Config) (v : Value) (m : Mach) (f : Mach → Out β) :
    CapRel (push c v m >>= f) (push c.heap v m >>= f) := CapRel.bind (push_cap c v m) (fun _ => .refl _)

theorem pushPiece_bind_cap {β} (c : Config) (p : Piece) (m : Mach) (f : Mach → Out β) :
    CapRel (pushPiece c p m >>= f) (pushPiece c.heap p m >>= f) := CapRel.bind (pushPiece_cap c p m) (fun _ => .refl _)

theorem binop_cap (c : Config) (f) (m : Mach) : CapRel (binop c f m) (binop c.heap f m) :=
  CapRel.bind_same _ fun ⟨_, _⟩ => CapRel.bind_same _ fun ⟨_, _⟩ => CapRel.bind_same _ fun _ => push_bind_cap _ _ _ _

theorem unop_cap (c : Config) (f) (m : Mach) : CapRel (unop c f m) (unop c.heap f m) :=
  CapRel.bind_same _ fun ⟨_, _⟩ => CapRel.bind_same _ fun _ => push_bind_cap _ _ _ _

/-- the capacities enter `execute` through `push` and `pushPiece` only -/
theorem execute_cap (c : Config) (op : Operation) (m : Mach) : CapRel (execute c op m) (execute c.heap op m) := by
  cases op
  case abs | neg | not => exact unop_cap _ _ _
  case and | div | minus | mod | mul | or | plus | xor | shl | shr | shra | eq | ge | gt | le | lt | ne =>
    exact binop_cap _ _ _
  case unsignedConstant | signedConstant => exact push_bind_cap _ _ _ _
  case pushObjectAddress =>
    show CapRel (match c.objectAddress with | some v => _ | none => _) (match c.objectAddress with | some v => _ | none => _)
    cases c.objectAddress with
    | none => exact .refl _
    | some v => exact push_bind_cap _ _ _ _
  case pick i =>
    show CapRel (match m.stack[i]? with | none => _ | some v => _) (match m.stack[i]? with | none => _ | some v => _)
    cases m.stack[i]? with
    | none => exact .refl _
    | some v => exact push_bind_cap _ _ _ _
  case swap =>
    exact CapRel.bind_same _ fun ⟨_, _⟩ => CapRel.bind_same _ fun ⟨_, _⟩ =>
      CapRel.bind (push_cap _ _ _) fun _ => push_bind_cap _ _ _ _
  case rot =>
    exact CapRel.bind_same _ fun ⟨_, _⟩ => CapRel.bind_same _ fun ⟨_, _⟩ => CapRel.bind_same _ fun ⟨_, _⟩ =>
      CapRel.bind (push_cap _ _ _) fun _ => CapRel.bind (push_cap _ _ _) fun _ => push_bind_cap _ _ _ _
  case plusConstant =>
    exact CapRel.bind_same _ fun ⟨_, _⟩ => CapRel.bind_same _ fun _ => CapRel.bind_same _ fun _ =>
      push_bind_cap _ _ _ _
  case piece =>
    simp only [execute]
    split
    · exact CapRel.bind_same _ fun _ => pushPiece_bind_cap _ _ _ _
    · exact CapRel.bind_same _ fun _ => CapRel.bind_same _ fun _ => CapRel.bind_same _ fun _ =>
        pushPiece_bind_cap _ _ _ _
  all_goals exact .refl _

theorem evaluateOneOperation_cap (c : Config) (m : Mach) :
    CapRel (evaluateOneOperation c m) (evaluateOneOperation c.heap m) :=
  CapRel.bind_same _ fun ⟨_, _⟩ => execute_cap _ _ _

theorem finish_cap (c : Config) (m : Mach) : CapRel (finish c m) (finish c.heap m) := by
  unfold finish
  split
  · exact CapRel.bind_same _ fun ⟨_, _⟩ => CapRel.bind_same _ fun _ => pushPiece_cap _ _ _
  · exact .refl _

theorem afterComplete_cap (c : Config) (l : Location) (m : Mach) :
    CapRel (afterComplete c l m) (afterComplete c.heap l m) := by
  unfold afterComplete
  split
  · split
    · exact pushPiece_bind_cap _ _ _ _
    · exact .refl _
  · refine CapRel.bind_same _ fun ⟨op, _⟩ => ?_
    simp only []
    split
    · exact pushPiece_bind_cap _ _ _ _
    · exact .refl _

def heapState (s : Eval) : Eval := { s with cfg := s.cfg.heap }

def heapRes (p : Request × Eval) : Request × Eval := (p.1, heapState p.2)

theorem CapRel.map {α β} {x y : Out α} (g : α → β) (h : CapRel x y) : CapRel (x.map g) (y.map g) := by
  rcases h with h | h
  · left; rw [h]; rfl
  · right; rw [h]

def CapK (k k' : Eval → Out (Request × Eval)) : Prop :=
  ∀ s : Eval, CapRel ((k s).map heapRes) ((k' (heapState s)).map heapRes)

theorem afterOp_cap (k k') (hk : CapK k k') (s : Eval) (res : OpResult) (mm : Mach) :
    CapRel ((afterOp k s res mm).map heapRes) ((afterOp k' (heapState s) res mm).map heapRes) := by
  cases res with
  | piece => exact hk _
  | incomplete =>
    simp only [afterOp]
    cases hb : ((endOfExpression mm).fst && !(endOfExpression mm).snd.result.isEmpty) with
    | true => right; rfl
    | false => exact hk _
  | complete loc =>
    simp only [afterOp, Out.map_bind]
    refine CapRel.bind (afterComplete_cap _ _ _) (fun ⟨m3, extra⟩ => ?_)
    exact hk _
  | waiting w rq => right; rfl

theorem loopBody_cap (k k') (hk : CapK k k') : CapK (loopBody k) (loopBody k') := by
  intro s
  unfold loopBody
  have hm : (heapState s).m = s.m := rfl
  rw [hm]
  cases heoe : endOfExpression s.m with
  | mk b mm =>
    cases b
    · simp only []
      have ho : overLimit (heapState s).cfg.maxIterations (heapState s).iteration =
          overLimit s.cfg.maxIterations s.iteration := rfl
      rw [ho]
      cases overLimit s.cfg.maxIterations s.iteration with
      | true => right; rfl
      | false =>
        simp only [Out.map_bind]
        refine CapRel.bind (evaluateOneOperation_cap _ _) (fun ⟨res, m2⟩ => ?_)
        exact afterOp_cap k k' hk _ res m2
    · simp only [Out.map_bind]
      refine CapRel.bind (finish_cap _ _) (fun m1 => ?_)
      right; rfl

theorem evaluateInternal_cap (fuel : Nat) : CapK (evaluateInternal fuel) (evaluateInternal fuel) := by
  induction fuel with
  | zero => intro s; right; rfl
  | succ fuel ih => exact loopBody_cap _ _ ih

end Gimli.Eval
