import Gimli.Model.Pub
import Gimli.Lemmas.Package
import Gimli.Lemmas.Collect
/-!
# `.debug_pubnames` / `.debug_pubtypes`

`LookupEntryIter::next` never panics and consumes bytes (of the current set or of the sets to
come) with every entry or error.  Draining it over the encoding of a list of well-formed sets
yields the exhaustive scan `scanSets`: every entry of every set, in order, each with its own set's
unit offset; sets without entries are skipped, the zero offset ends a set.

The import of `Package` brings Mathlib into scope (through `Index`): `2 ^ 64` and `List.sum` in
`PubSet.Valid` and `totalEntries` then elaborate through Mathlib's instances, the form in which
Props/C17, which has Mathlib anyway, states its theorems over them.
-/
namespace Gimli.C17

/-- measure of a `LookupEntryIter`: bytes left in the current set plus bytes of the sets to come -/
def pubMu (st : Pub.State) : Nat :=
  (match st.current with
   | some (b, _) => b.length
   | none => 0) + st.remaining.length

end Gimli.C17

namespace Gimli.Pub
open Gimli Gimli.Ints Gimli.C17
open Gimli.Aranges (Item)

/-- `p.1.1`: what is left of the set, `p.2`: what follows the set -/
theorem parseHeader_ensures (e : Endian) (input : Bytes) :
    (parseHeader e input).Ensures fun p => p.1.1.length + p.2.length < input.length := by
  unfold parseHeader
  refine (readInitialLength_ensures e input).bind ?_
  rintro ⟨⟨len, fmt⟩, in1⟩ - t1
  refine (take_ensures len in1).bind ?_
  rintro ⟨b0, in2⟩ - ⟨e2, _⟩
  refine (readFixed_ensures e 2 b0).bind ?_
  rintro ⟨ver, r1⟩ - t3
  refine .ite_cases (fun _ => Out.ensures_err _ _) fun _ => ?_
  refine (readWord_ensures e fmt r1).bind ?_
  rintro ⟨uo, r2⟩ - t4
  refine (readWord_ensures e fmt r2).bind ?_
  rintro ⟨ul, r3⟩ - t5
  refine .pure ?_
  have h1 : input.length = Aranges.initialLengthSize fmt + in1.length := t1.length
  have h2 : in1.length = b0.length + in2.length := e2 ▸ List.length_append
  have h3 : b0.length = 2 + r1.length := t3.length
  have h4 : r1.length = fmt.wordSize + r2.length := t4.length
  have h5 : r2.length = fmt.wordSize + r3.length := t5.length
  show r3.length + in2.length < input.length
  omega

theorem parseEntry_ensures (e : Endian) (hdr : Header) (input : Bytes) :
    (parseEntry e hdr input).Ensures fun p =>
      (∀ en, p.1 = some en → p.2.length < input.length) ∧ (p.1 = none → p.2 = []) := by
  unfold parseEntry
  refine (readWord_ensures e hdr.format input).bind ?_
  rintro ⟨off, r1⟩ - t1
  have h1 : input.length = hdr.format.wordSize + r1.length := t1.length
  refine .ite_cases (fun _ => .pure ⟨fun _ h => (nomatch h), fun _ => rfl⟩) fun _ => ?_
  refine (readCStr_ensures r1).bind ?_
  rintro ⟨name, r2⟩ - h2
  have h2 : r2.length < r1.length := h2
  exact .pure ⟨fun _ _ => Nat.lt_of_lt_of_le h2 (h1 ▸ Nat.le_add_left _ _), fun h => nomatch h⟩

theorem pubMu_some (b : Bytes) (hdr : Header) (rem : Bytes) :
    pubMu { current := some (b, hdr), remaining := rem } = b.length + rem.length := rfl

theorem entryStep_ok (e : Endian) (st : State) :
    match entryStep e st with
    | .ret r st' => StepOk r (pubMu st) (pubMu st')
    | .goOn st' => st'.remaining = st.remaining ∧ pubMu st' ≤ pubMu st := by
  obtain ⟨cur, rem⟩ := st
  cases cur with
  | none => exact ⟨rfl, Nat.le_refl _⟩
  | some c =>
    obtain ⟨input, hdr⟩ := c
    unfold entryStep
    dsimp only
    by_cases hem : input.isEmpty = true
    · rw [if_pos hem]; exact ⟨rfl, Nat.le_refl _⟩
    · have hpos : 0 < input.length := List.length_pos_iff.mpr fun h => hem (h ▸ rfl)
      rw [if_neg hem, pubMu_some]
      rcases (parseEntry_ensures e hdr input).ok_or_err with ⟨⟨o, rest⟩, hp, hsome, hnone⟩ | ⟨x, hp⟩
      · rw [hp]
        cases o with
        | some en =>
          have : rest.length < input.length := hsome en rfl
          exact ⟨trivial, by rw [pubMu_some]; omega, fun _ => by rw [pubMu_some]; omega⟩
        | none =>
          have hr : rest = [] := hnone rfl
          exact ⟨rfl, by rw [pubMu_some, hr]; exact Nat.add_le_add_right (Nat.zero_le _) _⟩
      · rw [hp]
        exact ⟨trivial, Nat.zero_le _, fun _ => Nat.lt_of_lt_of_le hpos (Nat.le_add_right _ _)⟩

theorem nextLoop_ok (e : Endian) (fuel : Nat) (st : State) (hf : st.remaining.length < fuel) :
    StepOk (nextLoop e fuel st).1 (pubMu st) (pubMu (nextLoop e fuel st).2) := by
  induction fuel generalizing st with
  | zero => omega
  | succ f ih =>
    rw [nextLoop]
    have hstep := entryStep_ok e st
    cases hes : entryStep e st with
    | ret r st' => rw [hes] at hstep; exact hstep
    | goOn st' =>
      rw [hes] at hstep
      obtain ⟨hrem, hmu⟩ := hstep
      have hle : st'.remaining.length ≤ pubMu st := by
        rw [hrem]; exact Nat.le_add_left _ _
      dsimp only
      split
      · exact ⟨trivial, Nat.le_trans (Nat.le_of_eq (Nat.zero_add _)) hle, fun h => absurd rfl h⟩
      · rename_i hne
        have hpos : 0 < st'.remaining.length := List.length_pos_iff.mpr fun h => hne (h ▸ rfl)
        rcases (parseHeader_ensures e st'.remaining).ok_or_err with ⟨⟨⟨body, hdr⟩, rest⟩, hp, hlt⟩ | ⟨x, hp⟩
        · rw [hp]
          dsimp only at hlt
          dsimp only
          obtain ⟨a, b, c⟩ := ih { current := some (body, hdr), remaining := rest } (by
            show rest.length < f
            rw [hrem] at hlt; omega)
          rw [pubMu_some] at b c
          exact ⟨a, by omega, fun h => by have := c h; omega⟩
        · rw [hp]
          exact ⟨trivial, Nat.zero_le _, fun _ => Nat.lt_of_lt_of_le hpos hle⟩

theorem next_ok (e : Endian) (st : State) : StepOk (next e st).1 (pubMu st) (pubMu (next e st).2) :=
  nextLoop_ok e (st.remaining.length + 2) st (by omega)

theorem items_succ (e : Endian) (fuel : Nat) (st : State) :
    items e (fuel + 1) st = yield false (items e fuel) (next e st) := by
  rw [items]
  cases next e st with
  | mk r s' => cases r with
    | ok o => cases o <;> rfl
    | _ => rfl

theorem items_eq_collect (e : Endian) (fuel : Nat) (st : State) :
    items e fuel st = collect false (next e) fuel st :=
  eq_collect_of_succ _ _ _ (fun _ => rfl) (items_succ e) fuel st

/-! ### the iterator over encoded sets -/

structure PubSet where
  format : Format
  unitOffset : Nat
  unitLength : Nat
  entries : List (Nat × Bytes)

def encWord (e : Endian) (f : Format) (v : Nat) : Bytes := toBytes e f.wordSize v

def encEntry (e : Endian) (f : Format) (p : Nat × Bytes) : Bytes := encWord e f p.1 ++ p.2 ++ [0]

def encEntries (e : Endian) (f : Format) (es : List (Nat × Bytes)) : Bytes :=
  es.flatMap (encEntry e f) ++ encWord e f 0

def encBody (e : Endian) (s : PubSet) : Bytes :=
  toBytes e 2 2 ++ encWord e s.format s.unitOffset ++ encWord e s.format s.unitLength ++
    encEntries e s.format s.entries

def initLen (e : Endian) (f : Format) (n : Nat) : Bytes :=
  match f with
  | .dwarf32 => toBytes e 4 n
  | .dwarf64 => toBytes e 4 0xffff_ffff ++ toBytes e 8 n

def encSet (e : Endian) (s : PubSet) : Bytes := initLen e s.format (encBody e s).length ++ encBody e s

def headerOf (e : Endian) (s : PubSet) : Header :=
  { format := s.format, length := (encBody e s).length, version := 2, unitOffset := s.unitOffset,
    unitLength := s.unitLength }

/-- well-formed set: non-zero die offsets and header words that fit the format, names without
NUL, a body whose length can be written in the format -/
structure PubSet.Valid (e : Endian) (s : PubSet) : Prop where
  entries : ∀ p, p ∈ s.entries → p.1 ≠ 0 ∧ p.1 < 256 ^ s.format.wordSize ∧ ∀ b, b ∈ p.2 → b ≠ 0
  unitOffset : s.unitOffset < 256 ^ s.format.wordSize
  unitLength : s.unitLength < 256 ^ s.format.wordSize
  length : match s.format with
    | .dwarf32 => (encBody e s).length < 0xffff_fff0
    | .dwarf64 => (encBody e s).length < 2 ^ 64

theorem parseEntry_entry (e : Endian) (hdr : Header) (p : Nat × Bytes)
    (h0 : p.1 ≠ 0) (hlt : p.1 < 256 ^ hdr.format.wordSize) (hn : ∀ b, b ∈ p.2 → b ≠ 0) :
    Reads (parseEntry e hdr) (encEntry e hdr.format p)
      (some { dieOffset := p.1, name := p.2, unitHeaderOffset := hdr.unitOffset }) := by
  rw [encEntry, List.append_assoc]
  exact .bind (reads_word e hdr.format hlt) <| .ite_neg h0 <|
    .map (readCStr_isCStr.reads fun h => hn 0 h rfl) fun _ => rfl

theorem parseEntry_term (e : Endian) (hdr : Header) (more : Bytes) :
    parseEntry e hdr (encWord e hdr.format 0 ++ more) = .ok (none, []) := by
  unfold parseEntry encWord
  rw [reads_word e hdr.format (v := 0) (Nat.pow_pos (by decide)) _, Out.bind_ok]
  rfl

theorem parseHeader_set (e : Endian) (s : PubSet) (hv : s.Valid e) :
    Reads (parseHeader e) (encSet e s) (encEntries e s.format s.entries, headerOf e s) := by
  refine .bind (Ints.reads_lengthField e hv.length) <| .map (reads_take _) fun bs => ?_
  have hb : encBody e s = toBytes e 2 2 ++ (encWord e s.format s.unitOffset ++ encWord e s.format s.unitLength) ++
      encEntries e s.format s.entries := by simp only [encBody, List.append_assoc]
  rw [hb]
  refine ReadsTo.bind (k := fun r => ((r, headerOf e s), bs)) (reads_fixed e 2 (v := 2) (by decide)) ?_ _
  exact .ite_neg (fun h => h rfl) <| .bind (reads_word e s.format hv.unitOffset) <|
    .map (reads_word e s.format hv.unitLength) fun _ => by rw [← hb]; rfl

def encSets (e : Endian) (sets : List PubSet) : Bytes := sets.flatMap (encSet e)

/-- iterator state in the middle of a set: `es` entries (and the terminator) still to come, then
the sets `rest` -/
def stOf (e : Endian) (es : List (Nat × Bytes)) (hdr : Header) (rest : List PubSet) : State :=
  { current := some (encEntries e hdr.format es, hdr), remaining := encSets e rest }

def entryOf (hdr : Header) (p : Nat × Bytes) : Entry :=
  { dieOffset := p.1, name := p.2, unitHeaderOffset := hdr.unitOffset }

theorem encWord_length (e : Endian) (f : Format) (v : Nat) : 0 < (encWord e f v).length := by
  rw [encWord, toBytes_length]; cases f <;> decide

theorem encEntries_cons (e : Endian) (f : Format) (p : Nat × Bytes) (es : List (Nat × Bytes)) :
    encEntries e f (p :: es) = encEntry e f p ++ encEntries e f es := by
  simp only [encEntries, List.flatMap_cons, List.append_assoc]

theorem isEmpty_of_length_pos {bs : Bytes} (h : 0 < bs.length) : bs.isEmpty = false := by
  cases bs with
  | nil => exact absurd h (Nat.lt_irrefl 0)
  | cons a t => rfl

theorem encEntries_ne_nil (e : Endian) (f : Format) (es : List (Nat × Bytes)) :
    (encEntries e f es).isEmpty = false := by
  apply isEmpty_of_length_pos
  cases es with
  | nil => exact encWord_length e f 0
  | cons p es =>
    have := encWord_length e f p.1
    rw [encEntries_cons, encEntry, List.length_append, List.length_append, List.length_append]
    omega

theorem encSets_cons (e : Endian) (s : PubSet) (rest : List PubSet) :
    encSets e (s :: rest) = encSet e s ++ encSets e rest := List.flatMap_cons

theorem encSet_length (e : Endian) (s : PubSet) : 0 < (encSet e s).length := by
  have : 0 < (initLen e s.format (encBody e s).length).length := by
    unfold initLen
    cases s.format
    · rw [toBytes_length]; decide
    · rw [List.length_append, toBytes_length]; omega
  rw [encSet, List.length_append]
  omega

theorem encSets_length_ge (e : Endian) (rest : List PubSet) : rest.length ≤ (encSets e rest).length :=
  length_le_flatMap_length _ rest fun s _ => List.ne_nil_of_length_pos (encSet_length e s)

def AllValid (e : Endian) (sets : List PubSet) : Prop := ∀ s, s ∈ sets → s.Valid e

/-- a state whose current set (if any) has nothing left but its terminator -/
def Done (e : Endian) (cur : Option (Bytes × Header)) : Prop :=
  cur = none ∨ ∃ hdr, cur = some (encEntries e hdr.format [], hdr) ∨ cur = some ([], hdr)

theorem entryStep_done (e : Endian) (cur : Option (Bytes × Header)) (hcur : Done e cur) (rem : Bytes) :
    ∃ c', entryStep e { current := cur, remaining := rem } = .goOn { current := c', remaining := rem } := by
  rcases hcur with rfl | ⟨hdr, rfl | rfl⟩
  · exact ⟨none, rfl⟩
  · refine ⟨some ([], hdr), ?_⟩
    have : encEntries e hdr.format [] = encWord e hdr.format 0 ++ [] := (List.append_nil _).symm
    unfold entryStep
    dsimp only
    rw [encEntries_ne_nil, if_neg Bool.false_ne_true, this, parseEntry_term]
  · exact ⟨some ([], hdr), rfl⟩

theorem nextLoop_entry (e : Endian) (fuel : Nat) (p : Nat × Bytes) (es : List (Nat × Bytes)) (hdr : Header)
    (rest : List PubSet) (h0 : p.1 ≠ 0) (hlt : p.1 < 256 ^ hdr.format.wordSize) (hn : ∀ b, b ∈ p.2 → b ≠ 0) :
    nextLoop e (fuel + 1) { current := some (encEntries e hdr.format (p :: es), hdr), remaining := encSets e rest } =
      (.ok (some (entryOf hdr p)), stOf e es hdr rest) := by
  rw [nextLoop]
  unfold entryStep
  dsimp only
  rw [encEntries_ne_nil, if_neg Bool.false_ne_true, encEntries_cons, parseEntry_entry e hdr p h0 hlt hn _]
  rfl

/-- **exhaustive scan** of the abstract sets: every entry of every set, in order, with its set's
unit offset -/
def scanSets (e : Endian) (sets : List PubSet) : List (Item Entry) :=
  sets.flatMap fun s => s.entries.map fun p => .item (entryOf (headerOf e s) p)

def totalEntries (sets : List PubSet) : Nat := (sets.map (·.entries.length)).sum

theorem totalEntries_cons (s : PubSet) (rest : List PubSet) :
    totalEntries (s :: rest) = s.entries.length + totalEntries rest := by
  simp only [totalEntries, List.map_cons, List.sum_cons]

/-- the iterator in the middle of a set (`es` still to come), given what it does once a set is exhausted -/
theorem items_mid (e : Endian) (rest : List PubSet)
    (hP : ∀ cur, Done e cur → ∀ k F, rest.length < k → totalEntries rest ≤ F →
      yield false (items e F) (nextLoop e k { current := cur, remaining := encSets e rest }) = scanSets e rest)
    (hdr : Header) (es : List (Nat × Bytes))
    (hes : ∀ p, p ∈ es → p.1 ≠ 0 ∧ p.1 < 256 ^ hdr.format.wordSize ∧ ∀ b, b ∈ p.2 → b ≠ 0)
    (F : Nat) (hF : es.length + totalEntries rest < F) :
    items e F (stOf e es hdr rest) = es.map (fun p => .item (entryOf hdr p)) ++ scanSets e rest := by
  cases F with
  | zero => exact absurd hF (Nat.not_lt_zero _)
  | succ F =>
    rw [items_succ, next]
    induction es generalizing F with
    | nil =>
      rw [List.length_nil, Nat.zero_add] at hF
      exact hP _ (Or.inr ⟨hdr, Or.inl rfl⟩) _ F (Nat.lt_succ_of_le (Nat.le_succ_of_le (encSets_length_ge e rest)))
        (Nat.le_of_lt_succ hF)
    | cons p es ih =>
      have hp := hes p List.mem_cons_self
      rw [List.length_cons] at hF
      cases F with
      | zero => omega
      | succ F =>
        show yield false _ (nextLoop e _ { current := some (encEntries e hdr.format (p :: es), hdr), remaining := encSets e rest }) = _
        rw [nextLoop_entry e _ p es hdr rest hp.1 hp.2.1 hp.2.2]
        show _ :: items e (F + 1) (stOf e es hdr rest) = _
        rw [items_succ, next]
        exact congrArg _ (ih (fun p' hp' => hes p' (List.mem_cons_of_mem _ hp')) F (by omega))

/-- `k`: the fuel of the loop of `next`, which goes on through the sets without entries while the cap
`F` on the calls of `next` stands -/
theorem yield_nextLoop (e : Endian) (rest : List PubSet) (hv : AllValid e rest)
    (cur : Option (Bytes × Header)) (hcur : Done e cur) (k F : Nat) (hk : rest.length < k)
    (hF : totalEntries rest ≤ F) :
    yield false (items e F) (nextLoop e k { current := cur, remaining := encSets e rest }) = scanSets e rest := by
  induction rest generalizing cur k F with
  | nil =>
    cases k with
    | zero => exact absurd hk (Nat.not_lt_zero _)
    | succ k =>
      obtain ⟨c', hst⟩ := entryStep_done e cur hcur (encSets e [])
      rw [nextLoop, hst]
      rfl
  | cons s rest ih =>
    cases k with
    | zero => exact absurd hk (Nat.not_lt_zero _)
    | succ k =>
      have hvs := hv s List.mem_cons_self
      have hv' : AllValid e rest := fun s' hs' => hv s' (List.mem_cons_of_mem _ hs')
      obtain ⟨c', hst⟩ := entryStep_done e cur hcur (encSets e (s :: rest))
      rw [List.length_cons] at hk
      rw [totalEntries_cons] at hF
      rw [nextLoop, hst]
      dsimp only
      rw [encSets_cons, isEmpty_of_length_pos (by rw [List.length_append]; have := encSet_length e s; omega),
        if_neg Bool.false_ne_true, parseHeader_set e s hvs _]
      dsimp only
      show _ = scanSets e (s :: rest)
      rw [show scanSets e (s :: rest) =
        s.entries.map (fun p => .item (entryOf (headerOf e s) p)) ++ scanSets e rest from List.flatMap_cons]
      cases hes : s.entries with
      | nil =>
        rw [hes, List.length_nil, Nat.zero_add] at hF
        exact ih hv' _ (Or.inr ⟨headerOf e s, Or.inl rfl⟩) k F (Nat.lt_of_succ_lt_succ hk) hF
      | cons p es =>
        have hps := fun p' hp' => hvs.entries p' (hes ▸ hp')
        have hp := hps p List.mem_cons_self
        rw [hes, List.length_cons] at hF
        cases k with
        | zero => exact absurd (Nat.lt_of_succ_lt_succ hk) (Nat.not_lt_zero _)
        | succ k =>
          show yield false _ (nextLoop e (k + 1) (stOf e (p :: es) (headerOf e s) rest)) = _
          rw [stOf, nextLoop_entry e k p es (headerOf e s) rest hp.1 hp.2.1 hp.2.2]
          exact congrArg _ (items_mid e rest (fun cur hcur k F => ih hv' cur hcur k F) (headerOf e s) es
            (fun p' hp' => hps p' (List.mem_cons_of_mem _ hp')) F (by omega))

end Gimli.Pub
