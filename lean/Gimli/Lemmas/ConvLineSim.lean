import Gimli.Lemmas.ConvLineRows
import Gimli.Props.C13
/-! Helper lemmas for the line component of C12: the simulation between the reader on the source
program (`LineRows::next_row`: C04's `execute`, `traceInstrs`) and the converter (`read_row`,
`Model/ConvLineRows.lean`), composed with the writer (C13).

The converter's registers are the reader's up to the address, which is relative to the last accepted
`DW_LNE_set_address` and frozen while a refused one, a tombstone, lasts (`Rel`); one `execute` step
keeps it so. Hence one `read_row` returns what the reader reports next, skipping the rows the reader
skips (`readRowLoop_sim`), and the writer's step for that event is read back by C13's theorems under
the invariant `WInv` between the writer's state and a reader of its output (`convLoop_sim`).

`Props/C12.lean` proves the same of the addresses alone, on the smaller model `Model/ConvLine.lean`;
its invariant `LInv` is the address part of `Rel`, `PendOk` and `WInv`. Nothing here depends on it. -/
namespace Gimli.ConvLineRows
open Gimli Gimli.Line Gimli.WLine Gimli.Props.C13

/-- the reader's row for the converter's row `r`: the same registers, the address `A` -/
def frozen (A : Nat) (r : Row) : Row := { r with address := A }

/-- the reader's row for the converter's sequence-relative row `r` when the last accepted
`DW_LNE_set_address` was `b` -/
def shift (b : Nat) (r : Row) : Row := { r with address := r.address + b }

theorem addSized_le {a A l s x : Nat} (hle : a ≤ A) (h : addSized A l s = some x) :
    addSized a l s = some (a + l) ∧ x = A + l := by
  obtain ⟨h64, hones, hx⟩ := addSized_eq_some.mp h
  exact ⟨addSized_eq_some.mpr ⟨by omega, by omega, rfl⟩, hx⟩

theorem applyLineAdvance_frozen (A : Nat) (r : Row) (i : Int) :
    applyLineAdvance (frozen A r) i = frozen A (applyLineAdvance r i) := by
  unfold applyLineAdvance frozen
  by_cases h1 : i < 0
  · by_cases h2 : i.natAbs ≤ r.line
    · simp [h1, h2]
    · simp [h1, h2]
  · simp [h1]

/-- `apply_operation_advance` looks at the address only to advance it and to check that it stays
inside the address size: from a larger address `A`, if it succeeds, it succeeds from the row's own
and both move by the same amount (inside a tombstone: not at all) -/
theorem applyOperationAdvance_frozen (h : Params) (A : Nat) (r : Row) (n : Nat)
    (hA : r.tombstone = false → r.address ≤ A) (R' : Row)
    (hx : applyOperationAdvance h (frozen A r) n = (R', none)) :
    ∃ r', applyOperationAdvance h r n = (r', none) ∧ R' = frozen R'.address r' ∧
      R'.address + r.address = r'.address + A ∧ (r.tombstone = true → R'.address = A) := by
  unfold applyOperationAdvance at hx ⊢
  rcases Bool.eq_false_or_eq_true r.tombstone with ht | ht
  · rw [if_pos (show (frozen A r).tombstone = true from ht)] at hx
    rw [if_pos ht]
    cases hx
    exact ⟨r, rfl, rfl, Nat.add_comm _ _, fun _ => rfl⟩
  · rw [if_neg (by rw [show (frozen A r).tombstone = false from ht]; decide)] at hx
    rw [if_neg (by rw [ht]; decide)]
    simp only at hx ⊢
    rw [show (frozen A r).opIndex = r.opIndex from rfl, show (frozen A r).address = A from rfl] at hx
    cases ha : addSized A (operationPointer h r.opIndex n).2 h.addrSize with
    | none => rw [ha] at hx; cases hx
    | some A' =>
      rw [ha] at hx
      obtain ⟨h1, h2⟩ := addSized_le (hA ht) ha
      rw [h1]
      cases hx
      exact ⟨_, rfl, rfl, by show A' + r.address = r.address + _ + A; omega, fun hc => by rw [ht] at hc; cases hc⟩

/-- `apply_operation_advance` as special opcodes, `advance_pc` and `const_add_pc` use it: its
overflow becomes an error, which `hne` excludes -/
theorem ofAdv_frozen (h : Params) (A : Nat) (r : Row) (n : Nat) (x0 : Exec)
    (hA : r.tombstone = false → r.address ≤ A) (R' : Row) (x : Exec)
    (hx : ((applyOperationAdvance h (frozen A r) n).1, Exec.ofAdv (applyOperationAdvance h (frozen A r) n).2 x0) = (R', x))
    (hne : ∀ e, x ≠ .err e) :
    ∃ r', ((applyOperationAdvance h r n).1, Exec.ofAdv (applyOperationAdvance h r n).2 x0) = (r', x) ∧
      R' = frozen R'.address r' ∧ R'.address + r.address = r'.address + A ∧ (r.tombstone = true → R'.address = A) := by
  cases hap : applyOperationAdvance h (frozen A r) n with
  | mk R1 e =>
    rw [hap] at hx
    cases hx
    cases e with
    | some e => exact absurd rfl (hne e)
    | none =>
      obtain ⟨r', hr', hR⟩ := applyOperationAdvance_frozen h A r n hA R1 hap
      rw [hr']
      exact ⟨r', rfl, hR⟩

/-- one `execute` step (any instruction but `DW_LNE_set_address`) from the converter's row `r` and
from the reader's, which is `r` at the address `A` -/
theorem execute_frozen (h : Params) (A : Nat) (r : Row) (ins : Instr) (hins : setAddrVal ins = none)
    (hA : r.tombstone = false → r.address ≤ A) (R' : Row) (x : Exec)
    (hx : execute h (frozen A r) ins = (R', x)) (hne : ∀ e, x ≠ .err e) :
    ∃ r', execute h r ins = (r', x) ∧ R' = frozen R'.address r' ∧
      R'.address + r.address = r'.address + A ∧ (r.tombstone = true → R'.address = A) := by
  cases ins with
  | setAddress a => cases hins
  | special op =>
    simp only [execute, execSpecial, applyLineAdvance_frozen] at hx ⊢
    have hl := applyLineAdvance_inv r (h.lineBase + ↑(adjustOpcode h op % h.lineRange))
    have := ofAdv_frozen h A _ _ .emit (by rw [hl.2.2.1, hl.1]; exact hA) R' x hx hne
    rw [hl.1, hl.2.2.1] at this
    exact this
  | advancePc n =>
    simp only [execute] at hx ⊢
    exact ofAdv_frozen h A r n .noEmit hA R' x hx hne
  | constAddPc =>
    simp only [execute] at hx ⊢
    exact ofAdv_frozen h A r _ .noEmit hA R' x hx hne
  | fixedAddPc n =>
    simp only [execute] at hx ⊢
    rcases Bool.eq_false_or_eq_true r.tombstone with ht | ht
    · rw [if_pos (show (frozen A r).tombstone = true from ht)] at hx
      rw [if_pos ht]
      cases hx
      exact ⟨r, rfl, rfl, Nat.add_comm _ _, fun _ => rfl⟩
    · rw [if_neg (by rw [show (frozen A r).tombstone = false from ht]; decide)] at hx
      rw [if_neg (by rw [ht]; decide)]
      cases ha : addSized A n h.addrSize with
      | none => rw [show (frozen A r).address = A from rfl, ha] at hx; cases hx; exact absurd rfl (hne _)
      | some A' =>
        rw [show (frozen A r).address = A from rfl, ha] at hx
        obtain ⟨h1, h2⟩ := addSized_le (hA ht) ha
        rw [h1]
        cases hx
        exact ⟨_, rfl, rfl, by show A' + r.address = r.address + n + A; omega, fun hc => by rw [ht] at hc; cases hc⟩
  | advanceLine i =>
    simp only [execute, applyLineAdvance_frozen] at hx ⊢
    cases hx
    exact ⟨_, rfl, rfl, by rw [(applyLineAdvance_inv r i).1]; exact Nat.add_comm _ _, fun _ => rfl⟩
  | _ =>
    cases hx
    exact ⟨_, rfl, rfl, Nat.add_comm _ _, fun _ => rfl⟩

theorem operationPointer_one (h : Params) (hm : h.maxOps = 1) (op adv : Nat) :
    (operationPointer h op adv).1 = 0 := by
  unfold operationPointer; simp [hm]

theorem applyOperationAdvance_keeps (h : Params) (hm : h.maxOps = 1) (r : Row) (adv : Nat) :
    (applyOperationAdvance h r adv).1.tombstone = r.tombstone ∧
    (r.opIndex = 0 → (applyOperationAdvance h r adv).1.opIndex = 0) := by
  refine ⟨(applyOperationAdvance_inv h r adv).2.2.2, fun h0 => ?_⟩
  unfold applyOperationAdvance
  split
  · exact h0
  · simp only
    split <;> exact operationPointer_one h hm _ _

/-- two registers no instruction but `DW_LNE_set_address` changes: the tombstone flag, and — without
VLIW (`maximum_operations_per_instruction = 1`) — an op_index of 0 -/
theorem execute_keeps (h : Params) (hm : h.maxOps = 1) (r : Row) (ins : Instr) (hins : setAddrVal ins = none) :
    (execute h r ins).1.tombstone = r.tombstone ∧ (r.opIndex = 0 → (execute h r ins).1.opIndex = 0) := by
  have hline := fun i => applyLineAdvance_inv r i
  cases ins with
  | setAddress a => cases hins
  | special op =>
    have := applyOperationAdvance_keeps h hm (applyLineAdvance r (h.lineBase + ↑(adjustOpcode h op % h.lineRange)))
      (adjustOpcode h op / h.lineRange)
    rw [(hline _).2.2.1, (hline _).2.2.2] at this
    exact this
  | advancePc n => exact applyOperationAdvance_keeps h hm r n
  | constAddPc => exact applyOperationAdvance_keeps h hm r _
  | advanceLine i => exact ⟨(hline i).2.2.1, fun h0 => (hline i).2.2.2.trans h0⟩
  | fixedAddPc n =>
    simp only [execute]
    split
    · exact ⟨rfl, id⟩
    · split
      · exact ⟨rfl, fun _ => rfl⟩
      · exact ⟨rfl, id⟩
  | _ => exact ⟨rfl, id⟩

/-- **what the rows theorem assumes about the source program**, from reader registers `R` and
`in_sequence = b`: the reader runs it without an error, and every row it *reports* has a line
number below 2^63 (from 2^63 on the writer's `generate_row` overflows, finding C13-3).
`DW_LNE_set_address` is unrestricted: values below the current address and tombstone values (rows
the reader skips) are allowed. -/
def Tame (h : Params) : Row → Bool → List Instr → Prop
  | _, _, [] => True
  | R, b, ins :: is =>
    match execute h R ins with
    | (_, .err _) => False
    | (R', .noEmit) => Tame h R' b is
    | (R', .emit) =>
      if skipRow R' b then Tame h (reset h R') b is
      else R'.line < 2 ^ 63 ∧ Tame h (reset h R') (!R'.endSequence) is

/-- what the caller of `LineRows::next_row` sees (`run` on decoded instructions) -/
def vis (h : Params) (R : Row) (b : Bool) (is : List Instr) : List Ev :=
  (traceInstrs h R b is).filter Ev.visible

/-- the converter's registers and the reader's (`tomb` is `read_row`'s local `tombstone`): the
reader's row is the converter's up to the address, which is the converter's offset from
`from_address`, and inside a tombstone is frozen and held by `from_address` -/
def Rel (h : Params) (st : CSt) (tomb : Bool) (R : Row) : Prop :=
  st.fromRow.tombstone = tomb ∧ st.fromRow.opIndex = 0 ∧ R.address ≤ onesSized h.addrSize ∧
  R = frozen R.address st.fromRow ∧
  R.address = (if tomb then st.fromAddress else st.fromRow.address + st.fromAddress)

theorem Rel.of_shift {h : Params} {st : CSt} {R : Row} (hnt : st.fromRow.tombstone = false)
    (hR : R = shift st.fromAddress st.fromRow) (hop : st.fromRow.opIndex = 0)
    (hones : R.address ≤ onesSized h.addrSize) : Rel h st false R :=
  ⟨hnt, hop, hones, by rw [hR]; rfl, by rw [hR]; rfl⟩

theorem Rel.new {h : Params} {st : CSt} (hr : st.fromRow = Row.new h) (ha : st.fromAddress = 0) :
    Rel h st false (Row.new h) :=
  Rel.of_shift (by rw [hr]; rfl) (by rw [hr, ha]; simp [shift, Row.new]) (by rw [hr]; rfl) (by simp [Row.new])

theorem Rel.shift_eq {h : Params} {st : CSt} {R : Row} (hr : Rel h st false R) :
    R = shift st.fromAddress st.fromRow :=
  hr.2.2.2.1.trans (congrArg (frozen · st.fromRow) hr.2.2.2.2)

theorem Rel.congr {h : Params} {st st1 : CSt} {tomb : Bool} {R : Row} (e1 : st1.fromRow = st.fromRow)
    (e2 : st1.fromAddress = st.fromAddress) (hr : Rel h st tomb R) : Rel h st1 tomb R := by
  unfold Rel at hr ⊢
  rw [e1, e2]
  exact hr

/-- the pending `set_address` (if any) is the new base, not below the writer's previous row and
not a tombstone; without one the base is unchanged -/
def PendOk (p' : Option Nat) (base wbase prevOff mt : Nat) : Prop :=
  match p' with
  | some a => a = base ∧ wbase + prevOff ≤ a ∧ a < mt
  | none => base = wbase

/-- the event `read_row` returned against what the reader reports (`v`, its visible events from
where `read_row` started): nothing more, or the next row / end of sequence first (`wbase + prevOff`
is the address of the last row handed to the writer) -/
def EvSpec (h : Params) (v : List Ev) (wbase prevOff : Nat) (st' : CSt) (rest : List Instr) : Option RowEv → Prop
  | none => v = []
  | some (.row p' w) =>
    ∃ R1, v = Ev.row R1 :: vis h (reset h R1) true rest ∧
      R1.endSequence = false ∧ Rel h st' false R1 ∧ st'.inSeq = true ∧ Tame h (reset h R1) true rest ∧
      R1.line < 2 ^ 63 ∧ wbase + prevOff ≤ R1.address ∧ convertRow st' = .ok w ∧
      PendOk p' st'.fromAddress wbase prevOff (minTombstone h.addrSize)
  | some (.endSeq p' off) =>
    ∃ R1 eb, v = Ev.row R1 :: vis h (Row.new h) false rest ∧
      R1.endSequence = true ∧ st'.fromRow.endSequence = true ∧ st'.inSeq = false ∧
      Tame h (Row.new h) false rest ∧ wbase + prevOff ≤ R1.address ∧ R1.address = eb + off ∧
      R1.address ≤ onesSized h.addrSize ∧ off % h.minInstLen = 0 ∧
      PendOk p' eb wbase prevOff (minTombstone h.addrSize)

/-- postcondition of `readRowLoop`: a returned event meets `EvSpec` and the state moved by `Frame`; nothing is claimed of
an error or a panic -/
def RowSpec (h : Params) (st : CSt) (R : Row) (b : Bool) (is : List Instr) (wbase prevOff : Nat) :
    CRes (Option RowEv × CSt × List Instr) → Prop
  | .ok (ev, st', rest) => Frame st st' ∧ EvSpec h (vis h R b is) wbase prevOff st' rest ev
  | .err _ => True
  | .panic _ => True

theorem setAddrVal_some {ins : Instr} {a : Nat} (h : setAddrVal ins = some a) : ins = .setAddress a := by
  cases ins <;> simp [setAddrVal] at h
  subst h; rfl

theorem isDefineFile_true {ins : Instr} (h : isDefineFile ins = true) : ∃ f, ins = .defineFile f := by
  cases ins <;> simp [isDefineFile] at h
  exact ⟨_, rfl⟩

theorem RowSpec.lift {h : Params} {st st1 : CSt} {R R1 : Row} {b b1 : Bool} {is : List Instr} {ins : Instr}
    {wbase prevOff : Nat} {res : CRes (Option RowEv × CSt × List Instr)}
    (htr : vis h R b (ins :: is) = vis h R1 b1 is) (hf : Frame st st1)
    (hs : RowSpec h st1 R1 b1 is wbase prevOff res) : RowSpec h st R b (ins :: is) wbase prevOff res := by
  cases res with
  | err e => trivial
  | panic w => trivial
  | ok v => exact ⟨hf.trans hs.1, htr ▸ hs.2⟩

theorem vis_noEmit {h : Params} {R R' : Row} {b : Bool} {ins : Instr} {is : List Instr}
    (hE : execute h R ins = (R', .noEmit)) : vis h R b (ins :: is) = vis h R' b is := by
  rw [vis, traceInstrs, hE]; rfl

theorem vis_hidden {h : Params} {R R' : Row} {b : Bool} {ins : Instr} {is : List Instr}
    (hE : execute h R ins = (R', .emit)) (hs : skipRow R' b = true) :
    vis h R b (ins :: is) = vis h (reset h R') b is := by
  rw [vis, traceInstrs, hE]
  simp only [hs, ↓reduceIte, List.filter_cons, Ev.visible, Bool.false_eq_true]
  rfl

theorem vis_row {h : Params} {R R' : Row} {b : Bool} {ins : Instr} {is : List Instr}
    (hE : execute h R ins = (R', .emit)) (hs : skipRow R' b = false) :
    vis h R b (ins :: is) = Ev.row R' :: vis h (reset h R') (!R'.endSequence) is := by
  rw [vis, traceInstrs, hE]
  simp only [hs, Bool.false_eq_true, ↓reduceIte, List.filter_cons, Ev.visible]
  rfl

theorem execute_rel (h : Params) (hm : h.maxOps = 1) {st : CSt} {tomb : Bool} {R : Row} (hrel : Rel h st tomb R)
    (ins : Instr) (hins : setAddrVal ins = none) (R' : Row) (x : Exec)
    (hE : execute h R ins = (R', x)) (hne : ∀ e, x ≠ .err e) (eb : Nat) (hbase : R.address = eb + st.fromRow.address) :
    ∃ r', execute h st.fromRow ins = (r', x) ∧ Rel h { st with fromRow := r' } tomb R' ∧
      R'.address = eb + r'.address ∧ R.address ≤ R'.address := by
  obtain ⟨hnt, hop, hones, hRf, hRa⟩ := hrel
  obtain ⟨hnt', hop'⟩ := execute_keeps h hm st.fromRow ins hins
  rw [hnt] at hnt'
  have hinv := execute_inv h R ins
  rw [hE] at hinv
  obtain ⟨r', hr', hRf', hmove, hstay⟩ := execute_frozen h R.address st.fromRow ins hins (fun _ => by omega) R' x
    (by rw [← hRf]; exact hE) hne
  rw [hr'] at hnt' hop'
  refine ⟨r', hr', ⟨hnt', hop' hop, hinv.2.1 hones, hRf', ?_⟩, by omega, hinv.1⟩
  cases tomb with
  | true => exact (hstay hnt).trans hRa
  | false =>
    have : R.address = st.fromRow.address + st.fromAddress := hRa
    show R'.address = r'.address + st.fromAddress
    omega

theorem Rel.reset {h : Params} {st : CSt} {tomb : Bool} {R : Row} (hr : Rel h st tomb R)
    (he : st.fromRow.endSequence = false) : Rel h { st with fromRow := reset h st.fromRow } tomb (Line.reset h R) := by
  obtain ⟨a, b, c, d, e⟩ := hr
  rw [reset_of_not_end (r := R) (by rw [d]; exact he), reset_of_not_end he]
  exact ⟨a, b, c, by rw [d]; rfl, e⟩

/-- **one `read_row` against the reader's next reported row**, tombstones included: from related
registers (`Rel`, `in_sequence` equal) the loop of `read_row` either fails, or returns nothing
exactly when the reader reports nothing more, or returns the row / end of sequence the reader
reports next — the rows the reader skips (inside a tombstone, `skipRow`) are skipped, a sequence
that has already reported rows still gets its end, at the reader's (frozen) address -/
theorem readRowLoop_sim (strs : Strs) (h : Params) (hm : h.maxOps = 1) (hsz : h.addrSize ≤ 8)
    (wbase prevOff : Nat) :
    ∀ (is : List Instr) (tomb : Bool) (p : Option Nat) (st : CSt) (R : Row) (b : Bool) (eb : Nat),
    Rel h st tomb R → st.inSeq = b → Tame h R b is → wbase + prevOff ≤ R.address →
    PendOk p eb wbase prevOff (minTombstone h.addrSize) → R.address = eb + st.fromRow.address →
    (b = false → wbase = 0 ∧ prevOff = 0) →
    RowSpec h st R b is wbase prevOff (readRowLoop strs h tomb p st is) := by
  intro is
  induction is with
  | nil =>
    intro tomb p st R b eb _ _ _ _ _ _ _
    exact ⟨Frame.refl _, rfl⟩
  | cons ins is ih =>
    intro tomb p st R b eb hrel hinseq htame hlo hp hbase hclosed
    obtain ⟨hnt, hop, hones, hRf, hRa⟩ := id hrel
    have hones64 := onesSized_lt h.addrSize hsz
    rw [Tame] at htame
    cases hv : setAddrVal ins with
    | some a =>
      cases setAddrVal_some hv
      have hfa : (if tomb = true then st.fromAddress else (st.fromAddress + st.fromRow.address) % 2 ^ 64) =
          R.address := by
        rw [hRa]
        cases tomb with
        | true => rfl
        | false =>
          simp only [Bool.false_eq_true, ↓reduceIte] at hRa ⊢
          rw [Nat.add_comm]; exact Nat.mod_eq_of_lt (by omega)
      rw [readRowLoop]
      simp only [hfa]
      cases htomb : (decide (a < R.address) || decide (a ≥ minTombstone h.addrSize)) with
      | true =>
        -- refused: the reader's address freezes, `from_address` takes it
        have hexec : execute h R (.setAddress a) = ({ R with tombstone := true }, .noEmit) := by
          simp only [execute, htomb, ↓reduceIte]
        rw [hexec] at htame
        rw [if_pos rfl]
        exact RowSpec.lift (vis_noEmit hexec) (Frame.of_eq rfl rfl)
          (ih true p _ _ b eb ⟨rfl, hop, hones, by rw [hRf]; rfl, rfl⟩ hinseq htame hlo hp hbase hclosed)
      | false =>
        -- accepted: the new base; the converter's address restarts at 0
        have hacc : R.address ≤ a ∧ a < minTombstone h.addrSize := by
          simpa only [Bool.or_eq_false_iff, decide_eq_false_iff_not, Nat.not_lt, ge_iff_le, Nat.not_le] using htomb
        have hexec : execute h R (.setAddress a) =
            ({ R with tombstone := false, address := a, opIndex := 0 }, .noEmit) := by
          simp only [execute, htomb]; rfl
        rw [hexec] at htame
        rw [if_neg (by decide)]
        have hmt := minTombstone_le h.addrSize
        exact RowSpec.lift (vis_noEmit hexec) (Frame.of_eq rfl rfl)
          (ih false (some a) _ _ b a (Rel.of_shift rfl (by rw [hRf]; simp [shift, frozen]) rfl (by show a ≤ _; omega)) hinseq htame
            (by show wbase + prevOff ≤ a; omega) ⟨rfl, by omega, hacc.2⟩ (Nat.add_zero a).symm hclosed)
    | none =>
      by_cases hdf : isDefineFile ins = true
      · obtain ⟨f, rfl⟩ := isDefineFile_true hdf
        have hexec : execute h R (.defineFile f) = (R, .noEmit) := rfl
        rw [hexec] at htame
        rw [readRowLoop]
        cases hc : convertFile strs st f with
        | err e => trivial
        | panic w => trivial
        | ok st1 =>
          obtain ⟨hfr, _, e1, e2, e3⟩ := convertFile_frame strs st st1 f hc
          exact RowSpec.lift (vis_noEmit hexec) hfr
            (ih tomb p st1 R b eb (hrel.congr e1 e2) (by rw [e3]; exact hinseq) htame hlo hp
              (by rw [e1]; exact hbase) hclosed)
      · -- every other instruction: the same `execute` step on both sides
        rw [readRowLoop_other strs h tomb p st ins is hv (by simpa using hdf)]
        cases hE : execute h R ins with
        | mk R' x =>
          rw [hE] at htame
          have hne : ∀ e, x ≠ .err e := by rintro e rfl; exact htame
          obtain ⟨r', hr', hrel', hbase', hmono⟩ := execute_rel h hm hrel ins hv R' x hE hne eb hbase
          rw [hr']
          cases x with
          | err e => exact absurd rfl (hne e)
          | noEmit =>
            exact RowSpec.lift (vis_noEmit hE) (Frame.of_eq rfl rfl)
              (ih tomb p _ R' b eb hrel' hinseq htame (Nat.le_trans hlo hmono) hp hbase' hclosed)
          | emit =>
            dsimp only at htame
            obtain ⟨hnt', hop', hones', hRf', hRa'⟩ := id hrel'
            have hend : R'.endSequence = r'.endSequence := by rw [hRf']; rfl
            have hR't : R'.tombstone = tomb := by rw [hRf']; exact hnt'
            -- the converter skips exactly the rows the reader skips
            have hsk : (tomb && !(r'.endSequence && st.inSeq)) = skipRow R' b := by
              rw [hinseq, ← hend, ← hR't]; rfl
            dsimp only
            rw [hsk]
            cases hs : skipRow R' b with
            | true =>
              rw [hs] at htame
              rw [if_pos rfl] at htame ⊢
              have htrue : tomb = true := by
                rw [← hR't]; exact skipRow_tombstone hs
              subst htrue
              by_cases he : r'.endSequence = true
              · -- the whole sequence was a tombstone: nothing was written for it, both sides start afresh
                rw [if_pos he]
                obtain ⟨hw0, hp0⟩ := hclosed (skipRow_end hs (hend ▸ he))
                have hres : reset h R' = Row.new h := reset_of_end (hend.trans he)
                have hres' : reset h r' = Row.new h := reset_of_end he
                rw [hres] at htame
                rw [hres']
                exact RowSpec.lift (by rw [vis_hidden hE hs, hres]) (Frame.of_eq rfl rfl)
                  (ih false none _ _ b 0 (Rel.new rfl rfl) hinseq htame
                    (by rw [hw0, hp0]; exact Nat.zero_le _) (by show 0 = wbase; omega) (by simp [Row.new]) hclosed)
              · rw [if_neg he]
                have he' : r'.endSequence = false := by simpa using he
                exact RowSpec.lift (vis_hidden hE hs) (Frame.of_eq rfl rfl)
                  (ih true p _ _ b eb (hrel'.reset he') hinseq htame
                    (by rw [reset_address, hend, he']; exact Nat.le_trans hlo hmono) hp
                    (by
                      show (reset h R').address = eb + (reset h r').address
                      rw [reset_address, reset_address, hend, he']; exact hbase')
                    hclosed)
            | false =>
              rw [hs] at htame
              rw [if_neg (by decide)] at htame ⊢
              obtain ⟨hline, htame'⟩ := htame
              have htr := vis_row (is := is) hE hs
              by_cases he : r'.endSequence = true
              · -- the end of a sequence (inside a tombstone: of one that has reported rows)
                rw [if_pos he]
                by_cases hal : r'.address % h.minInstLen ≠ 0
                · rw [if_pos hal]; trivial
                · rw [if_neg hal]
                  have hres : reset h R' = Row.new h := reset_of_end (hend.trans he)
                  rw [hend, he, hres] at htr htame'
                  exact ⟨Frame.of_eq rfl rfl, R', eb, htr, hend ▸ he, he, rfl, htame', Nat.le_trans hlo hmono, hbase',
                    hones', by omega, hp⟩
              · -- a reported row: not inside a tombstone
                rw [if_neg he]
                have he' : r'.endSequence = false := by simpa using he
                have hfalse : tomb = false := by
                  rw [← hR't]; exact tombstone_of_not_skipRow hs (hend.trans he')
                subst hfalse
                have hfa : st.fromAddress = eb := by
                  have : R'.address = r'.address + st.fromAddress := hRa'
                  omega
                cases hc : convertRow { st with fromRow := r', inSeq := true } with
                | err e => trivial
                | panic w => trivial
                | ok w =>
                  rw [hend, he'] at htr htame'
                  exact ⟨Frame.of_eq rfl rfl, R', htr, hend ▸ he', hrel', rfl, htame', hline, Nat.le_trans hlo hmono, hc,
                    by show PendOk p st.fromAddress _ _ _; rw [hfa]; exact hp⟩

/-- what relates the converter's registers to the reader's last reported row between two
`read_row` calls: after a row, `Rel` outside a tombstone; after the end of a sequence both reset to the initial
registers whatever they hold -/
def LastRel (h : Params) (st : CSt) (Rlast : Row) : Prop :=
  (Rlast.endSequence = true ∧ st.fromRow.endSequence = true) ∨ Rel h st false Rlast

theorem LastRel.endEq {h : Params} {st : CSt} {R : Row} (hr : LastRel h st R) :
    R.endSequence = st.fromRow.endSequence := by
  rcases hr with ⟨a, b⟩ | hr
  · rw [a, b]
  · rw [hr.shift_eq]; rfl

theorem LastRel.rel_reset {h : Params} {st : CSt} {R : Row} (hr : LastRel h st R) :
    Rel h { st with fromAddress := if st.fromRow.endSequence then 0 else st.fromAddress,
                    fromRow := reset h st.fromRow } false (reset h R) := by
  have hend := hr.endEq
  by_cases he : st.fromRow.endSequence = true
  · have e1 : reset h R = Row.new h := reset_of_end (hend.trans he)
    have e2 : reset h st.fromRow = Row.new h := reset_of_end he
    rw [e1, e2]
    simp only [he, ↓reduceIte]
    exact Rel.new rfl rfl
  · have he' : st.fromRow.endSequence = false := by simpa using he
    rcases hr with ⟨a, _⟩ | hr
    · rw [hend, he'] at a; cases a
    · rw [he']
      exact hr.reset he'

/-- what a caller compares between the source rows and the rows read back: every register of a
row; of an `end_sequence` row — which only says where the sequence ends — its address -/
inductive Obs where
  | row (r : Row)
  | endAt (address : Nat)
  | other
  deriving DecidableEq

/-- a source row, its file register mapped through the index mapping `fm` -/
def obsIn (fm : Nat → Nat) : Ev → Obs
  | .row r => if r.endSequence then .endAt r.address else .row { r with file := fm r.file }
  | _ => .other

/-- a row read back from the converted program -/
def obsOut : Ev → Obs
  | .row r => if r.endSequence then .endAt r.address else .row r
  | _ => .other

/-- the converted row, read back at base `st.fromAddress`, is the source row with the file mapped -/
theorem rowOf_convertRow (h : Params) (st : CSt) (R : Row) (w : WRow) (hr : Rel h st false R)
    (hend : R.endSequence = false) (hc : convertRow st = .ok w) :
    rowOf st.prog.enc.version st.fromAddress w =
      { R with file := fileRaw st.prog.enc.version (st.files.getD R.file 0) } ∧
    w.addressOffset = st.fromRow.address ∧ w.opIndex = 0 ∧ w.line = R.line ∧
    st.fromRow.address % st.prog.enc.minInstLen = 0 ∧ R.file < st.files.length := by
  have hnt := hr.1
  have hop := hr.2.1
  have hR := hr.shift_eq
  unfold convertRow at hc
  dsimp only at hc
  split at hc
  · cases hc
  · split at hc
    · cases hc
    · split at hc
      · cases hc
      · rename_i h1 h2 h3
        simp only [CRes.ok.injEq] at hc
        subst hc
        have hend' : st.fromRow.endSequence = false := by rw [hR] at hend; exact hend
        refine ⟨?_, rfl, hop, by rw [hR]; rfl, by omega, by rw [hR]; show st.fromRow.file < _; omega⟩
        rw [hR]
        simp [rowOf, shift, hnt, hend', Nat.add_comm]

/-- the previous row the writer compares with, after an optional `set_address` -/
def prevAfter (p' : Option Nat) (prev : WRow) : WRow :=
  match p' with
  | some _ => { prev with addressOffset := 0, opIndex := 0 }
  | none => prev

theorem prevAfter_cleared {p' : Option Nat} {prev : WRow} (hcl : prev.cleared = prev) :
    (prevAfter p' prev).cleared = prevAfter p' prev := by
  cases p' with
  | none => exact hcl
  | some a => show ({ prev.cleared with addressOffset := 0, opIndex := 0 } : WRow) = _; rw [hcl]; rfl

/-- the pending `set_address` (if any) of either event, written and read back: the writer goes on from a
program `q` with previous row `prevAfter ..`, the reader of the output from that row at base `base` -/
theorem applyEv_pending (m : Mode) (en : Endian) (format : Format) (addrSize : Nat) (st : CSt) (p' : Option Nat)
    (wbase base : Nat) (hp : PendOk p' base wbase st.prog.prevRow.addressOffset (minTombstone addrSize)) :
    ∃ is0 q, q = { st.prog with inSequence := st.prog.inSequence || p'.isSome, instrs := st.prog.instrs ++ is0,
                                prevRow := prevAfter p' st.prog.prevRow } ∧
      (∀ w, applyEv m st (.row p' w) =
        ofWrite (({ q with row := w } : Prog).generateRow m) >>= fun prog => pure { st with prog }) ∧
      (∀ off, applyEv m st (.endSeq p' off) = ofWrite (q.endSequence m off) >>= fun prog => pure { st with prog }) ∧
      ∀ (inSeq : Bool) (rest : List Instr),
        traceInstrs (readerParams en format addrSize st.prog.enc) (rowOf st.prog.enc.version wbase st.prog.prevRow)
            inSeq (is0.map (WInstr.toInstr st.prog.enc.version) ++ rest) =
          traceInstrs (readerParams en format addrSize st.prog.enc)
            (rowOf st.prog.enc.version base (prevAfter p' st.prog.prevRow)) inSeq rest := by
  cases p' with
  | none =>
    cases (show base = wbase from hp)
    exact ⟨[], st.prog, by simp [prevAfter], fun _ => rfl, fun _ => rfl, fun _ _ => rfl⟩
  | some a =>
    obtain ⟨rfl, hlo, hlt⟩ := hp
    exact ⟨[.setAddress (some a)], st.prog.setAddress (some a), by simp [Prog.setAddress, prevAfter], fun _ => rfl,
      fun _ => rfl, fun inSeq rest => (set_address_correct en format addrSize st.prog wbase a inSeq rest hlo hlt).2.2.2.2⟩

/-- **what the writer needs, derived**: without VLIW (`op_index` always 0) a row or end of sequence
at the aligned offset `off` from base `base`, not before the writer's previous row (`wbase +
prev.addressOffset`, or the pending `set_address`) and inside the address size, is a legal successor -/
theorem endOk_noVliw (e : Enc) (addrSize base wbase mt : Nat) (p' : Option Nat) (prev row : WRow) (off : Nat)
    (hmax : e.maxOps = 1) (hpop : prev.opIndex = 0) (hrop : row.opIndex = 0)
    (hpal : prev.addressOffset % e.minInstLen = 0) (hal : off % e.minInstLen = 0)
    (hp : PendOk p' base wbase prev.addressOffset mt) (hlo : wbase + prev.addressOffset ≤ base + off)
    (hones : base + off ≤ onesSized addrSize) (h64 : onesSized addrSize < 2 ^ 64) :
    EndOk e addrSize base (prevAfter p' prev) row off := by
  have hdiv : ∀ x, (off - x) / e.minInstLen * e.maxOps + row.opIndex < 2 ^ 64 := fun x => by
    rw [hmax, hrop, Nat.mul_one, Nat.add_zero]
    exact Nat.lt_of_le_of_lt (Nat.le_trans (Nat.div_le_self _ _) (Nat.sub_le _ _)) (by omega)
  have hop : row.opIndex < e.maxOps := by rw [hmax, hrop]; exact Nat.zero_lt_one
  cases p' with
  | some a =>
    exact ⟨Nat.zero_mod _, hal, by rw [hmax]; exact Nat.zero_lt_one, hop, Nat.zero_le _, fun _ => Nat.zero_le _,
      hdiv 0, hones⟩
  | none =>
    have hb : base = wbase := hp
    show EndOk e addrSize base prev row off
    exact ⟨hpal, hal, by rw [hmax, hpop]; exact Nat.zero_lt_one, hop, by omega,
      fun _ => by rw [hpop]; exact Nat.zero_le _, hdiv _, hones⟩

theorem stepOk_of_endOk {e : Enc} {addrSize base : Nat} {prev row : WRow}
    (h : EndOk e addrSize base prev row row.addressOffset) (h1 : prev.line < 2 ^ 63) (h2 : row.line < 2 ^ 63) :
    StepOk e addrSize base prev row :=
  ⟨h.1, h.2.1, h.2.2.1, h.2.2.2.1, h.2.2.2.2.1, h.2.2.2.2.2.1, h.2.2.2.2.2.2.1, h1, h2, h.2.2.2.2.2.2.2⟩

/-- the source header's parameters, the encoding of the program being built, and the address size
of the reader that reads the result agree (the converter copies them) -/
def Agree (h : Params) (addrSize : Nat) (e : Enc) : Prop :=
  h.addrSize = addrSize ∧ h.minInstLen = e.minInstLen ∧ h.maxOps = e.maxOps ∧
  h.defaultIsStmt = e.defaultIsStmt

/-- the writer's state and the registers `Rout` of a reader of its output, between two events;
`Rlast` is the last source row, `wbase` the base address of the writer's current segment -/
def WInv (h : Params) (st : CSt) (Rlast : Row) (wbase : Nat) (Rout : Row) : Prop :=
  Rout = rowOf st.prog.enc.version wbase st.prog.prevRow ∧
  st.prog.prevRow.cleared = st.prog.prevRow ∧ st.prog.prevRow.opIndex = 0 ∧ st.prog.row.opIndex = 0 ∧
  st.prog.prevRow.line < 2 ^ 63 ∧ st.prog.prevRow.addressOffset % st.prog.enc.minInstLen = 0 ∧
  wbase + st.prog.prevRow.addressOffset ≤ (reset h Rlast).address ∧
  wbase = (if Rlast.endSequence then 0 else st.fromAddress) ∧
  (st.inSeq = false → wbase = 0 ∧ st.prog.prevRow.addressOffset = 0)

/-- between two sequences: the writer's rows are in their initial state, and so is a reader of its output -/
theorem WInv.init (h : Params) (en : Endian) (format : Format) (addrSize : Nat) {st : CSt} {Rlast : Row}
    (hv : st.prog.enc.version ≤ 5) (hp : st.prog.prevRow = WRow.initial st.prog.enc)
    (hr : st.prog.row = WRow.initial st.prog.enc)
    (hb : 0 = if Rlast.endSequence then 0 else st.fromAddress) :
    WInv h st Rlast 0 (Row.new (readerParams en format addrSize st.prog.enc)) := by
  rw [WInv, hp, hr]
  exact ⟨(rowOf_initial en format addrSize st.prog.enc hv).symm, rfl, rfl, rfl, by show (1 : Nat) < 2 ^ 63; decide,
    Nat.zero_mod _, Nat.zero_le _, hb, fun _ => ⟨rfl, rfl⟩⟩

/-- the encoding the conversion hands to the writer for a header the reader accepted, once `new` has checked
`line_base` -/
theorem encOk_of_valid {p : Params} (hv : p.Valid)
    (hlb : ¬ (p.lineBase > 0 ∨ p.lineBase + (p.lineRange : Int) ≤ 0)) : EncOk (encOf p) :=
  ⟨hv.2.2.2.2.2.2.2.1, by show p.lineBase ≤ 0; omega, by show 0 < p.lineBase + ((p.lineRange : Nat) : Int); omega,
    hv.2.2.2.2.2.2.2.2.2.2.1, hv.2.2.2.1, hv.2.2.2.2.2.1⟩

theorem rowNew_agree (h : Params) (en : Endian) (format : Format) (addrSize : Nat) (e : Enc)
    (ha : Agree h addrSize e) : Row.new (readerParams en format addrSize e) = Row.new h := by
  simp [Row.new, readerParams, ha.2.2.2]

/-- **the whole conversion loop, written and read back, against the reader on the source** — any
`DW_LNE_set_address` (accepted, lower than the current address, tombstone values), `max_ops = 1`.
`e` is the encoding of the program being built: no step changes it. -/
theorem convLoop_sim (m : Mode) (en : Endian) (format : Format) (addrSize : Nat) (strs : Strs) (h : Params)
    (hm : h.maxOps = 1) (hasz : addrSize = 1 ∨ addrSize = 2 ∨ addrSize = 4 ∨ addrSize = 8)
    (e : Enc) (hag : Agree h addrSize e) (henc : EncOk e) (hv : e.version ≤ 5) :
    ∀ (fuel : Nat) (is : List Instr) (st stf : CSt) (Rlast : Row) (wbase : Nat) (Rout : Row),
    is.length < fuel → convLoop m strs h fuel st is = .ok stf → st.prog.enc = e →
    LastRel h st Rlast → Tame h (reset h Rlast) st.inSeq is → WInv h st Rlast wbase Rout →
    ∃ new more, stf.prog.instrs = st.prog.instrs ++ new ∧ stf.files = st.files ++ more ∧
      stf.prog.enc = e ∧
      ∀ bout, (traceInstrs (readerParams en format addrSize e) Rout bout
          (new.map (WInstr.toInstr e.version))).map obsOut =
        (vis h (reset h Rlast) st.inSeq is).map (obsIn (fun i => fileRaw e.version (stf.files.getD i 0))) := by
  have hsz8 : addrSize ≤ 8 := by omega
  have hsz8' : h.addrSize ≤ 8 := by rw [hag.1]; exact hsz8
  have hones64 := onesSized_lt addrSize hsz8
  have hmax1 : e.maxOps = 1 := by rw [← hag.2.2.1]; exact hm
  intro fuel
  induction fuel with
  | zero => intro is _ _ _ _ _ hf; exact absurd hf (Nat.not_lt_zero _)
  | succ fuel ih =>
    intro is st stf Rlast wbase Rout hfuel hconv he hrel htame hw
    rw [convLoop] at hconv
    unfold readRow at hconv
    -- `read_row` first resets its row, and `from_address` after the end of a sequence
    have hrel0 := hrel.rel_reset
    obtain ⟨hRout, hcl, hpop, hrop, hpline, hpal, hlo, hwb, hclosed⟩ := hw
    rw [he] at hRout hpal
    have hspec := readRowLoop_sim strs h hm hsz8' wbase st.prog.prevRow.addressOffset is false none
      { st with fromAddress := if st.fromRow.endSequence then 0 else st.fromAddress,
                fromRow := reset h st.fromRow }
      (reset h Rlast) st.inSeq wbase hrel0 rfl htame hlo rfl
      (by
        rw [hrel0.shift_eq]
        show _ + _ = wbase + _
        rw [hwb, hrel.endEq]; exact Nat.add_comm _ _)
      hclosed
    generalize hst0 : ({ st with fromAddress := if st.fromRow.endSequence then 0 else st.fromAddress,
                                 fromRow := reset h st.fromRow } : CSt) = st0 at hconv hspec
    have e_prog : st0.prog = st.prog := by rw [← hst0]
    have e_files : st0.files = st.files := by rw [← hst0]
    cases hres : readRowLoop strs h false none st0 is with
    | err e => rw [hres] at hconv; cases hconv
    | panic w => rw [hres] at hconv; cases hconv
    | ok v =>
      obtain ⟨ev, st', rest⟩ := v
      rw [hres] at hconv hspec
      obtain ⟨⟨⟨f1, f2, f3, f4, f5⟩, more1, f6⟩, hev⟩ := hspec
      rw [e_prog] at f1 f2 f3 f5
      rw [e_files] at f6
      -- from here on everything is said of `st'`, whose program has the previous row and encoding of `st`'s
      rw [← f2] at hRout hcl hpop hpline hpal hev
      rw [← f3] at hrop
      cases (f5.trans he : st'.prog.enc = e)
      cases ev with
      | none =>
        cases hconv
        refine ⟨[], more1, by rw [f1, List.append_nil], f6, rfl, fun bout => ?_⟩
        rw [show vis h (reset h Rlast) st.inSeq is = [] from hev]; rfl
      | some ev =>
        have hcons : rest.length < is.length :=
          readRowLoop_consumes strs h is false none st0 st' ev rest hres
        dsimp only at hconv
        cases ev with
        | row p' w =>
          obtain ⟨R1, htrIn, hR1end, hrel1, hinseq1, htame1, hline1, hlo1, hcr, hpcond0⟩ := hev
          obtain ⟨hrow, hwoff, hwop, hwline, hwal, hfile⟩ := rowOf_convertRow h st' R1 w hrel1 hR1end hcr
          have hR1addr : st'.fromAddress + w.addressOffset = R1.address := by
            rw [hwoff, hrel1.shift_eq]; exact Nat.add_comm _ _
          have hpcond : PendOk p' st'.fromAddress wbase st'.prog.prevRow.addressOffset (minTombstone addrSize) := by
            rw [← hag.1]; exact hpcond0
          have hstep : StepOk st'.prog.enc addrSize st'.fromAddress (prevAfter p' st'.prog.prevRow) w :=
            stepOk_of_endOk
              (endOk_noVliw _ addrSize _ wbase _ p' _ w _ hmax1 hpop hwop hpal (by rw [hwoff]; exact hwal) hpcond
                (by rw [hR1addr]; exact hlo1) (by rw [hR1addr, ← hag.1]; exact hrel1.2.2.1) hones64)
              (by cases p' <;> exact hpline) (by rw [hwline]; exact hline1)
          obtain ⟨is0, q, rfl, happ, _, htr0⟩ := applyEv_pending m en format addrSize st' p' wbase st'.fromAddress hpcond
          obtain ⟨is1, hg, htr1⟩ := generate_row_correct m en format addrSize st'.prog.enc st'.fromAddress
            (prevAfter p' st'.prog.prevRow) w henc hasz (prevAfter_cleared hcl) hstep
          rw [happ] at hconv
          simp only [Prog.generateRow, hg, ofWrite, Out.bind_ok, Out.pure_eq, CRes.bind_ok, CRes.pure_eq] at hconv
          obtain ⟨new2, more2, g1, g2, g3, g4⟩ := ih rest _ stf R1 st'.fromAddress
            (rowOf st'.prog.enc.version st'.fromAddress w.cleared) (Nat.lt_of_lt_of_le hcons (Nat.le_of_lt_succ hfuel)) hconv rfl
            (Or.inr hrel1) (by show Tame h (reset h R1) st'.inSeq rest; rw [hinseq1]; exact htame1)
            ⟨rfl, rfl, hwop, hwop,
              by show w.line < 2 ^ 63; rw [hwline]; exact hline1,
              by show w.addressOffset % st'.prog.enc.minInstLen = 0; rw [hwoff]; exact hwal,
              by rw [reset_address, hR1end]; exact Nat.le_of_eq hR1addr,
              by rw [hR1end]; rfl,
              fun hx => by rw [show st'.inSeq = true from hinseq1] at hx; cases hx⟩
          refine ⟨is0 ++ is1 ++ new2, more1 ++ more2,
            by rw [g1]; show st'.prog.instrs ++ is0 ++ is1 ++ new2 = _; rw [f1]; simp only [List.append_assoc],
            by rw [g2]; show st'.files ++ more2 = _; rw [f6, List.append_assoc], g3, fun bout => ?_⟩
          have h2 := g4 true
          rw [show st'.inSeq = true from hinseq1] at h2
          rw [htrIn, hRout, List.map_append, List.map_append, List.append_assoc, htr0, htr1, List.map_cons, List.map_cons, h2]
          congr 1
          -- the row read back is the source row with its file mapped
          have hfd : stf.files.getD R1.file 0 = st'.files.getD R1.file 0 := by
            rw [g2]
            simp [List.getD, List.getElem?_append_left hfile]
          simp only [obsOut, obsIn, hR1end, hfd]
          rw [hrow]
          simp [hR1end]
        | endSeq p' off =>
          obtain ⟨R1, eb, htrIn, hR1end, hfrend, hinseq1, htame1, hlo1, hR1addr, hR1ones0, hal, hpcond0⟩ := hev
          have hpcond : PendOk p' eb wbase st'.prog.prevRow.addressOffset (minTombstone addrSize) := by
            rw [← hag.1]; exact hpcond0
          have hendok : EndOk st'.prog.enc addrSize eb (prevAfter p' st'.prog.prevRow) st'.prog.row off :=
            endOk_noVliw _ addrSize _ wbase _ p' _ _ _ hmax1 hpop hrop hpal (by rw [← hag.2.1]; exact hal) hpcond
              (by rw [← hR1addr]; exact hlo1) (by rw [← hR1addr, ← hag.1]; exact hR1ones0) hones64
          obtain ⟨is0, q, rfl, _, happ, htr0⟩ := applyEv_pending m en format addrSize st' p' wbase eb hpcond
          obtain ⟨is1, hg, htr1⟩ := end_sequence_correct m en format addrSize st'.prog.enc eb
            (prevAfter p' st'.prog.prevRow) st'.prog.row off henc.2.2.2.2.1 henc.2.2.2.2.2 hasz hendok
          rw [happ] at hconv
          simp only [Prog.endSequence, hg, ofWrite, Out.bind_ok, Out.pure_eq, CRes.bind_ok, CRes.pure_eq] at hconv
          have hres1 : reset h R1 = Row.new h := reset_of_end hR1end
          obtain ⟨new2, more2, g1, g2, g3, g4⟩ := ih rest _ stf R1 0
            (Row.new (readerParams en format addrSize st'.prog.enc)) (Nat.lt_of_lt_of_le hcons (Nat.le_of_lt_succ hfuel)) hconv rfl
            (Or.inl ⟨hR1end, hfrend⟩)
            (by show Tame h (reset h R1) st'.inSeq rest; rw [hres1, hinseq1]; exact htame1)
            (WInv.init h en format addrSize hv rfl rfl (by rw [hR1end]; rfl))
          refine ⟨is0 ++ is1 ++ new2, more1 ++ more2,
            by rw [g1]; show st'.prog.instrs ++ is0 ++ is1 ++ new2 = _; rw [f1]; simp only [List.append_assoc],
            by rw [g2]; show st'.files ++ more2 = _; rw [f6, List.append_assoc], g3, fun bout => ?_⟩
          have h2 := g4 false
          rw [hres1, show st'.inSeq = false from hinseq1] at h2
          rw [htrIn, hRout, List.map_append, List.map_append, List.append_assoc, htr0, htr1, List.map_cons, List.map_cons, h2]
          congr 1
          -- an end row says where the sequence ends
          simp only [obsOut, obsIn, hR1end, ↓reduceIte]
          exact congrArg Obs.endAt hR1addr.symm

end Gimli.ConvLineRows
