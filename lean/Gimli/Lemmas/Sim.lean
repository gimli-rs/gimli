import Gimli.Spec.Machine
import Gimli.Lemmas.Eval
import Gimli.Lemmas.ValueSim
import Gimli.Lemmas.OpOk
import Gimli.Lemmas.Out
/-!
# C07 `eval_refines_partial`: the Model evaluator (`Model/Eval.lean`) simulates the Spec machine (`Spec/Machine.lean`)

One operation. `R a m s`: the Model machine `m` represents the Spec state `s` (stack values related by `absV`: generic
values modulo `2^(8a)`, typed values exactly; pc as offset; call frames; pieces). The step lemmas are in
continuation form (`pop_bind_sim`, `fetch_bind_sim`, …): what both sides do first, then any related rest. The relator
`Sim` and everything about single values is in `Lemmas/ValueSim`.
-/
open Gimli Gimli.Op Gimli.Value Gimli.Spec.Expr

namespace Gimli.Sim
open Gimli.Spec
open Gimli.Eval (Mach Config Eval Request Waiting OpResult Location Piece Answer)
open Gimli.Spec.Machine (SState SCfg SLoc SPiece Effect SAnswer unspecified)


def absLoc (a : Nat) : Eval.Location → SLoc
  | .empty => .empty
  | .register r => .register r
  | .address x => .address x
  | .value v => .value (absV a v)
  | .bytes b => .bytes b
  | .implicitPointer v o => .implicitPointer v o

def absPiece (a : Nat) (p : Eval.Piece) : SPiece := ⟨p.sizeInBits, p.bitOffset, absLoc a p.location⟩

/-- configurations describe the same evaluation, the Model's with heap storage -/
structure CfgRel (a : Nat) (c : Config) (sc : SCfg) : Prop where
  addr : AddrSize a
  asz : c.encoding.addressSize = a
  mask : c.addrMask = maskOf a
  endian : sc.endian = c.endian
  enc : sc.enc = c.encoding
  obj : sc.objectAddress = c.objectAddress
  objlt : ∀ v, c.objectAddress = some v → v < 2 ^ 64
  caps : c.caps = {}

structure R (a : Nat) (m : Mach) (s : SState) : Prop where
  code : s.code = m.bytecode
  pc : m.pc = m.bytecode.drop s.pc
  pcle : s.pc ≤ m.bytecode.length
  len : m.bytecode.length < 2 ^ 63
  stack : m.stack.map (absV a) = s.stack
  vok : ∀ v ∈ m.stack, VOk v
  frames : s.frames.map (fun f => (f.1.drop f.2, f.1)) = m.exprStack
  framesOk : ∀ f ∈ s.frames, f.2 ≤ f.1.length ∧ f.1.length < 2 ^ 63
  pieces : m.result.map (absPiece a) = s.pieces
  value : m.valueResult.map (absV a) = s.valueResult

variable {a : Nat} {c : Config} {sc : SCfg} {m : Mach} {s : SState} {α β : Type} {S : α → β → Prop}

theorem pop_bind_sim (h : R a m s) {f : Value × Mach → Out α} {g : SVal × SState → Out β}
    (hf : ∀ v rest, VOk v → R a { m with stack := rest } { s with stack := rest.map (absV a) } →
      Sim S (f (v, { m with stack := rest })) (g (absV a v, { s with stack := rest.map (absV a) }))) :
    Sim S (Eval.pop m >>= f) (Machine.pop s >>= g) := by
  unfold Eval.pop Machine.pop
  rw [← h.stack]
  cases hm : m.stack with
  | nil => rfl
  | cons v rest =>
    exact hf v rest (h.vok v (by rw [hm]; exact List.mem_cons_self))
      { h with stack := rfl, vok := fun w hw => h.vok w (by rw [hm]; exact List.mem_cons_of_mem _ hw) }

theorem push_heap (hc : c.caps = {}) (v : Value) (m : Mach) :
    Eval.push c v m = .ok { m with stack := v :: m.stack } :=
  Eval.push_ok_of_room c v m (by rw [hc]; nofun)

theorem R.push (h : R a m s) {v : Value} (hv : VOk v) :
    R a { m with stack := v :: m.stack } (Machine.push (absV a v) s) :=
  { h with
    stack := congrArg (absV a v :: ·) h.stack
    vok := fun w hw => (List.mem_cons.mp hw).elim (fun e => e ▸ hv) (h.vok w) }

theorem push_ok_sim (hc : CfgRel a c sc) {v : Value} (hv : VOk v) (h : R a m s) {sv : SVal} (hsv : absV a v = sv) :
    Sim (R a) (Eval.push c v m) (.ok (Machine.push sv s)) := by
  rw [push_heap hc.caps, ← hsv]; exact h.push hv

theorem pushPiece_heap (hc : c.caps = {}) (p : Piece) (m : Mach) :
    Eval.pushPiece c p m = .ok { m with result := m.result ++ [p] } :=
  Eval.pushPiece_eq_ok.mpr ⟨by rw [hc]; rfl, rfl⟩

theorem R.pushPiece (h : R a m s) (p : Piece) :
    R a { m with result := m.result ++ [p] } { s with pieces := s.pieces ++ [absPiece a p] } :=
  { h with pieces := by rw [← h.pieces]; exact List.map_append }

theorem sc_a (hc : CfgRel a c sc) : sc.a = a := by
  show sc.enc.addressSize = a; rw [hc.enc, hc.asz]

theorem toU64_bind_sim (hc : CfgRel a c sc) {v : Value} (hv : WF v) {f : Nat → Out α} {g : Nat → Out β}
    (hf : ∀ n, Sim S (f n) (g n)) :
    Sim S (v.toU64 c.addrMask >>= f) (Machine.toNat64 (absV a v) >>= g) := by
  rw [hc.mask, toU64_eq hc.addr v hv]; exact Sim.bind_eq _ hf

def EffRel (a : Nat) (p : OpResult × Mach) (e : Effect) : Prop :=
  match p.1, e with
  | .incomplete, .continue s => R a p.2 s
  | .complete loc, .location sl s => sl = absLoc a loc ∧ R a p.2 s
  | .piece, .piece s => R a p.2 s
  | .waiting w r, .request w' r' s => w' = w ∧ r' = r ∧ R a p.2 s
  | _, _ => False

theorem push_sim (hc : CfgRel a c sc) {v : Value} (hv : VOk v) (h : R a m s) {sv : SVal} (hsv : absV a v = sv) :
    Sim (EffRel a) (Eval.push c v m >>= fun m => pure (OpResult.incomplete, m))
      (.ok (Effect.continue (Machine.push sv s))) :=
  Sim.bind (g := fun s => .ok (Effect.continue s)) (push_ok_sim hc hv h hsv) (fun _ _ hR => Sim.ok hR)

/-- `hx`: stated for any `x` that evaluates to the Model's `binop`, so that in `exec_sim` the operator is read off
the Spec's arm (unifying the Model side first would have to invert `binaryOf`). -/
theorem binop_sim (hc : CfgRel a c sc) (op : BinOp) (h : R a m s) {x : Out (OpResult × Mach)}
    (hx : x = Eval.binop c (binaryOf op) m) : Sim (EffRel a) x (Machine.binop sc op s) := by
  subst hx
  unfold Eval.binop Machine.binop
  refine pop_bind_sim h (fun rhs _ v1 r1 => pop_bind_sim r1 (fun lhs _ v2 r2 => ?_))
  rw [hc.mask, sc_a hc]
  exact Sim.bind_val (binaryOf_sim hc.addr op lhs rhs v2 v1) (fun r v3 => push_sim hc v3 r2 rfl)

theorem unop_sim (hc : CfgRel a c sc) (op : UnOp) (h : R a m s) {x : Out (OpResult × Mach)}
    (hx : x = Eval.unop c (unaryOf op) m) : Sim (EffRel a) x (Machine.unop sc op s) := by
  subst hx
  unfold Eval.unop Machine.unop
  refine pop_bind_sim h (fun v _ v1 r1 => ?_)
  rw [hc.mask, sc_a hc]
  exact Sim.bind_val (unaryOf_sim hc.addr op v v1) (fun r v3 => push_sim hc v3 r1 rfl)

theorem fetch_bind_sim (hc : CfgRel a c sc) (h : R a m s)
    {f : Operation × Bytes → Out α} {g : Operation × SState → Out β}
    (hf : ∀ op rest s', OpOk op → R a { m with pc := rest } s' → Sim S (f (op, rest)) (g (op, s'))) :
    Sim S (Op.parse c.endian c.encoding m.pc >>= f) (Machine.fetch sc s >>= g) := by
  unfold Machine.fetch
  rw [hc.endian, hc.enc, h.code, ← h.pc, Out.bind_assoc]
  have hr := (parse_reads c.endian c.encoding m.pc).2
  rw [parse_eq_decode] at hr ⊢
  cases hd : OpTable.decode c.endian c.encoding m.pc with
  | ok p =>
    obtain ⟨op, rest⟩ := p
    have hsuf : rest <:+ m.bytecode := (hr _ hd).2.2.trans (h.pc ▸ List.drop_suffix _ _)
    exact hf op rest _ (hr _ hd).1.1
      { h with code := rfl, pc := List.suffix_iff_eq_drop.mp hsuf, pcle := Nat.sub_le _ _ }
  | err e => rfl
  | panic w => trivial
  | diverge => trivial

theorem branch_sim (h : R a m s) (t : Int) (ht : -2 ^ 63 ≤ t ∧ t < 2 ^ 63) :
    Sim (fun (pc' : Bytes) (s' : SState) => R a { m with pc := pc' } s')
      (Eval.computePc m.pc m.bytecode t) (Machine.branch s t) := by
  have hoff : m.bytecode.length - m.pc.length = s.pc := by
    have := h.pcle; rw [h.pc, List.length_drop]; omega
  rw [computePc_spec_i64 m.pc m.bytecode t ht h.len (by rw [h.pc, List.length_drop]; omega)]
  unfold Machine.branch
  simp only [hoff, h.code]
  split
  · next hc => exact { h with code := rfl, pc := rfl, pcle := by simp only []; omega }
  · rfl

theorem abs_generic_nat (hsa : sc.a = a) (v : Nat) :
    absV a ⟨.generic, v⟩ = Machine.gen sc (v : Int) := by
  unfold Machine.gen
  rw [hsa, absV_generic, Twos.cast_mod]; rfl

theorem abs_generic_pat (ha : AddrSize a) (hsa : sc.a = a) (i : Int) :
    absV a ⟨.generic, pat 64 i⟩ = Machine.gen sc i := by
  unfold Machine.gen
  rw [hsa]; exact absV_pat ha .generic i

theorem exec_sim (hc : CfgRel a c sc) (op : Operation) (hop : OpOk op) (h : R a m s) :
    Sim (EffRel a) (Eval.execute c op m) (Machine.exec sc op s) := by
  have hsa := sc_a hc
  cases op
  case abs | neg | not => exact unop_sim hc _ h rfl
  case and | div | minus | mod | mul | or | plus | xor | eq | ge | gt | le | lt | ne | shl | shr | shra =>
    exact binop_sim hc _ h rfl
  -- operations that only ask for something, or name a location: the machine is untouched
  case typedLiteral | convert | reinterpret | registerOffset | frameOffset | call | callFrameCFA | entryValue
      | parameterRef | address | addressIndex | constantIndex | wasmLocal | wasmGlobal | wasmStack =>
    exact ⟨rfl, rfl, h⟩
  case register | implicitValue | implicitPointer => exact ⟨rfl, h⟩
  case variableValue | uninitialized => rfl
  case nop => exact h
  case unsignedConstant v =>
    exact push_sim hc (vok_generic v hop) h (abs_generic_nat hsa v)
  case signedConstant v =>
    exact push_sim hc (vok_generic _ (pat_lt 64 v)) h (abs_generic_pat hc.addr hsa v)
  case pushObjectAddress =>
    show Sim _ (match c.objectAddress with | some v => _ | none => _) (match sc.objectAddress with | some v => _ | none => _)
    rw [hc.obj]
    cases ho : c.objectAddress with
    | none => rfl
    | some v => exact push_sim hc (vok_generic v (hc.objlt v ho)) h (abs_generic_nat hsa v)
  case pick index =>
    show Sim _ (match m.stack[index]? with | none => _ | some v => _) (match s.stack[index]? with | some v => _ | none => _)
    rw [← h.stack, List.getElem?_map]
    cases hg : m.stack[index]? with
    | none => rfl
    | some v => exact push_sim hc (h.vok v (List.mem_of_getElem? hg)) h rfl
  case drop => exact pop_bind_sim h (fun _ _ _ r1 => r1)
  case stackValue => exact pop_bind_sim h (fun _ _ _ r1 => ⟨rfl, r1⟩)
  case skip t => exact Sim.bind (branch_sim h t hop) (fun _ _ r' => r')
  case bra t =>
    refine pop_bind_sim h (fun v _ v1 r1 => toU64_bind_sim hc v1.1 (fun n => ?_))
    by_cases hn : n ≠ 0
    · rw [if_pos hn, if_pos hn]; exact Sim.bind (branch_sim r1 t hop) (fun _ _ r' => r')
    · rw [if_neg hn, if_neg hn]; exact r1
  case tls => exact pop_bind_sim h (fun v _ v1 r1 => toU64_bind_sim hc v1.1 (fun n => ⟨rfl, rfl, r1⟩))
  case swap =>
    refine pop_bind_sim h (fun top _ v1 r1 => pop_bind_sim r1 (fun next _ v2 r2 => ?_))
    show Sim _ (Eval.push c top _ >>= fun m => Eval.push c next m >>= fun m => pure (OpResult.incomplete, m)) _
    rw [push_heap hc.caps]
    exact push_sim hc v2 (r2.push v1) rfl
  case rot =>
    refine pop_bind_sim h (fun one _ v1 r1 => pop_bind_sim r1 (fun two _ v2 r2 => pop_bind_sim r2 (fun three _ v3 r3 => ?_)))
    show Sim _ (Eval.push c one _ >>= fun m => Eval.push c three m >>= fun m => Eval.push c two m >>= fun m =>
      pure (OpResult.incomplete, m)) _
    rw [push_heap hc.caps, Out.bind_ok, push_heap hc.caps]
    exact push_sim hc v2 ((r3.push v1).push v3) rfl
  case plusConstant value =>
    refine pop_bind_sim h (fun lhs _ v1 r1 => ?_)
    show Sim _ (Value.fromU64 lhs.ty value >>= fun rhs => lhs.add rhs c.addrMask >>= _)
      (if isFloat (absV a lhs).ty then _ else binary sc.a .add (absV a lhs) ⟨lhs.ty, canon sc.a lhs.ty value⟩ >>= _)
    rw [if_neg (isFloat_absV v1.2), hc.mask, hsa]
    obtain ⟨rhs, hf, habs, hvr⟩ := fromU64_ok hc.addr lhs.ty v1.2 value hop _ rfl
    rw [hf, Out.bind_ok, ← habs]
    exact Sim.bind_val (binaryOf_sim hc.addr .add lhs rhs v1 hvr) (fun r v3 => push_sim hc v3 r1 rfl)
  case deref bt size space =>
    show Sim _ (if size > c.encoding.addressSize then _ else _) (if size > sc.a then _ else _)
    rw [hsa, hc.asz]
    split
    · rfl
    · refine pop_bind_sim h (fun v _ v1 r1 => toU64_bind_sim hc v1.1 (fun n => ?_))
      cases space
      · exact ⟨rfl, rfl, r1⟩
      · exact pop_bind_sim r1 (fun v2 _ v3 r2 => toU64_bind_sim hc v3.1 (fun n2 => ⟨rfl, rfl, r2⟩))
  case piece size off =>
    simp only [Eval.execute, Machine.exec]
    have hs := h.stack
    cases hm : m.stack with
    | nil =>
      rw [hm] at hs
      rw [← hs]
      simp only [Out.pure_eq, Out.bind_ok, List.map_nil]
      rw [pushPiece_heap hc.caps]
      have r := h.pushPiece ⟨some size, off, .empty⟩
      rw [← hs] at r
      exact r
    | cons v0 rest =>
      rw [hm] at hs
      rw [← hs]
      simp only [List.map_cons]
      refine pop_bind_sim h (fun v _ v1 r1 => toU64_bind_sim hc v1.1 (fun n => ?_))
      simp only [Out.pure_eq, Out.bind_ok]
      rw [pushPiece_heap hc.caps]
      exact r1.pushPiece _


theorem unwind_sim (sframes : List (Bytes × Nat)) :
    ∀ (code : Bytes) (off : Nat), off ≤ code.length → code.length < 2 ^ 63 →
      (∀ f ∈ sframes, f.2 ≤ f.1.length ∧ f.1.length < 2 ^ 63) →
      ∃ b code' off' sframes',
        Machine.unwind code off sframes = (b, code', off', sframes') ∧
        Eval.unwind (code.drop off) code (sframes.map (fun f => (f.1.drop f.2, f.1))) =
          (b, code'.drop off', code', sframes'.map (fun f => (f.1.drop f.2, f.1))) ∧
        off' ≤ code'.length ∧ code'.length < 2 ^ 63 ∧
        (∀ f ∈ sframes', f.2 ≤ f.1.length ∧ f.1.length < 2 ^ 63) := by
  induction sframes with
  | nil =>
    intro code off hle hlen hfr
    by_cases hlt : off < code.length
    · refine ⟨false, code, off, [], by simp [Machine.unwind, hlt], ?_, hle, hlen, hfr⟩
      cases hd : code.drop off with
      | nil => exact absurd (List.drop_eq_nil_iff.mp hd) (by omega)
      | cons x xs => rfl
    · refine ⟨true, code, off, [], by simp [Machine.unwind, hlt], ?_, hle, hlen, hfr⟩
      rw [List.drop_eq_nil_iff.mpr (by omega)]; rfl
  | cons f rest ih =>
    intro code off hle hlen hfr
    obtain ⟨fc, fp⟩ := f
    by_cases hlt : off < code.length
    · refine ⟨false, code, off, (fc, fp) :: rest, by simp [Machine.unwind, hlt], ?_, hle, hlen, hfr⟩
      cases hd : code.drop off with
      | nil => exact absurd (List.drop_eq_nil_iff.mp hd) (by omega)
      | cons x xs => rfl
    · have hf := hfr (fc, fp) List.mem_cons_self
      obtain ⟨b, code', off', sframes', h1, h2, h3⟩ :=
        ih fc fp hf.1 hf.2 (fun g hg => hfr g (List.mem_cons_of_mem _ hg))
      refine ⟨b, code', off', sframes', ?_, ?_, h3⟩
      · simp only [Machine.unwind, hlt, ite_false]; exact h1
      · rw [List.drop_eq_nil_iff.mpr (by omega)]; exact h2

theorem endOfExpression_sim (h : R a m s) :
    ∃ b m' s', Eval.endOfExpression m = (b, m') ∧ Machine.atEnd s = (b, s') ∧ R a m' s' := by
  obtain ⟨b, code', off', sframes', h1, h2, h3, h4, h5⟩ :=
    unwind_sim s.frames s.code s.pc (by rw [h.code]; exact h.pcle) (by rw [h.code]; exact h.len) h.framesOk
  unfold Eval.endOfExpression Machine.atEnd
  rw [h1, h.pc, ← h.frames, ← h.code, h2]
  exact ⟨_, _, _, rfl, rfl, { h with code := rfl, pc := rfl, pcle := h3, len := h4, frames := rfl, framesOk := h5 }⟩

end Gimli.Sim
