import Gimli.Lemmas.DieForest
/-! Lemmas for C02: `EntriesCursor::next_sibling` (with and without the
`DW_AT_sibling` fast path) over the encoding of a forest (`passSubtree`, `skipForest`,
`nextSibling_posAt`), and the recursive walk built from it (`siblingWalk_forest`). -/
namespace Gimli.Die
open Gimli Gimli.Attr Gimli.Abbrev Gimli.Ints Gimli.Spec Gimli.Spec.Forest

/-- the `DW_AT_sibling` fast path with which `next_sibling` and `EntriesTree::next` both begin an
iteration: from an entry with the children flag and a usable sibling offset, jump there and keep
the entry's depth (the Model has the code twice) -/
def seekRaw (r : Raw) (e : Entry) : Raw :=
  if e.hasChildren then
    match e.sibling with
    | some off => r.seekForward off e.depth
    | none => r
  else r

/-- that step on a cursor, whose `current()` is `None` on a null entry -/
def seekStep (c : Cursor) : Cursor :=
  match c.current with
  | some cur =>
    if cur.hasChildren then
      match cur.sibling with
      | some off => { c with raw := c.raw.seekForward off cur.depth }
      | none => c
    else c
  | none => c

/-- the rest of an iteration: read the next entry, stop at the end of input or at the wanted
depth, otherwise go round again -/
def readPart (ctx : Ctx) (D : Int) (fuel : Nat) (c : Cursor) : Out (Option Entry × Cursor) :=
  c.nextEntry ctx >>= fun x =>
    if !x.1 then pure (none, x.2)
    else if x.2.cur.depth = D then pure (x.2.current, x.2)
    else Cursor.siblingLoop ctx D fuel x.2

theorem siblingLoop_succ (ctx : Ctx) (D : Int) (fuel : Nat) (c : Cursor) :
    Cursor.siblingLoop ctx D (fuel + 1) c = readPart ctx D fuel (seekStep c) := by
  rw [Cursor.siblingLoop]
  rfl

theorem seekForward_le (r : Raw) (off : Nat) (d : Int) :
    (r.seekForward off d).input.length ≤ r.input.length ∧ (r.seekForward off d).endOffset = r.endOffset := by
  unfold Raw.seekForward
  split
  · exact ⟨Nat.le_refl _, rfl⟩
  · simp only
    split
    · simp
    · exact ⟨Nat.le_refl _, rfl⟩

theorem seekRaw_le (r : Raw) (e : Entry) : (seekRaw r e).input.length ≤ r.input.length := by
  unfold seekRaw
  split
  · split
    · exact (seekForward_le _ _ _).1
    · exact Nat.le_refl _
  · exact Nat.le_refl _

theorem seekStep_eq (r : Raw) (e : Entry) : seekStep ⟨r, e⟩ = ⟨if e.isNull then r else seekRaw r e, e⟩ := by
  cases hn : e.isNull
  · rw [seekStep, Cursor.current_of_isNull_false (c := ⟨r, e⟩) hn, seekRaw]
    dsimp only
    cases e.hasChildren <;> cases e.sibling <;> rfl
  · rw [seekStep, Cursor.current_of_isNull_true (c := ⟨r, e⟩) hn]
    rfl

theorem seekStep_le (c : Cursor) : (seekStep c).raw.input.length ≤ c.raw.input.length := by
  rw [seekStep_eq]
  dsimp only
  split
  · exact Nat.le_refl _
  · exact seekRaw_le _ _

theorem readPart_empty {ctx : Ctx} {c : Cursor} (D : Int) (fuel : Nat) (h : c.raw.input.isEmpty = true) :
    readPart ctx D fuel c = .ok (none, { c with cur := c.cur.setNull }) := by
  unfold readPart; rw [nextEntry_empty h]; rfl

theorem readPart_read {ctx : Ctx} {c : Cursor} (D : Int) (fuel : Nat) (h : c.raw.input.isEmpty = false) :
    readPart ctx D fuel c =
      (c.raw.readEntry ctx >>= fun x =>
        if x.1.depth = D then pure ((Cursor.mk x.2 x.1).current, ⟨x.2, x.1⟩)
        else Cursor.siblingLoop ctx D fuel ⟨x.2, x.1⟩) := by
  rw [readPart, nextEntry_read h, Out.bind_assoc]
  rfl

theorem readPart_fuel (ctx : Ctx) (D : Int) : ∀ (f f' : Nat) (c : Cursor), c.raw.input.length ≤ f →
    c.raw.input.length ≤ f' → readPart ctx D f c = readPart ctx D f' c := by
  intro f
  induction f with
  | zero =>
    intro f' c h _
    have he := List.isEmpty_iff.mpr (List.eq_nil_of_length_eq_zero (Nat.le_zero.mp h))
    rw [readPart_empty _ _ he, readPart_empty _ _ he]
  | succ f ih =>
    intro f' c h h'
    cases he : c.raw.input.isEmpty with
    | true => rw [readPart_empty _ _ he, readPart_empty _ _ he]
    | false =>
      rw [readPart_read _ _ he, readPart_read _ _ he]
      refine Out.All.bind_congr (readEntry_ensures ctx _).2 fun p ⟨hlt, _⟩ => congrArg (ite _ _) ?_
      obtain ⟨f', rfl⟩ := Nat.exists_eq_add_one_of_ne_zero (Nat.ne_zero_of_lt (Nat.lt_of_lt_of_le hlt h'))
      have hs := seekStep_le ⟨p.2, p.1⟩
      rw [siblingLoop_succ, siblingLoop_succ]
      exact ih f' _ (Nat.le_trans hs (Nat.le_of_lt_succ (Nat.lt_of_lt_of_le hlt h)))
        (Nat.le_trans hs (Nat.le_of_lt_succ (Nat.lt_of_lt_of_le hlt h')))

/-- the `DW_AT_sibling` fast-path target of entry `d` read at unit offset `off` is `target`
(`none`: no usable sibling attribute) -/
def SibTarget (ctx : Ctx) (d : Node) (off : Nat) (target : Option Nat) : Prop :=
  ∀ a vs (depth : Int), ctx.abbrevs.get d.code = some a →
    (∀ rest, readAttributes ctx.enc a.attrs (d.attrBytes ++ rest) = .ok (vs, rest)) →
    Entry.sibling ⟨off, depth, a.tag, a.hasChildren, a.attrs.zip vs⟩ = target

/-- every entry with the children flag either has no usable `DW_AT_sibling` attribute or one that
points just behind the entry's subtree (its next sibling, or the null entry that ends the
sibling list); `off` is the unit offset of the first entry of the forest -/
def SibOK (ctx : Ctx) : Nat → Forest → Prop
  | _, .nil => True
  | off, .node d kids sibs =>
    let o1 := off + (headBytes d).length
    let o2 := if d.children then o1 + (encode kids).length + 1 else o1
    (d.children = true → SibTarget ctx d off none ∨ SibTarget ctx d off (some o2)) ∧
      SibOK ctx o1 kids ∧ SibOK ctx o2 sibs

theorem seekStep_null (r : Raw) (e : Entry) (h : e.isNull = true) : seekStep ⟨r, e⟩ = ⟨r, e⟩ := by
  rw [seekStep_eq, if_pos h]

theorem seekStep_nochildren (r : Raw) (e : Entry) (h : e.hasChildren = false) : seekStep ⟨r, e⟩ = ⟨r, e⟩ := by
  simp only [seekStep_eq, seekRaw, h, Bool.false_eq_true, if_false, ite_self]

theorem seekStep_nosibling (r : Raw) (e : Entry) (h : e.sibling = none) : seekStep ⟨r, e⟩ = ⟨r, e⟩ := by
  simp only [seekStep_eq, seekRaw, h, ite_self]

theorem seekStep_sibling (r : Raw) (e : Entry) (off : Nat) (hn : e.isNull = false) (hc : e.hasChildren = true)
    (h : e.sibling = some off) : seekStep ⟨r, e⟩ = ⟨r.seekForward off e.depth, e⟩ := by
  simp only [seekStep_eq, seekRaw, hn, hc, h, Bool.false_eq_true, if_false, if_true]

theorem seekForward_skip (pre rest : Bytes) (E : Nat) (d d' : Int) (target : Nat)
    (ht : target + rest.length = E) (hE : (pre ++ rest).length ≤ E) :
    (Raw.mk (pre ++ rest) E d).seekForward target d' = ⟨rest, E, d'⟩ := by
  unfold Raw.seekForward Raw.nextOffset
  simp only [List.length_append] at hE ⊢
  have h1 : ¬ target < E - (pre.length + rest.length) := by omega
  have h2 : target - (E - (pre.length + rest.length)) = pre.length := by omega
  simp [h1, h2]

theorem EntryFor.sibling {ctx : Ctx} {d : Node} {off : Nat} {D : Int} {e : Entry} (h : EntryFor ctx d off D e)
    {t : Option Nat} (ht : SibTarget ctx d off t) : e.sibling = t := by
  obtain ⟨a, vs, hget, _, _, hattrs, rfl⟩ := h
  exact ht a vs D hget hattrs

theorem At.seek {r : Raw} {off : Nat} {D : Int} {kids sibs : Forest} {tail : Bytes}
    (h : At r off D kids (0 :: (encode sibs ++ tail))) (D' : Int) :
    At (r.seekForward (off + (encode kids).length + 1) D') (off + (encode kids).length + 1) D' sibs tail := by
  obtain rfl := h.eq
  rw [show encode kids ++ 0 :: (encode sibs ++ tail) = (encode kids ++ [0]) ++ (encode sibs ++ tail) by simp]
  have hl : ((encode kids ++ [0]) ++ (encode sibs ++ tail)).length =
      (encode kids).length + 1 + (encode sibs ++ tail).length := by
    rw [List.length_append, List.length_append]; rfl
  rw [seekForward_skip _ _ _ _ _ _ (by omega) (Nat.le_add_left _ _)]
  exact ⟨rfl, rfl, by dsimp only; omega⟩

theorem readPart_step {ctx : Ctx} {D : Int} {r r' : Raw} {e cur : Entry} {f : Nat} (hne : r.input ≠ [])
    (hre : r.readEntry ctx = .ok (e, r')) (hD : e.depth ≠ D) (hf : r.input.length ≤ f) :
    readPart ctx D f ⟨r, cur⟩ = readPart ctx D r'.input.length (seekStep ⟨r', e⟩) := by
  have hlt := Nat.lt_of_lt_of_le (readEntry_shrinks hre).1 hf
  obtain ⟨f, rfl⟩ := Nat.exists_eq_add_one_of_ne_zero (Nat.ne_zero_of_lt hlt)
  rw [readPart_read (c := ⟨r, cur⟩) _ _ (isEmpty_false_of_ne_nil hne), hre, Out.bind_ok, if_neg hD, siblingLoop_succ]
  exact readPart_fuel ctx D _ _ _ (Nat.le_trans (seekStep_le _) (Nat.le_of_lt_succ hlt)) (seekStep_le _)

/-- the loop of `next_sibling`, looking for depth `D` from cursor `c`, is where it would be had it
started with the reader `r'` -/
def Passes (ctx : Ctx) (D : Int) (f : Nat) (c : Cursor) (r' : Raw) : Prop :=
  ∃ cur', readPart ctx D f c = readPart ctx D r'.input.length ⟨r', cur'⟩

/-- an iteration of the loop of `next_sibling` that starts on entry `d` (at depth `D'`, not above
the wanted depth `D`) gets in front of `d`'s siblings: at once if `d` has no children flag, by
`seek_forward` if it has a usable `DW_AT_sibling`, else by passing the children (`hkids`) and
the null entry that ends them -/
theorem passSubtree (ctx : Ctx) (D : Int) {d : Node} {kids sibs : Forest} {off : Nat} {D' : Int} {tail : Bytes}
    {c : Cursor} (hd : NodeOK ctx d) (hp : PosAt ctx c off D' tail (.node d kids sibs))
    (hsd : d.children = true → SibTarget ctx d off none ∨
      SibTarget ctx d off (some (if d.children then off + (headBytes d).length + (encode kids).length + 1
        else off + (headBytes d).length)))
    (hD : D ≤ D')
    (hkids : ∀ {r₁}, At r₁ (off + (headBytes d).length) (D' + 1) kids (0 :: (encode sibs ++ tail)) → ∀ cur f,
      r₁.input.length ≤ f → ∃ r₂, At r₂ (off + (headBytes d).length + (encode kids).length) (D' + 1) .nil
        (0 :: (encode sibs ++ tail)) ∧ Passes ctx D f ⟨r₁, cur⟩ r₂)
    (f : Nat) (hf : c.raw.input.length ≤ f) :
    ∃ r₃, At r₃ (if d.children then off + (headBytes d).length + (encode kids).length + 1
        else off + (headBytes d).length) D' sibs tail ∧ Passes ctx D f (seekStep c) r₃ := by
  obtain ⟨he, hleaf, hpar⟩ := hp.next
  obtain ⟨r₁, e⟩ := c
  cases hc : d.children with
  | false =>
    rw [seekStep_nochildren _ _ (he.hasChildren.trans hc)]
    exact ⟨r₁, hleaf hc, e, readPart_fuel ctx D _ _ _ hf (Nat.le_refl _)⟩
  | true =>
    rw [if_pos rfl]
    rcases hsd hc with hnone | hsome
    · rw [seekStep_nosibling _ _ (he.sibling hnone)]
      obtain ⟨r₂, h₂, cur₂, hr₂⟩ := hkids (hpar hc) e f hf
      obtain ⟨r₃, hnull, h₃⟩ := h₂.read_null ctx
      rw [Int.add_sub_cancel] at h₃
      refine ⟨r₃, h₃.retarget, ?_⟩
      unfold Passes
      rw [hr₂, readPart_step (h₂.input ▸ List.cons_ne_nil _ _) hnull (show D' + 1 ≠ D by omega) (Nat.le_refl _),
        seekStep_null _ _ rfl]
      exact ⟨_, rfl⟩
    · rw [hc, if_pos rfl] at hsome
      rw [seekStep_sibling _ _ _ (he.isNull hd) (he.hasChildren.trans hc) (he.sibling hsome), he.depth]
      exact ⟨_, (hpar hc).seek D', e, readPart_fuel ctx D _ _ _ (Nat.le_trans (seekForward_le _ _ _).1 hf) (Nat.le_refl _)⟩

/-- the loop of `next_sibling`, looking for depth `D`, passes over a whole forest that lies
deeper (`D < D'`) — by reading it entry by entry, or by jumping over subtrees through their
`DW_AT_sibling` attributes -/
theorem skipForest (ctx : Ctx) (D : Int) : ∀ (g : Forest), ForestOK ctx g → ∀ {off : Nat}, SibOK ctx off g →
    ∀ {r : Raw} {D' : Int} {tail : Bytes}, D < D' → At r off D' g tail → ∀ (cur : Entry) (f : Nat), r.input.length ≤ f →
    ∃ r', At r' (off + (encode g).length) D' .nil tail ∧ Passes ctx D f ⟨r, cur⟩ r' := by
  intro g
  induction g with
  | nil => intro _ off _ r D' tail _ h cur f hf; exact ⟨r, h, cur, readPart_fuel ctx D f _ _ hf (Nat.le_refl _)⟩
  | node d kids sibs ihk ihs =>
    intro ⟨hd, hk, hs⟩ off ⟨hsd, hsk, hss⟩ r D' tail hD h cur f hf
    obtain ⟨e, r₁, hre, hp⟩ := h.read hd
    unfold Passes
    rw [readPart_step h.ne_nil hre (show e.depth ≠ D by rw [hp.next.1.depth]; omega) hf]
    obtain ⟨r₃, h₃, cur₃, hr₃⟩ := passSubtree ctx D hd hp hsd (Int.le_of_lt hD)
      (fun h₁ => ihk hk hsk (show D < D' + 1 by omega) h₁) _ (Nat.le_refl _)
    obtain ⟨r', h', hr'⟩ := ihs hs hss hD h₃ cur₃ _ (Nat.le_refl _)
    rw [hr₃]
    refine ⟨r', ?_, hr'⟩
    cases hc : d.children <;> simp only [hc, if_true, Bool.false_eq_true, if_false] at h'
    · rwa [encode_leaf_length hc]
    · rwa [encode_parent_length hc]

theorem nextEntry_posAt (ctx : Ctx) (D : Int) (g : Forest) (hok : ForestOK ctx g) {r : Raw} {off : Nat} {tail : Bytes}
    (h : At r off D g tail) (htail : tail = [] ∨ ∃ t, tail = 0 :: t) (cur : Entry) :
    ∃ b c', PosAt ctx c' off D tail g ∧ (Cursor.mk r cur).nextEntry ctx = .ok (b, c') ∧
      (if b then c'.cur.depth = D else c'.current = none) := by
  cases g with
  | nil =>
    rcases htail with rfl | ⟨t, rfl⟩
    · exact ⟨false, ⟨r, cur.setNull⟩, rfl, nextEntry_empty (c := ⟨r, cur⟩) (h.input ▸ rfl), rfl⟩
    · obtain ⟨r', hnull, -⟩ := h.read_null ctx
      exact ⟨true, ⟨r', ⟨off, D, 0, false, []⟩⟩, (rfl : Cursor.current _ = none),
        by rw [nextEntry_read (c := ⟨r, cur⟩) (h.input ▸ rfl), hnull]; rfl, if_pos rfl ▸ rfl⟩
  | node d kids sibs =>
    obtain ⟨e, r₁, hre, hp⟩ := h.read hok.1
    exact ⟨true, ⟨r₁, e⟩, hp,
      by rw [nextEntry_read (c := ⟨r, cur⟩) (isEmpty_false_of_ne_nil h.ne_nil), hre]; rfl, if_pos rfl ▸ hp.next.1.depth⟩

theorem readPart_posAt (ctx : Ctx) (D : Int) (g : Forest) (hok : ForestOK ctx g) {r : Raw} {off : Nat} {tail : Bytes}
    (h : At r off D g tail) (htail : tail = [] ∨ ∃ t, tail = 0 :: t) (cur : Entry) (f : Nat) :
    ∃ c', PosAt ctx c' off D tail g ∧ readPart ctx D f ⟨r, cur⟩ = .ok (c'.current, c') := by
  obtain ⟨b, c', hp, hne, hb⟩ := nextEntry_posAt ctx D g hok h htail cur
  refine ⟨c', hp, ?_⟩
  rw [readPart, hne, Out.bind_ok]
  cases b
  · rw [if_neg Bool.false_ne_true] at hb
    rw [hb]; rfl
  · rw [if_pos rfl] at hb
    rw [if_neg (by simp), if_pos hb]; rfl

theorem nextSibling_posAt (ctx : Ctx) (d : Node) (kids sibs : Forest) (hok : ForestOK ctx (.node d kids sibs))
    (off : Nat) (hsib : SibOK ctx off (.node d kids sibs)) (D : Int) (tail : Bytes)
    (htail : tail = [] ∨ ∃ t, tail = 0 :: t) (c : Cursor) (hc : PosAt ctx c off D tail (.node d kids sibs)) :
    ∃ c', PosAt ctx c' (if d.children then off + (headBytes d).length + (encode kids).length + 1
                        else off + (headBytes d).length) D tail sibs ∧
      c.nextSibling ctx = .ok (c'.current, c') := by
  obtain ⟨hd, hk, hs⟩ := hok
  obtain ⟨hsd, hsk, hss⟩ := hsib
  have he := hc.next.1
  rw [Cursor.nextSibling, Cursor.current_of_isNull_false (he.isNull hd)]
  rw [siblingLoop_succ, he.depth]
  obtain ⟨r₃, h₃, cur₃, hr₃⟩ := passSubtree ctx D hd hc hsd (Int.le_refl D)
    (fun h₁ => skipForest ctx D kids hk hsk (Int.lt_succ D) h₁) _ (Nat.le_refl _)
  rw [hr₃]
  exact readPart_posAt ctx D sibs hs h₃ htail _ _

abbrev nonNull (i : Item) : Bool := !i.isNull

/-- the null entry that ends a child list is the only null item of a listing -/
theorem listing_filter_node (off : Nat) (D : Int) (d : Node) (kids sibs : Forest) (ht : d.tag ≠ 0) :
    (listing off D (.node d kids sibs)).filter nonNull =
      ⟨off, D, d.tag, d.children⟩ ::
        ((if d.children then (listing (off + (headBytes d).length) (D + 1) kids).filter nonNull else []) ++
          (listing (if d.children then off + (headBytes d).length + (encode kids).length + 1
            else off + (headBytes d).length) D sibs).filter nonNull) := by
  have hkeep : nonNull ⟨off, D, d.tag, d.children⟩ = true := by simp [nonNull, Item.isNull, ht]
  rw [listing, List.filter_cons, if_pos hkeep, List.filter_append]
  cases d.children
  · rfl
  · simp [nonNull, Item.isNull]

theorem siblingWalk_none (ctx : Ctx) (fuel : Nat) (c : Cursor) (h : c.current = none) :
    siblingWalk ctx (fuel + 1) c = ([], .ok ()) := by
  rw [siblingWalk, h]

theorem siblingWalk_leaf {ctx : Ctx} {fuel : Nat} {c c' : Cursor} {cur : Entry} {x : Option Entry}
    {es : List Entry} (hcur : c.current = some cur) (hc : cur.hasChildren = false)
    (hns : c.nextSibling ctx = .ok (x, c')) (hw : siblingWalk ctx fuel c' = (es, .ok ())) :
    siblingWalk ctx (fuel + 1) c = (cur :: es, .ok ()) := by
  rw [siblingWalk, hcur]
  simp only [hc, Bool.false_eq_true, if_false, hns, hw, List.nil_append]

theorem siblingWalk_children {ctx : Ctx} {fuel : Nat} {c c₁ c₂ : Cursor} {cur : Entry} {b : Bool}
    {x : Option Entry} {es₁ es₂ : List Entry} (hcur : c.current = some cur) (hc : cur.hasChildren = true)
    (hne : c.nextEntry ctx = .ok (b, c₁)) (hw₁ : siblingWalk ctx fuel c₁ = (es₁, .ok ()))
    (hns : c.nextSibling ctx = .ok (x, c₂)) (hw₂ : siblingWalk ctx fuel c₂ = (es₂, .ok ())) :
    siblingWalk ctx (fuel + 1) c = (cur :: (es₁ ++ es₂), .ok ()) := by
  rw [siblingWalk, hcur]
  simp only [hc, if_true, hne, hw₁, hns, hw₂]

theorem siblingWalk_forest (ctx : Ctx) : ∀ (g : Forest), ForestOK ctx g → ∀ (off : Nat), SibOK ctx off g →
    ∀ (D : Int) (tail : Bytes), (tail = [] ∨ ∃ t, tail = 0 :: t) → ∀ (c : Cursor), PosAt ctx c off D tail g →
    ∀ (fuel : Nat), count g < fuel →
    ∃ es, es.map Entry.item = (listing off D g).filter nonNull ∧ siblingWalk ctx fuel c = (es, .ok ()) := by
  intro g
  induction g with
  | nil =>
    intro _ off _ D tail _ c hc fuel hf
    obtain ⟨fuel, rfl⟩ := Nat.exists_eq_add_one_of_ne_zero (Nat.ne_zero_of_lt hf)
    exact ⟨[], rfl, siblingWalk_none ctx fuel c hc⟩
  | node d kids sibs ihk ihs =>
    intro hok off hsib D tail htail c hc fuel hf
    obtain ⟨fuel, rfl⟩ := Nat.exists_eq_add_one_of_ne_zero (Nat.ne_zero_of_lt hf)
    obtain ⟨hfs, hfk⟩ := count_node_lt hf
    obtain ⟨c2, hp2, hns⟩ := nextSibling_posAt ctx d kids sibs hok off hsib D tail htail c hc
    obtain ⟨hd, hk, hs⟩ := hok
    obtain ⟨es2, hl2, hw2⟩ := ihs hs _ hsib.2.2 D tail htail c2 hp2 fuel hfs
    obtain ⟨he, -, hpar⟩ := hc.next
    have hcur := Cursor.current_of_isNull_false (he.isNull hd)
    rw [listing_filter_node off D d kids sibs hd.2.2.1, ← he.item, ← hl2]
    cases hcd : d.children with
    | false => exact ⟨c.cur :: es2, rfl, siblingWalk_leaf hcur (he.hasChildren.trans hcd) hns hw2⟩
    | true =>
      obtain ⟨b, c1, hp1, hne1, -⟩ := nextEntry_posAt ctx (D + 1) kids hk (hpar hcd) (Or.inr ⟨_, rfl⟩) c.cur
      obtain ⟨es1, hl1, hw1⟩ := ihk hk _ hsib.2.1 (D + 1) (0 :: (encode sibs ++ tail)) (Or.inr ⟨_, rfl⟩) c1 hp1
        fuel (hfk hcd)
      refine ⟨c.cur :: (es1 ++ es2), ?_, siblingWalk_children hcur (he.hasChildren.trans hcd) hne1 hw1 hns hw2⟩
      rw [List.map_cons, List.map_append, hl1]
      rfl

theorem padding_filter_nonNull : ∀ (n oo : Nat) (dd : Int), (padding oo dd n).filter nonNull = [] := by
  intro n
  induction n with
  | zero => intro oo dd; rfl
  | succ n ih =>
    intro oo dd
    simp only [padding, List.filter_cons, nonNull, Item.isNull, decide_true, Bool.not_true,
      Bool.false_eq_true, if_false]
    exact ih _ _

open Gimli.Out

theorem siblingLoop_total (ctx : Ctx) (D : Int) : ∀ (fuel : Nat) (c : Cursor), c.raw.input.length < fuel →
    (Cursor.siblingLoop ctx D fuel c).Normal := by
  intro fuel
  induction fuel with
  | zero => intro c h; exact absurd h (Nat.not_lt_zero _)
  | succ fuel ih =>
    intro c h
    rw [siblingLoop_succ]
    have hs := seekStep_le c
    cases he : (seekStep c).raw.input.isEmpty with
    | true => rw [readPart_empty _ _ he]; trivial
    | false =>
      rw [readPart_read _ _ he]
      exact (readEntry_ensures _ _).bind_normal fun _ _ hlt =>
        Normal.ite trivial (ih _ (Nat.lt_of_lt_of_le hlt.1 (Nat.le_trans hs (Nat.le_of_lt_succ h))))

theorem nextSibling_total (ctx : Ctx) (c : Cursor) : (c.nextSibling ctx).Normal := by
  unfold Cursor.nextSibling
  split
  · trivial
  · exact siblingLoop_total ctx _ _ c (Nat.lt_succ_self _)

end Gimli.Die
