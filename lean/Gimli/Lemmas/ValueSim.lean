import Gimli.Spec.Machine
import Gimli.Lemmas.ValueWf
import Gimli.Lemmas.Ints
/-!
# C07 `eval_refines_partial`, the value level: every `Value` function the evaluator calls simulates its Spec counterpart

`Sim R x y` relates a Model outcome to a Spec outcome (a Spec `panic` is "unspecified": nothing is claimed). For values the
relation is "the Spec value is `absV a` of the Model value, which is a well-formed integer value" (`VOk`), written out
in each statement: the operations (`binaryOf_sim`, `unaryOf_sim`, from `binary_refines` / `unary_refines` and the `_vok`
lemmas), `to_u64`, `convert`, `reinterpret`, `Value::parse`. `Lemmas/Sim` (one operation of the machine) and
`Lemmas/SimRun` (answers) go through these for every `Value` function; for the values the machine makes itself
(constants, the `plus_uconst` and register offsets, the frame-base sum) they use `absV_generic`, `absV_pat`, `absV_wrap`,
`fromU64_ok` and `vok_generic` of `Lemmas/Value` and `Lemmas/ValueWf` directly.
-/
open Gimli Gimli.Op Gimli.Value Gimli.Spec.Expr

namespace Gimli.Sim
open Gimli.Spec

/-- `x` (Model) is simulated by `y` (Spec): equal outcome kind, related payloads. A Spec `panic` is
`unspecified`: nothing is claimed there. -/
def Sim {α β} (R : α → β → Prop) (x : Out α) (y : Out β) : Prop :=
  match x, y with
  | _, .panic _ => True
  | .ok a, .ok b => R a b
  | .err e, .err e' => e = e'
  | .diverge, .diverge => True
  | _, _ => False

theorem Sim.bind {α β α' β'} {R : α → β → Prop} {S : α' → β' → Prop} {x : Out α} {y : Out β}
    {f : α → Out α'} {g : β → Out β'} (h : Sim R x y) (hf : ∀ a b, R a b → Sim S (f a) (g b)) :
    Sim S (x >>= f) (y >>= g) := by
  cases y with
  | panic w => cases x <;> trivial
  | ok b =>
    cases x with
    | ok a => exact hf _ _ h
    | _ => exact h.elim
  | err e =>
    cases x with
    | err e' => exact h
    | _ => exact h.elim
  | diverge =>
    cases x with
    | diverge => trivial
    | _ => exact h.elim

theorem Sim.bind_eq {α α' β'} {S : α' → β' → Prop} (x : Out α) {f : α → Out α'} {g : α → Out β'}
    (hf : ∀ a, Sim S (f a) (g a)) : Sim S (x >>= f) (x >>= g) := by
  cases x with
  | ok a => exact hf a
  | err e => rfl
  | panic w => trivial
  | diverge => trivial

theorem Sim.ok {α β} {R : α → β → Prop} {a : α} {b : β} (h : R a b) : Sim R (.ok a) (.ok b) := h
theorem Sim.err {α β} {R : α → β → Prop} (e : Err) : Sim R (.err e : Out α) (.err e : Out β) := rfl
theorem Sim.unspec {α β} {R : α → β → Prop} (x : Out α) : Sim R x (Machine.unspecified : Out β) := by
  cases x <;> trivial

variable {a : Nat} {α β : Type} {S : α → β → Prop}

theorem sim_of_map_eq {R : α → β → Prop} (abs : α → β) {x : Out α} {y : Out β} (h : x.map abs = y)
    (hr : ∀ r, x = .ok r → R r (abs r)) : Sim R x y := by
  subst h
  cases x with
  | ok r => exact hr r rfl
  | err e => rfl
  | panic w => trivial
  | diverge => trivial

theorem binaryOf_sim (ha : AddrSize a) (op : BinOp) (x y : Value) (hx : VOk x) (hy : VOk y) :
    Sim (fun r sr => sr = absV a r ∧ VOk r) (binaryOf op x y (maskOf a)) (binary a op (absV a x) (absV a y)) :=
  sim_of_map_eq (absV a) (binary_refines a ha op x y hx.2 hy.1)
    (fun r hr => ⟨rfl, binaryOf_vok op x y r _ hx hy hr⟩)

theorem unaryOf_sim (ha : AddrSize a) (op : UnOp) (x : Value) (hx : VOk x) :
    Sim (fun r sr => sr = absV a r ∧ VOk r) (unaryOf op x (maskOf a)) (unary a op (absV a x)) :=
  sim_of_map_eq (absV a) (unary_refines a ha op x hx.2 hx.1) (fun r hr => ⟨rfl, unaryOf_vok op x r _ hx hr⟩)

theorem toU64_eq (ha : AddrSize a) (v : Value) (hv : WF v) :
    v.toU64 (maskOf a) = Machine.toNat64 (absV a v) := by
  by_cases iv : IsInt v
  · obtain ⟨u, hu, _, hp⟩ := toU64_bits ha v iv
    rw [hu, hp hv]
    exact (if_neg (isFloat_absV iv)).symm
  · obtain ⟨t, b⟩ := v
    cases t <;> first | rfl | exact absurd (fun h => nomatch h) iv

theorem Sim.bind_val {x : Out Value} {y : Out SVal} {f : Value → Out α} {g : SVal → Out β}
    (h : Sim (fun r sr => sr = absV a r ∧ VOk r) x y)
    (hf : ∀ r, VOk r → Sim S (f r) (g (absV a r))) : Sim S (x >>= f) (y >>= g) :=
  Sim.bind h (fun r _ hr => hr.1 ▸ hf r hr.2)

theorem pat64_emod (ha : AddrSize a) (t : ValueType) (i : Int) :
    ((pat 64 i : Nat) : Int) % 2 ^ width a t = i % 2 ^ width a t := by
  rw [pat_cast, Twos.emod_emod_pow (spec_width_le64 ha t)]

theorem convert_refines (a : Nat) (ha : AddrSize a) (v : Value) (hv : VOk v) (t : ValueType) (ht : t.kind ≠ .float) :
    ∃ r, v.convert t (maskOf a) = .ok r ∧ absV a r = convertInt a (absV a v) t ∧ VOk r := by
  obtain ⟨u, hu, _, hp⟩ := toU64_bits ha v hv.2
  have hc : v.convert t (maskOf a) = (v.toU64 (maskOf a) >>= fun u => fromU64 t u) := by
    obtain ⟨tv, b⟩ := v
    cases tv <;> first | rfl | exact absurd rfl hv.2
  rw [hc, hu, hp hv.1]
  exact fromU64_ok ha t ht _ (pat_lt 64 _) _ (pat64_emod ha t _)

theorem bitSize_width (a : Nat) (ha : AddrSize a) (t : ValueType) : Value.bitSize t (maskOf a) = width a t := by
  cases t
  case generic => exact maskBitSize_mask a ha
  all_goals rfl

theorem reinterpret_refines (a : Nat) (ha : AddrSize a) (v : Value) (hv : VOk v) (t : ValueType) (ht : t.kind ≠ .float) :
    Sim (fun r sr => sr = absV a r ∧ VOk r) (v.reinterpret t (maskOf a)) (reinterpretInt a (absV a v) t) := by
  -- for integer types: the size test, then `from_u64` of the pattern (sign extended for signed types)
  have hc : v.reinterpret t (maskOf a) =
      if Value.bitSize v.ty (maskOf a) ≠ Value.bitSize t (maskOf a) then .err .rTypeMismatch
      else fromU64 t (match v.ty.kind with | .sint => pat 64 (sval v.ty.width v.bits) | _ => v.bits) := by
    cases t <;> first | rfl | exact absurd rfl ht
  rw [hc, bitSize_width a ha, bitSize_width a ha]
  unfold reinterpretInt
  rw [show (absV a v).ty = v.ty from rfl]
  split
  · rfl
  · next hw =>
    -- the pattern: below `2^64`, and congruent to the value modulo the common width
    have hb : ∃ bits : Nat, (match v.ty.kind with | .sint => pat 64 (sval v.ty.width v.bits) | _ => v.bits) = bits ∧
        bits < 2 ^ 64 ∧ (bits : Int) % 2 ^ width a t = (absV a v).val % 2 ^ width a t := by
      rw [← Decidable.not_not.mp hw]
      obtain ⟨tv, b⟩ := v
      cases tv
      case f32 | f64 => exact absurd rfl hv.2
      case i8 | i16 | i32 | i64 => exact ⟨_, rfl, pat_lt 64 _, pat64_emod ha _ _⟩
      all_goals exact ⟨b, rfl, wf_lt64 _ hv.1, (absV_val_emod a ⟨_, b⟩).symm⟩
    obtain ⟨bits, hbits, hlt, hmod⟩ := hb
    rw [hbits]
    obtain ⟨r, hr, habs, hvr⟩ := fromU64_ok ha t ht bits hlt _ hmod
    rw [hr]
    exact ⟨habs.symm, hvr⟩

theorem readFixed_map {β} (e : Endian) (n : Nat) (bs : Bytes) (f : Nat → β) :
    (Ints.readFixed e n bs >>= fun p => pure (f p.1)) =
      if n ≤ bs.length then .ok (f (Ints.fromBytes e (bs.take n))) else .err .rUnexpectedEof := by
  unfold Ints.readFixed Ints.take
  split <;> rfl

theorem pow256_width (t : ValueType) : 256 ^ (t.width / 8) = 2 ^ t.width := by cases t <;> decide

theorem parse_refines (a : Nat) (e : Endian) (t : ValueType) (ht : t.kind ≠ .float) (bytes : Bytes) :
    Sim (fun r sr => sr = absV a r ∧ VOk r) (Value.parse e t bytes) (literalInt e a t bytes) := by
  by_cases htg : t = .generic
  · subst htg; rfl
  have hp : Value.parse e t bytes = if t.width / 8 ≤ bytes.length
      then .ok ⟨t, Ints.fromBytes e (bytes.take (t.width / 8))⟩ else .err .rUnexpectedEof := by
    cases t <;> first | exact absurd rfl htg | exact readFixed_map e _ bytes (Value.mk _)
  have hl : literalInt e a t bytes = if t.width / 8 ≤ bytes.length
      then .ok ⟨t, canon a t (Ints.fromBytes e (bytes.take (t.width / 8)))⟩ else .err .rUnexpectedEof := by
    cases t <;> first | exact absurd rfl htg | rfl
  rw [hp, hl]
  split
  · next hle =>
    have hlt := Ints.fromBytes_lt e (bytes.take (t.width / 8))
    rw [List.length_take, Nat.min_eq_left hle, pow256_width] at hlt
    exact ⟨(absV_eq_canon a t _ (.inr hlt) _ rfl).symm, hlt, ht⟩
  · rfl

end Gimli.Sim
