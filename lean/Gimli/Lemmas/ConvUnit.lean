import Gimli.Spec.ConvUnit
import Gimli.Lemmas.Out
/-!
# C12, unit component: the parent stack of `ConvertUnit::convert` rebuilds the forest

`runStack` is `convertEntries` without the attributes. Run over the depth-first listing of a forest
it leaves the stack below the forest's depth as it found it (`runStack_forest`), so every entry is
created under the id of its parent. Also: a failing conversion fails with the error of one attribute.
-/
namespace Gimli.ConvUnit
open Gimli Gimli.Attr Gimli.WUnit

/-- the id on top of the parent stack; the root's (0) when the stack is empty -/
def top (st : List (Int × Nat)) : Nat := match st with | (_, p) :: _ => p | [] => 0

/-- the structural part of `convertEntries`: (id, parent, tag) of every created entry and the
stack afterwards -/
def runStack (ids : Nat → Option Nat) : List RItem → List (Int × Nat) → List (Nat × Nat × Nat) × List (Int × Nat)
  | [], st => ([], st)
  | it :: rest, st =>
    let st1 := popParents it.depth st
    match ids it.off with
    | some i =>
      let st2 := if it.children then (it.depth, i) :: st1 else st1
      let r := runStack ids rest st2
      ((i, top st1, it.tag) :: r.1, r.2)
    | none => runStack ids rest st1

theorem runStack_append (ids : Nat → Option Nat) (l1 l2 : List RItem) (st : List (Int × Nat)) :
    runStack ids (l1 ++ l2) st =
      ((runStack ids l1 st).1 ++ (runStack ids l2 (runStack ids l1 st).2).1,
       (runStack ids l2 (runStack ids l1 st).2).2) := by
  induction l1 generalizing st with
  | nil => rfl
  | cons it rest ih =>
    simp only [List.cons_append, runStack]
    cases ids it.off with
    | none => exact ih _
    | some i => simp only; rw [ih]; rfl

theorem popParents_popParents {d e : Int} (hde : d ≤ e) (st : List (Int × Nat)) :
    popParents d (popParents e st) = popParents d st := by
  induction st with
  | nil => rfl
  | cons p rest ih =>
    obtain ⟨x, i⟩ := p
    by_cases hx : x < e
    · rw [popParents, if_pos hx]
    · rw [popParents, if_neg hx, ih, popParents, if_neg fun h => hx (Int.lt_of_lt_of_le h hde)]

theorem popParents_split (d : Int) :
    ∀ st : List (Int × Nat), ∃ x, st = x ++ popParents d st ∧ ∀ e ∈ x, d ≤ e.1
  | [] => ⟨[], rfl, nofun⟩
  | (e, i) :: st => by
    rw [popParents]
    split
    · exact ⟨[], rfl, nofun⟩
    · obtain ⟨x, hx, hg⟩ := popParents_split d st
      exact ⟨(e, i) :: x, congrArg _ hx, List.forall_mem_cons.mpr ⟨Int.not_lt.mp ‹_›, hg⟩⟩

/-- **The stack algorithm of `read_entry` reconstructs the forest.** Below depth `d` the stack is
the same after the forest as before it. -/
theorem runStack_forest_pop (ids : Nat → Option Nat) : ∀ (f : IForest) (d : Int) (st : List (Int × Nat)),
    f.WF → f.HasIds ids →
    (runStack ids (f.items d) st).1 = f.flatten (top (popParents d st)) ∧
    popParents d (runStack ids (f.items d) st).2 = popParents d st := by
  intro f
  induction f with
  | nil => exact fun _ _ _ _ => ⟨rfl, rfl⟩
  | node id tag ch off attrs kids sibs ihk ihs =>
    intro d st hwf hid
    obtain ⟨hch, hwk, hws⟩ := hwf
    obtain ⟨hi, hik, his⟩ := hid
    simp only [IForest.items, runStack, hi]
    rw [runStack_append]
    simp only [IForest.flatten]
    cases ch with
    | true =>
      simp only [if_true]
      -- the children see this entry on top of the stack; the siblings see the stack without it
      obtain ⟨k1, k2⟩ := ihk (d + 1) ((d, id) :: popParents d st) hwk hik
      have hpk : popParents (d + 1) ((d, id) :: popParents d st) = (d, id) :: popParents d st := by
        rw [popParents, if_pos (Int.lt_succ d)]
      rw [hpk] at k1 k2
      obtain ⟨s1, s2⟩ := ihs d
        (runStack ids (kids.items (d + 1)) ((d, id) :: popParents d st)).2 hws his
      have hps : popParents d (runStack ids (kids.items (d + 1)) ((d, id) :: popParents d st)).2 = popParents d st := by
        rw [← popParents_popParents (Int.le_add_one (Int.le_refl d)), k2, popParents, if_neg (Int.lt_irrefl d),
          popParents_popParents (Int.le_refl d)]
      rw [hps] at s1 s2
      exact ⟨by rw [k1, s1]; rfl, s2⟩
    | false =>
      simp only [Bool.false_eq_true, if_false]
      cases hch rfl
      simp only [IForest.items, runStack, IForest.flatten, List.nil_append]
      obtain ⟨s1, s2⟩ := ihs d (popParents d st) hws his
      rw [popParents_popParents (Int.le_refl d)] at s1 s2
      exact ⟨by rw [s1], s2⟩

theorem runStack_forest (ids : Nat → Option Nat) : ∀ (f : IForest) (d : Int) (st : List (Int × Nat)),
    f.WF → f.HasIds ids →
    (runStack ids (f.items d) st).1 = f.flatten (top (popParents d st)) ∧
    ∃ x, (runStack ids (f.items d) st).2 = x ++ popParents d st ∧ ∀ e ∈ x, d ≤ e.1 := fun f d st hwf hid =>
  have h := runStack_forest_pop ids f d st hwf hid
  ⟨h.1, h.2 ▸ popParents_split d _⟩

def Created.shape (c : Created) : Nat × Nat × Nat := (c.id, c.parent, c.tag)

theorem convertEntries_shape (cx : Ctx) (ids : Nat → Option Nat) (l : List RItem) (st : List (Int × Nat))
    (cs : List Created) (h : convertEntries cx ids l st = .ok cs) :
    cs.map Created.shape = (runStack ids l st).1 := by
  induction l generalizing st cs with
  | nil => cases h; rfl
  | cons it rest ih =>
    rw [convertEntries] at h
    simp only [runStack]
    cases hid : ids it.off with
    | none =>
      simp only [hid] at h ⊢
      exact ih _ cs h
    | some i =>
      simp only [hid] at h ⊢
      obtain ⟨as, _, h⟩ := Except.bind_eq_ok h
      obtain ⟨more, hm, h⟩ := Except.bind_eq_ok h
      cases h
      rw [List.map_cons, ih _ more hm]
      rfl

theorem convertAttrs_error (cx : Ctx) (l : List RAttr) (acc : List (Nat × AttrVal)) (e : CErr)
    (h : convertAttrs cx l acc = .error e) : ∃ a ∈ l, convertValue cx a = .error e := by
  induction l generalizing acc with
  | nil => cases h
  | cons a rest ih =>
    rw [convertAttrs] at h
    by_cases hn : a.name = DW_AT_GNU_locviews
    · rw [if_pos hn] at h
      exact (ih acc h).imp fun b hb => ⟨List.mem_cons_of_mem _ hb.1, hb.2⟩
    · rw [if_neg hn] at h
      rcases Except.bind_eq_error h with h | ⟨v, _, h⟩
      · exact ⟨a, List.mem_cons_self .., h⟩
      · exact (ih _ h).imp fun b hb => ⟨List.mem_cons_of_mem _ hb.1, hb.2⟩

theorem convertEntries_error (cx : Ctx) (ids : Nat → Option Nat) (l : List RItem) (st : List (Int × Nat))
    (e : CErr) (h : convertEntries cx ids l st = .error e) :
    ∃ it ∈ l, ∃ a ∈ it.attrs, convertValue cx a = .error e := by
  induction l generalizing st with
  | nil => cases h
  | cons it rest ih =>
    rw [convertEntries] at h
    cases hid : ids it.off with
    | none =>
      simp only [hid] at h
      exact (ih _ h).imp fun j hj => ⟨List.mem_cons_of_mem _ hj.1, hj.2⟩
    | some i =>
      simp only [hid] at h
      rcases Except.bind_eq_error h with h | ⟨as, _, h⟩
      · obtain ⟨a, ha, he⟩ := convertAttrs_error cx _ _ e h
        exact ⟨it, List.mem_cons_self .., a, (List.mem_filter.mp ha).1, he⟩
      · rcases Except.bind_eq_error h with h | ⟨more, _, h⟩
        · exact (ih _ h).imp fun j hj => ⟨List.mem_cons_of_mem _ hj.1, hj.2⟩
        · cases h

end Gimli.ConvUnit
