import Gimli.Model.ConvLists
import Gimli.Lemmas.WLists
/-! Conversion of a read list into a written one (C12). `convertEntry_ok` inverts a successful
conversion kind by kind. The converted entry adds to the meaning of the output list what the input
entry adds to the meaning of the input list, location description re-encoded (`convertEntry_contrib`, an
equation of `Lists.contrib`s); `convertEntries_meaning` follows entry by entry, entries dropped as empty
adding nothing. Last: a conversion never ends in `.crash` (`convertEntry_no_crash`), and the raw reader supplies `RawFits`
(`parseRaw_fits` … `rawAt_fits`). -/
namespace Gimli.ConvLists
open Gimli Gimli.Ints Gimli.Lists Gimli.WLists Gimli.Spec.Lists Gimli.Spec.WLists

/-- `convert_address` of an executable: every address is the constant it is
(`|a| Some(Address::Constant(a))`) -/
def IdConv (ca : Nat → Option Addr) : Prop := ∀ a, ca a = some (.const a)

/-- what the raw reader guarantees about an address-or-offset pair: both words were read with the
unit's address size -/
def RawFits (c : Cfg) : Entry → Prop
  | .pair b e _ => b < addrMod c.addrSize ∧ e < addrMod c.addrSize
  | _ => True

instance (c : Cfg) (x : Entry) : Decidable (RawFits c x) := by
  unfold RawFits; cases x <;> infer_instance

/-- a location description after conversion and re-encoding (`enc` = the bytes the converted
expression is written as); unchanged where the conversion fails -/
def gdata (k : Kind) (ce : Bytes → CR WExpr) (enc : WExpr → Bytes) (d : Bytes) : Bytes :=
  match convData k ce d with
  | .ok x => enc x
  | .error _ => d

def mapDenotData (g : Bytes → Bytes) : Denot → Denot
  | .range b e d => .range b e (g d)
  | .undefined => .undefined

variable {k : Kind} {c : Cfg} {ce : Bytes → CR WExpr} {addr : Bytes} {ab : Nat}

theorem ok_bind {ε α β : Type} (a : α) (f : α → Except ε β) : (Except.ok a >>= f) = f a := rfl

theorem convAddr_id (hid : IdConv ca) (a : Nat) : convAddr ca a = .ok (.const a) := by
  rw [convAddr, hid a]

theorem liftRead_ok {α : Type} {r : Out α} {a : α} (h : liftRead r = .ok a) : r = .ok a := by
  cases r <;> cases h; rfl

theorem unitAddress_ok {i a : Nat} (hs : ValidSize c.addrSize)
    (hlen : addr.length < 2 ^ 64) (h : unitAddress c addr ab i = .ok a) :
    tableOf c.endian c.addrSize addr ab i = some a := by
  have hg := liftRead_ok h
  rcases getAddress_lookup c addr ab i hs hlen with ⟨a', ht, hg'⟩ | ⟨_, e, hg'⟩
  · cases hg.symm.trans hg'; exact ht
  · cases hg.symm.trans hg'

theorem gdata_ok {enc : WExpr → Bytes} {d : Bytes} {x : WExpr}
    (h : convData k ce d = .ok x) : gdata k ce enc d = enc x := by
  rw [gdata, h]

/-- What a successful conversion of one entry did, kind by kind (identity `convert_address`): the
entry of the same name, with looked-up addresses for indexed entries; an address pair becomes an
`OffsetPair` or a `StartEnd` according to `have_base_address`, which only base-address entries raise. -/
theorem convertEntry_ok {hb hb' : Bool} {x : Entry} {w : WEntry} (hid : IdConv ca)
    (h : convertEntry k c ca ce addr ab hb x = .ok (w, hb')) :
    match (generalizing := false) x with
    | .pair b e d => hb' = hb ∧ ∃ x', convData k ce d = .ok x' ∧
        w = if hb then .offsetPair b e x' else .startEnd (.const b) (.const e) x'
    | .baseAddress a => hb' = true ∧ w = .baseAddress (.const a)
    | .baseAddressx i => hb' = true ∧ ∃ a, unitAddress c addr ab i = .ok a ∧ w = .baseAddress (.const a)
    | .startxEndx b e d => hb' = hb ∧ ∃ b0 e0 x', unitAddress c addr ab b = .ok b0 ∧
        unitAddress c addr ab e = .ok e0 ∧ convData k ce d = .ok x' ∧ w = .startEnd (.const b0) (.const e0) x'
    | .startxLength b len d => hb' = hb ∧ ∃ b0 x', unitAddress c addr ab b = .ok b0 ∧
        convData k ce d = .ok x' ∧ w = .startLength (.const b0) len x'
    | .offsetPair b e d => hb' = hb ∧ ∃ x', convData k ce d = .ok x' ∧ w = .offsetPair b e x'
    | .defaultLocation d => hb' = hb ∧ ∃ x', convData k ce d = .ok x' ∧ w = .defaultLocation x'
    | .startEnd b e d => hb' = hb ∧ ∃ x', convData k ce d = .ok x' ∧ w = .startEnd (.const b) (.const e) x'
    | .startLength b len d => hb' = hb ∧ ∃ x', convData k ce d = .ok x' ∧ w = .startLength (.const b) len x' := by
  have A := convAddr_id hid
  cases x with
  | pair b e d =>
    simp only [convertEntry, A, ok_bind] at h
    obtain ⟨x', hx, h⟩ := Except.bind_eq_ok h
    cases hb <;> cases h <;> exact ⟨rfl, x', hx, rfl⟩
  | baseAddress a =>
    simp only [convertEntry, A, ok_bind] at h
    cases h; exact ⟨rfl, rfl⟩
  | baseAddressx i =>
    simp only [convertEntry, A, ok_bind] at h
    obtain ⟨a, ha, h⟩ := Except.bind_eq_ok h
    cases h; exact ⟨rfl, a, ha, rfl⟩
  | startxEndx b e d =>
    simp only [convertEntry, A, ok_bind] at h
    obtain ⟨b0, hb0, h⟩ := Except.bind_eq_ok h
    obtain ⟨e0, he0, h⟩ := Except.bind_eq_ok h
    obtain ⟨x', hx, h⟩ := Except.bind_eq_ok h
    cases h; exact ⟨rfl, b0, e0, x', hb0, he0, hx, rfl⟩
  | startxLength b l d =>
    simp only [convertEntry, A, ok_bind] at h
    obtain ⟨b0, hb0, h⟩ := Except.bind_eq_ok h
    obtain ⟨x', hx, h⟩ := Except.bind_eq_ok h
    cases h; exact ⟨rfl, b0, x', hb0, hx, rfl⟩
  | offsetPair b e d | defaultLocation d =>
    obtain ⟨x', hx, h⟩ := Except.bind_eq_ok h
    cases h; exact ⟨rfl, x', hx, rfl⟩
  | startEnd b e d | startLength b l d =>
    simp only [convertEntry, A, ok_bind] at h
    obtain ⟨x', hx, h⟩ := Except.bind_eq_ok h
    cases h; exact ⟨rfl, x', hx, rfl⟩

/-- One step of the list resolution: the converted entry adds to the meaning of the output list
(no address table) what the input entry adds to the meaning of the input list, location description
re-encoded (`base` is 0 unless there is a base address). -/
theorem convertEntry_contrib {hb hb' : Bool} {x : Entry} {w : WEntry} (enc : WExpr → Bytes)
    (hid : IdConv ca) (hs : ValidSize c.addrSize) (hlen : addr.length < 2 ^ 64) (hfit : RawFits c x)
    (h : convertEntry k c ca ce addr ab hb x = .ok (w, hb')) (base : Nat) (hbase : hb = false → base = 0) :
    ((contrib c.addrSize (tableOf c.endian c.addrSize addr ab) base x).1,
        (contrib c.addrSize (tableOf c.endian c.addrSize addr ab) base x).2.map
          (mapDenotData (gdata k ce enc))) =
      contrib c.addrSize noTable base (asBuilt enc w) ∧
    (hb' = false → (contrib c.addrSize noTable base (asBuilt enc w)).1 = 0) := by
  have hx := convertEntry_ok hid h
  have T := fun {i a} => unitAddress_ok (ab := ab) (i := i) (a := a) hs hlen
  -- the result, if the range is kept, carries the re-encoded description
  have M : ∀ {d : Bytes} {x' : WExpr} (b e : Nat) (rel : Bool), convData k ce d = .ok x' →
      (if Keep c.addrSize base b e rel then [Denot.range b e d] else []).map (mapDenotData (gdata k ce enc)) =
        if Keep c.addrSize base b e rel then [.range b e (enc x')] else [] := by
    intro d x' b e rel hd
    rw [← gdata_ok (enc := enc) hd]
    split <;> rfl
  cases x with
  | pair b e d =>
    obtain ⟨rfl, x', hd, rfl⟩ := hx
    cases hb' with
    | true => exact ⟨by simp only [contrib, resolve1, asBuilt, if_true, M _ _ _ hd], nofun⟩
    | false =>
      cases hbase rfl
      rw [contrib_pair_zero _ _ hs hfit.1 hfit.2]
      exact ⟨by simp only [contrib, resolve1, asBuilt, addrVal, Bool.false_eq_true, if_false, M _ _ _ hd],
        fun _ => rfl⟩
  | baseAddress a =>
    obtain ⟨rfl, rfl⟩ := hx
    exact ⟨rfl, nofun⟩
  | baseAddressx i =>
    obtain ⟨rfl, a, ha, rfl⟩ := hx
    simp only [contrib, resolve1, T ha]
    exact ⟨rfl, nofun⟩
  | startxEndx b e d =>
    obtain ⟨rfl, b0, e0, x', h1, h2, hd, rfl⟩ := hx
    exact ⟨by simp only [contrib, resolve1, asBuilt, addrVal, T h1, T h2, M _ _ _ hd], hbase⟩
  | startxLength b l d =>
    obtain ⟨rfl, b0, x', h1, hd, rfl⟩ := hx
    exact ⟨by simp only [contrib, resolve1, asBuilt, addrVal, T h1, M _ _ _ hd], hbase⟩
  | offsetPair b e d | defaultLocation d | startEnd b e d | startLength b l d =>
    obtain ⟨rfl, x', hd, rfl⟩ := hx
    exact ⟨by simp only [contrib, resolve1, asBuilt, addrVal, M _ _ _ hd], hbase⟩

theorem contrib_empty (s : Nat) (enc : WExpr → Bytes) (w : WEntry) (h : isEmptyEntry w = true) (base : Nat) :
    contrib s noTable base (asBuilt enc w) = (base, []) := by
  have notKept : ∀ {b e rel}, e ≤ b → ¬ Keep s base b e rel :=
    fun h hk => Nat.lt_irrefl _ (Nat.lt_of_lt_of_le hk.2.2 h)
  cases w with
  | baseAddress a => cases h
  | defaultLocation x => cases h
  | offsetPair b e x | startEnd b e x =>
    cases (of_decide_eq_true h : b = e)
    simp only [asBuilt, contrib, resolve1, if_neg (notKept (Nat.le_refl _))]
  | startLength b len x =>
    cases (of_decide_eq_true h : len = 0)
    simp only [asBuilt, contrib, resolve1, Nat.add_zero, if_neg (notKept (Nat.mod_le _ _))]

theorem convertEntries_cons_ok {hb : Bool} {x : Entry} {rest : List (Ev Entry)} {out : WList}
    (h : convertEntries k c ca ce addr ab hb (.item x :: rest) = .ok out) :
    ∃ w hb' ws, convertEntry k c ca ce addr ab hb x = .ok (w, hb') ∧
      convertEntries k c ca ce addr ab hb' rest = .ok ws ∧
      out = if isEmptyEntry w then ws else w :: ws := by
  obtain ⟨⟨w, hb'⟩, h1, h⟩ := Except.bind_eq_ok h
  obtain ⟨ws, h2, h⟩ := Except.bind_eq_ok h
  cases h
  exact ⟨w, hb', ws, h1, h2, rfl⟩

theorem convertEntries_meaning (enc : WExpr → Bytes)
    (hid : IdConv ca) (hs : ValidSize c.addrSize) (hlen : addr.length < 2 ^ 64) :
    ∀ (l : List Entry) (hb : Bool) (base : Nat) (out : WList), (hb = false → base = 0) →
      (∀ x ∈ l, RawFits c x) →
      convertEntries k c ca ce addr ab hb (l.map .item) = .ok out →
      (resolveList c.addrSize (tableOf c.endian c.addrSize addr ab) base l).map
          (mapDenotData (gdata k ce enc)) =
        resolveList c.addrSize noTable base (out.map (asBuilt enc))
  | [], hb, base, out, _, _, h => by cases h; rfl
  | x :: xs, hb, base, out, hbase, hfit, h => by
    obtain ⟨w, hb', ws, h1, h2, rfl⟩ := convertEntries_cons_ok h
    obtain ⟨r1, hbase'⟩ := convertEntry_contrib enc hid hs hlen (hfit x (List.mem_cons_self ..)) h1 base hbase
    have ih := convertEntries_meaning enc hid hs hlen xs hb' _ ws hbase'
      (fun y hy => hfit y (List.mem_cons_of_mem _ hy)) h2
    have ra := congrArg Prod.fst r1
    have rb := congrArg Prod.snd r1
    dsimp only at ra rb
    rw [resolveList_cons, List.map_append, ra, ih, rb]
    split
    · rename_i hw
      rw [contrib_empty _ enc w hw]; rfl
    · rw [List.map_cons, resolveList_cons]

theorem convertEntries_ok_items : ∀ (evs : List (Ev Entry)) (hb : Bool) (out : WList),
    convertEntries k c ca ce addr ab hb evs = .ok out → ∃ l : List Entry, evs = l.map .item
  | [], _, _, _ => ⟨[], rfl⟩
  | .error e :: rest, hb, out, h => by cases h
  | .item x :: rest, hb, out, h => by
    obtain ⟨w, hb', ws, _, h2, _⟩ := convertEntries_cons_ok h
    obtain ⟨l, hl⟩ := convertEntries_ok_items rest hb' ws h2
    exact ⟨x :: l, by rw [hl]; rfl⟩

theorem bind_no_crash {α β : Type} {x : CR α} {f : α → CR β} (hx : x ≠ .error .crash)
    (hf : ∀ a, f a ≠ .error .crash) : (x >>= f) ≠ .error .crash := by
  cases x with
  | ok a => exact hf a
  | error e => exact fun h => hx (by cases h; rfl)

theorem convertEntry_no_crash (hce : ∀ d, ce d ≠ .error .crash) (hb : Bool) (x : Entry) :
    convertEntry k c ca ce addr ab hb x ≠ .error .crash := by
  have hA : ∀ a, convAddr ca a ≠ .error .crash := by
    intro a; unfold convAddr; split <;> exact nofun
  have hU : ∀ i, unitAddress c addr ab i ≠ .error .crash := by
    intro i
    rcases Out.Normal.ok_or_err (getAddress_normal c addr ab i) with ⟨a, h⟩ | ⟨e, h⟩ <;>
      rw [unitAddress, h] <;> exact nofun
  have hD : ∀ d, convData k ce d ≠ .error .crash := by
    intro d; cases k
    · exact nofun
    · exact hce d
  have ok : ∀ {α : Type} (a : α), (pure a : CR α) ≠ .error .crash := fun _ => nofun
  cases x with
  | pair b e d =>
    refine bind_no_crash (hA b) fun b' => bind_no_crash (hA e) fun e' => bind_no_crash (hD d) fun x => ?_
    split
    · split
      · exact ok _
      · exact nofun
    · exact ok _
  | baseAddress a => exact bind_no_crash (hA a) fun _ => ok _
  | baseAddressx i => exact bind_no_crash (hU i) fun a => bind_no_crash (hA a) fun _ => ok _
  | startxEndx b e d =>
    exact bind_no_crash (hU b) fun b0 => bind_no_crash (hA b0) fun _ => bind_no_crash (hU e) fun e0 =>
      bind_no_crash (hA e0) fun _ => bind_no_crash (hD d) fun _ => ok _
  | startxLength b l d =>
    exact bind_no_crash (hU b) fun b0 => bind_no_crash (hA b0) fun _ => bind_no_crash (hD d) fun _ => ok _
  | offsetPair b e d | defaultLocation d => exact bind_no_crash (hD d) fun _ => ok _
  | startEnd b e d =>
    exact bind_no_crash (hA b) fun _ => bind_no_crash (hA e) fun _ => bind_no_crash (hD d) fun _ => ok _
  | startLength b l d => exact bind_no_crash (hA b) fun _ => bind_no_crash (hD d) fun _ => ok _

theorem parseRaw_fits (k : Kind) (c : Cfg) (f : Fmt) (bs : Bytes) (x : Entry) (rest : Bytes)
    (h : parseRaw k c f bs = .ok (some x, rest)) : RawFits c x := by
  cases x with
  | pair b e d =>
    cases bs with
    | nil => exact absurd h (parseRaw_nil _ _ _ _)
    | cons t r =>
      exact ((ens_parseRaw k c f t r).2 _ h).2
  | _ => trivial

theorem rawRun_fits {f : Fmt} {bs : Bytes} {evs : List (Ev Entry)}
    (h : RawRun k c f bs evs) : ∀ x, Ev.item x ∈ evs → RawFits c x := by
  induction h with
  | empty => exact fun _ hx => nomatch hx
  | done _ => exact fun _ hx => nomatch hx
  | error _ => exact fun _ hx => by cases List.mem_singleton.mp hx
  | item hp _ ih =>
    intro y hy
    rcases List.mem_cons.mp hy with hy | hy
    · cases hy; exact parseRaw_fits _ _ _ _ _ _ hp
    · exact ih y hy

theorem rawAt_fits (k : Kind) (c : Cfg) (dwo : Bool) (legacy v5 : Bytes) (offset : Nat)
    (evs : List (Ev Entry)) (h : rawAt k c dwo legacy v5 offset = .ok evs) :
    ∀ x, Ev.item x ∈ evs → RawFits c x := by
  rw [rawAt_eq] at h
  generalize (if (sectionFormat k c.version dwo).1 then legacy else v5) = sec at h
  split at h
  · cases h
  · exact rawRun_fits (rawFuel_run k c _ _ _ evs h)

end Gimli.ConvLists
