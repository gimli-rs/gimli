import Gimli.Lemmas.Leb
/-! The 16-bit ULEB128 reader (`leb128::read::u16`) accepts the canonical encoding of every 16-bit
value — needed for `DW_FORM_indirect` (C03). -/
namespace Gimli.Leb
open Gimli Gimli.Spec

theorem sizeUFuel_le (fuel : Nat) : ∀ k v, v < 128 ^ (k + 1) → sizeUFuel fuel v ≤ k + 1 := by
  induction fuel with
  | zero => intro k v _; exact Nat.zero_le _
  | succ n ih =>
    intro k v hv
    rw [sizeUFuel]
    split
    · omega
    · cases k with
      | zero => omega
      | succ k =>
        have := ih k (v / 128) (by rw [Nat.div_lt_iff_lt_mul (by decide)]; rwa [Nat.pow_succ] at hv)
        omega

theorem u16_roundtrip (c : Nat) (hc : c < 2 ^ 16) (rest : Bytes) : u16 (encodeU c ++ rest) = .ok (c, rest) := by
  obtain ⟨henc, hval, _, _, hsz⟩ := encodeU_spec c (by omega)
  have hlen : (encodeU c).length ≤ 3 := hsz ▸ sizeUFuel_le 10 2 c (by omega)
  simpa [hval] using u16_complete (encodeU c) rest henc hlen (by omega)

theorem reads_u16 {c : Nat} (hc : c < 2 ^ 16) : Reads u16 (encodeU c) c := u16_roundtrip c hc

end Gimli.Leb
