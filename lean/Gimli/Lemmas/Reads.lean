import Gimli.Prim.Basic
/-!
# Byte-list readers: "`rd` takes `w` off the front and returns `v`"

A reader is a function `Bytes → Out (α × Bytes)`. `Reads rd w v` says that on any input beginning with `w` it
returns `v` and what follows `w`: the form every write-then-read statement has. The rules follow the shape of a
reader's text (`>>=` along `++`, the `if bad { return Err(e) }` checks, an optional field), so that a round trip is a
term that mirrors the reader; `Lemmas/Leb` and `Lemmas/Ints` state each primitive in this form (`reads_…`).
A trap: `Reads.opt` and `Reads.ite` (like `Out.Ensures.ite_cases`) match a reader that writes the branch in parentheses,
`let x ← (if c then … else … : Out _)` (as Model/Line.lean's `parseHeader` does); the bare `let x ← if c then … else …`
elaborates to a `do` join point with the continuation copied into both arms, which no rule matches before it is rewritten.
-/
namespace Gimli

def Reads {α : Type} (rd : Bytes → Out (α × Bytes)) (w : Bytes) (v : α) : Prop :=
  ∀ rest, rd (w ++ rest) = .ok (v, rest)

namespace Reads
variable {α β : Type} {rd : Bytes → Out (α × Bytes)} {k : α × Bytes → Out (β × Bytes)}
  {w w' : Bytes} {v : α} {r : β}

theorem bind (h1 : Reads rd w v) (h2 : Reads (fun bs => k (v, bs)) w' r) :
    Reads (fun bs => rd bs >>= k) (w ++ w') r := fun rest =>
  show rd (w ++ w' ++ rest) >>= k = _ from (List.append_assoc .. ▸ h1 (w' ++ rest)) ▸ h2 rest

/-- the last read: what is built from its value leaves the remaining bytes alone -/
theorem map (h1 : Reads rd w v) (hk : ∀ bs, k (v, bs) = .ok (r, bs)) : Reads (fun bs => rd bs >>= k) w r :=
  fun rest => show rd (w ++ rest) >>= k = _ from h1 rest ▸ hk rest

/-- a branch not taken, in particular the `if bad { return Err(e) }` checks between two reads -/
theorem ite_neg {c : Prop} [Decidable c] {a : Bytes → Out (α × Bytes)} (hc : ¬ c) (h : Reads rd w v) :
    Reads (fun bs => if c then a bs else rd bs) w v := fun rest => (if_neg hc).trans (h rest)

/-- a field that is there under condition `c` only, and reads as the default `d` when it is not -/
theorem opt {c : Prop} [Decidable c] {d : α} (h : Reads rd w v) (hd : ¬ c → v = d) :
    Reads (fun bs => if c then rd bs else .ok (d, bs)) (if c then w else []) v := by
  split
  · exact h
  · exact hd ‹_› ▸ fun _ => rfl

/-- two layouts of the same field, chosen by `c` on both sides -/
theorem ite {c : Prop} [Decidable c] {rd' : Bytes → Out (α × Bytes)} {v' : α} (h : c → Reads rd w v)
    (h' : ¬ c → Reads rd' w' v') :
    Reads (fun bs => if c then rd bs else rd' bs) (if c then w else w') (if c then v else v') := by
  split
  · exact h ‹_›
  · exact h' ‹_›

theorem pure (v : α) : Reads (fun bs => .ok (v, bs)) [] v := fun _ => rfl

theorem congr {rd' : Bytes → Out (α × Bytes)} (h : Reads rd w v) (hrd : ∀ bs, rd' bs = rd bs) : Reads rd' w v :=
  fun rest => (hrd _).trans (h rest)

end Reads

/-- `Reads` for a reader whose result keeps what remains inside it (a header with its program buffer): it
returns `k rest` -/
def ReadsTo {α : Type} (rd : Bytes → Out α) (w : Bytes) (k : Bytes → α) : Prop :=
  ∀ rest, rd (w ++ rest) = .ok (k rest)

namespace ReadsTo
variable {α γ : Type} {rd : Bytes → Out (α × Bytes)} {f : α × Bytes → Out γ} {w w' : Bytes} {v : α} {k : Bytes → γ}

theorem bind (h1 : Reads rd w v) (h2 : ReadsTo (fun bs => f (v, bs)) w' k) :
    ReadsTo (fun bs => rd bs >>= f) (w ++ w') k := fun rest =>
  show rd (w ++ w' ++ rest) >>= f = _ from (List.append_assoc .. ▸ h1 (w' ++ rest)) ▸ h2 rest

theorem map (h1 : Reads rd w v) (hf : ∀ bs, f (v, bs) = .ok (k bs)) : ReadsTo (fun bs => rd bs >>= f) w k :=
  fun rest => show rd (w ++ rest) >>= f = _ from h1 rest ▸ hf rest

theorem ite_neg {c : Prop} [Decidable c] {a rd : Bytes → Out γ} (hc : ¬ c) (h : ReadsTo rd w k) :
    ReadsTo (fun bs => if c then a bs else rd bs) w k := fun rest => (if_neg hc).trans (h rest)

end ReadsTo
end Gimli
