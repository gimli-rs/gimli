import Gimli.Lemmas.CfiPointer
/-!
# Encoded CIEs, FDEs and sections parse to what they encode

The statements here are about the fuel-indexed loops at any offset (`next_encoded`, `entries_encoded`, `parseRest_encoded`); on the
Model's entry points (`entriesOf`, a whole `encodeFrameSection`) they are `Props.C05.entries_roundtrip` and `fde_bound_roundtrip`.
-/
namespace Gimli.CfiEntry
open Gimli Gimli.Ints Gimli.Spec.Frame

theorem lengthField_length (e : Endian) (f : Format) (n : Nat) : (lengthField e f n).length = lsz f := by
  cases f <;> simp [lengthField, lsz, toBytes_length]

theorem lsz_pos (f : Format) : 4 ≤ lsz f := by cases f <;> simp [lsz]

theorem reads_lengthField (e : Endian) {f : Format} {n : Nat} (h : LenOk f n) :
    Reads (readInitialLength e 64) (lengthField e f n) (n, f) :=
  Ints.reads_lengthField e h

theorem readCieId_toBytes (c : Cfg) (f : Format) (o id : Nat) (body : Bytes) (hid : id < 256 ^ idSize c.eh f) :
    readCieId c f ⟨o, toBytes c.e (idSize c.eh f) id ++ body⟩ = .ok (id, ⟨o + idSize c.eh f, body⟩) := by
  have := fun k (h : id < 256 ^ k) => (reads_fixed c.e k h).lift o body
  simp only [toBytes_length] at this
  unfold readCieId
  by_cases hc : c.eh ∨ f = .dwarf32
  · rw [show idSize c.eh f = 4 from if_pos hc] at hid ⊢
    rw [if_pos hc]; exact this 4 hid
  · rw [show idSize c.eh f = 8 from if_neg hc] at hid ⊢
    rw [if_neg hc]; exact this 8 hid

theorem parsePrefix_encoded (c : Cfg) (f : Format) (off id : Nat) (body rest : Bytes)
    (hid : id < 256 ^ idSize c.eh f) (hL : LenOk f (idSize c.eh f + body.length)) :
    parsePrefix c ⟨off, lengthField c.e f (idSize c.eh f + body.length) ++
        (toBytes c.e (idSize c.eh f) id ++ body) ++ rest⟩ =
      .ok (some { offset := off, length := idSize c.eh f + body.length, format := f,
                  cieOffsetBase := off + lsz f, cieIdOrOffset := id,
                  rest := ⟨off + lsz f + idSize c.eh f, body⟩ },
           ⟨off + lsz f + (idSize c.eh f + body.length), rest⟩) := by
  have hpos : idSize c.eh f + body.length ≠ 0 := by unfold idSize; split <;> omega
  have hlen : (toBytes c.e (idSize c.eh f) id ++ body).length = idSize c.eh f + body.length := by
    simp [toBytes_length]
  unfold parsePrefix
  rw [List.append_assoc, (reads_lengthField c.e hL).lift]
  simp only [Out.bind_ok, hpos, if_false, lengthField_length]
  rw [← hlen, split_append, hlen]
  simp only [Out.bind_ok, readCieId_toBytes c f _ id body hid, Out.pure_eq]

theorem cstr_append (s t : Bytes) (h : ∀ b, b ∈ s → b ≠ 0) : cstr (s ++ 0 :: t) = some (s, t) := by
  induction s with
  | nil => simp [cstr]
  | cons b s ih =>
    have hb : b ≠ 0 := h b (by simp)
    simp only [List.cons_append, cstr, hb, if_false]
    rw [ih (fun x hx => h x (by simp [hx]))]

theorem augChars_nonzero (ci : ACie) : ∀ b, b ∈ ci.augString → b ≠ 0 := by
  intro b hb
  unfold ACie.augString at hb
  split at hb
  · simp at hb
  · simp only [List.mem_cons, List.mem_map] at hb
    rcases hb with h | ⟨a, _, h⟩
    · rw [h]; decide
    · rw [← h]; cases a <;> simp [AugArg.char]

theorem readCstr_aug (ci : ACie) (o : Nat) (t : Bytes) :
    readCstr ⟨o, ci.augString ++ 0 :: t⟩ = .ok (ci.augString, ⟨o + ci.augString.length + 1, t⟩) := by
  unfold readCstr
  simp only [cstr_append _ _ (augChars_nonzero ci)]

theorem cieAddressSize_enc (c : Cfg) (ci : ACie) (o : Nat) (t : Bytes)
    (hasz : ci.asz = 1 ∨ ci.asz = 2 ∨ ci.asz = 4 ∨ ci.asz = 8) :
    cieAddressSize c ci.version ⟨o, ci.aszBytes c.eh ++ t⟩ =
      .ok (cieAsz c ci, ⟨o + (if ¬ c.eh ∧ ci.version = 4 then 2 else 0), t⟩) := by
  unfold cieAddressSize ACie.aszBytes cieAsz
  split
  · have := (reads_addressSize c.e hasz).lift o (0 :: t)
    simp only [toBytes_one, List.cons_append, List.nil_append, List.length_cons, List.length_nil] at this ⊢
    rw [this]
    simp [u8_cons]
  · simp

theorem cieRar_enc (ci : ACie) (o : Nat) (t : Bytes)
    (hrar : if ci.version = 1 then ci.rar < 256 else ci.rar < 2 ^ 16) :
    cieRar ci.version ⟨o, ci.rarBytes ++ t⟩ = .ok (ci.rar, ⟨o + ci.rarBytes.length, t⟩) := by
  unfold cieRar ACie.rarBytes
  split
  · rename_i h1
    rw [if_pos h1] at hrar
    simp [u8_cons, UInt8.toNat_ofNat_of_lt' hrar]
  · rename_i h1
    rw [if_neg h1] at hrar
    rw [(Leb.reads_unsigned (v := ci.rar) (by omega)).lift]
    simp [hrar]

theorem augLoop_arg (m : Mode) (e : Endian) (bases : Bases) (asz : Nat) (h1 : 1 ≤ asz) (h8 : asz ≤ 8)
    (s d : Bytes) (input : Rd) (arg : AugArg) (a : Aug) (o : Nat) (a' : Aug) (o' : Nat)
    (hw : ArgWF e bases.ehFrame asz arg) (h : applyArg e bases.ehFrame asz a o arg = some (a', o')) :
    augLoop m e bases asz (arg.char :: s) true a (some ⟨o, arg.data e asz ++ d⟩) input =
      augLoop m e bases asz s true a' (some ⟨o', d⟩) input := by
  cases arg with
  | lsda enc | fdeEnc enc =>
    cases h
    simp only [AugArg.char, AugArg.data, augLoop, UInt8.reduceToNat, Nat.reduceEqDiff, reduceIte,
      List.cons_append, List.nil_append, parsePointerEncoding_byte o enc _ hw.1 hw.2, Out.bind_ok]
  | signal =>
    cases h
    simp only [AugArg.char, AugArg.data, augLoop, UInt8.reduceToNat, Nat.reduceEqDiff, reduceIte,
      List.nil_append]
  | pers enc x =>
    obtain ⟨hlt, hv, ho, hal, hsome⟩ := hw
    obtain ⟨bytes, hbytes⟩ := Option.isSome_iff_exists.mp hsome
    simp only [applyArg] at h
    cases hb : neededBase enc ⟨bases.ehFrame, none, asz⟩ (o + 1) with
    | none => rw [hb] at h; cases h
    | some b =>
      rw [hb, hbytes] at h
      cases h
      simp only [AugArg.char, AugArg.data, augLoop, UInt8.reduceToNat, Nat.reduceEqDiff, reduceIte,
        List.cons_append, parsePointerEncoding_byte o enc _ hlt hv, Out.bind_ok, hbytes, Option.getD_some,
        pep_roundtrip m e enc ⟨bases.ehFrame, none, asz⟩ (o + 1) x b bytes _ hv ho hal h1 h8 hb hbytes]

theorem augLoop_args (m : Mode) (e : Endian) (bases : Bases) (asz : Nat) (h1 : 1 ≤ asz) (h8 : asz ≤ 8)
    (s drest : Bytes) (input : Rd) :
    ∀ (args : List AugArg) (a : Aug) (o : Nat) (a' : Aug) (o' : Nat),
      (∀ arg, arg ∈ args → ArgWF e bases.ehFrame asz arg) →
      applyArgs e bases.ehFrame asz args a o = some (a', o') →
      augLoop m e bases asz (args.map AugArg.char ++ s) true a
          (some ⟨o, args.flatMap (AugArg.data e asz) ++ drest⟩) input =
        augLoop m e bases asz s true a' (some ⟨o', drest⟩) input := by
  intro args
  induction args with
  | nil => intro a o a' o' _ h; cases h; rfl
  | cons arg t ih =>
    intro a o a' o' hwf h
    simp only [applyArgs] at h
    cases hs : applyArg e bases.ehFrame asz a o arg with
    | none => rw [hs] at h; cases h
    | some x =>
      rw [hs] at h
      rw [List.map_cons, List.cons_append, List.flatMap_cons, List.append_assoc,
        augLoop_arg m e bases asz h1 h8 _ _ input arg a o x.1 x.2 (hwf arg (by simp)) hs]
      exact ih _ _ _ _ (fun y hy => hwf y (by simp [hy])) h

theorem cieAug_enc (c : Cfg) (bases : Bases) (ci : ACie) (o o0 : Nat) (t : Bytes)
    (hasz : ci.asz = 1 ∨ ci.asz = 2 ∨ ci.asz = 4 ∨ ci.asz = 8)
    (hargs : ∀ arg, arg ∈ ci.args → ArgWF c.e bases.ehFrame ci.asz arg)
    (hdata : (ci.augData c.e).length < 2 ^ 64)
    (hdo : ci.args.isEmpty = false → o + (Leb.encodeU (ci.augData c.e).length).length = ci.dataOff c o0)
    (hbase : (applyArgs c.e bases.ehFrame ci.asz ci.args {} (ci.dataOff c o0)).isSome = true) :
    cieAug c bases ci.asz ci.augString ⟨o, ci.augBlock c.e ++ t⟩ =
      .ok (ci.expectAug c bases o0,
        ⟨if ci.args.isEmpty then o else ci.dataOff c o0 + (ci.augData c.e).length, t⟩) := by
  unfold cieAug ACie.augString ACie.augBlock ACie.expectAug
  by_cases hemp : ci.args.isEmpty = true
  · simp [hemp]
  · have hne : ci.args.isEmpty = false := by simpa using hemp
    obtain ⟨⟨a', o'⟩, hap⟩ := Option.isSome_iff_exists.mp hbase
    -- `z`: the length and the block; then the arguments, read from the block; then the padding is left
    have hloop := augLoop_args c.m c.e bases ci.asz (by omega) (by omega) [] ci.augPad
      ⟨ci.dataOff c o0 + (ci.augData c.e).length, t⟩ ci.args {} (ci.dataOff c o0) a' o' hargs hap
    rw [List.append_nil, ← ACie.augData] at hloop
    simp only [hne, Bool.false_eq_true, if_false, List.isEmpty_cons, augLoop, UInt8.reduceToNat, if_true]
    rw [List.append_assoc, (Leb.reads_unsigned hdata).lift]
    simp only [Out.bind_ok, split_append, hdo hne, hloop, augLoop, Out.pure_eq, hap, Option.map_some]

theorem cieFromPrefix_encoded (c : Cfg) (bases : Bases) (ci : ACie) (p : Prefix) (o : Nat)
    (hp : p.rest = ⟨o, ci.fields c.eh c.e⟩) (hw : ci.WF c bases o) :
    cieFromPrefix c bases p =
      .ok { offset := p.offset, length := p.length, format := p.format, version := ci.version,
            aug := ci.expectAug c bases o, asz := cieAsz c ci, caf := ci.caf, daf := ci.daf, rar := ci.rar,
            instr := ⟨ci.instrOff c o, ci.instr⟩ } := by
  obtain ⟨hver, hasz, hsame, hcaf, hdaf, hrar, hargs, hbase, hdata⟩ := hw
  have hca : cieAsz c ci = ci.asz := by
    unfold cieAsz
    split
    · rfl
    · rename_i h; exact (hsame h).symm
  have hoff : o + 1 + ci.augString.length + 1 + (if ¬c.eh = true ∧ ci.version = 4 then 2 else 0) +
      (Leb.encodeU ci.caf).length + (Leb.encodeS ci.daf).length + ci.rarBytes.length = ci.afterRar c o := rfl
  unfold cieFromPrefix
  rw [hp, ACie.fields, u8_cons, UInt8.toNat_ofNat_of_lt' (show ci.version < 256 by omega)]
  simp only [Out.bind_ok]
  rw [if_neg (by simp [hver]), readCstr_aug]
  simp only [Out.bind_ok, cieAddressSize_enc c ci _ _ hasz, (Leb.reads_unsigned hcaf).lift, (Leb.reads_signed hdaf.1 hdaf.2).lift,
    cieRar_enc ci _ _ hrar, hca, hoff,
    cieAug_enc c bases ci (ci.afterRar c o) o ci.instr hasz hargs hdata (fun _ => rfl) hbase, Out.pure_eq,
    ACie.instrOff]

theorem cieIdField_eq (c : Cfg) (f : Format) :
    cieIdField c.eh c.e f = toBytes c.e (idSize c.eh f) (cieIdVal c.eh f) ∧
    cieIdVal c.eh f < 256 ^ idSize c.eh f ∧ isCie c f (cieIdVal c.eh f) = true := by
  unfold cieIdField idSize cieIdVal isCie
  cases c.eh <;> cases f <;> simp

theorem encodeCie_eq (c : Cfg) (ci : ACie) :
    encodeCie c.eh c.e ci =
      lengthField c.e ci.format (idSize c.eh ci.format + (ci.fields c.eh c.e).length) ++
        (toBytes c.e (idSize c.eh ci.format) (cieIdVal c.eh ci.format) ++ ci.fields c.eh c.e) := by
  simp only [encodeCie, (cieIdField_eq c ci.format).1, List.length_append, toBytes_length]

theorem encodeCie_length (c : Cfg) (ci : ACie) : (encodeCie c.eh c.e ci).length = ci.size c.eh c.e := by
  simp [encodeCie_eq, lengthField_length, toBytes_length, ACie.size]

theorem cie_prefix (c : Cfg) (bases : Bases) (ci : ACie) (off : Nat) (rest : Bytes)
    (hw : ci.WF c bases (off + lsz ci.format + idSize c.eh ci.format))
    (hL : LenOk ci.format (idSize c.eh ci.format + (ci.fields c.eh c.e).length)) :
    ∃ p, parsePrefix c ⟨off, encodeCie c.eh c.e ci ++ rest⟩ = .ok (some p, ⟨off + ci.size c.eh c.e, rest⟩) ∧
      isCie c p.format p.cieIdOrOffset = true ∧ cieFromPrefix c bases p = .ok (ci.expect c bases off) := by
  obtain ⟨-, hid, hcie⟩ := cieIdField_eq c ci.format
  have hpre := parsePrefix_encoded c ci.format off (cieIdVal c.eh ci.format) (ci.fields c.eh c.e) rest hid hL
  have hsz : off + lsz ci.format + (idSize c.eh ci.format + (ci.fields c.eh c.e).length) = off + ci.size c.eh c.e :=
    Nat.add_assoc ..
  rw [← encodeCie_eq, hsz] at hpre
  refine ⟨_, hpre, hcie, ?_⟩
  exact cieFromPrefix_encoded c bases ci _ _ rfl hw

theorem parseCfiEntry_cie (c : Cfg) (bases : Bases) (ci : ACie) (off : Nat) (rest : Bytes)
    (hw : ci.WF c bases (off + lsz ci.format + idSize c.eh ci.format))
    (hL : LenOk ci.format (idSize c.eh ci.format + (ci.fields c.eh c.e).length)) :
    parseCfiEntry c bases ⟨off, encodeCie c.eh c.e ci ++ rest⟩ =
      .ok (some (.cie (ci.expect c bases off)), ⟨off + ci.size c.eh c.e, rest⟩) := by
  obtain ⟨p, hp, hc, hf⟩ := cie_prefix c bases ci off rest hw hL
  simp only [parseCfiEntry, hp, Out.bind_ok, hc, if_true, hf, Out.pure_eq]

theorem cieFromOffset_encoded (c : Cfg) (bases : Bases) (ci : ACie) (pre post : Bytes)
    (hw : ci.WF c bases (pre.length + lsz ci.format + idSize c.eh ci.format))
    (hL : LenOk ci.format (idSize c.eh ci.format + (ci.fields c.eh c.e).length)) :
    cieFromOffset c bases (pre ++ encodeCie c.eh c.e ci ++ post) pre.length =
      .ok (ci.expect c bases pre.length) := by
  obtain ⟨p, hp, hc, hf⟩ := cie_prefix c bases ci pre.length post hw hL
  rw [cieFromOffset, List.append_assoc, skip_append, Nat.zero_add]
  simp only [Out.bind_ok, hp, hc, not_true_eq_false, if_false]
  exact hf

theorem parseAddresses_encoded (c : Cfg) (bases : Bases) (cie : Cie) (fd : AFde) (fdeOff : Nat) (t : Bytes)
    (hw : fd.WF c bases cie fdeOff) :
    parseAddresses c cie { bases := bases.ehFrame, funcBase := none, asz := cie.asz }
        ⟨fd.addrOff c.eh fdeOff, fd.addrBytes c.e cie ++ t⟩ =
      .ok ((fd.initial c bases cie fdeOff, fd.range),
           ⟨fd.addrOff c.eh fdeOff + (fd.addrBytes c.e cie).length, t⟩) := by
  have ha := hw.haddr
  unfold parseAddresses AFde.addrBytes AFde.initial
  cases henc : cie.aug.bind (·.fdeEnc) with
  | some enc =>
    rw [henc] at ha
    simp only at ha ⊢
    rw [List.append_assoc, pep_ptrOk c.m c.e enc _ _ _ _ ha.1]
    simp only [Out.bind_ok, pev_some c.e enc cie.asz fd.range _ t ha.2, Out.pure_eq, ptr_new_pointer,
      List.length_append, Nat.add_assoc]
  | none =>
    rw [henc] at ha
    obtain ⟨hasz, hi, hr⟩ := ha
    have hrd : ∀ x, x < 2 ^ (8 * cie.asz) → Reads (readAddress c.e cie.asz) (toBytes c.e cie.asz x) x :=
      fun x hx => reads_address_fixed c.e hasz (by rwa [pow256])
    simp only
    rw [List.append_assoc, (hrd _ hi).lift]
    simp only [Out.bind_ok, (hrd _ hr).lift, Out.pure_eq, List.length_append, toBytes_length,
      Nat.add_assoc]

theorem fdeAugData_encoded (c : Cfg) (bases : Bases) (cie : Cie) (fd : AFde) (fdeOff : Nat)
    (hw : fd.WF c bases cie fdeOff) :
    fdeAugData c cie { bases := bases.ehFrame, funcBase := none, asz := cie.asz } (fd.initial c bases cie fdeOff)
        ⟨fd.addrOff c.eh fdeOff + (fd.addrBytes c.e cie).length, fd.augBlock c.e cie ++ fd.instr⟩ =
      .ok (fd.lsda c bases cie fdeOff, ⟨fd.instrOff c cie fdeOff, fd.instr⟩) := by
  have hl := hw.hlsda
  unfold fdeAugData AFde.augBlock AFde.lsda AFde.instrOff
  cases haug : cie.aug with
  | none => simp
  | some a =>
    simp only [haug, Option.bind_some] at hl ⊢
    have hoff : fd.addrOff c.eh fdeOff + (fd.addrBytes c.e cie).length +
        (Leb.encodeU (fd.augData c.e cie).length).length = fd.lsdaOff c cie fdeOff := rfl
    rw [List.append_assoc, (Leb.reads_unsigned hw.hdata).lift]
    simp only [Out.bind_ok, split_append, hoff]
    cases hle : a.lsda with
    | none => simp
    | some enc =>
      simp only [hle] at hl ⊢
      have hdat : fd.augData c.e cie = (encodeOperand c.e enc cie.asz fd.lsdaOp).getD [] ++ fd.augPad := by
        simp [AFde.augData, AFde.lsdaBytes, haug, hle]
      rw [hdat, pep_ptrOk c.m c.e enc ⟨bases.ehFrame, some (fd.initial c bases cie fdeOff), cie.asz⟩ _ _ _ hl]
      simp only [Out.bind_ok, Out.pure_eq]

theorem parseRest_encoded (c : Cfg) (bases : Bases) (sec : Bytes) (cie : Cie) (fd : AFde) (fdeOff : Nat)
    (hcie : cieFromOffset c bases sec cie.offset = .ok cie)
    (hw : fd.WF c bases cie fdeOff) :
    parseRest c bases sec (fd.expectPartial c cie fdeOff) = .ok (fd.expect c bases cie fdeOff) := by
  unfold parseRest AFde.expectPartial
  simp only [hcie, Out.bind_ok, AFde.fields, parseAddresses_encoded c bases cie fd fdeOff _ hw,
    fdeAugData_encoded c bases cie fd fdeOff hw, Out.pure_eq, AFde.expect]

theorem encodeFde_length (c : Cfg) (cie : Cie) (fd : AFde) (off : Nat) :
    (encodeFde c.eh c.e cie off fd).length = fd.size c.eh c.e cie := by
  simp [encodeFde, lengthField_length, toBytes_length, AFde.size]

theorem parseCfiEntry_fde (c : Cfg) (bases : Bases) (cie : Cie) (fd : AFde) (off : Nat) (rest : Bytes)
    (hw : fd.WF c bases cie off) :
    parseCfiEntry c bases ⟨off, encodeFde c.eh c.e cie off fd ++ rest⟩ =
      .ok (some (.fde (fd.expectPartial c cie off)), ⟨off + fd.size c.eh c.e cie, rest⟩) := by
  unfold parseCfiEntry encodeFde
  simp only [List.length_append, toBytes_length]
  rw [parsePrefix_encoded c fd.format off (ciePtrVal c.eh fd.format off cie.offset) (fd.fields c.e cie) rest
    hw.hptr hw.hlen]
  simp only [Out.bind_ok, hw.hnotcie, Bool.false_eq_true, if_false]
  -- the CIE pointer resolves to the CIE's offset: back from the pointer field in `.eh_frame`
  have hco : resolveCieOffset c (off + lsz fd.format) (ciePtrVal c.eh fd.format off cie.offset) =
      some cie.offset := by
    unfold resolveCieOffset ciePtrVal
    by_cases heh : c.eh = true
    · have := hw.hback heh
      simp only [heh, if_true]
      rw [if_pos (by omega)]
      congr 1
      omega
    · simp [heh]
  simp only [partialFromPrefix, hco, Out.bind_ok, Out.pure_eq, AFde.size, Nat.add_assoc, AFde.expectPartial,
    AFde.addrOff]

def entryBytes (eh : Bool) (e : Endian) (off : Nat) : AEntry → Bytes
  | .cie ci => encodeCie eh e ci
  | .fde cie fd => encodeFde eh e cie off fd
  | .zero f => lengthField e f 0

theorem encodeEntries_cons (eh : Bool) (e : Endian) (off : Nat) (en : AEntry) (t : List AEntry) :
    encodeEntries eh e off (en :: t) = entryBytes eh e off en ++ encodeEntries eh e (off + en.size eh e) t := by
  cases en <;> rfl

theorem entryBytes_length (c : Cfg) (off : Nat) (en : AEntry) :
    (entryBytes c.eh c.e off en).length = en.size c.eh c.e := by
  cases en with
  | cie ci => exact encodeCie_length c ci
  | fde k fd => exact encodeFde_length c k fd off
  | zero f => exact lengthField_length c.e f 0

theorem size_ge_four (eh : Bool) (e : Endian) (en : AEntry) : 4 ≤ en.size eh e := by
  cases en with
  | cie ci => have := lsz_pos ci.format; simp only [AEntry.size, ACie.size]; omega
  | fde k fd => have := lsz_pos fd.format; simp only [AEntry.size, AFde.size]; omega
  | zero f => exact lsz_pos f

theorem encodeEntries_length_eq (c : Cfg) :
    ∀ (es : List AEntry) (off : Nat), (encodeEntries c.eh c.e off es).length = totalSize c.eh c.e es
  | [], _ => rfl
  | en :: t, off => by
    rw [encodeEntries_cons, List.length_append, entryBytes_length, encodeEntries_length_eq c t, totalSize]

theorem encodeEntries_length (c : Cfg) : ∀ (es : List AEntry) (off : Nat),
    es.length ≤ (encodeEntries c.eh c.e off es).length := by
  intro es
  induction es with
  | nil => intro off; exact Nat.zero_le _
  | cons en t ih =>
    intro off
    have := ih (off + en.size c.eh c.e)
    have := size_ge_four c.eh c.e en
    rw [encodeEntries_cons, List.length_append, entryBytes_length, List.length_cons]
    omega

theorem encodeEntries_append (c : Cfg) (es2 : List AEntry) : ∀ (es1 : List AEntry) (off : Nat),
    encodeEntries c.eh c.e off (es1 ++ es2) =
      encodeEntries c.eh c.e off es1 ++ encodeEntries c.eh c.e (off + totalSize c.eh c.e es1) es2
  | [], _ => rfl
  | en :: t, off => by
    rw [List.cons_append, encodeEntries_cons, encodeEntries_cons, encodeEntries_append c es2 t, totalSize,
      List.append_assoc, Nat.add_assoc]

theorem entriesWF_tail {c : Cfg} {bases : Bases} {off : Nat} {en : AEntry} {t : List AEntry}
    (h : EntriesWF c bases off (en :: t)) : EntriesWF c bases (off + en.size c.eh c.e) t := by
  cases en with
  | cie ci => exact h.2.2
  | fde k fd => exact h.2
  | zero f => exact h.2

theorem entriesWF_drop (c : Cfg) (bases : Bases) (es2 : List AEntry) : ∀ (es1 : List AEntry) (off : Nat),
    EntriesWF c bases off (es1 ++ es2) → EntriesWF c bases (off + totalSize c.eh c.e es1) es2
  | [], _, h => h
  | en :: t, off, h => by
    rw [totalSize, ← Nat.add_assoc]
    exact entriesWF_drop c bases es2 t _ (entriesWF_tail h)

theorem cieFromOffset_section (c : Cfg) (bases : Bases) (es1 es2 : List AEntry) (ci : ACie) (term : Option Format)
    (hwf : EntriesWF c bases 0 (es1 ++ .cie ci :: es2)) :
    cieFromOffset c bases (encodeFrameSection c.eh c.e (es1 ++ .cie ci :: es2) term) (totalSize c.eh c.e es1) =
      .ok (ci.expect c bases (totalSize c.eh c.e es1)) := by
  obtain ⟨hw, hL, -⟩ := entriesWF_drop c bases _ es1 0 hwf
  rw [Nat.zero_add] at hw
  rw [encodeFrameSection, encodeEntries_append, encodeEntries_cons, entryBytes, List.append_assoc,
    List.append_assoc, ← List.append_assoc _ (encodeCie _ _ _), ← encodeEntries_length_eq c es1 0] at *
  exact cieFromOffset_encoded c bases ci _ _ hw hL

theorem isEmpty_append_of_length {bs t : Bytes} (h : 4 ≤ bs.length) : (bs ++ t).isEmpty = false := by
  cases bs with
  | nil => cases h
  | cons b bs => rfl

theorem next_some (c : Cfg) (bases : Bases) (k : Nat) (r r' : Rd) (en : Entry)
    (hne : r.bs.isEmpty = false) (h : parseCfiEntry c bases r = .ok (some en, r')) :
    next c bases (k + 1) r = .ok (some en, r') := by
  simp only [next, hne, Bool.false_eq_true, if_false, h]

theorem next_zero (c : Cfg) (bases : Bases) (k : Nat) (f : Format) (off : Nat) (rest : Bytes) :
    next c bases (k + 1) ⟨off, lengthField c.e f 0 ++ rest⟩ =
      if c.eh then .ok (none, ⟨off + lsz f, []⟩) else next c bases k ⟨off + lsz f, rest⟩ := by
  have hne := isEmpty_append_of_length (t := rest) (lengthField_length c.e f 0 ▸ lsz_pos f)
  have hz : parseCfiEntry c bases ⟨off, lengthField c.e f 0 ++ rest⟩ = .ok (none, ⟨off + lsz f, rest⟩) := by
    have hL : LenOk f 0 := by cases f <;> simp [LenOk]
    unfold parseCfiEntry parsePrefix
    rw [(reads_lengthField c.e hL).lift]
    simp [lengthField_length]
  simp only [next, hne, Bool.false_eq_true, if_false, hz]

/-- what `CfiEntriesIter::next` returns on the encoded entries `es` laid out from `off` -/
def nextSpec (c : Cfg) (bases : Bases) (term : Option Format) : Nat → List AEntry → Option Entry × Rd
  | off, [] => (none, match term with
      | none => ⟨off, []⟩
      | some f => ⟨off + lsz f, []⟩)
  | off, .zero f :: t => nextSpec c bases term (off + lsz f) t
  | off, .cie ci :: t => (some (.cie (ci.expect c bases off)),
      ⟨off + ci.size c.eh c.e, encodeEntries c.eh c.e (off + ci.size c.eh c.e) t ++ terminatorBytes c.e term⟩)
  | off, .fde k fd :: t => (some (.fde (fd.expectPartial c k off)),
      ⟨off + fd.size c.eh c.e k, encodeEntries c.eh c.e (off + fd.size c.eh c.e k) t ++ terminatorBytes c.e term⟩)

/-- fuel is spent only on zero length fields: one unit for each, and one for the terminator -/
theorem next_encoded (c : Cfg) (bases : Bases) (term : Option Format) :
    ∀ (es : List AEntry) (off k : Nat), es.length + (if term.isSome then 1 else 0) < k →
      EntriesWF c bases off es →
      next c bases k ⟨off, encodeEntries c.eh c.e off es ++ terminatorBytes c.e term⟩ =
        .ok (nextSpec c bases term off es) := by
  intro es
  induction es with
  | nil =>
    intro off k hk _
    obtain ⟨k, rfl⟩ : ∃ k', k = k' + 1 := ⟨k - 1, by omega⟩
    cases term with
    | none => rfl
    | some f =>
      obtain ⟨k, rfl⟩ : ∃ k', k = k' + 1 := ⟨k - 1, by simp at hk; omega⟩
      have := next_zero c bases (k + 1) f off []
      rw [List.append_nil] at this
      rw [encodeEntries, List.nil_append, terminatorBytes, this]
      cases c.eh <;> rfl
  | cons en t ih =>
    intro off k hk hwf
    obtain ⟨k, rfl⟩ : ∃ k', k = k' + 1 := ⟨k - 1, by omega⟩
    have hne := isEmpty_append_of_length (t := encodeEntries c.eh c.e (off + en.size c.eh c.e) t ++
      terminatorBytes c.e term) (entryBytes_length c off en ▸ size_ge_four c.eh c.e en)
    rw [encodeEntries_cons, List.append_assoc]
    cases en with
    | cie ci => exact next_some c bases k _ _ _ hne (parseCfiEntry_cie c bases ci off _ hwf.1 hwf.2.1)
    | fde kc fd => exact next_some c bases k _ _ _ hne (parseCfiEntry_fde c bases kc fd off _ hwf.1)
    | zero f =>
      rw [entryBytes, next_zero, if_neg (by simp [hwf.1])]
      exact ih _ _ (by simp at hk; omega) hwf.2

theorem entries_encoded (c : Cfg) (bases : Bases) (term : Option Format) :
    ∀ (es : List AEntry) (off fuel : Nat), es.length < fuel → EntriesWF c bases off es →
      entries c bases fuel ⟨off, encodeEntries c.eh c.e off es ++ terminatorBytes c.e term⟩ =
        (expectEntries c bases off es, .ok ()) := by
  have hnext : ∀ (es : List AEntry) (off : Nat), EntriesWF c bases off es →
      next c bases ((encodeEntries c.eh c.e off es ++ terminatorBytes c.e term).length + 1)
        ⟨off, encodeEntries c.eh c.e off es ++ terminatorBytes c.e term⟩ = .ok (nextSpec c bases term off es) := by
    intro es off hwf
    apply next_encoded c bases term es off _ _ hwf
    have h1 := encodeEntries_length c es off
    have h2 : (if term.isSome then 1 else 0) ≤ (terminatorBytes c.e term).length := by
      cases term with
      | none => exact Nat.zero_le _
      | some f => have := lsz_pos f; simp only [terminatorBytes, lengthField_length]; simp; omega
    rw [List.length_append]
    omega
  intro es
  induction es with
  | nil =>
    intro off fuel hf hwf
    obtain ⟨fuel, rfl⟩ : ∃ k, fuel = k + 1 := ⟨fuel - 1, by omega⟩
    rw [entries, hnext [] off hwf]
    rfl
  | cons en t ih =>
    intro off fuel hf hwf
    obtain ⟨fuel, rfl⟩ : ∃ k, fuel = k + 1 := ⟨fuel - 1, by omega⟩
    have hft : t.length < fuel := by simp at hf; omega
    have hrest := ih _ _ hft (entriesWF_tail hwf)
    rw [entries, hnext _ off hwf]
    cases en with
    | cie ci => simp only [nextSpec, expectEntries, AEntry.size] at hrest ⊢; rw [hrest]
    | fde k fd => simp only [nextSpec, expectEntries, AEntry.size] at hrest ⊢; rw [hrest]
    | zero f =>
      -- a skipped field yields nothing: the result is that of the rest, computed with one more unit of fuel
      have := ih (off + lsz f) (fuel + 1) (by omega) hwf.2
      rw [entries, hnext t (off + lsz f) hwf.2] at this
      exact this

end Gimli.CfiEntry
