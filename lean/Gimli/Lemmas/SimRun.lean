import Gimli.Lemmas.Sim
import Gimli.Lemmas.EvalRun
/-!
# C07 `eval_refines_partial`, part 2: the loop, answers, whole runs from a fresh evaluator
-/
open Gimli Gimli.Op Gimli.Value Gimli.Spec.Expr

namespace Gimli.Sim
open Gimli.Spec
open Gimli.Eval (Mach Config Eval Request Waiting OpResult Location Piece Answer)
open Gimli.Spec.Machine (SState SCfg SLoc SPiece Effect SAnswer unspecified)

variable {a : Nat} {c : Config} {sc : SCfg} {m : Mach} {s : SState}

theorem finish_sim (hc : CfgRel a c sc) (h : R a m s) :
    Sim (R a) (Eval.finish c m) (Machine.finish s) := by
  unfold Eval.finish Machine.finish
  rw [← h.pieces]
  cases hr : m.result with
  | nil =>
    refine pop_bind_sim h (fun v _ v1 r1 => toU64_bind_sim hc v1.1 (fun n => ?_))
    rw [pushPiece_heap hc.caps]
    exact { r1 with value := rfl, pieces := by rw [hr]; rfl }
  | cons p ps => exact h

theorem afterComplete_sim (hc : CfgRel a c sc) (loc : Location) (h : R a m s) :
    Sim (fun (p : Mach × Bool) (s' : SState) => R a p.1 s')
      (Eval.afterComplete c loc m) (Machine.afterLocation sc (absLoc a loc) s) := by
  unfold Eval.afterComplete Machine.afterLocation
  obtain ⟨b, m', s', he, hs, hR⟩ := endOfExpression_sim h
  rw [he, hs]
  cases b
  · -- more operations: the next one must be a piece
    refine fetch_bind_sim hc hR (fun op rest s2 _ r2 => ?_)
    simp only []
    split
    · rw [pushPiece_heap hc.caps]
      exact r2.pushPiece ⟨some _, _, loc⟩
    · next hne =>
      split
      · exact (hne _ _ rfl).elim
      · rfl
  · show Sim _ (match m'.result with | [] => _ | _ => _) (match s'.pieces with | [] => _ | _ => _)
    rw [← hR.pieces]
    cases hr : m'.result with
    | nil =>
      rw [pushPiece_heap hc.caps]
      exact { hR with pieces := by rw [hr]; rfl }
    | cons p ps => rfl

def ResRel (a : Nat) (c : Config) (p : Request × Eval) (q : Request × Option Waiting × SState) : Prop :=
  q.1 = p.1 ∧ R a p.2.m q.2.2 ∧ p.2.cfg = c ∧
    (match q.2.1 with
     | none => p.2.state = .complete
     | some w => p.2.state = .waiting w)

theorem run_sim (hc : CfgRel a c sc) (hmax : c.maxIterations = none) :
    ∀ (fuel : Nat) (s : Eval) (st : SState), s.cfg = c → R a s.m st →
      Sim (ResRel a c) (Eval.evaluateInternal fuel s) (Machine.run sc fuel st) := by
  intro fuel
  induction fuel with
  | zero => intro s st _ _; trivial
  | succ fuel ih =>
    intro s st hcfg h
    rw [Eval.evaluateInternal, Machine.run]
    unfold Eval.loopBody
    obtain ⟨b, m', st', he, hs, hR⟩ := endOfExpression_sim h
    rw [he, hs, hcfg]
    cases b
    · -- execute one operation
      show Sim _ (match Eval.overLimit c.maxIterations s.iteration with | true => _ | false => _) _
      rw [hmax]
      show Sim _ (Eval.evaluateOneOperation c m' >>= _) _
      unfold Eval.evaluateOneOperation
      rw [Out.bind_assoc]
      refine fetch_bind_sim hc hR (fun op rest st2 hok r2 => ?_)
      refine Sim.bind (exec_sim hc op hok r2) (fun ⟨res, m3⟩ eff hE => ?_)
      -- `EffRel` pairs each Model result with one Spec effect; any other pair is `False`
      cases res with
      | piece =>
        cases eff with
        | piece st3 => exact ih _ _ rfl hE
        | _ => exact hE.elim
      | incomplete =>
        cases eff with
        | «continue» st3 =>
          -- stop if the expression has ended after the last piece
          obtain ⟨b2, m4, st4, he2, hs2, hR2⟩ := endOfExpression_sim hE
          simp only [Eval.afterOp]
          rw [he2, hs2]
          simp only []
          -- both sides test the flag and whether there are pieces: `st4.pieces` is the image of `m4.result`
          rw [← hR2.pieces]
          cases b2
          · rw [if_neg (fun hh => Bool.false_ne_true hh.1)]; exact ih _ _ rfl hR2
          · cases m4.result with
            | nil => rw [if_neg (fun hh => hh.2 rfl)]; exact ih _ _ rfl hR2
            | cons p ps => rw [if_pos ⟨rfl, fun hh => nomatch hh⟩]; rfl
        | _ => exact hE.elim
      | complete loc =>
        cases eff with
        | location sl st3 =>
          obtain ⟨el, hR3⟩ := hE
          cases el
          exact Sim.bind (afterComplete_sim hc _ hR3) (fun _ _ hR4 => ih _ _ rfl hR4)
        | _ => exact hE.elim
      | waiting w r =>
        cases eff with
        | request w' r' st3 =>
          obtain ⟨ew, er, hR3⟩ := hE
          cases ew; cases er
          exact ⟨rfl, hR3, rfl, rfl⟩
        | _ => exact hE.elim
    · -- end of the expression
      exact Sim.bind (finish_sim hc hR) (fun m2 st2 hR2 => ⟨rfl, hR2, rfl, rfl⟩)


def absAnswer (a : Nat) : Answer → SAnswer
  | .memory v => .memory (absV a v)
  | .register v => .register (absV a v)
  | .wasmValue v => .wasmValue (absV a v)
  | .entryValue v => .entryValue (absV a v)
  | .frameBase n => .frameBase n
  | .tls n => .tls n
  | .callFrameCfa n => .callFrameCfa n
  | .parameterRef n => .parameterRef n
  | .relocatedAddress n => .relocatedAddress n
  | .indexedAddress n => .indexedAddress n
  | .atLocation b => .atLocation b
  | .baseType t => .baseType t

/-- answers the theorem speaks about: integer values that fit their type, `u64` numbers,
expressions shorter than `2^63` bytes -/
def AnsOk : Answer → Prop
  | .memory v | .register v | .wasmValue v | .entryValue v => VOk v
  | .frameBase n | .tls n | .callFrameCfa n | .parameterRef n | .relocatedAddress n | .indexedAddress n => n < 2 ^ 64
  | .atLocation b => b.length < 2 ^ 63
  | .baseType _ => True

theorem abs_frame_base (ha : AddrSize a) (hsa : sc.a = a) (fb : Nat) (off : Int) :
    absV a ⟨.generic, (fb + pat 64 off) % 2 ^ 64⟩ = Machine.gen sc ((fb : Int) + off) := by
  unfold Machine.gen
  rw [hsa]
  refine absV_wrap ha .generic _ _ ?_
  push_cast
  exact add_congr _ _ _ _ _ rfl (pat64_emod ha .generic off)

theorem push_value_sim (hc : CfgRel a c sc) {v : Value} (hv : VOk v) (h : R a m s) :
    Sim (R a) (Eval.push c v m) (Machine.pushValue (absV a v) s) := by
  unfold Machine.pushValue
  rw [if_neg (isFloat_absV hv.2)]
  exact push_ok_sim hc hv h rfl

theorem push_gen_sim (hc : CfgRel a c sc) {n : Nat} (hn : n < 2 ^ 64) (h : R a m s) :
    Sim (R a) (Eval.push c (Value.generic n) m) (.ok (Machine.push (Machine.gen sc n) s)) :=
  push_ok_sim hc (vok_generic n hn) h (abs_generic_nat (sc_a hc) n)

theorem isFloat_kind {t : ValueType} (hf : ¬ isFloat t = true) : t.kind ≠ .float := by
  cases t <;> first | exact absurd rfl hf | decide

theorem applyAnswer_sim (hc : CfgRel a c sc) (w : Waiting) (ans : Answer) (hans : AnsOk ans) (h : R a m s) :
    Sim (R a) (Eval.applyAnswer c w ans m) (Machine.applyAnswer sc w (absAnswer a ans) s) := by
  have hsa := sc_a hc
  -- for each pending request the matching answer; any other is outside the protocol on both sides
  cases w
  case memory | entryValue | wasmValue =>
    cases ans <;> first | exact Sim.unspec _ | exact push_value_sim hc hans h
  case tls | cfa | parameterRef | relocatedAddress | indexedAddress =>
    cases ans <;> first | exact Sim.unspec _ | exact push_gen_sim hc hans h
  case frameBase off =>
    cases ans
    case frameBase fb =>
      exact push_ok_sim hc (vok_generic _ (Nat.mod_lt _ (by decide))) h (abs_frame_base hc.addr hsa fb off)
    all_goals exact Sim.unspec _
  case register off =>
    cases ans
    case register v =>
      show Sim _ (Value.fromU64 v.ty (pat 64 off) >>= fun o => v.add o c.addrMask >>= fun r => Eval.push c r m)
        (if isFloat (absV a v).ty then _ else binary sc.a .add (absV a v) ⟨v.ty, canon sc.a v.ty off⟩ >>= _)
      rw [if_neg (isFloat_absV hans.2), hc.mask, hsa]
      obtain ⟨rhs, hf, habs, hvr⟩ := fromU64_ok hc.addr v.ty hans.2 _ (pat_lt 64 off) off (pat64_emod hc.addr _ off)
      rw [hf, Out.bind_ok, ← habs]
      exact Sim.bind_val (binaryOf_sim hc.addr .add v rhs hans hvr) (fun r v3 => push_ok_sim hc v3 h rfl)
    all_goals exact Sim.unspec _
  case typedLiteral bytes =>
    cases ans
    case baseType t =>
      show Sim _ (Value.parse c.endian t bytes >>= fun v => Eval.push c v m)
        (if isFloat t then _ else literalInt sc.endian sc.a t bytes >>= _)
      split
      · exact Sim.unspec _
      · next hf =>
        rw [hc.endian, hsa]
        exact Sim.bind_val (parse_refines a c.endian t (isFloat_kind hf) bytes) (fun r v3 => push_ok_sim hc v3 h rfl)
    all_goals exact Sim.unspec _
  case convert =>
    cases ans
    case baseType t =>
      refine pop_bind_sim h (fun v _ v1 r1 => ?_)
      show Sim _ (v.convert t c.addrMask >>= fun r => Eval.push c r _) (if isFloat t ∨ isFloat (absV a v).ty then _ else _)
      split
      · exact Sim.unspec _
      · next hf =>
        obtain ⟨r, hr, habs, hvr⟩ := convert_refines a hc.addr v v1 t (isFloat_kind (fun h => hf (.inl h)))
        rw [hc.mask, hsa, hr]
        exact push_ok_sim hc hvr r1 habs
    all_goals exact Sim.unspec _
  case reinterpret =>
    cases ans
    case baseType t =>
      refine pop_bind_sim h (fun v _ v1 r1 => ?_)
      show Sim _ (v.reinterpret t c.addrMask >>= fun r => Eval.push c r _) (if isFloat t ∨ isFloat (absV a v).ty then _ else _)
      split
      · exact Sim.unspec _
      · next hf =>
        rw [hc.mask, hsa]
        exact Sim.bind_val (reinterpret_refines a hc.addr v v1 t (isFloat_kind (fun h => hf (.inl h))))
          (fun r v3 => push_ok_sim hc v3 r1 rfl)
    all_goals exact Sim.unspec _
  case atLocation =>
    cases ans
    case atLocation bytes =>
      cases bytes with
      | nil => exact h
      | cons b tl =>
        show Sim _ (if Eval.hasRoom c.caps.exprs m.exprStack.length then _ else _) _
        rw [hc.caps, if_pos (show Eval.hasRoom ({} : Eval.Caps).exprs m.exprStack.length = true from rfl)]
        exact { h with
          code := rfl
          pc := rfl
          pcle := Nat.zero_le _
          len := hans
          frames := by
            show ((s.code.drop s.pc, s.code) :: s.frames.map _) = _
            rw [h.frames, h.code, ← h.pc]
          framesOk := fun f hf => (List.mem_cons.mp hf).elim
            (fun e => e ▸ ⟨by rw [h.code]; exact h.pcle, by rw [h.code]; exact h.len⟩) (h.framesOk f) }
    all_goals exact Sim.unspec _


theorem resume_sim (hc : CfgRel a c sc) (hmax : c.maxIterations = none)
    (fuel : Nat) (ans : Answer) (hans : AnsOk ans) (s : Eval) (w : Waiting) (st : SState)
    (hcfg : s.cfg = c) (hst : s.state = .waiting w) (h : R a s.m st) :
    Sim (ResRel a c) (Eval.resume fuel ans s) (Machine.resume sc fuel w (absAnswer a ans) st) := by
  unfold Eval.resume Machine.resume
  rw [hst, hcfg]
  exact Sim.bind (applyAnswer_sim hc w ans hans h) (fun m1 st1 r1 => run_sim hc hmax fuel _ st1 rfl r1)

def TokOk (t : Eval.Tok) : Prop := VOk t.value ∧ t.bytes.length < 2 ^ 63

theorem answerFor_ok (r : Request) (t : Eval.Tok) (ht : TokOk t) : AnsOk (Eval.answerFor r t) := by
  cases r
  case complete | requiresMemory | requiresRegister | requiresWasmLocal | requiresWasmGlobal | requiresWasmStack
      | requiresEntryValue => exact ht.1
  case requiresAtLocation => exact ht.2
  case requiresBaseType => trivial
  all_goals exact Nat.mod_lt _ (by decide)

def absScript (a : Nat) (toks : List Eval.Tok) : Machine.Script :=
  toks.map (fun t r => absAnswer a (Eval.answerFor r t))

def FinRel (a : Nat) : Eval.Final → Machine.SFinal → Prop
  | _, .unspecified => True
  | .done ps v, .done sps sv => sps = ps.map (absPiece a) ∧ sv = v.map (absV a)
  | .error e, .error e' => e = e'
  | .diverged, .diverged => True
  | .scriptEnd, .scriptEnd => True
  | _, _ => False

/-- same requests in the same order and corresponding ends; nothing is claimed of a run whose Spec side ends
`unspecified` -/
def RunRel (a : Nat) (p : List Request × Eval.Final × Option Eval) (q : List Request × Machine.SFinal) : Prop :=
  q.2 = .unspecified ∨ (q.1 = p.1 ∧ FinRel a p.2.1 q.2)

theorem finRel_of_sim {α β} {Rr : α → β → Prop} (a : Nat) {x : Out α} {y : Out β} (h : Sim Rr x y)
    (hx : ∀ v, x ≠ .ok v) : FinRel a (Eval.finalOf x) (Machine.finalOf y) := by
  cases y with
  | panic w => trivial
  | ok b =>
    cases x with
    | ok v => exact (hx v rfl).elim
    | _ => exact h.elim
  | err e =>
    cases x with
    | err e' => exact h
    | _ => exact h.elim
  | diverge =>
    cases x with
    | diverge => trivial
    | _ => exact h.elim

/-- one call on each side, then the rest of the run: the calls return related results, or neither
returns a result and the runs end here -/
theorem start_sim (a : Nat) (c : Config) {x : Out (Request × Eval)} {y : Out (Request × Option Waiting × SState)}
    (hsim : Sim (ResRel a c) x y) (pre : List Request)
    {K : Request → Eval → List Request × Eval.Final × Option Eval}
    {K' : Request → Option Waiting → SState → List Request × Machine.SFinal}
    (hK : ∀ r s' w st', ResRel a c (r, s') (r, w, st') → RunRel a (K r s') (K' r w st')) :
    RunRel a
      (match (generalizing := false) x with
       | .ok (r, s') => K r s'
       | o => (pre, Eval.finalOf o, none))
      (match (generalizing := false) y with
       | .ok (r, w, s) => K' r w s
       | o => (pre, Machine.finalOf o)) := by
  cases x with
  | ok p =>
    cases y with
    | ok q =>
      obtain ⟨r, s'⟩ := p
      obtain ⟨_, w, st'⟩ := q
      obtain ⟨e, hr⟩ := hsim
      cases e
      exact hK _ _ _ _ ⟨rfl, hr⟩
    | panic w => exact .inl rfl
    | _ => exact hsim.elim
  | _ =>
    cases y with
    | ok q => exact hsim.elim
    | _ => exact .inr ⟨rfl, finRel_of_sim a hsim (fun _ h => nomatch h)⟩

theorem RunRel.cons {a : Nat} (r : Request) {p : List Request × Eval.Final × Option Eval}
    {q : List Request × Machine.SFinal} (h : RunRel a p q) :
    RunRel a (match p with | (tr, f, e) => (r :: tr, f, e)) (match q with | (tr, fin) => (r :: tr, fin)) :=
  h.imp id (fun ⟨he, hf⟩ => ⟨congrArg (r :: ·) he, hf⟩)

/-- the Spec run from the second call on, by cases like `Eval.runFrom_complete/nil/cons` -/
theorem runFrom_eq (sc : SCfg) (fuel : Nat) (script : Machine.Script) (r : Request) (ow : Option Waiting) (st : SState) :
    Machine.runFrom sc fuel script r ow st =
      if r = .complete then ([.complete], .done st.pieces st.valueResult) else
      match script, ow with
      | [], _ => ([r], .scriptEnd)
      | _ :: _, none => ([r], .unspecified)
      | f :: fs, some w =>
        (match Machine.resume sc fuel w (f r) st with
         | .ok (r', w', s') => (match Machine.runFrom sc fuel fs r' w' s' with | (tr, fin) => (r :: tr, fin))
         | o => ([r], Machine.finalOf o)) := by
  by_cases hr : r = .complete
  · subst hr; cases script <;> rfl
  · rw [if_neg hr]
    cases r with
    | complete => exact (hr rfl).elim
    | _ =>
      cases script with
      | nil => rfl
      | cons f fs => cases ow <;> rfl

theorem runFrom_sim (hc : CfgRel a c sc) (hmax : c.maxIterations = none)
    (fuel : Nat) : ∀ (toks : List Eval.Tok) (r : Request) (s : Eval) (ow : Option Waiting) (st : SState),
      (∀ t ∈ toks, TokOk t) → s.cfg = c → R a s.m st →
      (match ow with | none => s.state = .complete | some w => s.state = .waiting w) →
      RunRel a (Eval.runFrom fuel toks r s) (Machine.runFrom sc fuel (absScript a toks) r ow st) := by
  intro toks
  induction toks with
  | nil =>
    intro r s ow st _ hcfg h _
    rw [runFrom_eq]
    by_cases hr : r = .complete
    · rw [if_pos hr, hr, Eval.runFrom_complete]; exact .inr ⟨rfl, h.pieces.symm, h.value.symm⟩
    · rw [if_neg hr, Eval.runFrom_nil fuel r s hr]; exact .inr ⟨rfl, trivial⟩
  | cons t toks ih =>
    intro r s ow st htoks hcfg h hst
    rw [runFrom_eq]
    by_cases hr : r = .complete
    · rw [if_pos hr, hr, Eval.runFrom_complete]; exact .inr ⟨rfl, h.pieces.symm, h.value.symm⟩
    · rw [if_neg hr, Eval.runFrom_cons fuel t toks r s hr]
      cases ow with
      | none => exact .inl rfl
      | some w =>
        exact start_sim a c
          (resume_sim hc hmax fuel _ (answerFor_ok r t (htoks t List.mem_cons_self)) s w st hcfg hst h) [r]
          (fun r' s' w' st' ⟨_, hR', hcfg', hst'⟩ =>
            (ih r' s' w' st' (fun t' ht' => htoks t' (List.mem_cons_of_mem _ ht')) hcfg' hR' hst').cons r)


theorem run_of_ready (fuel : Nat) (toks : List Eval.Tok) (s : Eval) (hs : s.state = .ready) :
    Eval.run fuel toks s =
      (match Eval.evaluateInternal fuel s with
       | .ok (r, s') => Eval.runFrom fuel toks r s'
       | o => ([], Eval.finalOf o, none)) :=
  Eval.run_of_enter (by unfold Eval.enter; rw [hs]) fuel toks

theorem new_ok (a : Nat) (ha : AddrSize a) (e : Endian) (enc : Encoding) (henc : enc.addressSize = a) (mode : Mode)
    (code : Bytes) (init obj : Option Nat) :
    Eval.new e enc {} mode code init obj none =
      .ok { cfg := { endian := e, encoding := enc, caps := {}, mode := mode, objectAddress := obj,
                     maxIterations := none, addrMask := maskOf a },
            m := { bytecode := code, pc := code }, state := .start init } := by
  unfold Eval.new Eval.addrMask
  rw [henc]
  rcases ha with h | h | h | h <;> subst h <;> rfl

def initStack : Option Nat → List Value
  | some v => [Value.generic v]
  | none => []

theorem run_of_start (fuel : Nat) (toks : List Eval.Tok) (s : Eval) (init : Option Nat) (hs : s.state = .start init)
    (hcaps : s.cfg.caps = {}) :
    Eval.run fuel toks s =
      (match Eval.evaluateInternal fuel
          { s with m := { s.m with stack := initStack init ++ s.m.stack },
                   state := .ready } with
       | .ok (r, s') => Eval.runFrom fuel toks r s'
       | o => ([], Eval.finalOf o, none)) := by
  refine Eval.run_of_enter ?_ fuel toks
  unfold Eval.enter
  rw [hs]
  cases init with
  | none => rfl
  | some v => simp only [push_heap hcaps]; rfl

/-- C07 `eval_refines_partial` -/
theorem run_refines (a : Nat) (ha : AddrSize a) (e : Endian) (enc : Encoding) (henc : enc.addressSize = a)
    (mode : Mode) (code : Bytes) (hlen : code.length < 2 ^ 63) (init obj : Option Nat)
    (hinit : ∀ v, init = some v → v < 2 ^ 64) (hobj : ∀ v, obj = some v → v < 2 ^ 64)
    (fuel : Nat) (toks : List Eval.Tok) (htoks : ∀ t ∈ toks, TokOk t)
    (s : Eval)
    (hnew : Eval.new e enc {} mode code init obj none = .ok s) :
    RunRel a (Eval.run fuel toks s) (Machine.runAll ⟨e, enc, obj⟩ fuel (absScript a toks) code init) := by
  rw [new_ok a ha e enc henc mode code init obj] at hnew
  cases hnew
  have hc : CfgRel a { endian := e, encoding := enc, caps := {}, mode := mode, objectAddress := obj,
                       maxIterations := none, addrMask := maskOf a } ⟨e, enc, obj⟩ :=
    { addr := ha, asz := henc, mask := rfl, endian := rfl, enc := rfl, obj := rfl, objlt := hobj, caps := rfl }
  rw [run_of_start fuel toks _ init rfl rfl]
  unfold Machine.runAll Machine.initial
  refine start_sim a _ (run_sim hc rfl fuel _ _ rfl ?_) []
    (fun r s' w st' ⟨_, hR', hcfg', hst'⟩ => runFrom_sim hc rfl fuel toks r s' w st' htoks hcfg' hR' hst')
  -- the initial machines: empty, or the initial value as a generic value on both stacks
  have h0 : R a { bytecode := code, pc := code } { code := code, pc := 0 } :=
    { code := rfl, pc := rfl, pcle := Nat.zero_le _, len := hlen, stack := rfl, vok := (fun v hv => nomatch hv),
      frames := rfl, framesOk := (fun f hf => nomatch hf), pieces := rfl, value := rfl }
  cases init with
  | none => exact h0
  | some v =>
    have h1 := h0.push (vok_generic v (hinit v rfl))
    rw [abs_generic_nat (sc_a hc) v] at h1
    exact h1

end Gimli.Sim
