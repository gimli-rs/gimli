import Gimli.Model.Lists
import Gimli.Lemmas.Ints
import Gimli.Lemmas.Leb
import Gimli.Lemmas.Out
/-! The raw list iterator (C08, read side). A parse step consumes at least one byte (`ens_parseRaw`),
so draining a section terminates within its length (`rawFuel_ok`). `RawRun` is the iterator's own
case distinction as a relation, without the fuel: what holds of everything the iterator returns is
proved by induction over it. Read back from `encodeList`, the iterator returns the list's entries
(`rawAll_encodeList`). -/
namespace Gimli.Lists
open Gimli Gimli.Ints Gimli.Spec.Lists

variable (k : Kind) (c : Cfg) (f : Fmt)

theorem validSize_bounds {s : Nat} (hs : ValidSize s) : 1 ≤ s ∧ s ≤ 8 := by
  rcases hs with rfl | rfl | rfl | rfl <;> decide

theorem addrMod_ge (s : Nat) (hs : ValidSize s) : 256 ≤ addrMod s := by
  have := validSize_bounds hs
  exact (Nat.pow_le_pow_right (by decide) (by omega) : 2 ^ 8 ≤ 2 ^ (8 * s))

theorem onesSized_eq (s : Nat) : onesSized s = addrMod s - 1 := rfl

theorem wrappingAddSized_eq (a len s : Nat) (hs : s ≤ 8) :
    wrappingAddSized a len s = (a + len) % 2 ^ (8 * s) :=
  Nat.mod_mod_of_dvd _ (Nat.pow_dvd_pow 2 (by omega))

theorem minTombstone_eq (s : Nat) (hs : 1 ≤ s ∧ s ≤ 8) : minTombstone s = 2 ^ (8 * s) - 2 := by
  -- `2^64 = 2^(8s) · (j + 1)`, so `2^64 - 2 = 2^(8s) · j + (2^(8s) - 2)`
  have h2 : 2 ^ 1 ≤ 2 ^ (8 * s) := Nat.pow_le_pow_right (by decide) (by omega)
  have hsplit : 2 ^ 64 = 2 ^ (8 * s) * 2 ^ (64 - 8 * s) := by
    rw [← Nat.pow_add]; congr 1; omega
  obtain ⟨j, hj⟩ : ∃ j, 2 ^ (64 - 8 * s) = j + 1 :=
    ⟨_, (Nat.succ_pred_eq_of_pos (Nat.pow_pos (by decide))).symm⟩
  unfold minTombstone
  rw [wrappingAddSized_eq _ _ _ hs.2, Nat.zero_add, hsplit, hj, Nat.mul_succ, Nat.add_sub_assoc h2,
    Nat.mul_add_mod, Nat.mod_eq_of_lt (by omega)]

theorem minTombstone_spec (s : Nat) (hs : 1 ≤ s ∧ s ≤ 8) : minTombstone s = tombstone s :=
  minTombstone_eq s hs

theorem addSized_eq (a len s : Nat) (hs : s ≤ 8) :
    addSized a len s = if a + len < 2 ^ (8 * s) then .ok (a + len) else .err .rAddressOverflow := by
  have hle : 2 ^ (8 * s) ≤ 2 ^ 64 := Nat.pow_le_pow_right (by decide) (by omega)
  have hp : 0 < 2 ^ (8 * s) := Nat.pow_pos (by decide)
  unfold addSized onesSized
  by_cases h : a + len < 2 ^ (8 * s)
  · rw [if_pos h, if_neg (Nat.not_le.mpr (Nat.lt_of_lt_of_le h hle)),
      if_neg (Nat.not_lt.mpr (Nat.le_sub_one_of_lt h))]
  · rw [if_neg h]
    split
    · rfl
    · rw [if_pos (Nat.lt_of_lt_of_le (Nat.sub_lt hp Nat.one_pos) (Nat.not_lt.mp h))]

theorem ens_readAddress {e : Endian} {s : Nat} {bs : Bytes} {m : Nat} (h : bs.length ≤ m + 1) :
    (readAddress e s bs).Ensures fun p => p.2.length ≤ m ∧ p.1 < addrMod s := by
  refine ⟨Ints.readAddress_normal e s bs, fun p hr => ?_⟩
  obtain ⟨h1, _, h3⟩ := readAddress_value e s bs p.1 p.2 hr
  have hs := ((readAddress_ok_iff e s bs).mp ⟨_, _, hr⟩).1
  exact ⟨by rw [h1, List.length_drop]; omega, h3⟩

theorem ens_parseData {k : Kind} {e : Endian} {leb : Bool} {bs : Bytes} {m : Nat}
    (h : bs.length ≤ m) : (parseData k e leb bs).Ensures fun p => p.2.length ≤ m := by
  unfold parseData
  cases k with
  | rng => exact Out.ensures_ok h
  | loc =>
    exact Out.Ensures.ite_cases
      (fun _ => (Exact.rest_le Leb.exact_unsigned h).bind_rest fun _ _ h' => Exact.rest_le (exact_take _) h')
      fun _ => (Exact.rest_le (exact_fixed _ _) h).bind_rest fun _ _ h' => Exact.rest_le (exact_take _) h'

theorem ens_parseRaw (t : UInt8) (r : Bytes) :
    (parseRaw k c f (t :: r)).Ensures fun p => p.2.length ≤ r.length ∧
      match p.1 with
      | some (.pair b e _) => b < addrMod c.addrSize ∧ e < addrMod c.addrSize
      | _ => True := by
  have le1 : ∀ {n : Nat}, n ≤ r.length → n ≤ r.length + 1 := Nat.le_succ_of_le
  unfold parseRaw
  cases f with
  | bare =>
    exact (ens_readAddress (Nat.le_refl _)).bind_rest fun b _ h1 =>
      (ens_readAddress (le1 h1.1)).bind_rest fun e _ h2 =>
        Out.Ensures.ite_cases (fun _ => Out.ensures_ok ⟨h2.1, trivial⟩) fun _ =>
          Out.Ensures.ite_cases (fun _ => Out.ensures_ok ⟨h2.1, trivial⟩) fun _ =>
            (ens_parseData h2.1).bind_rest fun _ _ h3 => Out.ensures_ok ⟨h3, h1.2, h2.2⟩
  | coded =>
    have h0 := Nat.le_refl r.length
    dsimp only
    cases decodeCode k t.toNat with
    | none => exact Out.ensures_err _ _
    | some code =>
      cases code with
      | endOfList => exact Out.ensures_ok ⟨h0, trivial⟩
      | baseAddressx =>
        exact (Exact.rest_le Leb.exact_unsigned h0).bind_rest fun _ _ h1 => Out.ensures_ok ⟨h1, trivial⟩
      | startxEndx | offsetPair =>
        exact (Exact.rest_le Leb.exact_unsigned h0).bind_rest fun _ _ h1 =>
          (Exact.rest_le Leb.exact_unsigned h1).bind_rest fun _ _ h2 =>
            (ens_parseData h2).bind_rest fun _ _ h3 => Out.ensures_ok ⟨h3, trivial⟩
      | startxLength =>
        exact (Exact.rest_le Leb.exact_unsigned h0).bind_rest fun _ _ h1 => Out.Ensures.ite_cases
          (fun _ => (Exact.rest_le (exact_fixed _ _) h1).bind_rest fun _ _ h2 =>
            (ens_parseData h2).bind_rest fun _ _ h3 => Out.ensures_ok ⟨h3, trivial⟩)
          fun _ => (Exact.rest_le Leb.exact_unsigned h1).bind_rest fun _ _ h2 =>
            (ens_parseData h2).bind_rest fun _ _ h3 => Out.ensures_ok ⟨h3, trivial⟩
      | defaultLocation => exact (ens_parseData h0).bind_rest fun _ _ h3 => Out.ensures_ok ⟨h3, trivial⟩
      | baseAddress =>
        exact (ens_readAddress (le1 h0)).bind_rest fun _ _ h1 => Out.ensures_ok ⟨h1.1, trivial⟩
      | startEnd =>
        exact (ens_readAddress (le1 h0)).bind_rest fun _ _ h1 =>
          (ens_readAddress (le1 h1.1)).bind_rest fun _ _ h2 =>
            (ens_parseData h2.1).bind_rest fun _ _ h3 => Out.ensures_ok ⟨h3, trivial⟩
      | startLength =>
        exact (ens_readAddress (le1 h0)).bind_rest fun _ _ h1 =>
          (Exact.rest_le Leb.exact_unsigned h1.1).bind_rest fun _ _ h2 =>
            (ens_parseData h2).bind_rest fun _ _ h3 => Out.ensures_ok ⟨h3, trivial⟩

theorem parseRaw_nil (p : Option Entry × Bytes) :
    parseRaw k c f [] ≠ .ok p := by
  cases f with
  | bare =>
    intro h
    obtain ⟨q, hq, _⟩ := Out.bind_eq_ok h
    obtain ⟨hs, hl⟩ := (readAddress_ok_iff _ _ _).mp ⟨q.1, q.2, hq⟩
    rw [List.length_nil] at hl; omega
  | coded => exact nofun

theorem rawFuel_ok : ∀ (n : Nat) (bs : Bytes), bs.length < n →
    ∃ evs, rawFuel k c f n bs = .ok evs ∧ evs.length ≤ bs.length
  | 0, _, h => absurd h (Nat.not_lt_zero _)
  | n + 1, [], _ => ⟨[], rfl, Nat.le_refl _⟩
  | n + 1, t :: r, hlen => by
    rw [rawFuel]
    simp only [List.isEmpty_cons, Bool.false_eq_true, if_false]
    rcases (ens_parseRaw k c f t r).ok_or_err with ⟨⟨ox, rest⟩, hp, hg⟩ | ⟨e, hp⟩ <;> rw [hp]
    · have hr : rest.length ≤ r.length := hg.1
      cases ox with
      | none => exact ⟨[], rfl, Nat.zero_le _⟩
      | some x =>
        obtain ⟨evs, h1, h2⟩ := rawFuel_ok n rest (by rw [List.length_cons] at hlen; omega)
        exact ⟨.item x :: evs, by simp only [h1, Out.bind_ok, Out.pure_eq],
          by simp only [List.length_cons]; omega⟩
    · exact ⟨[.error e], rfl, Nat.succ_le_succ (Nat.zero_le _)⟩

inductive RawRun : Bytes → List (Ev Entry) → Prop
  | empty : RawRun [] []
  | done {bs rest : Bytes} : parseRaw k c f bs = .ok (none, rest) → RawRun bs []
  | error {bs : Bytes} {e : Err} : parseRaw k c f bs = .err e → RawRun bs [.error e]
  | item {bs rest : Bytes} {x : Entry} {evs : List (Ev Entry)} :
      parseRaw k c f bs = .ok (some x, rest) → RawRun rest evs → RawRun bs (.item x :: evs)

theorem rawFuel_run : ∀ (n : Nat) (bs : Bytes) (evs : List (Ev Entry)),
    rawFuel k c f n bs = .ok evs → RawRun k c f bs evs
  | 0, _, _, h => by cases h
  | n + 1, [], _, h => by cases h; exact .empty
  | n + 1, t :: r, evs, h => by
    rw [rawFuel] at h
    simp only [List.isEmpty_cons, Bool.false_eq_true, if_false] at h
    split at h
    · rename_i x rest hp
      obtain ⟨evs', hr, h⟩ := Out.bind_eq_ok h
      cases h
      exact .item hp (rawFuel_run n rest evs' hr)
    · rename_i hp; cases h; exact .done hp
    · rename_i hp; cases h; exact .error hp
    · cases h
    · cases h

theorem RawRun.shape {k : Kind} {c : Cfg} {f : Fmt} {bs : Bytes} {evs : List (Ev Entry)}
    (h : RawRun k c f bs evs) :
    ∃ items : List Entry, evs = items.map .item ∨ ∃ e, evs = items.map .item ++ [.error e] := by
  induction h with
  | empty => exact ⟨[], .inl rfl⟩
  | done _ => exact ⟨[], .inl rfl⟩
  | @error _ e _ => exact ⟨[], .inr ⟨e, rfl⟩⟩
  | @item _ _ x _ _ _ ih =>
    obtain ⟨items, hi | ⟨e, hi⟩⟩ := ih
    · exact ⟨x :: items, .inl (by rw [hi]; rfl)⟩
    · exact ⟨x :: items, .inr ⟨e, by rw [hi]; rfl⟩⟩

theorem readAddress_enc (a : Nat) (rest : Bytes) (hs : ValidSize c.addrSize)
    (ha : a < addrMod c.addrSize) :
    readAddress c.endian c.addrSize (encAddr c a ++ rest) = .ok (a, rest) :=
  reads_address_fixed c.endian hs (pow256 _ ▸ ha) rest

/-- `leb` is the flag the reader passes: set for the coded format from version 5 on -/
theorem parseData_enc (leb : Bool) {d : Bytes}
    (hleb : leb = true ↔ f = .coded ∧ c.version ≥ 5) (h : WfData k c f d) :
    Reads (parseData k c.endian leb) (encData k c f d) d := by
  unfold parseData encData
  cases k with
  | rng => cases (show d = [] from h); exact .pure _
  | loc =>
    have h : if f = .coded ∧ c.version ≥ 5 then d.length < 2 ^ 64 else d.length < 2 ^ 16 := h
    by_cases hc : f = .coded ∧ c.version ≥ 5
    · rw [if_pos hc] at h
      simp only [if_pos (hleb.mpr hc), if_pos hc]
      exact .bind (Leb.reads_unsigned h) (reads_take d)
    · rw [if_neg hc] at h
      simp only [if_neg (fun hl => hc (hleb.mp hl)), if_neg hc]
      exact .bind (reads_fixed _ 2 (Nat.lt_of_lt_of_le h (by decide))) (reads_take d)

theorem parseRaw_term (hs : ValidSize c.addrSize) : Reads (parseRaw k c f) (terminator c f) none := by
  have hm := addrMod_ge c.addrSize hs
  have A := fun rest => readAddress_enc c 0 rest hs (by omega)
  cases f with
  | bare =>
    unfold parseRaw
    exact .bind A <| .map A fun _ => if_pos ⟨rfl, rfl⟩
  | coded => intro rest; cases k <;> rfl

theorem parseRaw_enc_bare (x : Entry) (rest : Bytes) (hs : ValidSize c.addrSize)
    (hw : WfEntry k c .bare x) :
    parseRaw k c .bare (encodeEntry k c .bare x ++ rest) = .ok (some x, rest) := by
  have hm := addrMod_ge c.addrSize hs
  have A := fun {a} (ha : a < addrMod c.addrSize) rest => readAddress_enc c a rest hs ha
  refine (?_ : Reads (parseRaw k c .bare) (encodeEntry k c .bare x) (some x)) rest
  cases x with
  | pair b e d =>
    obtain ⟨hb, he, hz, hones, hd⟩ := hw
    simp only [encodeEntry, List.append_assoc]
    unfold parseRaw
    exact .bind (A hb) <| .bind (A he) <| .ite_neg hz <| .ite_neg hones <|
      .map (parseData_enc k c .bare false (by simp) hd) fun _ => rfl
  | baseAddress a =>
    have hw : a < addrMod c.addrSize := hw
    unfold parseRaw
    exact .bind (A (by omega)) <| .map (A hw) fun _ =>
      (if_neg (fun h : addrMod c.addrSize - 1 = 0 ∧ a = 0 => by omega)).trans (if_pos (onesSized_eq _).symm)
  | _ => exact hw.elim

def codeOf : Entry → Code
  | .pair .. => .endOfList  -- never looked at: `WfEntry _ _ .coded (.pair ..)` is `False`
  | .baseAddress _ => .baseAddress
  | .baseAddressx _ => .baseAddressx
  | .startxEndx .. => .startxEndx
  | .startxLength .. => .startxLength
  | .offsetPair .. => .offsetPair
  | .defaultLocation _ => .defaultLocation
  | .startEnd .. => .startEnd
  | .startLength .. => .startLength

/-- the code byte the encoder writes selects the entry's own arm of the reader's `match` -/
theorem decodeCode_tag {k : Kind} {c : Cfg} {x : Entry} (hw : WfEntry k c .coded x) :
    decodeCode k (UInt8.ofNat ((code k x).getD 0)).toNat = some (codeOf x) := by
  cases k <;> cases x <;> first | rfl | exact hw.elim | exact nomatch hw.1

theorem parseRaw_enc_coded (x : Entry) (hs : ValidSize c.addrSize) (hw : WfEntry k c .coded x) :
    Reads (parseRaw k c .coded) (encodeEntry k c .coded x) (some x) := by
  intro rest
  have ht := decodeCode_tag hw
  have D := fun d r (hd : WfData k c .coded d) =>
    parseData_enc k c .coded (decide (c.version ≥ 5)) (d := d) (by simp) hd r
  cases x with
  | pair b e d => exact hw.elim
  | baseAddress a =>
    have hw : a < addrMod c.addrSize := hw
    simp only [parseRaw, encodeEntry, List.cons_append, List.nil_append, ht, codeOf,
      readAddress_enc c a _ hs hw, Out.bind_ok, Out.pure_eq]
  | baseAddressx i =>
    have hw : i < 2 ^ 64 := hw
    simp only [parseRaw, encodeEntry, List.cons_append, List.nil_append, ht, codeOf,
      Leb.unsigned_roundtrip i hw, Out.bind_ok, Out.pure_eq]
  | startxEndx b e d | offsetPair b e d =>
    obtain ⟨hb, he, hd⟩ := hw
    simp only [parseRaw, encodeEntry, List.cons_append, List.nil_append, List.append_assoc, ht, codeOf,
      Leb.unsigned_roundtrip b hb, Leb.unsigned_roundtrip e he, D d rest hd, Out.bind_ok, Out.pure_eq]
  | startxLength b l d =>
    obtain ⟨hb, hl, hd⟩ := hw
    simp only [parseRaw, encodeEntry, List.cons_append, List.nil_append, List.append_assoc, ht, codeOf,
      Leb.unsigned_roundtrip b hb, Out.bind_ok]
    -- GNU split-DWARF v4 location lists: the length is a 4-byte word
    by_cases hv : k = .loc ∧ c.version < 5
    · rw [if_pos hv] at hl
      rw [if_pos hv, if_pos ⟨hv.1, Nat.not_le.mpr hv.2⟩, readFixed_toBytes _ _ _ _ (by omega)]
      simp only [Out.bind_ok, D d rest hd, Out.pure_eq]
    · rw [if_neg hv] at hl
      rw [if_neg hv, if_neg (fun h => hv ⟨h.1, Nat.not_le.mp h.2⟩), Leb.unsigned_roundtrip l hl]
      simp only [Out.bind_ok, D d rest hd, Out.pure_eq]
  | defaultLocation d =>
    simp only [parseRaw, encodeEntry, List.cons_append, List.nil_append, ht, codeOf, D d rest hw.2,
      Out.bind_ok, Out.pure_eq]
  | startEnd b e d =>
    obtain ⟨hb, he, hd⟩ := hw
    simp only [parseRaw, encodeEntry, List.cons_append, List.nil_append, List.append_assoc, ht, codeOf,
      readAddress_enc c b _ hs hb, readAddress_enc c e _ hs he, D d rest hd, Out.bind_ok, Out.pure_eq]
  | startLength b l d =>
    obtain ⟨hb, hl, hd⟩ := hw
    simp only [parseRaw, encodeEntry, List.cons_append, List.nil_append, List.append_assoc, ht, codeOf,
      readAddress_enc c b _ hs hb, Leb.unsigned_roundtrip l hl, D d rest hd, Out.bind_ok, Out.pure_eq]

theorem parseRaw_enc (x : Entry) (hs : ValidSize c.addrSize) (hw : WfEntry k c f x) :
    Reads (parseRaw k c f) (encodeEntry k c f x) (some x) := by
  cases f
  · exact fun rest => parseRaw_enc_bare k c x rest hs hw
  · exact parseRaw_enc_coded k c x hs hw

theorem parseRaw_encodeList (hs : ValidSize c.addrSize) (l : List Entry)
    (rest : Bytes) (hw : ∀ x ∈ l, WfEntry k c f x) :
    parseRaw k c f (encodeList k c f l ++ rest) =
      .ok (match l with
        | [] => (none, rest)
        | x :: xs => (some x, encodeList k c f xs ++ rest)) := by
  cases l with
  | nil => exact parseRaw_term k c f hs rest
  | cons x xs =>
    rw [encodeList, List.append_assoc]
    exact parseRaw_enc k c f x hs (hw x (List.mem_cons_self ..)) _

theorem rawAll_encodeList (hs : ValidSize c.addrSize) (l : List Entry)
    (rest : Bytes) (hw : ∀ x ∈ l, WfEntry k c f x) :
    rawAll k c f (encodeList k c f l ++ rest) = .ok (l.map .item) := by
  obtain ⟨evs, h, -⟩ := rawFuel_ok k c f _ (encodeList k c f l ++ rest) (Nat.lt_succ_self _)
  rw [rawAll, h]
  have run := rawFuel_run k c f _ _ _ h
  clear h
  generalize hbs : encodeList k c f l ++ rest = bs at run
  congr 1
  -- at every step the reader sees the head of the rest of the list
  induction run generalizing l with
  | empty => exact absurd (hbs ▸ parseRaw_encodeList k c f hs l rest hw) (parseRaw_nil _ _ _ _)
  | done hp =>
    have h := parseRaw_encodeList k c f hs l rest hw
    rw [hbs, hp] at h
    cases l with
    | nil => rfl
    | cons => cases h
  | error hp =>
    have h := parseRaw_encodeList k c f hs l rest hw
    rw [hbs, hp] at h
    cases h
  | item hp _ ih =>
    have h := parseRaw_encodeList k c f hs l rest hw
    rw [hbs, hp] at h
    cases l with
    | nil => cases h
    | cons y ys =>
      cases h
      rw [ih ys (fun z hz => hw z (List.mem_cons_of_mem _ hz)) rfl]
      rfl

end Gimli.Lists
