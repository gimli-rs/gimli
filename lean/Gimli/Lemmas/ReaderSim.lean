import Gimli.Model.Reader
/-!
Simulation between reader kinds (C10). Two kinds whose methods agree on `R`-related states give the
same observation under every operation of a history and leave `R`-related tables (`step_sim`,
`runHist_sim`). That a kind keeps a state invariant `P` is the case of the kind simulating itself
on the diagonal of `P` (`Impl.SafeNE.sim`, `runHist_all`), so for simulations and invariants the
default methods of `trait Reader` are walked through once, here; `ReaderNoPanic.lean` walks through
them again for totality, and `RelocReadSim.lean` rewrites the three a relocating reader overrides to
one closed form (`fixedRead`). The equations of `M.bind` / `M.map` stand first.
-/
namespace Gimli.Rd
variable {σ τ α β : Type}

theorem M.bind_eq_ok {x : M σ α} {f : α → M σ β} {s s'' : σ} {b : β}
    (h : M.bind x f s = (.ok b, s'')) : ∃ a s', x s = (.ok a, s') ∧ f a s' = (.ok b, s'') := by
  unfold M.bind at h
  generalize x s = p at h
  obtain ⟨o, s'⟩ := p
  cases o with
  | ok a => exact ⟨a, s', rfl, h⟩
  | _ => cases h

theorem M.map_apply (f : α → β) (x : M σ α) (t : σ) : M.map f x t = ((x t).1.map f, (x t).2) := by
  unfold M.map M.bind M.pure
  rcases x t with ⟨o, t'⟩
  cases o <;> rfl

def OutRel (R : σ → τ → Prop) : Out σ → Out τ → Prop
  | .ok a, .ok b => R a b
  | .err e, .err e' => e = e'
  | .panic w, .panic w' => w = w'
  | .diverge, .diverge => True
  | _, _ => False

def RelM (R : σ → τ → Prop) (x : M σ α) (y : M τ α) : Prop :=
  ∀ s t, R s t → (x s).1 = (y t).1 ∧ R (x s).2 (y t).2

-- `RelV R R` by `rfl`, so `RelV.bind` applies to it and a proof of it is taken apart as an `OutRel`
def RelNew (R : σ → τ → Prop) (x : M σ σ) (y : M τ τ) : Prop :=
  ∀ s t, R s t → OutRel R (x s).1 (y t).1 ∧ R (x s).2 (y t).2

/-- the common form of `RelM` (`V` is equality) and `RelNew` (`V` is `R`): results related by `V` -/
def RelV (R : σ → τ → Prop) (V : α → β → Prop) (x : M σ α) (y : M τ β) : Prop :=
  ∀ s t, R s t → OutRel V (x s).1 (y t).1 ∧ R (x s).2 (y t).2

variable {R : σ → τ → Prop}

theorem OutRel.cases {V : α → β → Prop} {a : Out α} {b : Out β} (h : OutRel V a b) :
    (∃ x y, a = .ok x ∧ b = .ok y ∧ V x y) ∨ (∃ e, a = .err e ∧ b = .err e) ∨
      (∃ w, a = .panic w ∧ b = .panic w) ∨ (a = .diverge ∧ b = .diverge) := by
  cases a <;> cases b <;> (try exact False.elim h)
  · exact .inl ⟨_, _, rfl, rfl, h⟩
  · exact .inr (.inl ⟨_, rfl, congrArg _ (Eq.symm h)⟩)
  · exact .inr (.inr (.inl ⟨_, rfl, congrArg _ (Eq.symm h)⟩))
  · exact .inr (.inr (.inr ⟨rfl, rfl⟩))

theorem OutRel.eq_iff {a b : Out α} : OutRel Eq a b ↔ a = b := by
  constructor
  · intro h
    rcases h.cases with ⟨_, _, rfl, rfl, rfl⟩ | ⟨_, rfl, rfl⟩ | ⟨_, rfl, rfl⟩ | ⟨rfl, rfl⟩ <;> rfl
  · rintro rfl
    cases a <;> first | rfl | trivial

theorem relM_iff {x : M σ α} {y : M τ α} : RelM R x y ↔ RelV R Eq x y :=
  forall_congr' fun _ => forall_congr' fun _ => imp_congr_right fun _ =>
    and_congr_left' OutRel.eq_iff.symm

theorem RelV.pure {V : α → β → Prop} {a : α} {b : β} (h : V a b) : RelV R V (M.pure a) (M.pure b) :=
  fun _ _ hst => ⟨h, hst⟩

theorem RelV.bind {γ δ : Type} {V : α → β → Prop} {W : γ → δ → Prop} {x : M σ α} {y : M τ β}
    {f : α → M σ γ} {g : β → M τ δ} (hx : RelV R V x y)
    (hf : ∀ a b, V a b → RelV R W (f a) (g b)) : RelV R W (M.bind x f) (M.bind y g) := by
  intro s t hst
  have h := hx s t hst
  unfold M.bind
  generalize x s = p at h ⊢
  generalize y t = q at h ⊢
  obtain ⟨o, s'⟩ := p
  obtain ⟨o', t'⟩ := q
  obtain ⟨h1, h2⟩ := h
  rcases OutRel.cases h1 with ⟨a, b, rfl, rfl, hab⟩ | ⟨_, rfl, rfl⟩ | ⟨_, rfl, rfl⟩ | ⟨rfl, rfl⟩
  · exact hf a b hab s' t' h2
  · exact ⟨rfl, h2⟩
  · exact ⟨rfl, h2⟩
  · exact ⟨trivial, h2⟩

theorem RelM.pure (a : α) : RelM R (M.pure a) (M.pure a) := fun _ _ h => ⟨rfl, h⟩
theorem RelM.fail (e : Err) : RelM R (M.fail e : M σ α) (M.fail e) := fun _ _ h => ⟨rfl, h⟩
theorem RelM.liftOut (o : Out α) : RelM R (M.liftOut o : M σ α) (M.liftOut o) := fun _ _ h => ⟨rfl, h⟩

theorem RelM.bind {x : M σ α} {y : M τ α} {f : α → M σ β} {g : α → M τ β} (hx : RelM R x y)
    (hf : ∀ a, RelM R (f a) (g a)) : RelM R (M.bind x f) (M.bind y g) :=
  relM_iff.mpr (RelV.bind (relM_iff.mp hx) fun a _ hab => hab ▸ relM_iff.mp (hf a))

theorem map_rel (f : α → β) {x : M σ α} {y : M τ α} {s : σ} {t : τ}
    (h : (x s).1 = (y t).1 ∧ R (x s).2 (y t).2) :
    (M.map f x s).1 = (M.map f y t).1 ∧ R (M.map f x s).2 (M.map f y t).2 := by
  rw [M.map_apply, M.map_apply]
  exact ⟨by rw [h.1], h.2⟩

theorem RelM.map {x : M σ α} {y : M τ α} (f : α → β) (hx : RelM R x y) :
    RelM R (M.map f x) (M.map f y) :=
  fun s t h => map_rel f (hx s t h)

theorem RelM.ite {c : Prop} [Decidable c] {x x' : M σ α} {y y' : M τ α} (h : RelM R x y)
    (h' : RelM R x' y') : RelM R (if c then x else x') (if c then y else y') := by
  split <;> assumption

/-- every required method of `trait Reader` except `empty` (see `step_sim`) -/
structure CoreSim (C : Core σ) (D : Core τ) (R : σ → τ → Prop) : Prop where
  view : ∀ s t, R s t → (C.view s).toView = (D.view t).toView
  len : ∀ s t, R s t → C.len s = D.len t
  truncate : ∀ n, RelM R (C.truncate n) (D.truncate n)
  offsetFrom : ∀ m s t s' t', R s t → R s' t' → C.offsetFrom m s s' = D.offsetFrom m t t'
  offsetId : ∀ s t, R s t → C.offsetId s = D.offsetId t
  lookupOffsetId : ∀ s t, R s t → ∀ id, C.lookupOffsetId s id = D.lookupOffsetId t id
  find : ∀ s t, R s t → ∀ b, C.find s b = D.find t b
  skip : ∀ n, RelM R (C.skip n) (D.skip n)
  split : ∀ n, RelNew R (C.split n) (D.split n)
  toSlice : ∀ s t, R s t → C.toSlice s = D.toSlice t
  toStr : ∀ v s t, R s t → C.toStr v s = D.toStr v t
  toLossy : ∀ v l s t, R s t → C.toLossy v l s = D.toLossy v l t
  readSlice : ∀ n, RelM R (C.readSlice n) (D.readSlice n)

/-- … and the three overridable methods -/
structure Sim (I : Impl σ) (J : Impl τ) (R : σ → τ → Prop) : Prop
    extends CoreSim I.toCore J.toCore R where
  readAddress : ∀ m e n, RelM R (I.readAddress m e n) (J.readAddress m e n)
  readOffset : ∀ m e f, RelM R (I.readOffset m e f) (J.readOffset m e f)
  readSizedOffset : ∀ m e n, RelM R (I.readSizedOffset m e n) (J.readSizedOffset m e n)

namespace Dflt
variable {C : Core σ} {D : Core τ}

theorem readFixed_rel (h : CoreSim C D R) (e : Endian) (n : Nat) :
    RelM R (readFixed C e n) (readFixed D e n) :=
  RelM.bind (h.readSlice n) (fun _ => RelM.pure _)

theorem readSigned_rel (h : CoreSim C D R) (e : Endian) (n : Nat) :
    RelM R (readSigned C e n) (readSigned D e n) :=
  RelM.bind (h.readSlice n) (fun _ => RelM.pure _)

theorem readUint_rel (h : CoreSim C D R) (e : Endian) (n : Nat) :
    RelM R (readUint C e n) (readUint D e n) := by
  unfold readUint
  exact RelM.ite (RelM.liftOut _) (RelM.bind (h.readSlice n) (fun _ => RelM.pure _))

theorem readWord_rel (h : CoreSim C D R) (e : Endian) (f : Format) :
    RelM R (readWord C e f) (readWord D e f) := by
  unfold readWord
  cases f
  · exact readFixed_rel h e 4
  · exact RelM.bind (readFixed_rel h e 8) (fun _ => RelM.liftOut _)

theorem readInitialLength_rel (h : CoreSim C D R) (e : Endian) :
    RelM R (readInitialLength C e) (readInitialLength D e) := by
  unfold readInitialLength
  refine RelM.bind (readFixed_rel h e 4) (fun v => ?_)
  refine RelM.ite (RelM.pure _) (RelM.ite ?_ (RelM.fail _))
  exact RelM.bind (readFixed_rel h e 8) (fun _ => RelM.bind (RelM.liftOut _) (fun _ => RelM.pure _))

theorem readAddressSize_rel (h : CoreSim C D R) :
    RelM R (readAddressSize C) (readAddressSize D) := by
  unfold readAddressSize
  exact RelM.bind (readFixed_rel h .little 1) (fun _ => RelM.ite (RelM.pure _) (RelM.fail _))

theorem via_rel {γ : Type} (h : CoreSim C D R) (f : Bytes → Out (γ × Bytes)) (adv : Bytes → Err → Nat) :
    RelM R (via C f adv) (via D f adv) := by
  intro s t hst
  unfold via
  rw [h.toSlice s t hst]
  cases D.toSlice t with
  | ok bs =>
    simp only
    cases f bs with
    | ok p => exact ⟨rfl, (h.skip _ s t hst).2⟩
    | err e => exact ⟨rfl, (h.skip _ s t hst).2⟩
    | panic w => exact ⟨rfl, hst⟩
    | diverge => exact ⟨rfl, hst⟩
  | err e => exact ⟨rfl, hst⟩
  | panic w => exact ⟨rfl, hst⟩
  | diverge => exact ⟨rfl, hst⟩

theorem readUleb32_rel (h : CoreSim C D R) : RelM R (readUleb32 C) (readUleb32 D) := by
  unfold readUleb32
  exact RelM.bind (via_rel h _ _) (fun _ => RelM.ite (RelM.pure _) (RelM.fail _))

theorem readNts_rel (h : CoreSim C D R) : RelNew R (readNts C) (readNts D) := by
  intro s t hst
  unfold readNts
  rw [h.find s t hst 0]
  refine RelV.bind (relM_iff.mp (RelM.liftOut _)) (fun idx _ hi => hi ▸ ?_) s t hst
  exact RelV.bind (h.split idx) fun _ _ hv =>
    RelV.bind (relM_iff.mp (h.skip 1)) fun _ _ _ => RelV.pure hv

theorem readAddress_rel (h : CoreSim C D R) (e : Endian) (n : Nat) :
    RelM R (readAddress C e n) (readAddress D e n) := by
  unfold readAddress
  exact RelM.ite (readFixed_rel h e n) (RelM.fail _)

theorem readSizedOffset_rel (h : CoreSim C D R) (e : Endian) (n : Nat) :
    RelM R (readSizedOffset C e n) (readSizedOffset D e n) := by
  unfold readSizedOffset
  exact RelM.ite (RelM.bind (readFixed_rel h e n) (fun _ => RelM.liftOut _)) (RelM.fail _)

end Dflt

theorem CoreSim.withDefaults {C : Core σ} {D : Core τ} (h : CoreSim C D R) :
    Sim C.withDefaults D.withDefaults R where
  toCoreSim := h
  readAddress := fun _ e n => Dflt.readAddress_rel h e n
  readOffset := fun _ e f => Dflt.readWord_rel h e f
  readSizedOffset := fun _ e n => Dflt.readSizedOffset_rel h e n

/-! ## tables of readers -/

def OptRel (R : σ → τ → Prop) : Option σ → Option τ → Prop
  | none, none => True
  | some s, some t => R s t
  | _, _ => False

structure StRel (R : σ → τ → Prop) (st : St σ) (st' : St τ) : Prop where
  len : st.rs.length = st'.rs.length
  rs : ∀ i, OptRel R (st.get i) (st'.get i)
  ids : st.ids = st'.ids

def StepRel {ω : Type} (R : σ → τ → Prop) (p : ω × St σ) (q : ω × St τ) : Prop :=
  p.1 = q.1 ∧ StRel R p.2 q.2

theorem St.get_rs_set (st : St σ) (k i : Nat) (o : Option σ) :
    ({ st with rs := st.rs.set k o } : St σ).get i =
      if k = i ∧ k < st.rs.length then o else st.get i := by
  unfold St.get
  simp only [List.getElem?_set]
  by_cases h : k = i
  · subst h
    by_cases h2 : k < st.rs.length <;> simp [h2]
  · simp [h]

theorem St.get_lt {st : St σ} {i : Nat} {s : σ} (h : st.get i = some s) : i < st.rs.length := by
  unfold St.get at h
  by_cases hl : i < st.rs.length
  · exact hl
  · rw [List.getElem?_eq_none (Nat.le_of_not_lt hl)] at h
    cases h

theorem St.get_push (st : St σ) (i : Nat) (s : σ) :
    (st.push s).get i = if i = st.rs.length then some s else st.get i := by
  unfold St.get St.push
  rcases Nat.lt_trichotomy i st.rs.length with h | h | h
  · rw [List.getElem?_append_left h, if_neg (Nat.ne_of_lt h)]
  · rw [h, List.getElem?_concat_length, if_pos rfl]; rfl
  · rw [List.getElem?_eq_none (by rw [List.length_append]; exact h),
      List.getElem?_eq_none (Nat.le_of_lt h), if_neg (Nat.ne_of_gt h)]

theorem StRel.get {st : St σ} {st' : St τ} (h : StRel R st st') (i : Nat) :
    (st.get i = none ∧ st'.get i = none) ∨
      ∃ s t, st.get i = some s ∧ st'.get i = some t ∧ R s t := by
  have hr := h.rs i
  cases hg : st.get i <;> cases hg' : st'.get i <;> rw [hg, hg'] at hr
  · exact .inl ⟨rfl, rfl⟩
  · exact hr.elim
  · exact hr.elim
  · exact .inr ⟨_, _, rfl, rfl, hr⟩

theorem StRel.setOpt {st : St σ} {st' : St τ} (h : StRel R st st') (k : Nat) {o : Option σ}
    {o' : Option τ} (ho : OptRel R o o') :
    StRel R { st with rs := st.rs.set k o } { st' with rs := st'.rs.set k o' } where
  len := by simp [h.len]
  ids := h.ids
  rs := by
    intro i
    rw [St.get_rs_set, St.get_rs_set, h.len]
    split
    · exact ho
    · exact h.rs i

theorem StRel.set {st : St σ} {st' : St τ} (h : StRel R st st') (i : Nat) {s : σ} {t : τ}
    (hst : R s t) : StRel R (st.set i s) (st'.set i t) :=
  h.setOpt i (o := some s) (o' := some t) hst

theorem StRel.push {st : St σ} {st' : St τ} (h : StRel R st st') {s : σ} {t : τ}
    (hst : R s t) : StRel R (st.push s) (st'.push t) where
  len := by simp [St.push, h.len]
  ids := h.ids
  rs := by
    intro i
    rw [St.get_push, St.get_push, h.len]
    split
    · exact hst
    · exact h.rs i

theorem StRel.init {s : σ} {t : τ} (h : R s t) : StRel R (St.init s) (St.init t) where
  len := rfl
  ids := rfl
  rs := by
    intro i
    cases i with
    | zero => exact h
    | succ k => simp [St.init, St.get, OptRel]

/-! ## one operation, then a history, on corresponding tables -/

section
variable {I : Impl σ} {J : Impl τ} {st : St σ} {st' : St τ}

/-- In the primed versions the two methods only have to agree on the readers at slot `i`. -/
theorem runM_sim' (hview : ∀ s t, R s t → (I.view s).toView = (J.view t).toView)
    (h : StRel R st st') (i : Nat) {x : M σ Val} {y : M τ Val}
    (hx : ∀ s t, st.get i = some s → st'.get i = some t → R s t →
      (x s).1 = (y t).1 ∧ R (x s).2 (y t).2) :
    StepRel R (runM I st i x) (runM J st' i y) := by
  unfold runM
  rcases h.get i with ⟨hg, hg'⟩ | ⟨s, t, hg, hg', hr⟩ <;> rw [hg, hg']
  · exact ⟨rfl, h⟩
  · have h1 := hx s t hg hg' hr
    exact ⟨by simp only [h1.1, hview _ _ h1.2], h.set i h1.2⟩

theorem runQ_sim' (hview : ∀ s t, R s t → (I.view s).toView = (J.view t).toView)
    (h : StRel R st st') (i : Nat) {x : σ → Out Val} {y : τ → Out Val}
    (hx : ∀ s t, st.get i = some s → st'.get i = some t → R s t → x s = y t) :
    StepRel R (runQ I st i x) (runQ J st' i y) := by
  unfold runQ
  rcases h.get i with ⟨hg, hg'⟩ | ⟨s, t, hg, hg', hr⟩ <;> rw [hg, hg']
  · exact ⟨rfl, h⟩
  · exact ⟨by simp only [hview s t hr, hx s t hg hg' hr], h⟩

theorem runNew_sim' (hview : ∀ s t, R s t → (I.view s).toView = (J.view t).toView)
    (h : StRel R st st') (i : Nat) {x : M σ σ} {y : M τ τ}
    (hx : ∀ s t, st.get i = some s → st'.get i = some t → R s t →
      OutRel R (x s).1 (y t).1 ∧ R (x s).2 (y t).2) :
    StepRel R (runNew I st i x) (runNew J st' i y) := by
  unfold runNew
  rcases h.get i with ⟨hg, hg'⟩ | ⟨s, t, hg, hg', hr⟩ <;> rw [hg, hg']
  · exact ⟨rfl, h⟩
  · have h0 := hx s t hg hg' hr
    simp only
    generalize x s = p at h0 ⊢
    generalize y t = q at h0 ⊢
    obtain ⟨o, s1⟩ := p
    obtain ⟨o', t1⟩ := q
    obtain ⟨h1, h2⟩ := h0
    have hv := hview s1 t1 h2
    -- only a returned reader is added to the tables
    rcases OutRel.cases h1 with ⟨r, r', rfl, rfl, hr'⟩ | ⟨_, rfl, rfl⟩ | ⟨_, rfl, rfl⟩ | ⟨rfl, rfl⟩ <;>
      simp only
    · exact ⟨by rw [hv, hview _ _ hr'], (h.set i h2).push hr'⟩
    · exact ⟨by rw [hv], h.set i h2⟩
    · exact ⟨by rw [hv], h.set i h2⟩
    · exact ⟨by rw [hv], h.set i h2⟩

theorem runM_sim (hv : Sim I J R) (h : StRel R st st') (i : Nat) {x : M σ Val} {y : M τ Val}
    (hx : RelM R x y) : StepRel R (runM I st i x) (runM J st' i y) :=
  runM_sim' hv.view h i (fun s t _ _ hr => hx s t hr)

theorem runQ_sim (hv : Sim I J R) (h : StRel R st st') (i : Nat) {x : σ → Out Val}
    {y : τ → Out Val} (hx : ∀ s t, R s t → x s = y t) :
    StepRel R (runQ I st i x) (runQ J st' i y) :=
  runQ_sim' hv.view h i (fun s t _ _ hr => hx s t hr)

theorem runNew_sim (hv : Sim I J R) (h : StRel R st st') (i : Nat) {x : M σ σ} {y : M τ τ}
    (hx : RelNew R x y) : StepRel R (runNew I st i x) (runNew J st' i y) :=
  runNew_sim' hv.view h i (fun s t _ _ hr => hx s t hr)

variable (m : Mode) (e : Endian) (valid : Bytes → Bool) (lossy : Bytes → Bytes)

/-! The four operations that are not a method call on one reader need only the observers to agree. -/

theorem drop_sim (h : StRel R st st') (i : Nat) :
    StepRel R (step I m e valid lossy st (.drop i)) (step J m e valid lossy st' (.drop i)) := by
  -- not `simp only [step]`: that has Lean derive all thirty equations of `step`
  unfold step
  simp only
  rcases h.get i with ⟨hg, hg'⟩ | ⟨s, t, hg, hg', _⟩ <;> rw [hg, hg']
  · exact ⟨rfl, h⟩
  · exact ⟨rfl, h.setOpt i (o := none) (o' := none) trivial⟩

theorem offFrom_sim (hview : ∀ s t, R s t → (I.view s).toView = (J.view t).toView)
    (hoff : ∀ s t s' t', R s t → R s' t' → I.offsetFrom m s s' = J.offsetFrom m t t')
    (h : StRel R st st') (i j : Nat) :
    StepRel R (step I m e valid lossy st (.offFrom i j)) (step J m e valid lossy st' (.offFrom i j)) := by
  unfold step
  simp only
  rcases h.get j with ⟨hg, hg'⟩ | ⟨b, b', hg, hg', hb⟩ <;> rw [hg, hg']
  · exact ⟨rfl, h⟩
  · exact runQ_sim' hview h i (fun s t _ _ hr => by rw [hoff s t b b' hr hb])

theorem offId_sim (hview : ∀ s t, R s t → (I.view s).toView = (J.view t).toView)
    (hid : ∀ s t, R s t → I.offsetId s = J.offsetId t) (h : StRel R st st') (i : Nat) :
    StepRel R (step I m e valid lossy st (.offId i)) (step J m e valid lossy st' (.offId i)) := by
  unfold step
  simp only
  rcases h.get i with ⟨hg, hg'⟩ | ⟨s, t, hg, hg', hr⟩ <;> rw [hg, hg']
  · exact ⟨rfl, h⟩
  · simp only [hview s t hr, hid s t hr, h.ids]
    exact ⟨rfl, h.len, h.rs, rfl⟩

theorem lookup_sim (hview : ∀ s t, R s t → (I.view s).toView = (J.view t).toView)
    (hlk : ∀ s t, R s t → ∀ id, I.lookupOffsetId s id = J.lookupOffsetId t id)
    (h : StRel R st st') (i k : Nat) :
    StepRel R (step I m e valid lossy st (.lookup i k)) (step J m e valid lossy st' (.lookup i k)) := by
  unfold step
  simp only [h.ids]
  cases st'.ids[k]? with
  | none => exact ⟨rfl, h⟩
  | some id => exact runQ_sim' hview h i (fun s t _ _ hr => by rw [hlk s t hr])

/-- `empty` is not among the methods of `Sim`: that it preserves `R` is the hypothesis `hE`, needed only
where the operation is `empty`. -/
theorem step_sim (hv : Sim I J R) (h : StRel R st st') (op : Op)
    (hE : (∀ s t, R s t → R (I.empty s) (J.empty t)) ∨ ∀ i, op ≠ .empty i) :
    StepRel R (step I m e valid lossy st op) (step J m e valid lossy st' op) := by
  -- unfolded once, so that no case has to unfold `step` while unifying
  unfold step
  cases op with
  | fixed i n => exact runM_sim hv h i (RelM.map _ (Dflt.readFixed_rel hv.toCoreSim e n))
  | signed i n => exact runM_sim hv h i (RelM.map _ (Dflt.readSigned_rel hv.toCoreSim e n))
  | uint i n => exact runM_sim hv h i (RelM.map _ (Dflt.readUint_rel hv.toCoreSim e n))
  | slice i n => exact runM_sim hv h i (RelM.map _ (hv.readSlice n))
  | skip i n => exact runM_sim hv h i (RelM.map _ (hv.skip n))
  | split i n => exact runNew_sim hv h i (hv.split n)
  | trunc i n => exact runM_sim hv h i (RelM.map _ (hv.truncate n))
  | empty i => exact runM_sim hv h i (fun s t hst => ⟨rfl, hE.elim (· s t hst) (absurd rfl <| · i)⟩)
  | find i b => exact runQ_sim hv h i (fun s t hst => by rw [hv.find s t hst])
  | clone i => exact runNew_sim hv h i (fun s t hst => ⟨hst, hst⟩)
  | drop i => exact drop_sim (I := I) (J := J) m e valid lossy h i
  | offFrom i j => exact offFrom_sim m e valid lossy hv.view (hv.offsetFrom m) h i j
  | offId i => exact offId_sim m e valid lossy hv.view hv.offsetId h i
  | lookup i k => exact lookup_sim m e valid lossy hv.view hv.lookupOffsetId h i k
  | len i => exact runQ_sim hv h i (fun s t hst => by rw [hv.len s t hst])
  | toSlice i => exact runQ_sim hv h i (fun s t hst => by rw [hv.toSlice s t hst])
  | toStr i => exact runQ_sim hv h i (fun s t hst => by rw [hv.toStr valid s t hst])
  | toLossy i => exact runQ_sim hv h i (fun s t hst => by rw [hv.toLossy valid lossy s t hst])
  | nts i => exact runNew_sim hv h i (Dflt.readNts_rel hv.toCoreSim)
  | uleb i => exact runM_sim hv h i (RelM.map _ (Dflt.via_rel hv.toCoreSim _ _))
  | sleb i => exact runM_sim hv h i (RelM.map _ (Dflt.via_rel hv.toCoreSim _ _))
  | uleb32 i => exact runM_sim hv h i (RelM.map _ (Dflt.readUleb32_rel hv.toCoreSim))
  | uleb16 i => exact runM_sim hv h i (RelM.map _ (Dflt.via_rel hv.toCoreSim _ _))
  | skipLeb i => exact runM_sim hv h i (RelM.map _ (Dflt.via_rel hv.toCoreSim _ _))
  | initLen i => exact runM_sim hv h i (RelM.map _ (Dflt.readInitialLength_rel hv.toCoreSim e))
  | addrSize i => exact runM_sim hv h i (RelM.map _ (Dflt.readAddressSize_rel hv.toCoreSim))
  | addr i n => exact runM_sim hv h i (RelM.map _ (hv.readAddress m e n))
  | word i f => exact runM_sim hv h i (RelM.map _ (Dflt.readWord_rel hv.toCoreSim e f))
  | offset i f => exact runM_sim hv h i (RelM.map _ (hv.readOffset m e f))
  | sizedOff i n => exact runM_sim hv h i (RelM.map _ (hv.readSizedOffset m e n))

theorem runHist_sim (hv : Sim I J R) (ops : List Op)
    (hE : (∀ s t, R s t → R (I.empty s) (J.empty t)) ∨ ∀ op ∈ ops, ∀ i, op ≠ .empty i) :
    ∀ {st : St σ} {st' : St τ}, StRel R st st' →
      StepRel R (runHist I m e valid lossy st ops) (runHist J m e valid lossy st' ops) := by
  induction ops with
  | nil => intro st st' h; exact ⟨rfl, h⟩
  | cons op ops ih =>
    intro st st' h
    obtain ⟨h1, h2⟩ := step_sim m e valid lossy hv h op (hE.imp_right (· op List.mem_cons_self))
    obtain ⟨h3, h4⟩ := ih (hE.imp_right fun hn op' h' => hn op' (List.mem_cons_of_mem _ h')) h2
    exact ⟨by simp only [runHist, h1, h3], h4⟩

end

/-! ## state invariants -/

def Pres (P : σ → Prop) (m : M σ α) : Prop := ∀ s, P s → P (m s).2

def PresNew (P : σ → Prop) (m : M σ σ) : Prop :=
  ∀ s, P s → P (m s).2 ∧ ∀ r, (m s).1 = .ok r → P r

/-- the state-changing required methods other than `empty` preserve `P` -/
structure Core.SafeNE (C : Core σ) (P : σ → Prop) : Prop where
  truncate : ∀ n, Pres P (C.truncate n)
  skip : ∀ n, Pres P (C.skip n)
  split : ∀ n, PresNew P (C.split n)
  readSlice : ∀ n, Pres P (C.readSlice n)

structure Impl.SafeNE (I : Impl σ) (P : σ → Prop) : Prop extends toCoreSafeNE : Core.SafeNE I.toCore P where
  readAddress : ∀ m e n, Pres P (I.readAddress m e n)
  readOffset : ∀ m e f, Pres P (I.readOffset m e f)
  readSizedOffset : ∀ m e n, Pres P (I.readSizedOffset m e n)

/-- … and `empty` too -/
structure Impl.Safe (I : Impl σ) (P : σ → Prop) : Prop extends toImplSafeNE : Impl.SafeNE I P where
  empty : ∀ s, P s → P (I.empty s)

def Diag (P : σ → Prop) (s t : σ) : Prop := s = t ∧ P s

section
variable {P : σ → Prop}

theorem Pres.relM {x : M σ α} (h : Pres P x) : RelM (Diag P) x x := by
  rintro s _ ⟨rfl, hp⟩
  exact ⟨rfl, rfl, h s hp⟩

theorem Pres.of_relM {x : M σ α} (h : RelM (Diag P) x x) : Pres P x :=
  fun s hp => (h s s ⟨rfl, hp⟩).2.2

theorem PresNew.relNew {x : M σ σ} (h : PresNew P x) : RelNew (Diag P) x x := by
  rintro s _ ⟨rfl, hp⟩
  refine ⟨?_, rfl, (h s hp).1⟩
  cases hx : (x s).1 with
  | ok r => exact ⟨rfl, (h s hp).2 r hx⟩
  | err e => exact rfl
  | panic w => exact rfl
  | diverge => exact trivial

theorem Core.SafeNE.coreSim {C : Core σ} (h : C.SafeNE P) : CoreSim C C (Diag P) where
  view := by rintro s _ ⟨rfl, _⟩; rfl
  len := by rintro s _ ⟨rfl, _⟩; rfl
  truncate := fun n => (h.truncate n).relM
  offsetFrom := by rintro m s _ s' _ ⟨rfl, _⟩ ⟨rfl, _⟩; rfl
  offsetId := by rintro s _ ⟨rfl, _⟩; rfl
  lookupOffsetId := by rintro s _ ⟨rfl, _⟩ id; rfl
  find := by rintro s _ ⟨rfl, _⟩ b; rfl
  skip := fun n => (h.skip n).relM
  split := fun n => (h.split n).relNew
  toSlice := by rintro s _ ⟨rfl, _⟩; rfl
  toStr := by rintro v s _ ⟨rfl, _⟩; rfl
  toLossy := by rintro v l s _ ⟨rfl, _⟩; rfl
  readSlice := fun n => (h.readSlice n).relM

theorem Impl.SafeNE.sim {I : Impl σ} (h : I.SafeNE P) : Sim I I (Diag P) where
  toCoreSim := h.toCoreSafeNE.coreSim
  readAddress := fun m e n => (h.readAddress m e n).relM
  readOffset := fun m e f => (h.readOffset m e f).relM
  readSizedOffset := fun m e n => (h.readSizedOffset m e n).relM

theorem Core.SafeNE.withDefaults {C : Core σ} (h : C.SafeNE P) : C.withDefaults.SafeNE P where
  toCoreSafeNE := h
  readAddress := fun m e n => .of_relM (h.coreSim.withDefaults.readAddress m e n)
  readOffset := fun m e f => .of_relM (h.coreSim.withDefaults.readOffset m e f)
  readSizedOffset := fun m e n => .of_relM (h.coreSim.withDefaults.readSizedOffset m e n)

def St.All (P : σ → Prop) (st : St σ) : Prop :=
  P st.sect ∧ ∀ s, some s ∈ st.rs → P s

theorem St.All.get {st : St σ} (h : st.All P) {i : Nat} {s : σ} (hg : st.get i = some s) : P s :=
  h.2 s (List.mem_of_getElem? (Option.join_eq_some_iff.mp hg))

theorem St.All.stRel {st : St σ} (h : st.All P) : StRel (Diag P) st st where
  len := rfl
  ids := rfl
  rs := by
    intro i
    cases hg : st.get i with
    | none => trivial
    | some s => exact ⟨rfl, h.get hg⟩

theorem St.All.of_stRel {st : St σ} (h0 : P st.sect) (h : StRel (Diag P) st st) : st.All P := by
  refine ⟨h0, fun s hs => ?_⟩
  obtain ⟨i, hi⟩ := List.getElem?_of_mem hs
  have := h.rs i
  rw [show st.get i = some s by simp [St.get, hi]] at this
  exact this.2

theorem St.All.init {s : σ} (hs : P s) : (St.init s).All P :=
  .of_stRel hs (StRel.init ⟨rfl, hs⟩)

/-! No operation touches `St.sect`: it is the reader the history started with. -/

theorem runM_sect (I : Impl σ) (st : St σ) (i : Nat) (x : M σ Val) : (runM I st i x).2.sect = st.sect := by
  unfold runM; cases st.get i <;> rfl

theorem runQ_sect (I : Impl σ) (st : St σ) (i : Nat) (q : σ → Out Val) : (runQ I st i q).2.sect = st.sect := by
  unfold runQ; cases st.get i <;> rfl

theorem runNew_sect (I : Impl σ) (st : St σ) (i : Nat) (x : M σ σ) : (runNew I st i x).2.sect = st.sect := by
  unfold runNew
  cases st.get i with
  | none => rfl
  | some s => simp only; rcases x s with ⟨o, s'⟩; cases o <;> rfl

theorem step_sect (I : Impl σ) (m : Mode) (e : Endian) (valid : Bytes → Bool) (lossy : Bytes → Bytes)
    (st : St σ) (op : Op) : (step I m e valid lossy st op).2.sect = st.sect := by
  unfold step
  cases op with
  | split | clone | nts => exact runNew_sect ..
  | find | len | toSlice | toStr | toLossy => exact runQ_sect ..
  | drop i | offId i => simp only; cases st.get i <;> rfl
  | offFrom i j => simp only; cases st.get j <;> first | rfl | exact runQ_sect ..
  | lookup i k => simp only; cases st.ids[k]? <;> first | rfl | exact runQ_sect ..
  | _ => exact runM_sect ..

theorem runHist_sect (I : Impl σ) (m : Mode) (e : Endian) (valid : Bytes → Bool) (lossy : Bytes → Bytes)
    (ops : List Op) : ∀ st : St σ, (runHist I m e valid lossy st ops).2.sect = st.sect := by
  induction ops with
  | nil => exact fun _ => rfl
  | cons op ops ih => exact fun st => (ih _).trans (step_sect I m e valid lossy st op)

theorem runHist_all {I : Impl σ} {P : σ → Prop} (hI : I.Safe P) (m : Mode) (e : Endian)
    (valid : Bytes → Bool) (lossy : Bytes → Bytes) (ops : List Op) : ∀ (st : St σ), st.All P →
    (runHist I m e valid lossy st ops).2.All P :=
  fun st h => .of_stRel ((runHist_sect I m e valid lossy ops st).symm ▸ h.1)
    (runHist_sim m e valid lossy hI.toImplSafeNE.sim ops
      (.inl (by rintro s _ ⟨rfl, hp⟩; exact ⟨rfl, hI.empty s hp⟩)) h.stRel).2

end
end Gimli.Rd
