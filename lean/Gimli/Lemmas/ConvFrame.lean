import Gimli.Model.ConvFrame
import Gimli.Lemmas.WCfi
import Gimli.Lemmas.UnwindSpec
/-!
Helper lemmas for the frame-table component of C12: one step of the conversion
(`convertInstr_spec`: what converts becomes the supplied instruction it stands for, `WCfi.unfactored`),
the simulation between the input program under C06's call-frame semantics and the converted program
under `Spec.WCfi.wExec` (`convertProg_exec`, `convertProg_cie`), ranges of converted operands, totality.
-/
open Gimli Gimli.Cfi Gimli.WCfi Gimli.ConvCfi Gimli.ConvFrame Gimli.Unwind Gimli.Spec.Unwind Gimli.Spec.WCfi

namespace Gimli.ConvFrame

namespace CRes
variable {α β : Type}

theorem bind_eq_ok {x : CRes α} {f : α → CRes β} {b : β} (h : (x >>= f) = .ok b) :
    ∃ a, x = .ok a ∧ f a = .ok b := by
  cases x with
  | ok a => exact ⟨a, rfl, h⟩
  | _ => cases h

theorem Normal.bind {x : CRes α} {f : α → CRes β} (hx : x.Normal) (hf : ∀ a, (f a).Normal) :
    (x >>= f).Normal := by
  cases x with
  | ok a => exact hf a
  | fail e => trivial
  | _ => exact hx

theorem ofWrite_eq_ok {x : Out α} {a : α} (h : ofWrite x = .ok a) : x = .ok a := by
  cases x <;> cases h; rfl

theorem Normal.ofWrite {x : Out α} (h : x.Normal) : (ofWrite x).Normal := by
  cases x <;> first | trivial | exact h

end CRes

theorem narrowI32_ensures (v : Int) : (narrowI32 v).Ensures fun w => w = v ∧ isI32 v := by
  unfold narrowI32
  split
  · exact Out.ensures_ok ⟨rfl, ‹_›⟩
  · exact Out.ensures_err _ _

-- `Spec.WCfi.isI32` is the Model's `ConvCfi.inI32` by `rfl`; Props/C12 `cfi_data_offset_exact` states the latter
theorem dataOffset_ensures (daf f : Int) : (dataOffset daf f).Ensures fun v => v = f * daf ∧ isI32 v := by
  unfold dataOffset
  split
  · exact (narrowI32_ensures _).mono fun v h => ⟨h.1, h.1 ▸ h.2⟩
  · exact Out.ensures_err _ _

theorem dataOffsetU_ensures (daf : Int) (f : Nat) :
    (dataOffsetU daf f).Ensures fun v => v = (f : Int) * daf ∧ isI32 v := by
  unfold dataOffsetU narrowU64I64
  split
  · exact dataOffset_ensures daf f
  · exact Out.ensures_err _ _

theorem narrowU32_ensures (n : Nat) : (narrowU32 n).Ensures fun v => v = n ∧ n < 2 ^ 32 := by
  unfold narrowU32
  split
  · exact Out.ensures_ok ⟨rfl, ‹_›⟩
  · exact Out.ensures_err _ _

theorem advance_ensures (caf off d : Nat) :
    (advance caf off d).Ensures fun o => o = off + d * caf ∧ d * caf < 2 ^ 32 ∧ o < 2 ^ 32 := by
  unfold advance
  refine (narrowU32_ensures caf).bind fun f _ hf => ?_
  cases hf.1
  split
  · exact Out.ensures_ok ⟨rfl, ‹_ ∧ _›⟩
  · exact Out.ensures_err _ _

/-- the expression converter returns the bytes it was given whenever it succeeds. False of the
real converter (`Props.C12.compose_identity_fails`); the lemmas below ask it only of the expression
operands that occur (`InstrOk`), which `Props.C12.CanonInstr` gives for the real converter. -/
def ExprIdentity (env : Env) : Prop := ∀ ex ex', env.convertExpr ex = .ok ex' → ex' = ex

def exprLen : Instr → Nat
  | .defCfaExpression e => e.length
  | .expression _ e => e.length
  | .valExpression _ e => e.length
  | _ => 0

-- in `Props.C12` because `CanonInstr` (Props/C12Compose) is stated with it
def _root_.Gimli.Props.C12.instrExpr : Cfi.Instr → Option Bytes
  | .defCfaExpression ex => some ex
  | .expression _ ex => some ex
  | .valExpression _ ex => some ex
  | _ => none

/-- what the lemmas below ask of each instruction; from `ExprIdentity.instrOk`, or for the real converter from
`Props.C12.CanonInstr.instrOk` -/
def InstrOk (env : Env) (i : Instr) : Prop :=
  exprLen i < 2 ^ 64 ∧ ∀ ex, Props.C12.instrExpr i = some ex → ∀ ex', env.convertExpr ex = .ok ex' → ex' = ex

theorem ExprIdentity.instrOk {env : Env} (h : ExprIdentity env) {i : Instr} (hl : exprLen i < 2 ^ 64) : InstrOk env i :=
  ⟨hl, fun _ _ _ => h _ _⟩

/-- most arms of `convertInstr`: one checked operand, then the instruction built from it -/
theorem checked_ok {α : Type} {x : Out α} {k : α → WInstr} {off off' : Nat} {w : Option WInstr}
    (h : (CRes.ofWrite x >>= fun v => pure (some (k v), off)) = .ok (w, off')) :
    ∃ v, x = .ok v ∧ w = some (k v) ∧ off' = off := by
  obtain ⟨v, hv, h⟩ := CRes.bind_eq_ok h
  cases h
  exact ⟨v, CRes.ofWrite_eq_ok hv, rfl, rfl⟩

theorem convertInstr_ok (env : Env) (off : Nat) (i : Instr) (hok : InstrOk env i)
    (w : Option WInstr) (off' : Nat) (h : convertInstr env off i = .ok (w, off')) :
    (i = .nop ∧ w = none ∧ off' = off) ∨
    (∃ d, i = .advanceLoc d ∧ w = none ∧ off' = off + d * env.caf ∧ d * env.caf < 2 ^ 32 ∧ off' < 2 ^ 32) ∨
    (∃ wi, w = some wi ∧ off' = off ∧ wi.InRange ∧ unfactored env.daf i = some wi) := by
  cases i
  case setLoc => cases h
  case nop => cases h; exact Or.inl ⟨rfl, rfl, rfl⟩
  case advanceLoc d =>
    obtain ⟨o, ho, h⟩ := CRes.bind_eq_ok h
    cases h
    exact Or.inr (Or.inl ⟨d, rfl, rfl, (advance_ensures _ _ _).2 _ (CRes.ofWrite_eq_ok ho)⟩)
  all_goals refine Or.inr (Or.inr ?_)
  case defCfa | defCfaOffset =>
    obtain ⟨v, hv, rfl, rfl⟩ := checked_ok h
    obtain ⟨rfl, hr⟩ := (narrowI32_ensures _).2 _ hv
    exact ⟨_, rfl, rfl, hr, rfl⟩
  case defCfaSf | defCfaOffsetSf | offsetExtendedSf | valOffsetSf =>
    obtain ⟨v, hv, rfl, rfl⟩ := checked_ok h
    obtain ⟨rfl, hr⟩ := (dataOffset_ensures _ _).2 _ hv
    exact ⟨_, rfl, rfl, hr, rfl⟩
  case offset | valOffset =>
    obtain ⟨v, hv, rfl, rfl⟩ := checked_ok h
    obtain ⟨rfl, hr⟩ := (dataOffsetU_ensures _ _).2 _ hv
    exact ⟨_, rfl, rfl, hr, rfl⟩
  case argsSize =>
    obtain ⟨v, hv, rfl, rfl⟩ := checked_ok h
    obtain ⟨rfl, hr⟩ := (narrowU32_ensures _).2 _ hv
    exact ⟨_, rfl, rfl, hr, rfl⟩
  case defCfaExpression | expression | valExpression =>
    obtain ⟨ex', hx, h⟩ := CRes.bind_eq_ok h
    cases h
    cases hok.2 _ rfl _ hx
    exact ⟨_, rfl, rfl, hok.1, rfl⟩
  case defCfaRegister | undefined | sameValue | register | restore | rememberState | restoreState |
      negateRaState =>
    cases h
    exact ⟨_, rfl, rfl, trivial, rfl⟩

theorem convertInstr_spec (env : Env) (hex : ExprIdentity env) (off : Nat) (i : Instr)
    (w : Option WInstr) (off' : Nat) (hl : exprLen i < 2 ^ 64)
    (h : convertInstr env off i = .ok (w, off')) :
    (i = .nop ∧ w = none ∧ off' = off) ∨
    (∃ d, i = .advanceLoc d ∧ w = none ∧ off' = off + d * env.caf ∧ d * env.caf < 2 ^ 32 ∧ off' < 2 ^ 32) ∨
    (∃ wi, w = some wi ∧ off' = off ∧ wi.InRange ∧ unfactored env.daf i = some wi) :=
  convertInstr_ok env off i (hex.instrOk hl) w off' h

/-- the rules that a list of rows assigns to an address: those of the first row that contains it
(rows that are empty, `start ≥ end`, contain nothing) -/
def rulesAt : List TableRow → Nat → Option RuleSet
  | [], _ => none
  | r :: rs, pc => if r.start ≤ pc ∧ pc < r.end_ then some r.rules else rulesAt rs pc

theorem rulesAt_merge (a b c : Nat) (r : RuleSet) (rest : List TableRow) (pc : Nat) (hab : a ≤ b)
    (hbc : pc < b → pc < c) :
    rulesAt (⟨a, b, r⟩ :: ⟨b, c, r⟩ :: rest) pc = rulesAt (⟨a, c, r⟩ :: rest) pc := by
  simp only [rulesAt]
  by_cases h1 : a ≤ pc ∧ pc < b
  · rw [if_pos h1, if_pos ⟨h1.1, hbc h1.2⟩]
  · rw [if_neg h1]
    by_cases h2 : b ≤ pc ∧ pc < c
    · rw [if_pos h2, if_pos ⟨by omega, h2.2⟩]
    · rw [if_neg h2, if_neg (by omega)]

theorem rulesAt_empty (a : Nat) (r : RuleSet) (rest : List TableRow) (pc : Nat) :
    rulesAt (⟨a, a, r⟩ :: rest) pc = rulesAt rest pc := by
  simp only [rulesAt]
  rw [if_neg (by omega)]

theorem convertProg_cons {env : Env} {off : Nat} {i : Instr} {is : List Instr}
    {ws : List (Nat × WInstr)} {last : Nat} (hok : InstrOk env i)
    (h : convertProg env off (i :: is) = .ok (ws, last)) :
    (i = .nop ∧ convertProg env off is = .ok (ws, last)) ∨
    (∃ d, i = .advanceLoc d ∧ d * env.caf < 2 ^ 32 ∧ off + d * env.caf < 2 ^ 32 ∧
      convertProg env (off + d * env.caf) is = .ok (ws, last)) ∨
    (∃ wi rest, ws = (off, wi) :: rest ∧ wi.InRange ∧ unfactored env.daf i = some wi ∧
      convertProg env off is = .ok (rest, last)) := by
  rw [convertProg] at h
  obtain ⟨⟨w, off'⟩, hi, h⟩ := CRes.bind_eq_ok h
  obtain ⟨⟨rest, last'⟩, hrest, hws⟩ := CRes.bind_eq_ok h
  rcases convertInstr_ok env off i hok w off' hi with ⟨rfl, rfl, rfl⟩ | ⟨d, rfl, rfl, rfl, hd, ho⟩ |
    ⟨wi, rfl, rfl, hr, hu⟩ <;> cases hws
  · exact Or.inl ⟨rfl, hrest⟩
  · exact Or.inr (Or.inl ⟨d, rfl, hd, ho, hrest⟩)
  · exact Or.inr (Or.inr ⟨wi, rest, rfl, hr, hu, hrest⟩)

/-- the input program from state `s` against the converted program from the state that lags `g` bytes
behind (`g` = code offset accumulated since the last emitted instruction) -/
theorem convertProg_exec (env : Env) (p : Params)
    (hc : p.codeAlign = env.caf) (hd : p.dataAlign = env.daf) (endAddr : Nat) :
    ∀ (is : List Instr) (off prev g l' : Nat) (s : State) (ws : List (Nat × WInstr)) (last : Nat)
      (rowsIn : List TableRow) (sf : State),
      (∀ i ∈ is, InstrOk env i) → prev + g = off → l' + g = s.loc →
      (g ≠ 0 → s.loc < 2 ^ (8 * p.addressSize)) →
      convertProg env off is = .ok (ws, last) →
      exec p none none endAddr s is none = (rowsIn, .ok sf) →
      ∃ rowsOut sf', wExec p endAddr { s with loc := l' } prev ws = (rowsOut, .ok sf') ∧
        sf'.cur = sf.cur ∧ sf'.stack = sf.stack ∧ sf'.init = sf.init ∧
        ∀ pc, pc < endAddr → rulesAt rowsOut pc = rulesAt (⟨l', s.loc, s.cur⟩ :: rowsIn) pc := by
  intro is
  induction is with
  | nil =>
    intro off prev g l' s ws last rowsIn sf _ _ hl _ hconv hexec
    cases hconv
    cases hexec
    exact ⟨_, _, rfl, rfl, rfl, rfl, fun pc hpc =>
      (rulesAt_merge l' s.loc endAddr s.cur [] pc (hl ▸ Nat.le_add_right _ _) fun _ => hpc).symm⟩
  | cons i is ih =>
    intro off prev g l' s ws last rowsIn sf hlen hg hl hbound hconv hexec
    have hlis : ∀ j ∈ is, InstrOk env j := fun j hj => hlen j (List.mem_cons_of_mem _ hj)
    rcases convertProg_cons (hlen i List.mem_cons_self) hconv with ⟨rfl, hrest⟩ | ⟨d, rfl, hd32, ho32, hrest⟩ |
      ⟨wi, rest, rfl, hir, hu, hrest⟩
    · rw [exec_cons_plain p endAddr s s .nop is rfl] at hexec
      exact ih off prev g l' s ws last rowsIn sf hlis hg hl hbound hrest hexec
    · -- advance_loc: the lag grows, and the row it completes merges with the one that is pending
      have hmod : d * p.codeAlign % 2 ^ 64 = d * env.caf := by
        rw [hc]; exact Nat.mod_eq_of_lt (Nat.lt_trans hd32 (by decide))
      rw [exec_cons_advance, hmod] at hexec
      by_cases hfit : s.loc + d * env.caf < 2 ^ (8 * p.addressSize)
      · rw [if_pos hfit] at hexec
        obtain ⟨rfl, hfin⟩ := Prod.mk.inj hexec
        obtain ⟨rowsOut, sf', h1, h2, h3, h4, h5⟩ := ih _ prev (g + d * env.caf) l'
          { s with loc := s.loc + d * env.caf } ws last _ sf hlis (by rw [← Nat.add_assoc, hg])
          (by rw [← Nat.add_assoc, hl])
          (fun _ => hfit) hrest (Prod.ext rfl hfin)
        exact ⟨rowsOut, sf', h1, h2, h3, h4, fun pc hpc => (h5 pc hpc).trans
          (rulesAt_merge l' s.loc (s.loc + d * env.caf) s.cur _ pc (hl ▸ Nat.le_add_right _ _)
            fun h => Nat.lt_add_right _ h).symm⟩
      · rw [if_neg hfit] at hexec
        cases (Prod.mk.inj hexec).2
    · rw [exec_cons_unfactored (hd ▸ hu) hir] at hexec
      cases hstep : wStep s wi with
      | error e =>
        rw [hstep] at hexec
        cases (Prod.mk.inj hexec).2
      | ok q =>
        obtain ⟨s2, row⟩ := q
        rw [hstep] at hexec
        obtain ⟨rowsOut, sf', h1, h2, h3, h4, h5⟩ := ih off off 0 s2.loc s2 rest last rowsIn sf hlis rfl rfl
          (fun h => absurd rfl h) hrest hexec
        -- supplied on the spot, from the input's own state
        have base : wExec p endAddr s off ((off, wi) :: rest) = (rowsOut, .ok sf') := by
          rw [wExec, if_pos rfl, hstep]
          exact h1
        by_cases hg0 : g = 0
        · -- no pending advance: that is the converted program's state
          subst hg0
          obtain rfl : prev = off := hg
          obtain rfl : l' = s.loc := hl
          exact ⟨rowsOut, sf', base, h2, h3, h4, fun pc hpc => by rw [h5 pc hpc, rulesAt_empty, rulesAt_empty]⟩
        · -- pending advance: the converted program first completes the row built so far
          have hn : l' + (off - prev) = s.loc := by rw [← hg, Nat.add_sub_cancel_left, hl]
          have hne : off ≠ prev := hg ▸ Nat.ne_of_gt (Nat.lt_add_of_pos_right (Nat.pos_of_ne_zero hg0))
          refine ⟨⟨l', s.loc, s.cur⟩ :: rowsOut, sf', ?_, h2, h3, h4, fun pc hpc => ?_⟩
          · rw [wExec_advance p endAddr _ wi rest hne]
            simp only [hn]
            rw [if_pos (hbound hg0)]
            exact congrArg (fun r => (_ :: r.1, r.2)) base
          · simp only [rulesAt]
            split
            · rfl
            · rw [h5 pc hpc, rulesAt_empty]

/-- the CIE's program: the converted instructions, all supplied at offset 0 (a CIE has no code
offsets), leave the same rules, the same remembered states and the same initial rules as the input
program — whose `advance_loc`s only move the location, which the FDE resets -/
theorem convertProg_cie (env : Env) (p : Params) (hd : p.dataAlign = env.daf)
    (endAddr endAddr' : Nat) :
    ∀ (is : List Instr) (off l' : Nat) (s : State) (ws : List (Nat × WInstr)) (last : Nat)
      (rowsIn : List TableRow) (sf : State),
      (∀ i ∈ is, InstrOk env i) →
      convertProg env off is = .ok (ws, last) →
      exec p none none endAddr s is none = (rowsIn, .ok sf) →
      ∃ rowsOut, wExec p endAddr' { s with loc := l' } 0 ((ws.map (·.2)).map fun i => (0, i)) =
        (rowsOut, .ok { sf with loc := l' }) := by
  intro is
  induction is with
  | nil =>
    intro off l' s ws last rowsIn sf _ hconv hexec
    cases hconv
    cases hexec
    exact ⟨_, rfl⟩
  | cons i is ih =>
    intro off l' s ws last rowsIn sf hlen hconv hexec
    have hlis : ∀ j ∈ is, InstrOk env j := fun j hj => hlen j (List.mem_cons_of_mem _ hj)
    rcases convertProg_cons (hlen i List.mem_cons_self) hconv with ⟨rfl, hrest⟩ | ⟨d, rfl, _, _, hrest⟩ |
      ⟨wi, rest, rfl, hir, hu, hrest⟩
    · rw [exec_cons_plain p endAddr s s .nop is rfl] at hexec
      exact ih _ l' s ws last rowsIn sf hlis hrest hexec
    · rw [exec_cons_advance] at hexec
      by_cases hfit : s.loc + d * p.codeAlign % 2 ^ 64 < 2 ^ (8 * p.addressSize)
      · rw [if_pos hfit] at hexec
        exact ih _ l' { s with loc := s.loc + d * p.codeAlign % 2 ^ 64 } ws last _ sf hlis hrest
          (Prod.ext rfl (Prod.mk.inj hexec).2)
      · rw [if_neg hfit] at hexec
        cases (Prod.mk.inj hexec).2
    · rw [exec_cons_unfactored (hd ▸ hu) hir] at hexec
      cases hstep : wStep s wi with
      | error e =>
        rw [hstep] at hexec
        cases (Prod.mk.inj hexec).2
      | ok q =>
        obtain ⟨s2, row⟩ := q
        rw [hstep] at hexec
        obtain ⟨rowsOut, h1⟩ := ih off l' s2 rest last rowsIn sf hlis hrest hexec
        refine ⟨rowsOut, ?_⟩
        rw [List.map_cons, List.map_cons, wExec, if_pos rfl, wStep_loc, hstep]
        exact h1

theorem convertProg_table (env : Env) (p : Params) (hc : p.codeAlign = env.caf) (hd : p.dataAlign = env.daf)
    (ci fi : List Instr) (hoc : ∀ i ∈ ci, InstrOk env i) (hof : ∀ i ∈ fi, InstrOk env i)
    (cw fw : List (Nat × WInstr)) (lastc lastf : Nat)
    (hcie : convertProg env 0 ci = .ok (cw, lastc)) (hfde : convertProg env 0 fi = .ok (fw, lastf))
    (initial len : Nat) (rowsIn : List TableRow)
    (hin : table p none none ci none fi none initial len = (rowsIn, .ok ())) :
    ∃ rowsOut, wTable p (cw.map (·.2)) fw initial len = (rowsOut, .ok ()) ∧
      ∀ pc, pc < fdeEnd p initial len → rulesAt rowsOut pc = rulesAt rowsIn pc := by
  rcases table_cases p none none ci none fi none initial len with ⟨e, _, ht⟩ | ⟨s1, h1, ⟨hx, _⟩ | ⟨_, ht⟩⟩
  · rw [ht] at hin; cases hin
  · cases hx
  · rw [ht] at hin
    obtain ⟨rfl, hfin⟩ := Prod.mk.inj hin
    obtain ⟨sf, hsf⟩ := map_unit_eq_ok.mp hfin
    obtain ⟨rowsC, hwc⟩ := convertProg_cie env p hd 0 0 ci 0 0 _ cw lastc _ s1 hoc hcie (Prod.ext rfl h1)
    obtain ⟨rowsOut, sf', hwf, _, _, _, hrows⟩ := convertProg_exec env p hc hd (fdeEnd p initial len) fi 0 0 0 initial
      (fdeStart s1 initial) fw lastf _ sf hof rfl rfl (fun h => absurd rfl h) hfde (Prod.ext rfl hsf)
    refine ⟨rowsOut, ?_, fun pc hpc => by rw [hrows pc hpc, rulesAt_empty]⟩
    unfold wTable
    simp only [hwc]
    exact congrArg (fun r => (r.1, r.2.map fun _ => ())) hwf

/-- what C14's `rows_roundtrip` asks of a program -/
theorem convertProg_inRange_ok (env : Env) :
    ∀ (is : List Instr) (off : Nat) (ws : List (Nat × WInstr)) (last : Nat),
      (∀ i ∈ is, InstrOk env i) → off < 2 ^ 32 →
      convertProg env off is = .ok (ws, last) →
      ProgInRange ws ∧ ((∃ x ∈ ws, x.2 = WInstr.negateRaState) → Instr.negateRaState ∈ is) := by
  intro is
  induction is with
  | nil =>
    intro off ws last _ _ hconv
    cases hconv
    exact ⟨trivial, by simp⟩
  | cons i is ih =>
    intro off ws last hlen hoff hconv
    have hlis : ∀ j ∈ is, InstrOk env j := fun j hj => hlen j (List.mem_cons_of_mem _ hj)
    rcases convertProg_cons (hlen i List.mem_cons_self) hconv with ⟨rfl, hrest⟩ | ⟨d, rfl, _, ho32, hrest⟩ |
      ⟨wi, rest, rfl, hir, hu, hrest⟩
    · obtain ⟨h1, h3⟩ := ih off ws last hlis hoff hrest
      exact ⟨h1, fun h => List.mem_cons_of_mem _ (h3 h)⟩
    · obtain ⟨h1, h3⟩ := ih _ ws last hlis ho32 hrest
      exact ⟨h1, fun h => List.mem_cons_of_mem _ (h3 h)⟩
    · obtain ⟨h1, h3⟩ := ih off rest last hlis hoff hrest
      refine ⟨⟨hoff, hir, h1⟩, ?_⟩
      rintro ⟨x, hx, hxn⟩
      rcases List.mem_cons.mp hx with rfl | hx
      · cases (show wi = .negateRaState from hxn)
        rw [unfactored_negateRaState hu]; simp
      · exact List.mem_cons_of_mem _ (h3 ⟨x, hx, hxn⟩)

theorem convertProg_inRange (env : Env) (hex : ExprIdentity env) :
    ∀ (is : List Instr) (off : Nat) (ws : List (Nat × WInstr)) (last : Nat),
      (∀ i ∈ is, exprLen i < 2 ^ 64) → off < 2 ^ 32 →
      convertProg env off is = .ok (ws, last) →
      ProgInRange ws ∧ ((∃ x ∈ ws, x.2 = WInstr.negateRaState) → Instr.negateRaState ∈ is) :=
  fun is off ws last hlen => convertProg_inRange_ok env is off ws last fun i hi => hex.instrOk (hlen i hi)

theorem convertInstr_normal (env : Env) (hx : ∀ ex, (env.convertExpr ex).Normal) (off : Nat) (i : Instr) :
    (convertInstr env off i).Normal := by
  have checked : ∀ {α : Type} {x : Out α} {g : α → Option WInstr × Nat}, x.Normal →
      (CRes.ofWrite x >>= fun v => pure (g v)).Normal :=
    fun h => (CRes.Normal.ofWrite h).bind fun _ => trivial
  cases i
  case advanceLoc => exact checked (advance_ensures _ _ _).1
  -- `narrowI32 ↑o` is kept away from the unifier, which would evaluate its range test on `↑o` in unary
  case defCfa | defCfaOffset =>
    rename_i o
    show (CRes.ofWrite (narrowI32 o) >>= _).Normal
    generalize (o : Int) = v
    exact checked (narrowI32_ensures v).1
  case defCfaSf | defCfaOffsetSf | offsetExtendedSf | valOffsetSf => exact checked (dataOffset_ensures _ _).1
  case offset | valOffset => exact checked (dataOffsetU_ensures _ _).1
  case argsSize => exact checked (narrowU32_ensures _).1
  case defCfaExpression | expression | valExpression => exact (hx _).bind fun _ => trivial
  all_goals trivial

theorem convertProg_normal (env : Env) (hx : ∀ ex, (env.convertExpr ex).Normal) :
    ∀ (is : List Instr) (off : Nat), (convertProg env off is).Normal := by
  intro is
  induction is with
  | nil => intro off; trivial
  | cons i is ih =>
    intro off
    rw [convertProg]
    refine (convertInstr_normal env hx off i).bind ?_
    rintro ⟨w, off'⟩
    refine (ih off').bind ?_
    rintro ⟨rest, last⟩
    cases w <;> trivial

end Gimli.ConvFrame
