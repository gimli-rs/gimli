import Gimli.Lemmas.WLine
import Gimli.Lemmas.LineHeaderRt
import Gimli.Lemmas.Out
/-! Helper lemmas for C13: `LineProgram::write` taken apart into its stages (`Prog.write_ok`), and the
unit it emits for versions 2–4 (inline strings) as the §6.2.4 encoding (`Spec.Line.encodeHeaderV4`) of
an abstract header built from the program's tables, so C04's header round trip reads it back. -/
namespace Gimli.WLine
open Gimli Gimli.Line

/-! ## `LineProgram::write`, stage by stage -/

/-- the parameter block `write` pushes after `header_length` -/
def fixedBytes (e : Enc) : Bytes :=
  [UInt8.ofNat e.minInstLen] ++ (if e.version ≥ 4 then [UInt8.ofNat e.maxOps] else []) ++
    [UInt8.ofNat (b2n e.defaultIsStmt), UInt8.ofNat (Leb.ofI64 e.lineBase % 256),
     UInt8.ofNat e.lineRange, UInt8.ofNat opcodeBase] ++ stdLens

/-- the directory and file tables `write` pushes (either layout), and the string tables afterwards -/
def writeTables (en : Endian) (m : Mode) (p : Prog) (tabs : Tabs) : Out (Bytes × Tabs) :=
  if p.enc.version ≤ 4 then do
    let ds ← writeStrs en p.format p.enc.version m tabs .string (p.dirs.drop 1)
    let fs ← writeFilesV4 en p.format p.enc.version m tabs p.files
    pure (ds ++ [0] ++ fs ++ [0], tabs)
  else
    match p.dirs, p.files with
    | [], _ => .panic "called `Option::unwrap()` on a `None` value"
    | d0 :: _, files => do
      let dirForm := d0.form
      let dirHead : Bytes := [1] ++ Leb.encodeU 1 ++ Leb.encodeU dirForm.code ++
        Leb.encodeU p.dirs.length
      let ds ← writeStrs en p.format p.enc.version m tabs dirForm p.dirs
      match files with
      | [] => .panic "called `Option::unwrap()` on a `None` value"
      | f0 :: _ => do
        let fileForm := f0.name.form
        let sourceForm := firstSourceForm files
        let count := 2 + b2n p.hasTimestamp + b2n p.hasSize + b2n p.hasMd5 + b2n p.hasSource
        let fileHead : Bytes := [UInt8.ofNat count] ++ Leb.encodeU 1 ++ Leb.encodeU fileForm.code ++
          Leb.encodeU 2 ++ Leb.encodeU 0x0f ++
          (if p.hasTimestamp then Leb.encodeU 3 ++ Leb.encodeU 0x0f else []) ++
          (if p.hasSize then Leb.encodeU 4 ++ Leb.encodeU 0x0f else []) ++
          (if p.hasMd5 then Leb.encodeU 5 ++ Leb.encodeU 0x1e else []) ++
          (if p.hasSource then Leb.encodeU 0x2001 ++ Leb.encodeU sourceForm.code else []) ++
          Leb.encodeU files.length
        let (fs, tabs) ← writeFilesV5 en p.format p.enc.version m p fileForm sourceForm tabs files
        pure (dirHead ++ ds ++ fileHead ++ fs, tabs)

/-- the unit after its initial length, from the three parts `write` computes -/
def unitBody (en : Endian) (p : Prog) (hl tables prog : Bytes) : Bytes :=
  Ints.toBytes en 2 p.enc.version ++ (if p.enc.version ≥ 5 then [UInt8.ofNat p.addrSize, 0] else []) ++ hl ++
    (fixedBytes p.enc ++ tables) ++ prog

theorem Prog.write_eq (en : Endian) (m : Mode) (p : Prog) (uver uasz : Nat) (tabs : Tabs) :
    p.write en m uver uasz tabs =
      if (uver < 5 ∧ p.enc.version ≥ 5) ∨ uasz ≠ p.addrSize then .err .wIncompatibleLineProgramEncoding
      else if p.enc.version < 2 ∨ p.enc.version > 5 then .err .wUnsupportedVersion
      else if p.enc.version < 4 ∧ p.enc.maxOps ≠ 1 then .err .wNeedVersion
      else (do
        let (tables, tabs) ← writeTables en m p tabs
        let hl ← Ints.writeUdata en (fixedBytes p.enc ++ tables).length p.format.wordSize
        let prog ← writeInstrs en p.enc.version p.addrSize p.instrs
        let il ← Ints.writeInitialLength en p.format (unitBody en p hl tables prog).length
        pure (il ++ unitBody en p hl tables prog, tabs)) := rfl

theorem Prog.write_ok {en : Endian} {m : Mode} {p : Prog} {uver uasz : Nat} {tabs tabs' : Tabs} {bytes : Bytes} :
    p.write en m uver uasz tabs = .ok (bytes, tabs') ↔
      (¬ ((uver < 5 ∧ p.enc.version ≥ 5) ∨ uasz ≠ p.addrSize) ∧ ¬ (p.enc.version < 2 ∨ p.enc.version > 5) ∧
        ¬ (p.enc.version < 4 ∧ p.enc.maxOps ≠ 1)) ∧
      ∃ tables hl prog il, writeTables en m p tabs = .ok (tables, tabs') ∧
        Ints.writeUdata en (fixedBytes p.enc ++ tables).length p.format.wordSize = .ok hl ∧
        writeInstrs en p.enc.version p.addrSize p.instrs = .ok prog ∧
        Ints.writeInitialLength en p.format (unitBody en p hl tables prog).length = .ok il ∧
        bytes = il ++ unitBody en p hl tables prog := by
  rw [Prog.write_eq]
  by_cases c1 : (uver < 5 ∧ p.enc.version ≥ 5) ∨ uasz ≠ p.addrSize
  · rw [if_pos c1]; exact ⟨nofun, fun h => absurd c1 h.1.1⟩
  by_cases c2 : p.enc.version < 2 ∨ p.enc.version > 5
  · rw [if_neg c1, if_pos c2]; exact ⟨nofun, fun h => absurd c2 h.1.2.1⟩
  by_cases c3 : p.enc.version < 4 ∧ p.enc.maxOps ≠ 1
  · rw [if_neg c1, if_neg c2, if_pos c3]; exact ⟨nofun, fun h => absurd c3 h.1.2.2⟩
  rw [if_neg c1, if_neg c2, if_neg c3]
  constructor
  · intro h
    obtain ⟨⟨tables, t1⟩, h1, h⟩ := Out.bind_eq_ok h
    obtain ⟨hl, h2, h⟩ := Out.bind_eq_ok h
    obtain ⟨prog, h3, h⟩ := Out.bind_eq_ok h
    obtain ⟨il, h4, h⟩ := Out.bind_eq_ok h
    cases h
    exact ⟨⟨c1, c2, c3⟩, tables, hl, prog, il, h1, h2, h3, h4, rfl⟩
  · rintro ⟨_, tables, hl, prog, il, h1, h2, h3, h4, rfl⟩
    simp only [h1, h2, h3, h4, Out.bind_ok]
    rfl

/-! ## the two things every version shares with the §6.2.4 encoder: `header_length`, the parameter block -/

/-- `line_base as u8`: the low byte of the two's complement pattern is the residue mod 256 -/
theorem lineBase_byte (lb : Int) :
    UInt8.ofNat (lb % 256).toNat = UInt8.ofNat (Leb.ofI64 lb % 256) := by
  unfold Leb.ofI64
  rw [← Int.emod_emod_of_dvd lb (by decide : (256 : Int) ∣ 2 ^ 64),
    Int.toNat_emod (Int.emod_nonneg _ (by decide)) (by decide)]
  rfl

theorem writeUdata_word (en : Endian) (format : Format) (v : Nat) (b : Bytes) (hv : v < 2 ^ 64)
    (h : Ints.writeUdata en v format.wordSize = .ok b) :
    b = Spec.Line.wordBytes en format v ∧ (format = .dwarf32 → v < 2 ^ 32) := by
  have hbs := (Ints.writeUdata_ok h).1
  cases format with
  | dwarf32 => exact ⟨hbs, fun _ => Ints.writeUdata_fits h hv⟩
  | dwarf64 => exact ⟨hbs, fun hx => by cases hx⟩

/-! ## versions 2–4: inline strings -/

/-- a `LineString::String` that `add_directory`/`add_file` accept for versions ≤ 4 -/
def InlineOk (s : LineStr) : Prop := s.form = .string ∧ s.val ≠ [] ∧ ∀ b ∈ s.val, b ≠ 0

theorem writeStr_inline (en : Endian) (format : Format) (version : Nat) (m : Mode) (tabs : Tabs)
    (s : LineStr) (hs : InlineOk s) :
    writeStr en format version m tabs .string s = .ok (s.val ++ [0]) := by
  obtain ⟨hf, hne, _⟩ := hs
  unfold writeStr
  rw [if_neg (by rw [hf]; simp)]
  rw [hf]
  simp only
  have : s.val.isEmpty = false := by
    cases hv : s.val with
    | nil => exact absurd hv hne
    | cons => rfl
  rw [if_neg (by simp [this])]

/-- the concatenation `LineProgram::write` emits for the include directories of versions ≤ 4 -/
def dirBytes : List LineStr → Bytes
  | [] => []
  | d :: ds => d.val ++ 0 :: dirBytes ds

theorem writeStrs_inline (en : Endian) (format : Format) (version : Nat) (m : Mode) (tabs : Tabs) :
    ∀ (ds : List LineStr), (∀ d ∈ ds, InlineOk d) →
      writeStrs en format version m tabs .string ds = .ok (dirBytes ds) := by
  intro ds
  induction ds with
  | nil => intro _; rfl
  | cons d ds ih =>
    intro h
    rw [writeStrs, writeStr_inline en format version m tabs d (h d (by simp)),
      ih (fun x hx => h x (by simp [hx]))]
    simp [dirBytes]

/-- the file entries `LineProgram::write` emits for versions ≤ 4 -/
def fileBytes : List FileEnt → Bytes
  | [] => []
  | f :: fs => f.name.val ++ 0 :: (Leb.encodeU f.dir ++ (Leb.encodeU f.info.timestamp ++
      (Leb.encodeU f.info.size ++ fileBytes fs)))

/-- the reader's view of a version ≤ 4 file entry -/
def FileEnt.toEntry (f : FileEnt) : FileEntry :=
  { path := .string f.name.val, dirIndex := f.dir, timestamp := f.info.timestamp, size := f.info.size,
    md5 := List.replicate 16 0, source := none }

def FileFits (f : FileEnt) : Prop := f.dir < 2 ^ 64 ∧ f.info.timestamp < 2 ^ 64 ∧ f.info.size < 2 ^ 64

/-- the parameter block of a version 2–4 header as `LineProgram::write` lays it out, followed by
`tables`: `fixedBytes e ++ tables`, by `rfl` -/
def headerBodyV4 (e : Enc) (tables : Bytes) : Bytes :=
  [UInt8.ofNat e.minInstLen] ++ (if e.version ≥ 4 then [UInt8.ofNat e.maxOps] else []) ++
    [UInt8.ofNat (b2n e.defaultIsStmt), UInt8.ofNat (Leb.ofI64 e.lineBase % 256),
     UInt8.ofNat e.lineRange, UInt8.ofNat opcodeBase] ++ stdLens ++ tables

/-- what a reader accepts: byte-sized, non-zero parameters -/
def EncReadable (e : Enc) : Prop :=
  2 ≤ e.version ∧ e.version ≤ 4 ∧ 1 ≤ e.minInstLen ∧ e.minInstLen ≤ 255 ∧ 1 ≤ e.maxOps ∧ e.maxOps ≤ 255 ∧
  (e.version ≤ 3 → e.maxOps = 1) ∧ -128 ≤ e.lineBase ∧ e.lineBase ≤ 127 ∧ 1 ≤ e.lineRange ∧ e.lineRange ≤ 255

/-- the reader's parameter block for `e` -/
def paramsOf (en : Endian) (format : Format) (addrSize : Nat) (e : Enc) : Params :=
  { endian := en, format, version := e.version, addrSize, minInstLen := e.minInstLen,
    maxOps := e.maxOps, defaultIsStmt := e.defaultIsStmt, lineBase := e.lineBase,
    lineRange := e.lineRange, opcodeBase := 13, stdLens := WLine.stdLens }

theorem writeFilesV4_inline (en : Endian) (format : Format) (version : Nat) (m : Mode) (tabs : Tabs) :
    ∀ (fs : List FileEnt), (∀ f ∈ fs, InlineOk f.name) →
      writeFilesV4 en format version m tabs fs = .ok (fileBytes fs) := by
  intro fs
  induction fs with
  | nil => intro _; rfl
  | cons f fs ih =>
    intro h
    rw [writeFilesV4, writeStr_inline en format version m tabs f.name (h f (by simp)),
      ih (fun x hx => h x (by simp [hx]))]
    simp [fileBytes]

/-- the two tables of a version 2–4 header, each with its terminating 0 -/
def tablesV4 (p : Prog) : Bytes := dirBytes (p.dirs.drop 1) ++ 0 :: (fileBytes p.files ++ [0])

theorem writeTables_v4 (en : Endian) (m : Mode) (p : Prog) (tabs : Tabs) (hv4 : p.enc.version ≤ 4)
    (hds : ∀ d ∈ p.dirs.drop 1, InlineOk d) (hfs : ∀ f ∈ p.files, InlineOk f.name) :
    writeTables en m p tabs = .ok (tablesV4 p, tabs) := by
  unfold writeTables
  rw [if_pos hv4, writeStrs_inline en p.format p.enc.version m tabs _ hds,
    writeFilesV4_inline en p.format p.enc.version m tabs _ hfs]
  simp [tablesV4]

theorem unitBody_v4 (en : Endian) (p : Prog) (hl tables prog : Bytes) (hv4 : p.enc.version ≤ 4) :
    unitBody en p hl tables prog = Ints.toBytes en 2 p.enc.version ++ hl ++ headerBodyV4 p.enc tables ++ prog := by
  unfold unitBody
  rw [if_neg (by omega), List.append_nil]
  rfl

theorem write_v4_ok {en : Endian} {m : Mode} {p : Prog} {uver : Nat} {tabs tabs' : Tabs} {bytes : Bytes}
    (hv2 : 2 ≤ p.enc.version) (hv4 : p.enc.version ≤ 4) (hmo : p.enc.version < 4 → p.enc.maxOps = 1)
    (hds : ∀ d ∈ p.dirs.drop 1, InlineOk d) (hfs : ∀ f ∈ p.files, InlineOk f.name) :
    p.write en m uver p.addrSize tabs = .ok (bytes, tabs') ↔
      tabs' = tabs ∧ ∃ hl prog il,
        Ints.writeUdata en (headerBodyV4 p.enc (tablesV4 p)).length p.format.wordSize = .ok hl ∧
        writeInstrs en p.enc.version p.addrSize p.instrs = .ok prog ∧
        Ints.writeInitialLength en p.format
          (Ints.toBytes en 2 p.enc.version ++ hl ++ headerBodyV4 p.enc (tablesV4 p) ++ prog).length = .ok il ∧
        bytes = il ++ (Ints.toBytes en 2 p.enc.version ++ hl ++ headerBodyV4 p.enc (tablesV4 p) ++ prog) := by
  have guards : ¬ ((uver < 5 ∧ p.enc.version ≥ 5) ∨ p.addrSize ≠ p.addrSize) ∧
      ¬ (p.enc.version < 2 ∨ p.enc.version > 5) ∧ ¬ (p.enc.version < 4 ∧ p.enc.maxOps ≠ 1) :=
    ⟨by omega, by omega, fun h => h.2 (hmo h.1)⟩
  rw [Prog.write_ok, writeTables_v4 en m p tabs hv4 hds hfs]
  constructor
  · rintro ⟨_, tables, hl, prog, il, h1, h2, h3, h4, h5⟩
    cases h1
    rw [unitBody_v4 en p hl _ prog hv4] at h4 h5
    exact ⟨rfl, hl, prog, il, h2, h3, h4, h5⟩
  · rintro ⟨rfl, hl, prog, il, h2, h3, h4, h5⟩
    rw [← unitBody_v4 en p hl _ prog hv4] at h4 h5
    exact ⟨guards, _, hl, prog, il, rfl, h2, h3, h4, h5⟩

/-! ### … as the §6.2.4 encoding of an abstract header -/

section
open Gimli.Spec.Line

/-- the abstract version 2–4 header (`Spec.Line.HeaderV4`) that `LineProgram::write` emits: the
include directories without directory 0, one (name, directory, time, length) per file. These
versions do not record the address size: `asz` is whatever the reader is told. -/
def headerV4Of (en : Endian) (p : Prog) (asz : Nat) (prog : Bytes) : HeaderV4 :=
  { p := paramsOf en p.format asz p.enc, dirs := (p.dirs.drop 1).map (·.val),
    files := p.files.map fun f => (f.name.val, f.dir, f.info.timestamp, f.info.size), program := prog }

theorem encodeDirs_vals (ds : List LineStr) : encodeDirs (ds.map (·.val)) = dirBytes ds ++ [0] := by
  induction ds with
  | nil => rfl
  | cons d ds ih => simp only [List.map_cons, encodeDirs, dirBytes, ih, List.append_assoc, List.cons_append]

theorem encodeFiles_ents (fs : List FileEnt) :
    encodeFiles (fs.map fun f => (f.name.val, f.dir, f.info.timestamp, f.info.size)) = fileBytes fs ++ [0] := by
  induction fs with
  | nil => rfl
  | cons f fs ih => simp only [List.map_cons, encodeFiles, fileBytes, ih, List.append_assoc, List.cons_append]

theorem encodeFields_v4 (en : Endian) (p : Prog) (asz : Nat) (prog : Bytes) :
    encodeFields (headerV4Of en p asz prog) = headerBodyV4 p.enc (tablesV4 p) := by
  simp only [encodeFields, headerV4Of, paramsOf, encodeDirs_vals, encodeFiles_ents, Ints.toBytes_one,
    lineBase_byte, headerBodyV4, tablesV4, List.append_assoc, List.cons_append, List.nil_append]
  rfl

theorem headerV4Of_expected (en : Endian) (p : Prog) (asz : Nat) (prog : Bytes) (cd cn : Option Bytes) :
    (headerV4Of en p asz prog).expected cd cn =
      { p := paramsOf en p.format asz p.enc,
        unitLength := (encodeBody (headerV4Of en p asz prog)).length,
        headerLength := (encodeFields (headerV4Of en p asz prog)).length,
        dirFormat := [], dirs := (p.dirs.drop 1).map (fun d => AttrVal.string d.val), fileFormat := [],
        files := p.files.map FileEnt.toEntry, program := prog, compDir := cd,
        compFile := cn.map fun n => { path := .string n, dirIndex := 0, timestamp := 0, size := 0,
                                       md5 := List.replicate 16 0, source := none } } := by
  simp only [HeaderV4.expected, headerV4Of, List.map_map]
  rfl

theorem encodeBody_v4 (en : Endian) (p : Prog) (asz : Nat) (prog hl : Bytes)
    (hflen : (headerBodyV4 p.enc (tablesV4 p)).length < 2 ^ 64)
    (hhl : Ints.writeUdata en (headerBodyV4 p.enc (tablesV4 p)).length p.format.wordSize = .ok hl) :
    encodeBody (headerV4Of en p asz prog) =
      Ints.toBytes en 2 p.enc.version ++ hl ++ headerBodyV4 p.enc (tablesV4 p) ++ prog := by
  unfold encodeBody
  rw [encodeFields_v4, (writeUdata_word en p.format _ hl hflen hhl).1]
  rfl

/-- the unit `write_v4_ok` describes is the §6.2.4 encoding of `headerV4Of`, which is well formed:
C04's `header_roundtrip` applies -/
theorem unit_v4_encodes (en : Endian) (p : Prog) (asz : Nat) (prog hl il : Bytes)
    (hasz : asz = 1 ∨ asz = 2 ∨ asz = 4 ∨ asz = 8) (he : EncReadable p.enc)
    (hds : ∀ d ∈ p.dirs.drop 1, InlineOk d) (hfs : ∀ f ∈ p.files, InlineOk f.name ∧ FileFits f)
    (hhl : Ints.writeUdata en (headerBodyV4 p.enc (tablesV4 p)).length p.format.wordSize = .ok hl)
    (hil : Ints.writeInitialLength en p.format
      (Ints.toBytes en 2 p.enc.version ++ hl ++ headerBodyV4 p.enc (tablesV4 p) ++ prog).length = .ok il)
    (hsmall : (Ints.toBytes en 2 p.enc.version ++ hl ++ headerBodyV4 p.enc (tablesV4 p) ++ prog).length < 2 ^ 64) :
    encodeHeaderV4 (headerV4Of en p asz prog) =
      .ok (il ++ (Ints.toBytes en 2 p.enc.version ++ hl ++ headerBodyV4 p.enc (tablesV4 p) ++ prog)) ∧
    (headerV4Of en p asz prog).WF := by
  obtain ⟨hv2, hv4, hm1, hm2, ho1, ho2, hv3, hb1, hb2, hr1, hr2⟩ := he
  have hfields := encodeFields_v4 en p asz prog
  have hflen : (headerBodyV4 p.enc (tablesV4 p)).length < 2 ^ 64 := by
    simp only [List.length_append] at hsmall; omega
  have h32 := (writeUdata_word en p.format _ hl hflen hhl).2
  have hbody := encodeBody_v4 en p asz prog hl hflen hhl
  refine ⟨?_, ?_, hv4, ?_, ?_, by rw [hbody]; exact hsmall, by rw [hfields]; exact h32⟩
  · unfold encodeHeaderV4
    rw [hbody]
    exact (congrArg (· >>= fun il => pure (il ++ _)) hil :)
  · exact ⟨hv2, by show p.enc.version ≤ 5; omega, hasz, hm1, hm2, ho1, ho2, hb1, hb2, hr1, hr2,
      by show 1 ≤ 13; omega, by show 13 ≤ 255; omega, rfl, hv3⟩
  · intro d hd
    obtain ⟨x, hx, rfl⟩ := List.mem_map.mp hd
    obtain ⟨_, hne, hnz⟩ := hds x hx
    exact ⟨hne, fun h0 => hnz 0 h0 rfl⟩
  · intro f hf
    obtain ⟨x, hx, rfl⟩ := List.mem_map.mp hf
    obtain ⟨⟨_, hne, hnz⟩, hfit⟩ := hfs x hx
    exact ⟨hne, fun h0 => hnz 0 h0 rfl, hfit⟩

theorem parseHeader_v4_layout (en : Endian) (format : Format) (addrSize : Nat) (cd cn : Option Bytes)
    (e : Enc) (he : EncReadable e) (ds : List LineStr) (fs : List FileEnt) (prog il hl : Bytes)
    (hds : ∀ d ∈ ds, InlineOk d) (hfs : ∀ f ∈ fs, InlineOk f.name ∧ FileFits f)
    (hhl : Ints.writeUdata en (headerBodyV4 e (dirBytes ds ++ 0 :: (fileBytes fs ++ [0]))).length
      format.wordSize = .ok hl)
    (hil : Ints.writeInitialLength en format
      (Ints.toBytes en 2 e.version ++ hl ++ headerBodyV4 e (dirBytes ds ++ 0 :: (fileBytes fs ++ [0])) ++ prog).length
      = .ok il)
    (hsmall : (Ints.toBytes en 2 e.version ++ hl ++
      headerBodyV4 e (dirBytes ds ++ 0 :: (fileBytes fs ++ [0])) ++ prog).length < 2 ^ 64) :
    parseHeader en addrSize cd cn
      (il ++ (Ints.toBytes en 2 e.version ++ hl ++
        headerBodyV4 e (dirBytes ds ++ 0 :: (fileBytes fs ++ [0])) ++ prog)) =
    .ok { p := paramsOf en format addrSize e,
          unitLength := (Ints.toBytes en 2 e.version ++ hl ++
            headerBodyV4 e (dirBytes ds ++ 0 :: (fileBytes fs ++ [0])) ++ prog).length,
          headerLength := (headerBodyV4 e (dirBytes ds ++ 0 :: (fileBytes fs ++ [0]))).length,
          dirFormat := [], dirs := ds.map (fun d => AttrVal.string d.val), fileFormat := [],
          files := fs.map FileEnt.toEntry, program := prog, compDir := cd,
          compFile := cn.map fun n => { path := .string n, dirIndex := 0, timestamp := 0, size := 0,
                                         md5 := List.replicate 16 0, source := none } } := by
  -- any program with these tables (behind a directory 0, which is not emitted) and parameters
  let p : Prog :=
    { format, addrSize, enc := e, dirs := ⟨.string, []⟩ :: ds, files := fs, hasTimestamp := false,
      hasSize := false, hasMd5 := false, hasSource := false, prevRow := .initial e, row := .initial e,
      instrs := [], inSequence := false }
  have hflen : (headerBodyV4 e (dirBytes ds ++ 0 :: (fileBytes fs ++ [0]))).length < 2 ^ 64 := by
    simp only [List.length_append] at hsmall; omega
  obtain ⟨henc, hwf⟩ := unit_v4_encodes en p 1 prog hl il (.inl rfl) he hds hfs hhl hil hsmall
  have hparse := parseHeader_encodeV4_asz (headerV4Of en p 1 prog) hwf addrSize cd cn _ [] henc
  rw [List.append_nil, headerV4Of_expected, encodeBody_v4 en p 1 prog hl hflen hhl, encodeFields_v4] at hparse
  exact hparse

end
end Gimli.WLine
