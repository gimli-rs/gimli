import Gimli.Model.Filter
import Gimli.Spec.Reach
/-!
Helper lemmas for C19: the association-list map, the worklist invariant of
`FilterDependencies::get_reachable`, its fuel bound, the final sort, and the reservation by unit.
-/
namespace Gimli.Filter
open Gimli.Spec

/-- `add_entry` was called for `x` -/
def EdgeMap.Valid (G : EdgeMap) (x : Off) : Prop := G.contains x = true
/-- `y` is in the dependency list stored for `x` -/
def EdgeMap.Edge (G : EdgeMap) (x y : Off) : Prop := ∃ deps, G.get? x = some deps ∧ y ∈ deps

/-- the Spec-level reachable set of a `FilterDependencies` value -/
def Deps.Reachable (d : Deps) : Off → Prop :=
  Reach d.edges.Valid d.edges.Edge (· ∈ d.required)

theorem tagIn_eq_true {t : Nat} {l : List (String × Nat)} : tagIn t l = true ↔ t ∈ l.map (·.2) := by
  simp only [tagIn, List.any_eq_true, beq_iff_eq, List.mem_map]

/-! ## association list: what `get?` sees after each operation -/

namespace EdgeMap

theorem get?_cons (k : Off) (v : List Off) (m : EdgeMap) (x : Off) :
    get? ((k, v) :: m) x = if k = x then some v else m.get? x := rfl

theorem erase_cons (k : Off) (v : List Off) (m : EdgeMap) (x : Off) :
    erase ((k, v) :: m) x = if k = x then m.erase x else (k, v) :: m.erase x := by
  by_cases h : k = x <;> simp [erase, h]

theorem get?_erase (m : EdgeMap) (x y : Off) :
    (m.erase x).get? y = if y = x then none else m.get? y := by
  induction m with
  | nil => simp [erase, get?]
  | cons p m ih =>
    obtain ⟨k, v⟩ := p
    rw [erase_cons, get?_cons]
    by_cases hk : k = x
    · subst hk
      rw [if_pos rfl, ih]
      by_cases hy : y = k
      · simp only [hy, if_true]
      · simp only [hy, Ne.symm hy, if_false]
    · rw [if_neg hk, get?_cons, ih]
      by_cases hky : k = y
      · subst hky
        simp only [hk, if_true, if_false]
      · simp only [hky, if_false]

theorem get?_insert (m : EdgeMap) (x y : Off) (v : List Off) :
    (m.insert x v).get? y = if y = x then some v else m.get? y := by
  rw [insert, get?_cons, get?_erase]
  by_cases h : y = x
  · simp only [h, if_true]
  · simp only [h, Ne.symm h, if_false]

theorem get?_push (m : EdgeMap) (x y z : Off) :
    (m.push x z).get? y = if y = x then (m.get? x).map (· ++ [z]) else m.get? y := by
  induction m with
  | nil => simp [push, get?]
  | cons p m ih =>
    obtain ⟨k, v⟩ := p
    rw [push]
    by_cases hk : k = x
    · subst hk
      simp only [get?_cons, if_true]
      by_cases hy : y = k
      · simp only [hy, if_true, Option.map_some]
      · simp only [hy, Ne.symm hy, if_false]
    · simp only [hk, if_false, get?_cons, ih]
      by_cases hky : k = y
      · subst hky
        simp only [hk, if_true, if_false]
      · simp only [hky, if_false]

theorem mem_of_get? {m : EdgeMap} {x : Off} {v : List Off} (h : m.get? x = some v) : (x, v) ∈ m := by
  induction m with
  | nil => cases h
  | cons p m ih =>
    obtain ⟨k, w⟩ := p
    rw [get?_cons] at h
    by_cases hk : k = x
    · rw [if_pos hk, Option.some.injEq] at h
      rw [hk, h]; exact List.mem_cons_self
    · rw [if_neg hk] at h
      exact List.mem_cons_of_mem _ (ih h)

theorem length_erase_lt (m : EdgeMap) (x : Off) (v : List Off) (h : m.get? x = some v) :
    (m.erase x).length < m.length :=
  List.length_filter_lt_length_iff_exists.2 ⟨_, mem_of_get? h, by simp⟩

theorem contains_iff (m : EdgeMap) (x : Off) : m.contains x = true ↔ ∃ v, m.get? x = some v :=
  Option.isSome_iff_exists

theorem contains_false_iff (m : EdgeMap) (x : Off) : m.contains x = false ↔ m.get? x = none := by
  simp only [contains]
  cases m.get? x <;> simp

/-! The same in terms of the graph the map denotes (`Valid` = node, `Edge`): `insert` of a new key
adds a node with its edges, `push` on a present key adds one edge. -/

theorem Edge.valid {m : EdgeMap} {a b : Off} (h : m.Edge a b) : m.Valid a :=
  let ⟨l, hl, _⟩ := h
  (contains_iff m a).2 ⟨l, hl⟩

theorem valid_insert (m : EdgeMap) (x : Off) (v : List Off) (a : Off) :
    (m.insert x v).Valid a ↔ m.Valid a ∨ x = a := by
  rw [Valid, Valid, contains, contains, get?_insert]
  by_cases h : a = x
  · simp [h]
  · simp [h, Ne.symm h]

theorem edge_insert {m : EdgeMap} {x : Off} (v : List Off) (hx : ¬ m.Valid x) (a b : Off) :
    (m.insert x v).Edge a b ↔ m.Edge a b ∨ (x = a ∧ b ∈ v) := by
  rw [Edge, get?_insert]
  by_cases h : a = x
  · subst h
    simp only [if_true, Option.some.injEq, exists_eq_left', true_and]
    exact ⟨.inr, (·.resolve_left fun he => hx he.valid)⟩
  · simp only [if_neg h, Ne.symm h, false_and, or_false]; rfl

theorem valid_push (m : EdgeMap) (x z a : Off) : (m.push x z).Valid a ↔ m.Valid a := by
  rw [Valid, Valid, contains, contains, get?_push]
  by_cases h : a = x
  · simp [h]
  · simp [h]

theorem edge_push {m : EdgeMap} {x : Off} (z : Off) (hx : m.Valid x) (a b : Off) :
    (m.push x z).Edge a b ↔ m.Edge a b ∨ (z = b ∧ x = a) := by
  rw [Edge, get?_push]
  by_cases h : a = x
  · subst h
    obtain ⟨l, hl⟩ := (contains_iff m a).1 hx
    simp [Edge, hl, eq_comm]
  · simp only [if_neg h, Ne.symm h, and_false, or_false]; rfl

end EdgeMap

/-! ## worklist invariant -/

/-- what holds before and after every step of `get_reachable`; `pend` = the offsets still waiting
in the current list or in a list on the stack -/
structure Inv (G : EdgeMap) (R : List Off) (s : WState) (pend : Off → Prop) : Prop where
  edges : ∀ x, s.edges.get? x = if x ∈ s.reach then none else G.get? x
  sound : ∀ x, x ∈ s.reach → Reach G.Valid G.Edge (· ∈ R) x
  pendSound : ∀ x, pend x → G.Valid x → Reach G.Valid G.Edge (· ∈ R) x
  closed : ∀ x, x ∈ s.reach → ∀ deps, G.get? x = some deps → ∀ y, y ∈ deps →
    y ∈ s.reach ∨ pend y ∨ ¬ G.Valid y
  reqs : ∀ x, x ∈ R → x ∈ s.reach ∨ pend x ∨ ¬ G.Valid x
  nodup : s.reach.Nodup

namespace Inv
variable {G : EdgeMap} {R : List Off} {s : WState} {pend pend' : Off → Prop}

/-- The invariant does not look at the stack, and the pending set may be exchanged for a subset of it
as long as nothing gets lost: what was pending is still pending, reached, or not a key. -/
theorem repend (h : Inv G R s pend) (q : List (List Off)) (hsub : ∀ y, pend' y → pend y)
    (hacc : ∀ y, pend y → y ∈ s.reach ∨ pend' y ∨ ¬ G.Valid y) :
    Inv G R ⟨s.edges, s.reach, q⟩ pend' where
  edges := h.edges
  sound := h.sound
  pendSound x hx := h.pendSound x (hsub x hx)
  closed x hx deps hd y hy := (h.closed x hx deps hd y hy).elim .inl (·.elim (hacc y) (.inr ∘ .inr))
  reqs x hx := (h.reqs x hx).elim .inl (·.elim (hacc x) (.inr ∘ .inr))
  nodup := h.nodup

/-- `visit` meets a pending offset `e` that is still a key of the map: `e` moves to `reach`, the
list stored for it becomes pending. -/
theorem take (h : Inv G R s pend) {e : Off} {deps : List Off} (hg : s.edges.get? e = some deps)
    (he : pend e) :
    Inv G R ⟨s.edges.erase e, s.reach ++ [e], s.queue⟩ (fun y => pend y ∨ y ∈ deps) := by
  have hs := h.edges e
  rw [hg] at hs
  have hnot : e ∉ s.reach := fun hm => by rw [if_pos hm] at hs; cases hs
  rw [if_neg hnot] at hs
  have hreach : Reach G.Valid G.Edge (· ∈ R) e :=
    h.pendSound e he ((EdgeMap.contains_iff G e).2 ⟨deps, hs.symm⟩)
  -- what was accounted for stays accounted for
  have keep : ∀ y, y ∈ s.reach ∨ pend y ∨ ¬ G.Valid y →
      y ∈ s.reach ++ [e] ∨ (pend y ∨ y ∈ deps) ∨ ¬ G.Valid y :=
    fun y hy => hy.elim (.inl ∘ List.mem_append_left _) (.inr ∘ Or.imp_left .inl)
  refine ⟨?_, ?_, ?_, ?_, fun x hx => keep x (h.reqs x hx), ?_⟩
  · intro x
    simp only [EdgeMap.get?_erase, List.mem_append, List.mem_singleton]
    by_cases hx : x = e
    · simp only [hx, or_true, if_true]
    · simp only [hx, or_false, if_false]; exact h.edges x
  · intro x hx
    rcases List.mem_append.1 hx with h1 | h1
    · exact h.sound x h1
    · rw [List.mem_singleton.1 h1]; exact hreach
  · rintro x (hp | hx) hv
    · exact h.pendSound x hp hv
    · exact hreach.step ⟨deps, hs.symm, hx⟩ hv
  · intro x hx ds hd y hy
    rcases List.mem_append.1 hx with h1 | h1
    · exact keep y (h.closed x h1 ds hd y hy)
    · rw [List.mem_singleton.1 h1, ← hs, Option.some.injEq] at hd
      exact .inr (.inl (.inr (hd ▸ hy)))
  · refine List.nodup_append.2 ⟨h.nodup, List.pairwise_singleton _ e, fun a ha b hb hab => hnot ?_⟩
    rwa [← List.mem_singleton.1 hb, ← hab]

end Inv

theorem visit_inv {G : EdgeMap} {R : List Off} (es : List Off) : ∀ (s : WState),
    Inv G R s (· ∈ es ++ s.queue.flatten) → Inv G R (visit s es) (· ∈ (visit s es).queue.flatten) := by
  induction es with
  | nil => exact fun _ h => h
  | cons e es ih =>
    intro s h
    rw [visit]
    cases hg : s.edges.get? e with
    | none =>
      -- `e` is reached already or is not a key of the graph
      refine ih s (h.repend s.queue (fun y hy => List.mem_cons_of_mem e hy) fun y hy => ?_)
      rcases List.mem_cons.1 hy with rfl | hy
      · have hs := h.edges y
        rw [hg] at hs
        by_cases hm : y ∈ s.reach
        · exact .inl hm
        · rw [if_neg hm] at hs
          exact .inr (.inr fun hv => by
            rw [EdgeMap.Valid, (EdgeMap.contains_false_iff G y).2 hs.symm] at hv; cases hv)
      · exact .inr (.inl hy)
    | some deps =>
      refine ih _ ((h.take hg List.mem_cons_self).repend (deps :: s.queue) ?_ ?_) <;>
        simp only [List.flatten_cons, List.cons_append, List.mem_append, List.mem_cons]
      · rintro y (hy | hy | hy)
        · exact .inl (.inr (.inl hy))
        · exact .inr hy
        · exact .inl (.inr (.inr hy))
      · rintro y ((hy | hy | hy) | hy)
        · exact .inl (.inr (.inl hy))
        · exact .inr (.inl (.inl hy))
        · exact .inr (.inl (.inr (.inr hy)))
        · exact .inr (.inl (.inr (.inl hy)))

theorem loop_inv {G : EdgeMap} {R : List Off} (fuel : Nat) : ∀ (s : WState) (out : List Off),
    Inv G R s (· ∈ s.queue.flatten) → loop fuel s = .ok out →
    ∃ s', s'.reach = out ∧ Inv G R s' (fun _ => False) := by
  induction fuel with
  | zero => intro _ _ _ h; cases h
  | succ fuel ih =>
    rintro ⟨E, rs, _ | ⟨entries, q⟩⟩ out hinv h
    · exact ⟨_, Out.ok.inj h, hinv.repend [] (fun _ => False.elim) fun _ hy => by cases hy⟩
    · -- the popped list becomes the current list
      exact ih _ out (visit_inv entries ⟨E, rs, q⟩ (hinv.repend q (fun _ => id) fun _ => .inr ∘ .inl)) h

theorem inv_init (d : Deps) :
    Inv d.edges d.required ⟨d.edges, [], [d.required]⟩ (· ∈ [d.required].flatten) where
  edges _ := rfl
  sound _ hx := by cases hx
  pendSound x hp hv := .req (by simpa using hp) hv
  closed _ hx := by cases hx
  reqs x hx := .inr (.inl (by simpa using hx))
  nodup := List.nodup_nil

theorem inv_final_complete (G : EdgeMap) (R : List Off) (s : WState)
    (h : Inv G R s (fun _ => False)) : ∀ x, Reach G.Valid G.Edge (· ∈ R) x → x ∈ s.reach := by
  intro x hx
  induction hx with
  | req hr hv => exact (h.reqs _ hr).elim id (·.elim False.elim (absurd hv))
  | step _ he hv ih =>
    obtain ⟨deps, hd, hy⟩ := he
    exact (h.closed _ ih deps hd _ hy).elim id (·.elim False.elim (absurd hv))

/-! ## fuel -/

theorem visit_measure (es : List Off) : ∀ (s : WState),
    (visit s es).queue.length + (visit s es).edges.length ≤ s.queue.length + s.edges.length := by
  induction es with
  | nil => exact fun _ => Nat.le_refl _
  | cons e es ih =>
    intro s
    rw [visit]
    cases hg : s.edges.get? e with
    | none => exact ih s
    | some deps =>
      have h1 := ih ⟨s.edges.erase e, s.reach ++ [e], deps :: s.queue⟩
      have h2 := EdgeMap.length_erase_lt s.edges e deps hg
      simp only [List.length_cons] at h1 ⊢
      omega

theorem loop_terminates (fuel : Nat) : ∀ (s : WState),
    s.queue.length + s.edges.length < fuel → ∃ out, loop fuel s = .ok out := by
  induction fuel with
  | zero => exact fun _ h => absurd h (Nat.not_lt_zero _)
  | succ fuel ih =>
    rintro ⟨E, rs, _ | ⟨entries, q⟩⟩ h
    · exact ⟨rs, rfl⟩
    · refine ih _ ?_
      have := visit_measure entries ⟨E, rs, q⟩
      simp only [List.length_cons] at h this ⊢
      omega

theorem loop_fuel_mono (fuel : Nat) : ∀ (s : WState) (out : List Off),
    loop fuel s = .ok out → ∀ k, loop (fuel + k) s = .ok out := by
  induction fuel with
  | zero => intro _ _ h; cases h
  | succ fuel ih =>
    rintro ⟨E, rs, _ | ⟨entries, q⟩⟩ out h k <;> rw [Nat.add_right_comm]
    · exact h
    · exact ih _ _ h k

/-! ## the final sort -/

theorem insertOff_perm (a : Off) (l : List Off) : (insertOff a l).Perm (a :: l) := by
  induction l with
  | nil => exact .refl _
  | cons b l ih =>
    rw [insertOff]
    split
    · exact .refl _
    · exact (ih.cons b).trans (.swap a b l)

theorem sortOffs_perm (l : List Off) : (sortOffs l).Perm l := by
  induction l with
  | nil => exact .refl _
  | cons a l ih => exact (insertOff_perm a _).trans (ih.cons a)

theorem mem_sortOffs (l : List Off) (x : Off) : x ∈ sortOffs l ↔ x ∈ l :=
  (sortOffs_perm l).mem_iff

theorem insertOff_sorted (a : Off) (l : List Off) (h : l.Pairwise (· ≤ ·)) :
    (insertOff a l).Pairwise (· ≤ ·) := by
  induction l with
  | nil => exact List.pairwise_singleton _ a
  | cons b l ih =>
    have hb := List.pairwise_cons.1 h
    rw [insertOff]
    split
    next hab =>
      exact List.pairwise_cons.2
        ⟨fun c hc => (List.mem_cons.1 hc).elim (· ▸ hab) fun hc => Nat.le_trans hab (hb.1 c hc), h⟩
    next hab =>
      refine List.pairwise_cons.2 ⟨fun c hc => ?_, ih hb.2⟩
      rcases List.mem_cons.1 ((insertOff_perm a l).mem_iff.1 hc) with rfl | hc
      · exact Nat.le_of_lt (Nat.lt_of_not_le hab)
      · exact hb.1 c hc

theorem sortOffs_sorted (l : List Off) : (sortOffs l).Pairwise (· ≤ ·) := by
  induction l with
  | nil => exact .nil
  | cons a l ih => exact insertOff_sorted a _ ih

theorem sortOffs_nodup (l : List Off) (h : l.Nodup) : (sortOffs l).Nodup :=
  (sortOffs_perm l).nodup_iff.2 h

/-! ## `get_reachable` as a whole -/

theorem getReachable_eq_ok {d : Deps} {out : List Off} :
    getReachable d = .ok out ↔
      ∃ r, loop (fuelFor d) ⟨d.edges, [], [d.required]⟩ = .ok r ∧ out = sortOffs r := by
  rw [getReachable, getReachableFuel]
  cases loop (fuelFor d) ⟨d.edges, [], [d.required]⟩ <;> simp [Out.map, eq_comm]

/-- What `get_reachable` returns is the duplicate-free ascending enumeration of `Reach`: the sorted
`reach` list of a final worklist state (empty stack) that satisfies the invariant. -/
theorem getReachable_spec {d : Deps} {out : List Off} (h : getReachable d = .ok out) :
    out.Nodup ∧ out.Pairwise (· ≤ ·) ∧ ∀ x, x ∈ out ↔ d.Reachable x := by
  obtain ⟨r, hl, rfl⟩ := getReachable_eq_ok.1 h
  obtain ⟨s, rfl, hinv⟩ := loop_inv _ _ r (inv_init d) hl
  exact ⟨sortOffs_nodup _ hinv.nodup, sortOffs_sorted _, fun x => (mem_sortOffs _ x).trans
    ⟨hinv.sound x, inv_final_complete _ _ s hinv x⟩⟩

/-! ## reservation by unit -/

namespace UnitHdr
def endOff (u : UnitHdr) : Off := u.base + u.hdr + u.len

theorem containsOff_iff (u : UnitHdr) (o : Off) :
    u.containsOff o = true ↔ u.base + u.hdr ≤ o ∧ o < u.endOff := by
  simp only [containsOff, inBounds, endOff, Bool.and_eq_true, decide_eq_true_eq]
  constructor
  · rintro ⟨h1, h2, h3⟩
    have h4 := Nat.add_le_of_le_sub' h1 h2
    exact ⟨h4, by rw [Nat.sub_sub] at h3; exact (Nat.sub_lt_iff_lt_add' h4).1 h3⟩
  · rintro ⟨h1, h2⟩
    exact ⟨Nat.le_trans (Nat.le_add_right _ _) h1, Nat.le_sub_of_add_le' h1,
      by rw [Nat.sub_sub]; exact (Nat.sub_lt_iff_lt_add' h1).2 h2⟩

theorem containsOff_of_endOff_le {u : UnitHdr} {o : Off} (h : u.endOff ≤ o) : u.containsOff o = false :=
  Bool.eq_false_iff.2 fun hc => Nat.lt_irrefl _ (Nat.lt_of_lt_of_le ((u.containsOff_iff o).1 hc).2 h)

theorem endOff_le_of_containsOff {u v : UnitHdr} (h : u.endOff ≤ v.base) {o : Off}
    (hv : v.containsOff o = true) : u.endOff ≤ o :=
  Nat.le_trans h (Nat.le_trans (Nat.le_add_right _ _) ((v.containsOff_iff o).1 hv).1)
end UnitHdr

theorem takeUnit_sorted (u : UnitHdr) (os : List Off) : os.Pairwise (· ≤ ·) →
    (∀ o, o ∈ os → u.containsOff o = true ∨ u.endOff ≤ o) →
    takeUnit u os = (os.filter u.containsOff, os.filter (fun o => !u.containsOff o)) := by
  induction os with
  | nil => exact fun _ _ => rfl
  | cons o os ih =>
    intro hs hc
    have hs' := List.pairwise_cons.1 hs
    rw [takeUnit]
    cases hp : u.containsOff o with
    | true =>
      rw [if_pos rfl, ih hs'.2 fun x hx => hc x (List.mem_cons_of_mem _ hx)]
      simp only [List.filter_cons, hp, if_true, Bool.not_true, Bool.false_eq_true, if_false]
    | false =>
      -- `o` lies beyond the unit, and so does everything after it
      have hge : u.endOff ≤ o := (hc o List.mem_cons_self).resolve_left (by simp [hp])
      have hall : ∀ x, x ∈ o :: os → u.containsOff x = false := fun x hx =>
        UnitHdr.containsOff_of_endOff_le
          ((List.mem_cons.1 hx).elim (· ▸ hge) fun hx => Nat.le_trans hge (hs'.1 x hx))
      rw [List.filter_eq_nil_iff.2 fun x hx => by simp [hall x hx],
        List.filter_eq_self.2 fun x hx => by simp [hall x hx]]
      rfl

theorem partition_sorted (units : List UnitHdr) : ∀ (offs : List Off),
    offs.Pairwise (· ≤ ·) →
    units.Pairwise (fun u v => u.endOff ≤ v.base) →
    (∀ o, o ∈ offs → ∃ u, u ∈ units ∧ u.containsOff o = true) →
    partition units offs = (units.map (fun u => offs.filter u.containsOff), []) := by
  induction units with
  | nil =>
    rintro (_ | ⟨o, _⟩) _ _ hc
    · rfl
    · obtain ⟨u, hu, _⟩ := hc o List.mem_cons_self; cases hu
  | cons u us ih =>
    intro offs hs hu hc
    have hu' := List.pairwise_cons.1 hu
    -- an offset is inside `u` or inside a later unit, hence beyond `u`
    have hcases : ∀ o, o ∈ offs → u.containsOff o = true ∨ ∃ v, v ∈ us ∧ v.containsOff o = true := by
      intro o ho
      obtain ⟨v, hv, hvo⟩ := hc o ho
      rcases List.mem_cons.1 hv with rfl | hv
      · exact .inl hvo
      · exact .inr ⟨v, hv, hvo⟩
    have hbeyond : ∀ v, v ∈ us → ∀ o, v.containsOff o = true → u.containsOff o = false :=
      fun v hv o hvo => UnitHdr.containsOff_of_endOff_le (UnitHdr.endOff_le_of_containsOff (hu'.1 v hv) hvo)
    have htake := takeUnit_sorted u offs hs fun o ho => (hcases o ho).imp_right
      fun ⟨v, hv, hvo⟩ => UnitHdr.endOff_le_of_containsOff (hu'.1 v hv) hvo
    have hrest := ih (offs.filter (fun o => !u.containsOff o)) (hs.filter _) hu'.2 fun o ho => by
      rw [List.mem_filter, Bool.not_eq_true'] at ho
      exact (hcases o ho.1).resolve_left (by rw [ho.2]; exact Bool.false_ne_true)
    rw [partition, htake, hrest, List.map_cons]
    -- the offsets of a later unit all survive the removal of those of `u`
    refine congrArg (fun l => (offs.filter u.containsOff :: l, [])) (List.map_congr_left fun v hv => ?_)
    rw [List.filter_filter]
    refine List.filter_congr fun o _ => ?_
    cases hvo : v.containsOff o with
    | false => rfl
    | true => rw [hbeyond v hv o hvo]; rfl

end Gimli.Filter
