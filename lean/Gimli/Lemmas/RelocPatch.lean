import Gimli.Model.Reloc
import Gimli.Lemmas.Ints
import Gimli.Lemmas.Overwrite
/-! `patch` / `write_at`: `patch` is `overwrite` (Lemmas/Overwrite) under the Model's name; what the relocation
writer needs beyond its length and elements. -/
namespace Gimli.Wr
open Gimli

theorem patch_length {b : Bytes} {off : Nat} {x : Bytes} (h : off + x.length ≤ b.length) :
    (patch b off x).length = b.length :=
  length_overwrite h

theorem getElem?_patch {b : Bytes} {off : Nat} {x : Bytes} (h : off + x.length ≤ b.length)
    (i : Nat) :
    (patch b off x)[i]? = if i < off then b[i]? else if i < off + x.length then x[i - off]? else b[i]? :=
  getElem?_overwrite h i

theorem writeAt_ok_iff {b : Bytes} {off : Nat} {x b' : Bytes} :
    writeAt b off x = .ok b' ↔ off + x.length ≤ b.length ∧ b' = patch b off x :=
  overwrite_guard_eq_ok

theorem writeAt_ok {b : Bytes} {off : Nat} {x : Bytes} (h : off + x.length ≤ b.length) :
    writeAt b off x = .ok (patch b off x) :=
  writeAt_ok_iff.mpr ⟨h, rfl⟩

/-- `write_at` checks the lengths before it writes -/
theorem writeAt_congr {b c : Bytes} (hl : b.length = c.length) {off : Nat} {x : Bytes}
    (hp : off + x.length ≤ b.length → patch b off x = patch c off x) :
    writeAt b off x = writeAt c off x := by
  unfold writeAt
  rw [← hl]
  split
  · rfl
  · split
    · rfl
    · rw [hp (Nat.add_le_of_le_sub' (Nat.le_of_not_lt ‹_›) (Nat.le_of_not_lt ‹_›))]

theorem patch_append {b : Bytes} {off : Nat} {x y : Bytes} (h : off + x.length ≤ b.length) :
    patch (b ++ y) off x = patch b off x ++ y := by
  unfold patch
  rw [List.take_append_of_le_length (Nat.le_of_add_right_le h), List.drop_append_of_le_length h,
    List.append_assoc, List.append_assoc, List.append_assoc]

theorem patch_at_end {b z x : Bytes} (h : x.length = z.length) :
    patch (b ++ z) b.length x = b ++ x := by
  have := overwrite_segment (pre := b) (tail := []) h
  rwa [List.append_nil, List.append_nil] at this

theorem patch_comm {b : Bytes} {o p : Nat} {x y : Bytes} (hx : o + x.length ≤ b.length)
    (hy : p + y.length ≤ b.length) (hd : p + y.length ≤ o ∨ o + x.length ≤ p) :
    patch (patch b o x) p y = patch (patch b p y) o x := by
  -- with `y`'s range to the left of `x`'s; the other case is this one read backwards
  have left : ∀ {o p : Nat} {x y : Bytes}, o + x.length ≤ b.length → p + y.length ≤ b.length →
      p + y.length ≤ o → patch (patch b o x) p y = patch (patch b p y) o x := by
    intro o p x y hx hy hd
    apply List.ext_getElem?
    intro i
    rw [getElem?_patch (by rw [patch_length hx]; exact hy), getElem?_patch hx,
      getElem?_patch (by rw [patch_length hy]; exact hx), getElem?_patch hy]
    by_cases h2 : i < p + y.length
    · have h3 : i < o := Nat.lt_of_lt_of_le h2 hd
      simp only [h2, h3, if_true]
    · have h1 : ¬ i < p := fun h1 => h2 (Nat.lt_add_right _ h1)
      simp only [h1, h2, if_false]
  rcases hd with hd | hd
  · exact left hx hy hd
  · exact (left hy hx hd).symm

def AgreeOut (o n : Nat) (b c : Bytes) : Prop :=
  b.length = c.length ∧ ∀ i, (i < o ∨ o + n ≤ i) → b[i]? = c[i]?

theorem getElem?_patch_congr {b c : Bytes} {off : Nat} {x : Bytes} (hb : off + x.length ≤ b.length)
    (hc : off + x.length ≤ c.length) {i : Nat} (h : i < off ∨ off + x.length ≤ i → b[i]? = c[i]?) :
    (patch b off x)[i]? = (patch c off x)[i]? := by
  rw [getElem?_patch hb, getElem?_patch hc]
  split
  · exact h (.inl ‹_›)
  · split
    · rfl
    · exact h (.inr (Nat.le_of_not_lt ‹_›))

theorem AgreeOut.patch_same {o n : Nat} {b c : Bytes} (h : AgreeOut o n b c) {p : Nat} {y : Bytes}
    (hy : p + y.length ≤ b.length) : AgreeOut o n (patch b p y) (patch c p y) := by
  have hy' : p + y.length ≤ c.length := h.1 ▸ hy
  exact ⟨by rw [patch_length hy, patch_length hy']; exact h.1,
    fun i hi => getElem?_patch_congr hy hy' fun _ => h.2 i hi⟩

theorem AgreeOut.patch_eq {o n : Nat} {b c : Bytes} (h : AgreeOut o n b c) {x : Bytes}
    (hx : x.length = n) (hb : o + n ≤ b.length) : patch b o x = patch c o x :=
  List.ext_getElem? fun i =>
    getElem?_patch_congr (hx ▸ hb) (h.1 ▸ hx ▸ hb) fun hi => h.2 i (hx ▸ hi)

theorem agreeOut_patch {b : Bytes} {o : Nat} {z : Bytes} (h : o + z.length ≤ b.length) :
    AgreeOut o z.length (patch b o z) b :=
  ⟨patch_length h, fun _ hi => getElem?_overwrite_outside h hi⟩

end Gimli.Wr
