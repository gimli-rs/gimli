import Gimli.Lemmas.RelocPatch
import Gimli.Lemmas.Out
/-!
C18, reading side: what applying a relocation set does to the section bytes (`Facts`), and what the
relocation function it induces answers (`relFun_hit`, `relFun_miss`, `Facts.relFun_value`).
-/
namespace Gimli.Rr
open Gimli Gimli.Rd Gimli.Wr

def ext (b : Bytes) (o n : Nat) : Bytes := (b.drop o).take n

theorem _root_.Gimli.Rd.Cur.bytes_eq_ext (c : Cur) : c.bytes = ext c.sec c.off c.len := rfl

theorem getElem?_ext (b : Bytes) (o n i : Nat) : (ext b o n)[i]? = if i < n then b[o + i]? else none := by
  rw [ext, List.getElem?_take, List.getElem?_drop]

theorem _root_.Gimli.Wr.AgreeOut.ext {b c : Bytes} {p k o n : Nat} (h : AgreeOut p k b c)
    (hd : n = 0 ∨ p + k ≤ o ∨ o + n ≤ p) : ext b o n = ext c o n := by
  apply List.ext_getElem?
  intro i
  rw [getElem?_ext, getElem?_ext]
  split
  · rename_i hi
    refine h.2 _ ?_
    rcases hd with h0 | h1 | h2
    · exact absurd (h0 ▸ hi) (Nat.not_lt_zero _)
    · exact .inr (Nat.le_trans h1 (Nat.le_add_right o i))
    · exact .inl (Nat.lt_of_lt_of_le (Nat.add_lt_add_left hi o) h2)
  · rfl

theorem ext_patch_self {b x : Bytes} {p : Nat} (hx : p + x.length ≤ b.length) :
    ext (patch b p x) p x.length = x := by
  apply List.ext_getElem?
  intro i
  rw [getElem?_ext]
  by_cases hi : i < x.length
  · rw [if_pos hi]
    exact getElem?_overwrite_inside hx hi
  · rw [if_neg hi, List.getElem?_eq_none (Nat.le_of_not_lt hi)]

/-! ## the Boolean hypotheses as propositions -/

def Disjoint (ρ : List RRel) (o n : Nat) : Prop :=
  n = 0 ∨ ∀ r ∈ ρ, r.off + r.size ≤ o ∨ o + n ≤ r.off

theorem disjoint_iff (ρ : List RRel) (o n : Nat) : disjoint ρ o n = true ↔ Disjoint ρ o n := by
  simp [disjoint, Disjoint, List.all_eq_true]

theorem hitOrMiss_iff (ρ : List RRel) (o n : Nat) :
    hitOrMiss ρ o n = true ↔ (∃ r ∈ ρ, r.off = o ∧ r.size = n) ∨ Disjoint ρ o n := by
  simp [hitOrMiss, disjoint_iff, List.any_eq_true]

def Separated : List RRel → Prop
  | [] => True
  | r :: rs => 0 < r.size ∧ (∀ r' ∈ rs, r.off + r.size ≤ r'.off ∨ r'.off + r'.size ≤ r.off) ∧ Separated rs

theorem separated_iff (ρ : List RRel) : separated ρ = true ↔ Separated ρ := by
  induction ρ with
  | nil => simp [separated, Separated]
  | cons r rs ih => simp [separated, Separated, List.all_eq_true, ih, and_assoc]

theorem overlap {o o' n n' : Nat} (hn : 0 < n) (hn' : 0 < n') (ho : o = o') :
    ¬ (o + n ≤ o' ∨ o' + n' ≤ o) := by omega

theorem Separated.pos {ρ : List RRel} (h : Separated ρ) : ∀ r ∈ ρ, 0 < r.size := by
  induction ρ with
  | nil => intro r hr; cases hr
  | cons q qs ih =>
    intro r hr
    rcases List.mem_cons.mp hr with rfl | hr
    · exact h.1
    · exact ih h.2.2 r hr

theorem Separated.unique {ρ : List RRel} (h : Separated ρ) : ∀ r1 ∈ ρ, ∀ r2 ∈ ρ,
    r1.off = r2.off → r1 = r2 := by
  induction ρ with
  | nil => intro r1 h1; cases h1
  | cons q qs ih =>
    intro r1 h1 r2 h2 ho
    rcases List.mem_cons.mp h1 with rfl | m1 <;> rcases List.mem_cons.mp h2 with rfl | m2
    · rfl
    · exact absurd (h.2.1 r2 m2) (overlap h.1 (h.2.2.pos r2 m2) ho)
    · exact absurd (h.2.1 r1 m1) (overlap h.1 (h.2.2.pos r1 m1) ho.symm)
    · exact ih h.2.2 r1 m1 r2 m2 ho

/-! ## what `applyR` does, field by field -/

def newVal (e : Endian) (b : Bytes) (r : RRel) : Int :=
  (Ints.fromBytes e (ext b r.off r.size) : Int) + r.addend

theorem applyOneR_ok {e : Endian} {b b1 : Bytes} {r : RRel} (h : applyOneR e b r = .ok b1) :
    r.off + r.size ≤ b.length ∧ 0 ≤ newVal e b r ∧ newVal e b r < 2 ^ (8 * r.size) ∧
      b1 = patch b r.off (Ints.toBytes e r.size (newVal e b r).toNat) := by
  unfold applyOneR at h
  split at h
  · simp only at h
    split at h
    · rename_i h1 h2
      cases h
      exact ⟨h1, h2.1, h2.2, rfl⟩
    · cases h
  · cases h

/-- the section `b`, the relocation set `ρ` and the section `b'` with the set applied: bytes away
from every entry are unchanged, an entry's field holds its old value plus the addend -/
structure Facts (e : Endian) (ρ : List RRel) (b b' : Bytes) : Prop where
  sep : Separated ρ
  len : b'.length = b.length
  same : ∀ o n, Disjoint ρ o n → ext b' o n = ext b o n
  hit : ∀ r ∈ ρ, r.off + r.size ≤ b.length ∧ 0 ≤ newVal e b r ∧ newVal e b r < 2 ^ (8 * r.size) ∧
    ext b' r.off r.size = Ints.toBytes e r.size (newVal e b r).toNat

theorem Facts.of_apply {e : Endian} : ∀ {ρ : List RRel} {b b' : Bytes}, Separated ρ →
    applyR e ρ b = .ok b' → Facts e ρ b b' := by
  intro ρ
  induction ρ with
  | nil =>
    intro b b' hsep h
    cases h
    exact ⟨hsep, rfl, fun _ _ _ => rfl, fun r hr => nomatch hr⟩
  | cons r rs ih =>
    intro b b' hsep h
    obtain ⟨b1, h1, h⟩ := Out.bind_eq_ok h
    obtain ⟨hb, hn0, hn1, rfl⟩ := applyOneR_ok h1
    have ih := ih hsep.2.2 h
    generalize hx : Ints.toBytes e r.size (newVal e b r).toNat = x at ih ⊢
    have hlen : x.length = r.size := hx ▸ Ints.toBytes_length ..
    have hbx : r.off + x.length ≤ b.length := hlen ▸ hb
    have hag : AgreeOut r.off x.length (patch b r.off x) b := agreeOut_patch hbx
    have hfst : ∀ o n, n = 0 ∨ r.off + r.size ≤ o ∨ o + n ≤ r.off →
        ext (patch b r.off x) o n = ext b o n := fun o n hd => hag.ext (hlen ▸ hd)
    refine ⟨hsep, ih.len.trans hag.1, fun o n hd => ?_, fun r' hr' => ?_⟩
    · rw [ih.same o n (hd.imp_right fun hd r' hr' => hd r' (List.mem_cons_of_mem _ hr'))]
      exact hfst o n (hd.imp_right fun hd => hd r (List.mem_cons_self ..))
    · rcases List.mem_cons.mp hr' with rfl | hr'
      · -- the later entries leave the first field alone
        refine ⟨hb, hn0, hn1, ?_⟩
        rw [ih.same _ _ (.inr fun q hq => (hsep.2.1 q hq).symm), hx, ← hlen]
        exact ext_patch_self hbx
      · -- a later field does not see the first patch
        have hdis := hsep.2.1 r' hr'
        have hnv : newVal e (patch b r.off x) r' = newVal e b r' := by
          rw [newVal, hfst _ _ (.inr hdis)]; rfl
        have := ih.hit r' hr'
        rwa [hnv, hag.1] at this

/-! ## the relocation function of a relocation set -/

def relFun (ρ : List RRel) (o v : Nat) : Out Nat :=
  match ρ.find? (fun r => r.off = o) with
  | some r => .ok (addWrap v r.addend)
  | none => .ok v

theorem relOf_addr (ρ : List RRel) : (relOf ρ).addr = relFun ρ := rfl
theorem relOf_offs (ρ : List RRel) : (relOf ρ).offs = relFun ρ := rfl

theorem relFun_hit {ρ : List RRel} (h : Separated ρ) {r : RRel} (hr : r ∈ ρ) (v : Nat) :
    relFun ρ r.off v = .ok (addWrap v r.addend) := by
  unfold relFun
  cases hf : ρ.find? (fun q => q.off = r.off) with
  | none => simpa using List.find?_eq_none.mp hf r hr
  | some q =>
    rw [h.unique q (List.mem_of_find?_eq_some hf) r hr (by simpa using List.find?_some hf)]

theorem relFun_miss {ρ : List RRel} (h : Separated ρ) {o n : Nat} (hn : 0 < n)
    (hd : Disjoint ρ o n) (v : Nat) : relFun ρ o v = .ok v := by
  unfold relFun
  cases hf : ρ.find? (fun q => q.off = o) with
  | none => rfl
  | some q =>
    have hq := List.mem_of_find?_eq_some hf
    have hqo : q.off = o := by simpa using List.find?_some hf
    rcases hd with hd | hd
    · exact absurd hd (Nat.ne_of_gt hn)
    · exact absurd (hd q hq) (overlap (h.pos q hq) hn hqo)

/-- asked about the raw value of a field it covers, the relocation function answers with the value
that field has in the relocated section (the sum fits the field, so no wrapping happens) -/
theorem Facts.relFun_value {e : Endian} {ρ : List RRel} {b b' : Bytes} (hf : Facts e ρ b b')
    {r : RRel} (hr : r ∈ ρ) (h8 : r.size ≤ 8) :
    relFun ρ r.off (Ints.fromBytes e (ext b r.off r.size)) =
      .ok (Ints.fromBytes e (ext b' r.off r.size)) := by
  obtain ⟨_, q0, q1, q2⟩ := hf.hit r hr
  rw [relFun_hit hf.sep hr, q2, Ints.fromBytes_toBytes]
  congr 1
  show (newVal e b r % 2 ^ 64).toNat = _
  have hN : (2 : Nat) ^ (8 * r.size) ≤ 2 ^ 64 :=
    Nat.pow_le_pow_right (by decide) (Nat.mul_le_mul_left 8 h8)
  have hc : ((2 ^ (8 * r.size) : Nat) : Int) = (2 : Int) ^ (8 * r.size) := by simp
  have hlt : (newVal e b r).toNat < 2 ^ (8 * r.size) := (Int.toNat_lt q0).mpr (hc ▸ q1)
  rw [Int.emod_eq_of_lt q0 (by omega), Ints.pow256, Nat.mod_eq_of_lt hlt]

end Gimli.Rr
