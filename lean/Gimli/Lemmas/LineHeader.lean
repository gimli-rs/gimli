import Gimli.Lemmas.LineDecode
/-! `LineProgramHeader::parse` (Model: `parseHeader`) in three stages — unit prologue, parameters,
directory and file tables — and, stage by stage: it returns normally on every input, and the
parameters of an accepted header are valid. The round trips go through the same stages
(`LineHeaderRt`, `LineHeaderV5`). -/
namespace Gimli.Line
open Gimli Gimli.Spec Gimli.Spec.Line

/-! ### the three stages -/

/-- what the header says before its parameters: lengths, format, version, address size, and the
two buffers `header_length` separates -/
structure Prologue where
  unitLength : Nat
  format : Format
  version : Nat
  addrSize : Nat
  headerLength : Nat
  fields : Bytes
  program : Bytes

/-- `LineProgramHeader::parse` up to and including the split at `header_length` -/
def parsePrologue (e : Endian) (addressSize : Nat) (input : Bytes) : Out Prologue := do
  let ((unitLength, format), input) ← Ints.readInitialLength e 64 input
  let (rest, _) ← Ints.take unitLength input
  let (version, rest) ← Ints.readFixed e 2 rest
  if version < 2 ∨ version > 5 then .err .rUnknownVersion else
  let (addressSize, rest) ← (if version ≥ 5 then do
      let (a, rest) ← Ints.readAddressSize rest
      let (seg, rest) ← Ints.readFixed e 1 rest
      if seg ≠ 0 then .err .rUnsupportedSegmentSize else pure (a, rest)
    else pure (addressSize, rest) : Out (Nat × Bytes))
  let (headerLength, rest) ← Ints.readWord e 64 format rest
  let (rest, programBuf) ← Ints.take headerLength rest
  pure ⟨unitLength, format, version, addressSize, headerLength, rest, programBuf⟩

/-- the fields from `minimum_instruction_length` to `standard_opcode_lengths`, as `Params` -/
def parseParams (e : Endian) (format : Format) (version addressSize : Nat) (rest : Bytes) :
    Out (Params × Bytes) := do
  let (minInstLen, rest) ← Ints.readFixed e 1 rest
  if minInstLen = 0 then .err .rMinimumInstructionLengthZero else
  let (maxOps, rest) ← (if version ≥ 4 then Ints.readFixed e 1 rest else pure (1, rest) : Out (Nat × Bytes))
  if maxOps = 0 then .err .rMaximumOperationsPerInstructionZero else
  let (stmt, rest) ← Ints.readFixed e 1 rest
  let (lineBase, rest) ← Ints.readFixed e 1 rest
  let (lineRange, rest) ← Ints.readFixed e 1 rest
  if lineRange = 0 then .err .rLineRangeZero else
  let (opcodeBase, rest) ← Ints.readFixed e 1 rest
  if opcodeBase = 0 then .err .rOpcodeBaseZero else
  let (stdLens, rest) ← Ints.take (opcodeBase - 1) rest
  pure ({ endian := e, format, version, addrSize := addressSize, minInstLen, maxOps,
          defaultIsStmt := stmt != 0, lineBase := toI8 lineBase, lineRange, opcodeBase, stdLens }, rest)

/-- the directory and file tables, in the layout the version prescribes, and the finished header -/
def parseTables (pr : Prologue) (compDir compName : Option Bytes) (p : Params) (rest : Bytes) :
    Out Header :=
  if p.version ≤ 4 then do
    let (dirs, rest) ← parseDirsV4 (rest.length + 1) rest
    let compFile : Option FileEntry := compName.map fun n =>
      { path := .string n, dirIndex := 0, timestamp := 0, size := 0,
        md5 := List.replicate 16 0, source := none }
    let (files, _) ← parseFilesV4 (rest.length + 1) rest
    pure { p, unitLength := pr.unitLength, headerLength := pr.headerLength, dirFormat := [], dirs,
           fileFormat := [], files, program := pr.program, compDir, compFile }
  else do
    let (dirFormat, rest) ← parseEntryFormat rest
    let (count, rest) ← Leb.unsigned rest
    let (dirs, rest) ← parseDirsV5 p.endian p.format dirFormat count rest
    let (fileFormat, rest) ← parseEntryFormat rest
    let (count, rest) ← Leb.unsigned rest
    let (files, _) ← parseFilesV5 p.endian p.format fileFormat count rest
    pure { p, unitLength := pr.unitLength, headerLength := pr.headerLength, dirFormat, dirs,
           fileFormat, files, program := pr.program, compDir := none, compFile := none }

theorem parseHeader_eq (e : Endian) (asz : Nat) (cd cn : Option Bytes) (input : Bytes) :
    parseHeader e asz cd cn input =
      parsePrologue e asz input >>= fun pr =>
      parseParams e pr.format pr.version pr.addrSize pr.fields >>= fun (p, rest) =>
      parseTables pr cd cn p rest := by
  -- the right side, with its binds reassociated, is `parseHeader`'s own text
  simp only [parsePrologue, parseParams, Out.bind_assoc, Out.ite_err_bind, Out.bind_ok, Out.pure_eq]
  rfl

/-! ### each stage returns normally, and what it returns is valid

One walk per stage: `Out.Ensures` carries both the absence of panics and the ranges of the fields read. -/

theorem readFixed1_ensures (e : Endian) (bs : Bytes) : (Ints.readFixed e 1 bs).Ensures fun p => p.1 ≤ 255 :=
  ((Ints.exact_fixed e 1).ensures bs).mono fun _ ⟨_, _, _, hlt⟩ => Nat.le_of_lt_succ hlt

theorem toI8_eq_sval {n : Nat} (h : n < 256) : toI8 n = Twos.sval 8 n := by
  rw [Twos.sval, Nat.mod_eq_of_lt (show n < 2 ^ 8 from h)]; rfl

theorem toI8_range (n : Nat) (h : n ≤ 255) : -128 ≤ toI8 n ∧ toI8 n ≤ 127 := by
  have := Twos.sval_range (w := 8) (by decide) n
  rw [← toI8_eq_sval (Nat.lt_succ_of_le h)] at this
  exact ⟨this.1, Int.le_of_lt_add_one this.2⟩

abbrev AddrSizeOk (a : Nat) : Prop := a = 1 ∨ a = 2 ∨ a = 4 ∨ a = 8

/-- before version 5 the address size is the caller's, so it is supported if the caller's is -/
theorem parsePrologue_ensures (e : Endian) (asz : Nat) (input : Bytes) :
    (parsePrologue e asz input).Ensures fun pr =>
      2 ≤ pr.version ∧ pr.version ≤ 5 ∧ (AddrSizeOk asz → AddrSizeOk pr.addrSize) := by
  unfold parsePrologue
  refine (Ints.readInitialLength_normal _ _ _).ensures.bind_rest fun _ r0 _ => ?_
  refine (Ints.take_normal _ _).ensures.bind_rest fun unit _ _ => ?_
  refine (Ints.readFixed_normal _ _ _).ensures.bind_rest fun version r1 _ => ?_
  refine Out.Ensures.ite_cases (fun _ => Out.ensures_err _ _) fun hver => ?_
  refine Out.Ensures.bind_rest (P := fun p => AddrSizeOk asz → AddrSizeOk p.1) ?_ fun asz' r2 ha => ?_
  · refine Out.Ensures.ite_cases (fun _ => ?_) fun _ => Out.ensures_ok id
    refine Out.Ensures.bind_rest (P := fun p => AddrSizeOk p.1) ⟨Ints.readAddressSize_normal _, fun p h =>
      ((Ints.readAddressSize_ok_iff _ _ _).mp h).elim fun _ hb => hb.2.2⟩ fun a ra ha => ?_
    refine (Ints.readFixed_normal _ _ _).ensures.bind_rest fun seg rs _ => ?_
    exact Out.Ensures.ite_cases (fun _ => Out.ensures_err _ _) fun _ => Out.ensures_ok fun _ => ha
  refine (Ints.readWord_normal _ _ _ _).ensures.bind_rest fun hlen r3 _ => ?_
  refine (Ints.take_normal _ _).ensures.bind_rest fun fields prog _ => ?_
  exact Out.ensures_ok ⟨by dsimp only; omega, by dsimp only; omega, ha⟩

theorem parseParams_ensures {e : Endian} {format : Format} {version asz : Nat} (rest : Bytes)
    (hver : 2 ≤ version ∧ version ≤ 5) :
    (parseParams e format version asz rest).Ensures fun p => AddrSizeOk asz → p.1.Valid ∧ p.1.endian = e := by
  unfold parseParams
  refine (readFixed1_ensures e _).bind_rest fun minlen r1 hmin => ?_
  refine Out.Ensures.ite_cases (fun _ => Out.ensures_err _ _) fun hmin0 => ?_
  -- `maximum_operations_per_instruction` is read from version 4 on and 1 before
  refine Out.Ensures.bind_rest (P := fun p => p.1 ≤ 255 ∧ (version ≤ 3 → p.1 = 1)) ?_ fun maxops r2 hmax => ?_
  · exact Out.Ensures.ite_cases (fun h4 => (readFixed1_ensures e r1).mono fun a h => ⟨h, by omega⟩)
      fun h4 => Out.ensures_ok ⟨Nat.le_of_ble_eq_true rfl, fun _ => rfl⟩
  refine Out.Ensures.ite_cases (fun _ => Out.ensures_err _ _) fun hmax0 => ?_
  refine (readFixed1_ensures e _).bind_rest fun stmt r3 _ => ?_
  refine (readFixed1_ensures e _).bind_rest fun lbase r4 hlb => ?_
  refine (readFixed1_ensures e _).bind_rest fun lrange r5 hlr => ?_
  refine Out.Ensures.ite_cases (fun _ => Out.ensures_err _ _) fun hlr0 => ?_
  refine (readFixed1_ensures e _).bind_rest fun obase r6 hob => ?_
  refine Out.Ensures.ite_cases (fun _ => Out.ensures_err _ _) fun hob0 => ?_
  refine Out.Ensures.bind_rest ⟨Ints.take_normal _ _, fun _ h => (Ints.take_eq_ok.mp h).2⟩ fun stdlens r7 hstd => ?_
  have hlbr := toI8_range lbase hlb
  exact Out.ensures_ok fun hasz => ⟨⟨hver.1, hver.2, hasz, Nat.pos_of_ne_zero hmin0, hmin,
    Nat.pos_of_ne_zero hmax0, hmax.1, hlbr.1, hlbr.2, Nat.pos_of_ne_zero hlr0, hlr,
    Nat.pos_of_ne_zero hob0, hob, hstd, hmax.2⟩, rfl⟩

/-! ### the tables stage returns normally -/

theorem readUint3_normal (e : Endian) (bs : Bytes) : (Ints.readUint e 3 bs).Normal := by
  unfold Ints.readUint
  rw [if_neg (by decide)]
  exact (Ints.take_normal _ _).bind fun ⟨_, _⟩ _ => trivial

theorem parseAttribute_normal (e : Endian) (f : Format) (form : Nat) (bs : Bytes) :
    (parseAttribute e f form bs).Normal := by
  simp only [parseAttribute, apply_ite Out.Normal, Out.normal_bind_iff, Ints.readFixed_normal, Leb.unsigned_normal, Leb.signed_normal,
    Ints.take_normal, readCStr_normal, Ints.readWord_normal, readUint3_normal, Out.pure_eq, Out.normal_ok,
    Out.normal_err, implies_true, and_self, ite_self]

theorem parseDirectoryV5_normal (e : Endian) (f : Format) (fmt : List EntryFormat) :
    ∀ acc bs, (parseDirectoryV5 e f fmt acc bs).Normal := by
  induction fmt with
  | nil => intro acc bs; trivial
  | cons x fs ih =>
    intro acc bs
    rw [parseDirectoryV5]
    exact (parseAttribute_normal _ _ _ _).bind fun _ _ => ih _ _

theorem parseFileV5_normal (e : Endian) (f : Format) (fmt : List EntryFormat) :
    ∀ acc bs, (parseFileV5 e f fmt acc bs).Normal := by
  induction fmt with
  | nil => intro acc bs; trivial
  | cons x fs ih =>
    intro acc bs
    rw [parseFileV5]
    exact (parseAttribute_normal _ _ _ _).bind fun _ _ => ih _ _

/-! #### the two `path_name.unwrap()` are safe: a format with a `DW_LNCT_path` column always
yields a path, and `FileEntryFormat::parse` accepts no other -/

def HasPath (fmt : List EntryFormat) : Prop := ∃ x ∈ fmt, x.1 = 1

theorem parseDirectoryV5_some (e : Endian) (f : Format) (fmt : List EntryFormat) :
    ∀ acc bs p rest, parseDirectoryV5 e f fmt acc bs = .ok (p, rest) →
      (acc.isSome ∨ HasPath fmt) → p.isSome := by
  induction fmt with
  | nil =>
    rintro acc bs p rest h (h1 | ⟨x, hx, _⟩)
    · cases h; exact h1
    · cases hx
  | cons x fs ih =>
    intro acc bs p rest h hor
    obtain ⟨ct, form⟩ := x
    rw [parseDirectoryV5] at h
    obtain ⟨⟨v, r⟩, -, h⟩ := Out.bind_eq_ok h
    refine ih _ _ _ _ h ?_
    by_cases hct : ct = 1
    · exact .inl (by rw [if_pos hct]; rfl)
    · rw [if_neg hct]
      refine hor.imp_right fun ⟨y, hy, hy1⟩ => ?_
      rcases List.mem_cons.mp hy with rfl | hy
      · exact absurd hy1 hct
      · exact ⟨y, hy, hy1⟩

/-- only `DW_LNCT_path` writes the path; every other arm of `update` sets another field or nothing -/
theorem update_path (acc : FileAcc) (ct : Nat) (v : AttrVal) :
    (acc.update ct v).path = if ct = 1 then some v else acc.path := by
  have arm : ∀ {c : Prop} [Decidable c] {a b : FileAcc}, a.path = acc.path → b.path = acc.path →
      (if c then a else b).path = acc.path := by
    intro c _ a b ha hb; split <;> assumption
  unfold FileAcc.update
  by_cases h1 : ct = 1
  · rw [if_pos h1, if_pos h1]
  · rw [if_neg h1, if_neg h1]
    refine arm (by cases v.udataValue <;> rfl) ?_
    refine arm (by cases v.udataValue <;> rfl) ?_
    refine arm (by cases v.udataValue <;> rfl) ?_
    refine arm (by cases v <;> first | rfl | exact arm rfl rfl) ?_
    exact arm rfl rfl

theorem parseFileV5_path (e : Endian) (f : Format) (fmt : List EntryFormat) :
    ∀ (acc : FileAcc) bs a rest, parseFileV5 e f fmt acc bs = .ok (a, rest) →
      parseDirectoryV5 e f fmt acc.path bs = .ok (a.path, rest) := by
  induction fmt with
  | nil => intro acc bs a rest h; cases h; rfl
  | cons x fs ih =>
    intro acc bs a rest h
    rw [parseFileV5] at h
    obtain ⟨⟨v, r⟩, hv, h⟩ := Out.bind_eq_ok h
    have := ih _ _ _ _ h
    rw [update_path] at this
    rw [parseDirectoryV5, hv]
    exact this

theorem parseFileV5_some (e : Endian) (f : Format) (fmt : List EntryFormat) :
    ∀ (acc : FileAcc) bs a rest, parseFileV5 e f fmt acc bs = .ok (a, rest) →
      (acc.path.isSome ∨ HasPath fmt) → a.path.isSome :=
  fun acc bs a rest h => parseDirectoryV5_some e f fmt acc.path bs a.path rest (parseFileV5_path e f fmt acc bs a rest h)

theorem parseFormatLoop_ensures (n : Nat) : ∀ bs,
    (parseFormatLoop n bs).Ensures fun p => p.1.2 ≠ 0 → HasPath p.1.1 := by
  induction n with
  | zero => intro bs; exact Out.ensures_ok fun hp => absurd rfl hp
  | succ n ih =>
    intro bs
    rw [parseFormatLoop]
    refine (Leb.unsigned_normal _).ensures.bind_rest fun ct r1 _ => ?_
    refine (Leb.u16_normal _).ensures.bind_rest fun form r2 _ => ?_
    refine (ih r2).bind_rest fun ⟨fs', paths'⟩ r3 hrec => Out.ensures_ok fun hp => ?_
    by_cases hct : (if ct > 0xffff then 0xffff else ct) = 1
    · exact ⟨_, List.mem_cons_self, hct⟩
    · rw [if_neg hct, Nat.zero_add] at hp
      obtain ⟨x, hx, hx1⟩ := hrec hp
      exact ⟨x, List.mem_cons_of_mem _ hx, hx1⟩

theorem parseEntryFormat_ensures (bs : Bytes) : (parseEntryFormat bs).Ensures fun p => HasPath p.1 := by
  unfold parseEntryFormat
  refine (Ints.readFixed_normal _ _ _).ensures.bind_rest fun count r1 _ => ?_
  refine (parseFormatLoop_ensures count r1).bind_rest fun ⟨fs, paths⟩ r2 hloop => ?_
  exact Out.Ensures.ite_cases (fun _ => Out.ensures_err _ _) fun hp =>
    Out.ensures_ok (hloop fun h0 => hp (by rw [show paths = 0 from h0]; decide))

theorem parseDirsV5_normal (e : Endian) (f : Format) (fmt : List EntryFormat) (hf : HasPath fmt)
    (n : Nat) : ∀ bs, (parseDirsV5 e f fmt n bs).Normal := by
  induction n with
  | zero => intro bs; trivial
  | succ n ih =>
    intro bs
    rw [parseDirsV5]
    refine (parseDirectoryV5_normal e f fmt none bs).bind fun ⟨p, r⟩ hd => ?_
    obtain ⟨d, rfl⟩ := Option.isSome_iff_exists.mp (parseDirectoryV5_some e f fmt none bs p r hd (.inr hf))
    exact (ih r).bind fun _ _ => trivial

theorem parseFilesV5_normal (e : Endian) (f : Format) (fmt : List EntryFormat) (hf : HasPath fmt)
    (n : Nat) : ∀ bs, (parseFilesV5 e f fmt n bs).Normal := by
  induction n with
  | zero => intro bs; trivial
  | succ n ih =>
    intro bs
    rw [parseFilesV5]
    refine (parseFileV5_normal e f fmt {} bs).bind fun ⟨a, r⟩ ha => ?_
    obtain ⟨d, hd⟩ := Option.isSome_iff_exists.mp (parseFileV5_some e f fmt {} bs a r ha (.inr hf))
    simp only [hd]
    exact (ih r).bind fun _ _ => trivial

/-! #### the version 2–4 table loops end: every entry consumes at least its terminating NUL -/

theorem parseDirsV4_normal : ∀ (fuel : Nat) (bs : Bytes), bs.length < fuel → (parseDirsV4 fuel bs).Normal := by
  intro fuel
  induction fuel with
  | zero => intro bs h; omega
  | succ fuel ih =>
    intro bs hl
    rw [parseDirsV4]
    refine (readCStr_normal bs).bind fun ⟨d, r⟩ hc => ?_
    have := readCStr_isCStr.shrinks hc
    exact Out.Normal.ite trivial ((ih r (by omega)).bind fun _ _ => trivial)

theorem parseFileEntryV4_le (path bs : Bytes) (f : FileEntry) (r : Bytes)
    (h : parseFileEntryV4 path bs = .ok (f, r)) : r.length ≤ bs.length := by
  unfold parseFileEntryV4 at h
  obtain ⟨⟨_, r1⟩, h1, h⟩ := Out.bind_eq_ok h
  obtain ⟨⟨_, r2⟩, h2, h⟩ := Out.bind_eq_ok h
  obtain ⟨⟨_, r3⟩, h3, h⟩ := Out.bind_eq_ok h
  cases h
  have := Leb.unsigned_shrinks h1
  have := Leb.unsigned_shrinks h2
  have := Leb.unsigned_shrinks h3
  omega

theorem parseFilesV4_normal : ∀ (fuel : Nat) (bs : Bytes), bs.length < fuel → (parseFilesV4 fuel bs).Normal := by
  intro fuel
  induction fuel with
  | zero => intro bs h; omega
  | succ fuel ih =>
    intro bs hl
    rw [parseFilesV4]
    refine (readCStr_normal bs).bind fun ⟨d, r⟩ hc => ?_
    have := readCStr_isCStr.shrinks hc
    refine Out.Normal.ite trivial ((parseFileEntryV4_normal d r).bind fun ⟨fe, r2⟩ hf => ?_)
    have := parseFileEntryV4_le d r fe r2 hf
    exact (ih r2 (by omega)).bind fun _ _ => trivial

theorem parseTables_ensures (pr : Prologue) (cd cn : Option Bytes) (p : Params) (rest : Bytes) :
    (parseTables pr cd cn p rest).Ensures fun hd => hd.p = p := by
  unfold parseTables
  by_cases h4 : p.version ≤ 4
  · rw [if_pos h4]
    refine (parseDirsV4_normal _ _ (by omega)).ensures.bind_rest fun _ rest _ => ?_
    exact (parseFilesV4_normal _ _ (by omega)).ensures.bind_rest fun _ _ _ => Out.ensures_ok rfl
  · rw [if_neg h4]
    refine (parseEntryFormat_ensures _).bind_rest fun dfmt _ hd => ?_
    refine (Leb.unsigned_normal _).ensures.bind_rest fun _ _ _ => ?_
    refine (parseDirsV5_normal _ _ _ hd _ _).ensures.bind_rest fun _ _ _ => ?_
    refine (parseEntryFormat_ensures _).bind_rest fun ffmt _ hf => ?_
    refine (Leb.unsigned_normal _).ensures.bind_rest fun _ _ _ => ?_
    exact (parseFilesV5_normal _ _ _ hf _ _).ensures.bind_rest fun _ _ _ => Out.ensures_ok rfl

theorem parseHeader_ensures (e : Endian) (asz : Nat) (cd cn : Option Bytes) (input : Bytes) :
    (parseHeader e asz cd cn input).Ensures fun hd => AddrSizeOk asz → hd.p.Valid ∧ hd.p.endian = e := by
  rw [parseHeader_eq]
  refine (parsePrologue_ensures e asz input).bind fun pr _ ⟨h2, h5, hsz⟩ => ?_
  refine (parseParams_ensures _ ⟨h2, h5⟩).bind_rest fun p rest hp => ?_
  exact (parseTables_ensures pr cd cn p rest).mono fun hd hh hasz => hh ▸ hp (hsz hasz)

theorem parseHeader_valid (e : Endian) (asz : Nat) (cd cn : Option Bytes) (input : Bytes) (hd : Header)
    (hasz : asz = 1 ∨ asz = 2 ∨ asz = 4 ∨ asz = 8)
    (hp : parseHeader e asz cd cn input = .ok hd) : hd.p.Valid ∧ hd.p.endian = e :=
  (parseHeader_ensures e asz cd cn input).2 hd hp hasz

theorem parseHeader_normal (e : Endian) (asz : Nat) (cd cn : Option Bytes) (input : Bytes) :
    (parseHeader e asz cd cn input).Normal :=
  (parseHeader_ensures e asz cd cn input).1

theorem program_normal (e : Endian) (sec : Bytes) (off asz : Nat) (cd cn : Option Bytes) :
    (program e sec off asz cd cn).Normal := by
  unfold program
  exact Out.Normal.ite (parseHeader_normal _ _ _ _ _) trivial

end Gimli.Line
