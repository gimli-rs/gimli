import Gimli.Spec.OpTable
import Gimli.Lemmas.Out
/-!
# C07 `decode_matches_table`: `Operation::parse` (Model) = table-driven Spec decode

The Spec reads all operands, then gives them a `meaning`; the Model interleaves reads and
construction. `readOperandsK` is the Spec's reading in continuation-passing form (every read is
followed directly by what uses its result), which is the shape of the Model's arms: once the Spec side
is rewritten into it (`specOperands_eq`), each arm of `parseOperands` agrees with it by evaluation of
`signature` and `meaning` at that arm's opcode.
-/
open Gimli Gimli.Op Gimli.Spec.OpTable

def specOperands (e : Endian) (enc : Encoding) (n : Nat) (rest : Bytes) : Out (Operation × Bytes) :=
  match signature n with
  | none => .err .rInvalidExpression
  | some sig => do
    let (args, r) ← readOperands e enc sig rest
    let op ← meaning enc n args
    pure (op, r)

section
variable (e : Endian) (enc : Encoding) {β : Type}

/-- `readOperand e enc o bs >>= k`, with the reads spelt as `Operation::parse` spells them -/
def readOperandK (o : Operand) (bs : Bytes) (k : List Arg → Bytes → Out β) : Out β :=
  match o with
  | .u n => rdU e n bs >>= fun (v, r) => k [.nat v] r
  | .s n => rdI e n bs >>= fun (v, r) => k [.int v] r
  | .uleb => Leb.unsigned bs >>= fun (v, r) => k [.nat v] r
  | .sleb => Leb.signed bs >>= fun (v, r) => k [.int v] r
  | .addr => Ints.readAddress e enc.addressSize bs >>= fun (v, r) => k [.nat v] r
  | .off => rdOffset e enc.format bs >>= fun (v, r) => k [.nat v] r
  | .refAddr =>
    if enc.version = 2 then Ints.readAddress e enc.addressSize bs >>= fun (v, r) => k [.nat v] r
    else rdOffset e enc.format bs >>= fun (v, r) => k [.nat v] r
  | .reg => rdRegister bs >>= fun (v, r) => k [.nat v] r
  | .blockUleb => Leb.unsigned bs >>= fun (len, r) => split len r >>= fun (d, r) => k [.bytes d] r
  | .block1 => rdU e 1 bs >>= fun (len, r) => split len r >>= fun (d, r) => k [.bytes d] r
  | .wasm => rdU e 1 bs >>= fun (w, r) =>
    if w = 0 ∨ w = 1 ∨ w = 2 then Ints.readUlebU32 r >>= fun (i, r) => k [.nat w, .nat i] r
    else if w = 3 then rdU e 4 r >>= fun (i, r) => k [.nat w, .nat i] r
    else .err .rInvalidExpression

def readOperandsK : List Operand → Bytes → (List Arg → Bytes → Out β) → Out β
  | [], bs, k => k [] bs
  | o :: os, bs, k => readOperandK e enc o bs fun a r => readOperandsK os r fun as r => k (a ++ as) r

theorem readOperand_bind (o : Operand) (bs : Bytes) (k : List Arg × Bytes → Out β) :
    readOperand e enc o bs >>= k = readOperandK e enc o bs fun a r => k (a, r) := by
  cases o <;>
    simp only [readOperand, readOperandK, rdU, rdI, rdOffset, rdRegister, split, Out.bind_assoc, Out.bind_ok,
      Out.pure_eq]
  case refAddr => split <;> simp only [Out.bind_assoc, Out.bind_ok]
  case reg => exact Out.bind_congr _ fun (v, r) => by split <;> rfl
  case wasm =>
    refine Out.bind_congr _ fun (w, r) => ?_
    simp only []
    split
    · exact Out.bind_assoc _ _ _
    · split
      · exact Out.bind_assoc _ _ _
      · rfl

theorem readOperands_bind (os : List Operand) : ∀ (bs : Bytes) (k : List Arg × Bytes → Out β),
    readOperands e enc os bs >>= k = readOperandsK e enc os bs fun a r => k (a, r) := by
  induction os with
  | nil => intro bs k; rfl
  | cons o os ih =>
    intro bs k
    rw [readOperands, Out.bind_assoc, readOperand_bind, readOperandsK]
    congr 1; funext a r
    rw [Out.bind_assoc]
    exact ih r fun p => k (a ++ p.1, p.2)

end

section
variable (e : Endian) (enc : Encoding) (n : Nat) (rest : Bytes)

theorem specOperands_eq :
    specOperands e enc n rest =
      match signature n with
      | none => .err .rInvalidExpression
      | some sig => readOperandsK e enc sig rest fun args r => meaning enc n args >>= fun op => pure (op, r) := by
  unfold specOperands
  split
  · rfl
  · exact readOperands_bind e enc _ _ _

theorem ite_congr'' {α} (c : Prop) [Decidable c] (a a' b b' : α) (h1 : a = a') (h2 : b = b') :
    (if c then a else b) = (if c then a' else b') := by rw [h1, h2]

end

section
variable {n : Nat} (enc : Encoding) (args : List Arg)

theorem signature_lit (h : 0x30 ≤ n ∧ n ≤ 0x4f) : signature n = some [] := if_pos ⟨h.1, by omega⟩
theorem signature_reg (h : 0x50 ≤ n ∧ n ≤ 0x6f) : signature n = some [] := if_pos ⟨by omega, h.2⟩
theorem signature_breg (h : 0x70 ≤ n ∧ n ≤ 0x8f) : signature n = some [.sleb] := by
  unfold signature; rw [if_neg (by omega), if_pos h]

theorem meaning_lit (h : 0x30 ≤ n ∧ n ≤ 0x4f) : meaning enc n args = args0 args (.unsignedConstant (n - 0x30)) :=
  if_pos h
theorem meaning_reg (h : 0x50 ≤ n ∧ n ≤ 0x6f) : meaning enc n args = args0 args (.register (n - 0x50)) := by
  unfold meaning; rw [if_neg (by omega), if_pos h]
theorem meaning_breg (h : 0x70 ≤ n ∧ n ≤ 0x8f) :
    meaning enc n args = argsI args fun o => .registerOffset (n - 0x70) o 0 := by
  unfold meaning; rw [if_neg (by omega), if_neg (by omega), if_pos h]

end

theorem parseOperands_eq_spec (e : Endian) (enc : Encoding) (rest : Bytes) (n : Nat) :
    parseOperands e enc n rest = specOperands e enc n rest := by
  rw [specOperands_eq]
  unfold parseOperands
  by_cases h1 : 0x30 ≤ n ∧ n ≤ 0x4f
  · rw [if_pos h1, signature_lit h1]
    show _ = meaning enc n [] >>= fun op => pure (op, rest)
    rw [meaning_lit _ _ h1]; rfl
  by_cases h2 : 0x50 ≤ n ∧ n ≤ 0x6f
  · rw [if_neg h1, if_pos h2, signature_reg h2]
    show _ = meaning enc n [] >>= fun op => pure (op, rest)
    rw [meaning_reg _ _ h2]; rfl
  by_cases h3 : 0x70 ≤ n ∧ n ≤ 0x8f
  · rw [if_neg h1, if_neg h2, if_pos h3, signature_breg h3]
    refine Out.bind_congr _ fun (v, r) => ?_
    show _ = meaning enc n [.int v] >>= fun op => pure (op, r)
    rw [meaning_breg _ _ h3]; rfl
  rw [if_neg h1, if_neg h2, if_neg h3]
  unfold signature
  rw [if_neg (show ¬(0x30 ≤ n ∧ n ≤ 0x6f) by omega), if_neg h3]
  clear h1 h2 h3
  -- `split` takes the match of `parseOperands`; where `n` becomes a literal it reduces the match of `signature`
  -- as well, and both sides evaluate.
  split
  case h_83 =>                                   -- no operation: `n` is none of the literals, in `signature` neither
    rw [signature.match_1.eq_83] <;> assumption
  case h_46 =>                                   -- `DW_OP_piece`: the Spec tests the size inside `meaning`
    refine Out.bind_congr _ fun p => ?_
    obtain ⟨size, r⟩ := p
    show ite (size * 8 < 2 ^ 64) _ _ = ite (size * 8 < 2 ^ 64) (Out.ok _) _ >>= _
    split <;> rfl
  case h_82 =>                                   -- `DW_OP_WASM_location`: a `match` on the kind here, `if`s there
    refine Out.bind_congr _ fun p => ?_
    obtain ⟨w, r⟩ := p
    match w with
    | 0 | 1 | 2 | 3 | w + 4 => rfl
  all_goals rfl

theorem parse_eq_decode (e : Endian) (enc : Encoding) (bs : Bytes) : parse e enc bs = decode e enc bs := by
  cases bs with
  | nil => rfl
  | cons b rest => exact parseOperands_eq_spec e enc rest b.toNat

namespace Gimli.Op
variable (e : Endian) (enc : Encoding) (rest : Bytes)

theorem parse_cons (b : UInt8) :
    parse e enc (b :: rest) = parseOperands e enc b.toNat rest := rfl

theorem parseOperands_lit (n : Nat) (h : 0x30 ≤ n ∧ n ≤ 0x4f) :
    parseOperands e enc n rest = .ok (.unsignedConstant (n - 0x30), rest) :=
  if_pos h

theorem parseOperands_reg (n : Nat) (h : 0x50 ≤ n ∧ n ≤ 0x6f) :
    parseOperands e enc n rest = .ok (.register (n - 0x50), rest) :=
  (if_neg (by omega)).trans (if_pos h)

theorem parseOperands_breg (n : Nat) (h : 0x70 ≤ n ∧ n ≤ 0x8f) :
    parseOperands e enc n rest =
      (do let (v, bs) ← Leb.signed rest; pure (.registerOffset (n - 0x70) v 0, bs)) :=
  (if_neg (by omega)).trans ((if_neg (by omega)).trans (if_pos h))

theorem iterAll_nil (len fuel : Nat) : iterAll e enc len fuel [] = ([], none) := by
  cases fuel <;> rfl

theorem iterAll_ok {e : Endian} {enc : Encoding} {len fuel : Nat} {input rest : Bytes} {op : Operation}
    (h : parse e enc input = .ok (op, rest)) :
    iterAll e enc len (fuel + 1) input =
      ((op, len - rest.length) :: (iterAll e enc len fuel rest).1, (iterAll e enc len fuel rest).2) := by
  cases input with
  | nil => cases h
  | cons b tl => simp only [iterAll, h]

end Gimli.Op
