import Gimli.Lemmas.Rules
import Gimli.Lemmas.UnwindSpec
import Gimli.Lemmas.Cfi
/-!
# The unwind machine refines the DWARF call-frame semantics (C06)

`Sim g c s` says that the Model context `c` (row stack with capacities, association vectors, the
`initial_rule` shortcut) represents the Spec state `s` (functions, unbounded stack, initial map);
`evaluate_refines` relates one `UnwindTable::evaluate` to one `Spec.Unwind.stepB`, `rowsLoop_refines` /
`runTable_refines` whole tables.  What is used of the Spec by itself is in `Lemmas/UnwindSpec.lean`.
-/
namespace Gimli.Spec.Unwind
open Gimli Gimli.Cfi Gimli.Unwind

theorem mem_allRegs (r : Reg) : r ∈ allRegs := by
  unfold allRegs
  rw [List.mem_map]
  exact ⟨r.toNat, List.mem_range.mpr r.toNat_lt, by simp⟩

theorem nodup_allRegs : allRegs.Nodup := by
  unfold allRegs
  rw [List.Nodup, List.pairwise_map]
  refine List.Pairwise.imp_of_mem ?_ (List.nodup_range (n := 65536))
  intro a b ha hb hab e
  rw [List.mem_range] at ha hb
  have := congrArg UInt16.toNat e
  simp only [UInt16.toNat_ofNat'] at this
  omega

theorem ruleCount_eq_length {m : Rules} (hn : Rules.NodupKeys m) {f : RegMap}
    (hf : ∀ r, Rules.get m r = f r) : ruleCount f = m.length := by
  unfold ruleCount
  have hperm : (allRegs.filter (fun r => (f r).isSome)).Perm (Rules.keys m) := by
    rw [List.perm_ext_iff_of_nodup (List.Nodup.sublist List.filter_sublist nodup_allRegs) hn]
    intro r
    rw [List.mem_filter, ← hf r, ← Decidable.not_iff_not, ← Rules.get_eq_none_iff]
    simp [mem_allRegs]
  rw [hperm.length_eq]
  simp [Rules.keys]

end Gimli.Spec.Unwind

namespace Gimli.Unwind
open Gimli Gimli.Cfi Gimli.Spec.Unwind

theorem exceeds_eq_false_iff (c : Cap) (n : Nat) : exceeds c n = false ↔ c.fits n := by
  cases c <;> simp [exceeds, Cap.fits]

/-- the Spec parameters of a Model configuration; Props/C06 states its theorems about `table g.params …` -/
def Cfg.params (g : Cfg) : Params := ⟨g.codeAlign, g.dataAlign, g.addressSize⟩

/-- a Model row represents a Spec rule set (addresses aside) -/
structure RowRel (m : Row) (s : RuleSet) : Prop where
  cfa : m.cfa = s.cfa
  args : m.savedArgsSize = s.argsSize
  regs : ∀ r, Rules.get m.rules r = s.regs r
  nodup : Rules.NodupKeys m.rules

/-- how `initial_rule` / `is_initialized` / the saved row `stack[0]` represent the Spec's initial
rules -/
inductive InitRel : Option (Option (Reg × Rule)) → Bool → List Row → Option RegMap → Prop
  | cie : InitRel none false [] none
  | zero {im : RegMap} : (∀ r, im r = none) → InitRel (some none) true [] (some im)
  | one {im : RegMap} {r0 : Reg} {rule : Rule} :
      (∀ r, im r = if r = r0 then some rule else none) → InitRel (some (some (r0, rule))) true [] (some im)
  | saved {im : RegMap} {row : Row} : Rules.NodupKeys row.rules → 2 ≤ row.rules.length →
      (∀ r, Rules.get row.rules r = im r) → InitRel none true [row] (some im)

/-- remembered rows, most recent first -/
inductive StackRel : List Row → List RuleSet → Prop
  | nil : StackRel [] []
  | cons {m s ms ss} : RowRel m s → StackRel ms ss → StackRel (m :: ms) (s :: ss)

theorem StackRel.length_eq {ms ss} (h : StackRel ms ss) : ms.length = ss.length := by
  induction h with
  | nil => rfl
  | cons _ _ ih => simp [ih]

def Sim (g : Cfg) (c : Ctx) (s : State) : Prop :=
  ∃ top below saved, c.stack = top :: (below ++ saved) ∧ RowRel top s.cur ∧ top.startAddress = s.loc ∧
    StackRel below s.stack ∧ InitRel c.initialRule c.isInitialized saved s.init ∧
    Cap.fits g.R c.stack.length ∧ (∀ row ∈ c.stack, Cap.fits g.N row.rules.length)

theorem RowRel.of_rules {m m' : Row} {s s' : RuleSet} (h : RowRel m s) (hr : m'.rules = m.rules)
    (hcfa : m'.cfa = s'.cfa) (hargs : m'.savedArgsSize = s'.argsSize) (hregs : s'.regs = s.regs) : RowRel m' s' :=
  ⟨hcfa, hargs, by rw [hr, hregs]; exact h.regs, hr ▸ h.nodup⟩

theorem RowRel.count {m : Row} {s : RuleSet} (h : RowRel m s) : ruleCount s.regs = m.rules.length :=
  ruleCount_eq_length h.nodup h.regs

theorem InitRel.rows {ir ii saved init} (h : InitRel ir ii saved init) :
    saved.length = initRowsNeeded init := by
  unfold initRowsNeeded
  cases h with
  | cie => rfl
  | @zero im h0 =>
    have : ruleCount im = 0 := (funext h0 : im = RegMap.empty) ▸ ruleCount_empty
    simp [this]
  | @one im r0 rule h1 =>
    have : ruleCount im = 1 :=
      ruleCount_eq_length (m := [(r0, rule)]) (by simp [Rules.NodupKeys]) (fun r => by simp [h1 r, Rules.get_cons, eq_comm])
    simp [this]
  | @saved im row hn h2 hg =>
    have : ruleCount im = row.rules.length := ruleCount_eq_length hn hg
    simp [this, h2]

theorem Sim.rows_eq {g c s} (h : Sim g c s) : rowsNeeded s = c.stack.length := by
  obtain ⟨top, below, saved, hst, _, _, hbelow, hinit, _, _⟩ := h
  unfold Spec.Unwind.rowsNeeded
  rw [hst, ← hinit.rows, ← hbelow.length_eq]
  simp; omega

theorem Sim.within {g c s} (h : Sim g c s) :
    exceeds g.R (rowsNeeded s) = false ∧ exceeds g.N (ruleCount s.cur.regs) = false := by
  have hr := h.rows_eq
  obtain ⟨top, below, saved, hst, htop, _, _, _, hR, hN⟩ := h
  rw [exceeds_eq_false_iff, exceeds_eq_false_iff, hr, htop.count]
  exact ⟨hR, hN top (by simp [hst])⟩

theorem Sim.top {g : Cfg} {c : Ctx} {s : State} (h : Sim g c s) :
    ∃ top rest, c.stack = top :: rest ∧ RowRel top s.cur ∧ top.startAddress = s.loc ∧
      g.N.fits top.rules.length := by
  obtain ⟨top, below, saved, hst, htop, hstart, _, _, _, hN⟩ := h
  exact ⟨top, below ++ saved, hst, htop, hstart, hN top (by simp [hst])⟩

theorem Sim.set_top {g : Cfg} {c : Ctx} {s : State} (h : Sim g c s) {top : Row} {rest : List Row}
    (hst : c.stack = top :: rest) {top' : Row} {cur' : RuleSet} {loc' : Nat} (hrel : RowRel top' cur')
    (hloc : top'.startAddress = loc') (hfit : g.N.fits top'.rules.length) :
    Sim g { c with stack := top' :: rest } { s with cur := cur', loc := loc' } := by
  obtain ⟨top0, below, saved, hst0, _, _, hbelow, hinit, hR, hN⟩ := h
  obtain ⟨rfl, rfl⟩ := List.cons.inj (hst0.symm.trans hst)
  refine ⟨top', below, saved, rfl, hrel, hloc, hbelow, hinit, by simpa [hst] using hR, fun row hrow => ?_⟩
  rcases List.mem_cons.mp hrow with rfl | hrow
  · exact hfit
  · exact hN row (hst ▸ List.mem_cons_of_mem _ hrow)

theorem rowsNeeded_setReg (s : State) (r : Reg) (v : Option Rule) : rowsNeeded (setReg s r v) = rowsNeeded s := rfl

/-- a row returned by `next_row` represents a row of the Spec table -/
structure TableRowRel (m : Row) (t : TableRow) : Prop where
  start : m.startAddress = t.start
  end_ : m.endAddress = t.end_
  rel : RowRel m t.rules

/-- outcome of one Model step against one (capacity-instrumented) Spec step: the same error; or
related states; or a completed row, related states once `next_row` has set the next start address -/
inductive StepRel (g : Cfg) : Out (Ctx × Option Nat) → Except Err (State × Option TableRow) → Prop
  | err (e : Err) : StepRel g (.err e) (.error e)
  | quiet {c' s'} : Sim g c' s' → StepRel g (.ok (c', none)) (.ok (s', none))
  | row {c' s' top rest row} : c'.stack = top :: rest → TableRowRel top row → row.end_ = s'.loc →
      Sim g { c' with stack := { top with startAddress := row.end_ } :: rest } s' →
      StepRel g (.ok (c', some row.end_)) (.ok (s', some row))

section step
variable {g : Cfg} {c : Ctx} {s : State}

theorem bound_ok {c' : Ctx} {s' : State} (row : Option TableRow) (hsim : Sim g c' s') :
    bound g.R g.N (.ok (s', row)) = .ok (s', row) := by
  simp only [bound, hsim.within.1, hsim.within.2, Bool.false_eq_true, if_false]

theorem setCfa_refines (h : Sim g c s) (cfa : CfaRule) :
    StepRel g (do let c ← c.modifyTop (fun t => { t with cfa := cfa }); pure (c, none))
      (bound g.R g.N (.ok (setCfa s cfa, none))) := by
  obtain ⟨top, rest, hst, hrel, hloc, hfit⟩ := h.top
  have hsim : Sim g { c with stack := { top with cfa := cfa } :: rest } (setCfa s cfa) :=
    h.set_top hst (hrel.of_rules (s' := { s.cur with cfa := cfa }) rfl rfl hrel.args rfl) hloc hfit
  rw [bound_ok _ hsim, Ctx.modifyTop, hst]
  exact .quiet hsim

/-- `def_cfa_register`, `def_cfa_offset(_sf)`: a new CFA rule computed from the register and offset
of the present one, invalid while the CFA rule is an expression -/
theorem cfaRegOff_refines (h : Sim g c s) (f : Reg → Int → CfaRule) :
    StepRel g (do
        let top ← c.top
        match top.cfa with
        | .registerAndOffset r o => do let c ← c.modifyTop (fun t => { t with cfa := f r o }); pure (c, none)
        | .expression _ => .err .rCfiInstructionInInvalidContext)
      (bound g.R g.N (match s.cur.cfa with
        | .registerAndOffset r o => .ok (setCfa s (f r o), none)
        | .expression _ => .error .rCfiInstructionInInvalidContext)) := by
  obtain ⟨top, rest, hst, hrel, _⟩ := h.top
  simp only [Ctx.top, hst, Out.bind_ok, hrel.cfa]
  cases s.cur.cfa with
  | registerAndOffset r o => exact setCfa_refines h (f r o)
  | expression e => exact .err _

theorem bound_full {s' : State} {row : Option TableRow} (hR : exceeds g.R (rowsNeeded s') = false)
    (hN : exceeds g.N (ruleCount s'.cur.regs) = true) :
    bound g.R g.N (.ok (s', row)) = .error .rTooManyRegisterRules := by
  simp only [bound, hR, hN, Bool.false_eq_true, if_false, if_true]

theorem exceeds_succ (c : Cap) (n : Nat) : exceeds c (n + 1) = !c.hasRoom n := by
  cases c with
  | none => rfl
  | some k => by_cases h : n < k <;> simp [exceeds, Cap.hasRoom, h] <;> omega

/-- `set_register_rule` against the Spec's function update: `TooManyRegisterRules` exactly when the
Spec's row would hold more than `N` rules -/
theorem setRule_refines (h : Sim g c s) (r : Reg) (rule : Rule) :
    StepRel g (do let c ← c.setRule g.N r rule; pure (c, none))
      (bound g.R g.N (.ok (setReg s r (some rule), none))) := by
  obtain ⟨top, rest, hst, hrel, hloc, hfit⟩ := h.top
  have hregs {m' : Rules} (hget : ∀ x, Rules.get m' x = if x = r then some rule else Rules.get top.rules x) :
      ∀ x, Rules.get m' x = (setReg s r (some rule)).cur.regs x := fun x => by
    simp only [hget x, setReg, RegMap.update, hrel.regs x]
  simp only [Ctx.setRule, hst]
  rcases Rules.set_eq_err (N := g.N) (m := top.rules) (r := r) (v := rule) with ⟨m', hm'⟩ | ⟨herr, hnone, hroom⟩
  · obtain ⟨hget, hnd, _, hfits⟩ := Rules.set_ok hm'
    have hsim : Sim g { c with stack := { top with rules := m' } :: rest } (setReg s r (some rule)) :=
      h.set_top hst ⟨hrel.cfa, hrel.args, hregs hget, hnd hrel.nodup⟩ hloc (hfits hfit)
    rw [bound_ok _ hsim, hm']
    exact .quiet hsim
  · -- the vector is full and `r` has no entry: in an unbounded vector the row would have one rule more
    obtain ⟨m', hm'⟩ | ⟨_, _, hno⟩ := Rules.set_eq_err (N := none) (m := top.rules) (r := r) (v := rule)
    case inr => cases hno
    obtain ⟨hget, hnd, hlen, _⟩ := Rules.set_ok hm'
    have hx : exceeds g.N (ruleCount (setReg s r (some rule)).cur.regs) = true := by
      rw [ruleCount_eq_length (hnd hrel.nodup) (hregs hget), hlen, if_pos hnone, exceeds_succ, hroom]; rfl
    rw [bound_full (s' := setReg s r (some rule)) (row := none) h.within.1 hx, herr]
    exact .err _

/-- `set_loc` / `advance_loc` once their guard has passed: the current row is completed at `a` -/
theorem newRow_refines (h : Sim g c s) (a : Nat) :
    StepRel g (do let c ← c.modifyTop (fun t => { t with endAddress := a }); pure (c, some a))
      (bound g.R g.N (.ok ({ s with loc := a }, some ⟨s.loc, a, s.cur⟩))) := by
  obtain ⟨top, rest, hst, hrel, hloc, hfit⟩ := h.top
  have hsim : Sim g { c with stack := { top with endAddress := a, startAddress := a } :: rest } { s with loc := a } :=
    h.set_top hst (hrel.of_rules rfl hrel.cfa hrel.args rfl) rfl hfit
  rw [bound_ok _ hsim, Ctx.modifyTop, hst]
  exact .row (row := ⟨s.loc, a, s.cur⟩) rfl ⟨hloc, rfl, hrel.of_rules rfl hrel.cfa hrel.args rfl⟩ rfl hsim

theorem getInitialRule_sim (h : Sim g c s) (r : Reg) :
    c.getInitialRule r = .ok (s.init.map (fun im => im r)) := by
  obtain ⟨top, below, saved, hst, _, _, _, hinit, _, _⟩ := h
  obtain ⟨stack, ir, ii⟩ := c
  obtain ⟨loc, cur, sstack, init⟩ := s
  simp only at hst hinit
  unfold Ctx.getInitialRule
  simp only
  cases hinit with
  | cie => simp
  | @zero im h0 => simp [h0 r]
  | @one im r0 rule h1 =>
    simp only [Bool.not_true, Bool.false_eq_true, if_false, Option.map_some, h1 r]
    by_cases hr : r0 = r
    · simp [hr]
    · simp [hr, Ne.symm hr]
  | @saved im row hn h2 hg =>
    have hl : stack.getLast? = some row := by
      rw [hst, show top :: (below ++ [row]) = (top :: below) ++ [row] by simp]
      exact List.getLast?_concat
    simp [hl, hg r]

theorem clearRule_refines (h : Sim g c s) (r : Reg) :
    ∃ c', c.clearRule r = .ok c' ∧ Sim g c' (setReg s r none) := by
  obtain ⟨top, rest, hst, hrel, hloc, hfit⟩ := h.top
  refine ⟨{ c with stack := { top with rules := Rules.clear top.rules r } :: rest },
    by simp only [Ctx.clearRule, Ctx.modifyTop, hst],
    h.set_top hst ⟨hrel.cfa, hrel.args, fun x => ?_, Rules.clear_nodup hrel.nodup r⟩ hloc
      (Cap.fits_mono (Rules.clear_length_le hrel.nodup r) hfit)⟩
  simp only [Rules.clear_get hrel.nodup, RegMap.update, hrel.regs x]

theorem evaluate_refines (hsz : 1 ≤ g.addressSize ∧ g.addressSize ≤ 8) (h : Sim g c s) (i : Instr) :
    StepRel g (evaluate g c i) (stepB g.params g.R g.N s i) := by
  rw [stepB_eq_bound]
  have factor (o : Nat) : factored g.params o = wrapI64 (u64AsI64 o * g.dataAlign) := (wrapI64_mul_wrap _ _).symm
  cases i with
  | defCfa r o => exact setCfa_refines h _
  | defCfaSf r o => exact setCfa_refines h _
  | defCfaExpression e => exact setCfa_refines h _
  | defCfaRegister r => exact cfaRegOff_refines h (fun _ o => .registerAndOffset r o)
  | defCfaOffset o => exact cfaRegOff_refines h (fun r _ => .registerAndOffset r (wrapI64 o))
  | defCfaOffsetSf o => exact cfaRegOff_refines h (fun r _ => .registerAndOffset r (factored g.params o))
  | argsSize n =>
    obtain ⟨top, rest, hst, hrel, hloc, hfit⟩ := h.top
    have hsim : Sim g { c with stack := { top with savedArgsSize := n } :: rest }
        { s with cur := { s.cur with argsSize := n } } :=
      h.set_top hst (hrel.of_rules rfl hrel.cfa rfl rfl) hloc hfit
    simp only [evaluate, step, bound_ok _ hsim, Ctx.modifyTop, hst, Out.bind_ok, Out.pure_eq]
    exact .quiet hsim
  | nop =>
    simp only [evaluate, step, bound_ok _ h]
    exact .quiet h
  | undefined r => exact setRule_refines h r .undefined
  | sameValue r => exact setRule_refines h r .sameValue
  | offset r o => simp only [step, factor]; exact setRule_refines h r _
  | offsetExtendedSf r o => exact setRule_refines h r _
  | valOffset r o => simp only [step, factor]; exact setRule_refines h r _
  | valOffsetSf r o => exact setRule_refines h r _
  | register d src => exact setRule_refines h d _
  | expression r e => exact setRule_refines h r _
  | valExpression r e => exact setRule_refines h r _
  | restore r =>
    simp only [evaluate, step, getInitialRule_sim h r, Out.bind_ok]
    cases s.init with
    | none => exact .err _
    | some im =>
      simp only [Option.map_some]
      cases im r with
      | none =>
        obtain ⟨c', hc', hsim⟩ := clearRule_refines h r
        simp only [bound_ok _ hsim, hc', Out.bind_ok, Out.pure_eq]
        exact .quiet hsim
      | some rule => exact setRule_refines h r rule
  | negateRaState =>
    obtain ⟨top, rest, hst, hrel, _⟩ := h.top
    have hreg : Rules.get top.rules raSignState = s.cur.regs Spec.Unwind.raSignState := hrel.regs _
    simp only [evaluate, step, Ctx.top, hst, Out.bind_ok, hreg]
    cases s.cur.regs Spec.Unwind.raSignState with
    | none => exact setRule_refines h _ _
    | some rule => cases rule <;> first | exact setRule_refines h _ _ | exact .err _
  | rememberState =>
    have hrows := h.rows_eq
    obtain ⟨top, below, saved, hst, htop, hstart, hbelow, hinit, hR, hN⟩ := h
    rw [hst] at hR hrows
    simp only [evaluate, step, Ctx.pushRow, hst]
    cases hroom : g.R.hasRoom (top :: (below ++ saved)).length with
    | true =>
      have hsim : Sim g { c with stack := top :: top :: (below ++ saved) } { s with stack := s.cur :: s.stack } :=
        ⟨top, top :: below, saved, rfl, htop, hstart, .cons htop hbelow, hinit,
          (Cap.hasRoom_iff _ _).mp hroom,
          fun row hrow => hN row (by
            rw [hst]
            rcases List.mem_cons.mp hrow with rfl | hrow
            · exact List.mem_cons_self ..
            · exact hrow)⟩
      rw [bound_ok _ hsim]
      exact .quiet hsim
    | false =>
      -- one row more than the stack holds now
      have hx : exceeds g.R (rowsNeeded { s with stack := s.cur :: s.stack }) = true := by
        rw [show rowsNeeded { s with stack := s.cur :: s.stack } = rowsNeeded s + 1 by
          simp only [rowsNeeded, List.length_cons]; omega, hrows, exceeds_succ, hroom]; rfl
      simp only [bound, hx, if_true]
      exact .err _
  | restoreState =>
    obtain ⟨top, below, saved, hst, htop, hstart, hbelow, hinit, hR, hN⟩ := h
    obtain ⟨stack, ir, ii⟩ := c
    obtain ⟨loc, cur, sstack, init⟩ := s
    simp only at hst hinit hR hN hstart hbelow htop
    subst hst
    -- `min_size` is the number of rows that are not remembered rule sets
    have hmin : (if ii = true ∧ ir.isNone = true then 2 else 1) = 1 + saved.length := by
      cases hinit <;> simp
    simp only [evaluate, step, Ctx.top, Out.bind_ok, Ctx.popRow, hmin]
    cases hbelow with
    | nil =>
      rw [if_pos (by simp; omega)]
      exact .err _
    | @cons b sb bs ss hb hbs =>
      have hsim : Sim g ⟨{ b with startAddress := top.startAddress } :: (bs ++ saved), ir, ii⟩ ⟨loc, sb, ss, init⟩ :=
        ⟨_, bs, saved, rfl, hb.of_rules rfl hb.cfa hb.args rfl, hstart, hbs, hinit,
          Cap.fits_mono (by simp) hR, fun row hrow => by
            rcases List.mem_cons.mp hrow with rfl | hrow
            · exact hN b (by simp)
            · exact hN row (by simp only [List.cons_append, List.mem_cons]; exact .inr (.inr hrow))⟩
      rw [bound_ok _ hsim, if_neg (by simp; omega)]
      exact .quiet hsim
  | setLoc a =>
    obtain ⟨top, rest, hst, hrel, hloc, _⟩ := h.top
    simp only [evaluate, step, Ctx.top, hst, Out.bind_ok, hloc]
    by_cases hlt : a < s.loc
    · simp only [hlt, if_true]; exact .err _
    · simp only [hlt, if_false]; exact newRow_refines h a
  | advanceLoc d =>
    obtain ⟨top, rest, hst, hrel, hloc, _⟩ := h.top
    simp only [evaluate, step, Ctx.top, hst, Out.bind_ok, hloc, addSized_eq g.mode _ _ _ hsz, Cfg.params]
    by_cases hlt : s.loc + d * g.codeAlign % 2 ^ 64 < 2 ^ (8 * g.addressSize)
    · simp only [hlt, if_true, Out.bind_ok]; exact newRow_refines h _
    · simp only [hlt, if_false, Out.bind_err]; exact .err _

end step

inductive RowsRel : List Row → List TableRow → Prop
  | nil : RowsRel [] []
  | cons {m t ms ts} : TableRowRel m t → RowsRel ms ts → RowsRel (m :: ms) (t :: ts)

inductive EndRel (g : Cfg) : Out Ctx → Except Err State → Prop
  | ok {c s} : Sim g c s → EndRel g (.ok c) (.ok s)
  | err (e : Err) : EndRel g (.err e) (.error e)

def RunRel (g : Cfg) (m : Run Ctx) (s : List TableRow × Except Err State) : Prop :=
  RowsRel m.1 s.1 ∧ EndRel g m.2 s.2

/-- the Model's view of "decoding ends with error `e`" -/
def tailOf : Option Err → Out Unit
  | none => .ok ()
  | some e => .err e

section tables
variable {g : Cfg} (hsz : 1 ≤ g.addressSize ∧ g.addressSize ≤ 8)
include hsz

theorem rowsLoop_refines (lastEnd : Nat) (is : List Instr) (malformed : Option Err) :
    ∀ {c : Ctx} {s : State}, Sim g c s →
      RunRel g (rowsLoop g lastEnd is (tailOf malformed) c) (exec g.params g.R g.N lastEnd s is malformed) := by
  induction is with
  | nil =>
    intro c s h
    cases malformed with
    | some e => exact ⟨.nil, .err e⟩
    | none =>
      obtain ⟨top, rest, hst, hrel, hloc, hfit⟩ := h.top
      have hrel' : RowRel { top with endAddress := lastEnd } s.cur := hrel.of_rules rfl hrel.cfa hrel.args rfl
      simp only [rowsLoop, tailOf, Run.bind, Ctx.modifyTop, Ctx.top, hst, exec]
      exact ⟨.cons ⟨hloc, rfl, hrel'⟩ .nil, .ok (h.set_top hst hrel' hloc hfit)⟩
  | cons i is ih =>
    intro c s h
    have hstep := evaluate_refines hsz h i
    rw [rowsLoop]
    generalize evaluate g c i = m at hstep
    rcases exec_cons_cases g.params g.R g.N lastEnd s i is malformed with
      ⟨e, hB, he⟩ | ⟨s', hB, _, _, he⟩ | ⟨a, _, hB, he⟩ <;> rw [he] <;> rw [hB] at hstep <;> cases hstep
    · exact ⟨.nil, .err e⟩
    · rename_i c' hsim
      exact ih hsim
    · rename_i c' top rest hst hrow hend hsim
      simp only [Run.bind, Ctx.top, hst, Ctx.modifyTop]
      exact ⟨.cons hrow (ih hsim).1, (ih hsim).2⟩

theorem runTable_refines (start lastEnd : Nat) (is : List Instr) (malformed : Option Err) {c : Ctx} {s : State}
    (h : Sim g c s) :
    RunRel g (runTable g start lastEnd is (tailOf malformed) c)
      (exec g.params g.R g.N lastEnd { s with loc := start } is malformed) := by
  obtain ⟨top, rest, hst, hrel, _, hfit⟩ := h.top
  simp only [runTable, Run.bind, Ctx.modifyTop, hst]
  exact rowsLoop_refines hsz lastEnd is malformed
    (h.set_top hst (top' := { top with startAddress := start }) (hrel.of_rules rfl hrel.cfa hrel.args rfl) rfl hfit)

end tables

theorem reset_sim (g : Cfg) (hR : g.R.fits 1) :
    ∃ c0, reset g.R = .ok c0 ∧ Sim g c0 { loc := 0, cur := RuleSet.initial, stack := [], init := none } := by
  have hroom : g.R.hasRoom 0 = true := (Cap.hasRoom_iff _ _).mpr hR
  refine ⟨{ stack := [{}], initialRule := none, isInitialized := false }, by simp [reset, hroom],
    ({} : Row), [], [], rfl, ⟨rfl, rfl, fun r => rfl, by simp [Rules.NodupKeys]⟩, rfl, .nil, .cie, by simpa using hR, ?_⟩
  intro row hrow
  rw [List.mem_singleton.mp hrow]
  cases g.N <;> simp [Cap.fits]

/-- what `save_initial_rules` does, by the number of rules in the current row -/
inductive SaveOut (R : Cap) (c : Ctx) (top : Row) : Out Ctx → Prop
  | zero : top.rules = [] → SaveOut R c top (.ok { c with initialRule := some none, isInitialized := true })
  | one {rule : Reg × Rule} : top.rules = [rule] →
      SaveOut R c top (.ok { c with initialRule := some (some rule), isInitialized := true })
  | saved : 2 ≤ top.rules.length → R.hasRoom c.stack.length = true →
      SaveOut R c top (.ok { stack := c.stack ++ [top], initialRule := none, isInitialized := true })
  | full : 2 ≤ top.rules.length → R.hasRoom c.stack.length = false → SaveOut R c top (.err .rStackFull)

theorem saveInitialRules_out {R : Cap} {c : Ctx} {top : Row} {rest : List Row} (hst : c.stack = top :: rest) :
    SaveOut R c top (saveInitialRules R c) := by
  unfold saveInitialRules
  split
  · rename_i h; rw [hst] at h; cases h
  · rename_i top' rest' h
    obtain ⟨rfl, rfl⟩ := List.cons.inj (hst.symm.trans h)
    split
    · exact .zero ‹_›
    · exact .one ‹_›
    · have h2 : 2 ≤ top.rules.length := by
        match hr : top.rules with
        | [] => exact absurd hr ‹_›
        | [x] => exact absurd hr (‹∀ rule, top.rules = [rule] → False› x)
        | _ :: _ :: _ => simp
      split
      · exact .saved h2 ‹_›
      · exact .full h2 (Bool.eq_false_iff.mpr ‹_›)

/-- `save_initial_rules` against "the initial rules are the register columns after the CIE":
`StackFull` exactly when the extra row for two or more initial rules does not fit -/
theorem saveInitialRules_refines {c : Ctx} {s : State} (h : Sim g c s) (hcie : s.init = none) :
    (exceeds g.R (rowsNeeded { s with init := some s.cur.regs }) = true ∧ saveInitialRules g.R c = .err .rStackFull) ∨
    (exceeds g.R (rowsNeeded { s with init := some s.cur.regs }) = false ∧
      ∃ c', saveInitialRules g.R c = .ok c' ∧ Sim g c' { s with init := some s.cur.regs }) := by
  have hrows := h.rows_eq
  obtain ⟨top, below, saved, hst, htop, hstart, hbelow, hinit, hR, hN⟩ := h
  have hout := saveInitialRules_out (R := g.R) hst
  obtain ⟨stack, ir, ii⟩ := c
  obtain ⟨loc, cur, sstack, init⟩ := s
  simp only at hst hinit hR hN hstart hbelow htop hcie hrows hout
  subst hcie hst
  cases hinit
  simp only [List.append_nil] at *
  -- the new state needs the rows held now, and one more when there are two or more rules
  have hneed : rowsNeeded ⟨loc, cur, sstack, some cur.regs⟩ =
      (top :: below).length + if 2 ≤ top.rules.length then 1 else 0 := by
    simp only [rowsNeeded, initRowsNeeded, htop.count] at hrows ⊢
    omega
  have hsim {ir : Option (Option (Reg × Rule))} {saved : List Row} (hi : InitRel ir true saved (some cur.regs))
      (hfit : g.R.fits (top :: (below ++ saved)).length) (hsaved : ∀ row ∈ saved, row = top) :
      Sim g ⟨top :: (below ++ saved), ir, true⟩ ⟨loc, cur, sstack, some cur.regs⟩ :=
    ⟨top, below, saved, rfl, htop, hstart, hbelow, hi, hfit, fun row hrow => by
      rcases List.mem_cons.mp hrow with rfl | hrow
      · exact hN _ (List.mem_cons_self ..)
      · rcases List.mem_append.mp hrow with hrow | hrow
        · exact hN row (List.mem_cons_of_mem _ hrow)
        · exact hsaved row hrow ▸ hN _ (List.mem_cons_self ..)⟩
  rw [hneed]
  generalize saveInitialRules g.R _ = out at hout ⊢
  cases hout with
  | zero hr =>
    refine .inr ⟨by simpa [exceeds_eq_false_iff, hr] using hR, _, rfl, ?_⟩
    simpa using hsim (saved := []) (.zero fun r => by rw [← htop.regs r, hr]; rfl) (by simpa using hR) (by simp)
  | @one rule hr =>
    obtain ⟨r0, v0⟩ := rule
    refine .inr ⟨by simpa [exceeds_eq_false_iff, hr] using hR, _, rfl, ?_⟩
    simpa using hsim (saved := []) (.one fun r => by rw [← htop.regs r, hr]; simp [Rules.get_cons, eq_comm])
      (by simpa using hR) (by simp)
  | saved h2 hroom =>
    refine .inr ⟨by simpa [h2, exceeds_succ] using hroom, _, rfl, ?_⟩
    simpa using hsim (saved := [top]) (.saved htop.nodup h2 htop.regs)
      (by simpa using (Cap.hasRoom_iff _ _).mp hroom) (by simp)
  | full h2 hroom => exact .inl ⟨by simpa [h2, exceeds_succ] using hroom, rfl⟩

/-- `UnwindContext::initialize` against the CIE's run followed by taking its register columns as initial rules:
the same error, `StackFull` exactly when the row for the initial rules does not fit, or related states -/
theorem initializeCtx_refines (hsz : 1 ≤ g.addressSize ∧ g.addressSize ≤ 8) (hR : g.R.fits 1)
    (cie : List Instr) (cieBad : Option Err) :
    EndRel g (initializeCtx g cie (tailOf cieBad))
      (match (exec g.params g.R g.N 0 ⟨0, RuleSet.initial, [], none⟩ cie cieBad).2 with
        | .error e => .error e
        | .ok s1 =>
          if exceeds g.R (rowsNeeded { s1 with init := some s1.cur.regs }) then .error .rStackFull
          else .ok { s1 with init := some s1.cur.regs }) := by
  obtain ⟨c0, hc0, hsim0⟩ := reset_sim g hR
  have hcie := (runTable_refines hsz 0 0 cie cieBad hsim0).2
  unfold initializeCtx
  simp only [hc0, Out.bind_ok]
  generalize (runTable g 0 0 cie (tailOf cieBad) c0).2 = mend at hcie
  cases h1 : (exec g.params g.R g.N 0 ⟨0, RuleSet.initial, [], none⟩ cie cieBad).2 <;> rw [h1] at hcie <;> cases hcie
  · exact .err _
  · rename_i s1 c1 hsim1
    rcases saveInitialRules_refines hsim1 (exec_init h1) with ⟨hx, hsave⟩ | ⟨hx, c2, hsave, hsim2⟩
    · simp only [Out.bind_ok, hsave, hx, if_true]
      exact .err _
    · simp only [Out.bind_ok, hsave, hx, Bool.false_eq_true, if_false]
      exact .ok hsim2

theorem fdeEndAddress_eq (g : Cfg) (hsz : 1 ≤ g.addressSize ∧ g.addressSize ≤ 8) (initial len : Nat) :
    fdeEndAddress g initial len = .ok (fdeEnd g.params initial len) :=
  Spec.Cfi.wrappingAddSized_ok g.mode initial len g.addressSize hsz

def FinalRel : Out Unit → Except Err Unit → Prop
  | .ok _, .ok _ => True
  | .err e, .error e' => e = e'
  | _, _ => False

theorem FinalRel.ok_iff {m : Out Unit} {s : Except Err Unit} (h : FinalRel m s) : m = .ok () ↔ s = .ok () := by
  cases m <;> cases s <;> simp [FinalRel] at h ⊢

theorem FinalRel.err_iff {m : Out Unit} {s : Except Err Unit} (h : FinalRel m s) {e : Err} :
    m = .err e ↔ s = .error e := by
  cases m <;> cases s <;> simp [FinalRel] at h ⊢
  rw [h]

theorem FinalRel.normal {m : Out Unit} {s : Except Err Unit} (h : FinalRel m s) : m.Normal := by
  cases m <;> cases s <;> first | trivial | exact h

theorem EndRel.final {g : Cfg} {m : Out Ctx} {s : Except Err State} (h : EndRel g m s) :
    FinalRel (m.map fun _ => ()) (s.map fun _ => ()) := by
  cases h <;> trivial

def rowSpans (rows : List Row) : List (Nat × Nat) := rows.map (fun r => (r.startAddress, r.endAddress))

theorem RowsRel.spans {m : List Row} {s : List TableRow} (h : RowsRel m s) : rowSpans m = spans s := by
  induction h with
  | nil => rfl
  | cons hr _ ih =>
    simp only [rowSpans, Spec.Unwind.spans, List.map_cons, hr.start, hr.end_] at ih ⊢
    rw [ih]

theorem RowsRel.getLast {m : List Row} {s : List TableRow} (h : RowsRel m s) {t : TableRow}
    (ht : s.getLast? = some t) : ∃ r, m.getLast? = some r ∧ TableRowRel r t := by
  induction h with
  | nil => simp at ht
  | @cons m0 t0 ms ts hr hrest ih =>
    cases hrest with
    | nil =>
      simp only [List.getLast?_singleton, Option.some.injEq] at ht ⊢
      exact ⟨m0, rfl, ht ▸ hr⟩
    | cons hr1 hrest' =>
      rw [List.getLast?_cons_cons] at ht ⊢
      exact ih ht

theorem RowsRel.forall {m : List Row} {s : List TableRow} (h : RowsRel m s)
    (hs : ∀ t ∈ s, t.start ≤ t.end_) : ∀ r ∈ m, r.startAddress ≤ r.endAddress := by
  induction h with
  | nil => simp
  | cons hr _ ih =>
    intro r hmem
    rcases List.mem_cons.mp hmem with rfl | hmem
    · rw [hr.start, hr.end_]
      exact hs _ (List.mem_cons_self ..)
    · exact ih (fun t ht => hs t (List.mem_cons_of_mem _ ht)) r hmem

end Gimli.Unwind
