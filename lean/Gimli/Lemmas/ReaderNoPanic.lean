import Gimli.Lemmas.ReaderKinds
import Gimli.Lemmas.Ints
/-! C10: every operation of the concrete readers returns (a value or an error), API misuse apart. -/
namespace Gimli.Rd
open Gimli
variable {σ α β : Type}

def Total (x : M σ α) : Prop := ∀ s, (x s).1.Normal

theorem Total.pure (a : α) : Total (M.pure a : M σ α) := fun _ => trivial
theorem Total.fail (e : Err) : Total (M.fail e : M σ α) := fun _ => trivial
theorem Total.liftOut {o : Out α} (ho : o.Normal) : Total (M.liftOut o : M σ α) := fun _ => ho

theorem Total.bind {x : M σ α} {f : α → M σ β} (hx : Total x) (hf : ∀ a, Total (f a)) :
    Total (M.bind x f) := by
  intro s
  have h1 := hx s
  unfold M.bind
  generalize x s = p at h1 ⊢
  obtain ⟨o, s'⟩ := p
  cases o with
  | ok a => exact hf a s'
  | err e => trivial
  | panic w => exact h1
  | diverge => exact h1

theorem Total.map {x : M σ α} (f : α → β) (hx : Total x) : Total (M.map f x) :=
  hx.bind (fun a => .pure (f a))

theorem Total.ite {c : Prop} [Decidable c] {x y : M σ α} (hx : Total x) (hy : Total y) :
    Total (if c then x else y) := by
  split <;> assumption

/-! ## the methods of `EndianSlice` (and so of `EndianReader`) -/

theorem checked_total (n : Nat) (v : Cur → α) (f : Cur → Cur) : Total (checked n v f) := by
  intro c
  unfold checked
  split <;> trivial

theorem readSlice_total (n : Nat) : Total (sliceCore.readSlice n) := by
  show Total (Slice.readSlice n)
  rw [Slice.readSlice_eq_checked]
  exact checked_total _ _ _

theorem find_normal (c : Cur) (b : UInt8) : (Slice.find c b).Normal := by
  unfold Slice.find; split <;> trivial

theorem via_total {γ : Type} {f : Bytes → Out (γ × Bytes)} (adv : Bytes → Err → Nat)
    (hf : ∀ bs, (f bs).Normal) : Total (Dflt.via sliceCore f adv) := by
  intro c
  have := hf c.bytes
  unfold Dflt.via
  simp only [sliceCore, Slice.toSlice]
  generalize f c.bytes = o at this ⊢
  cases o <;> first | trivial | exact this

/-! the default methods built on `read_slice` alone: total for any core whose `read_slice` is -/
section
variable {C : Core σ} (hrs : ∀ n, Total (C.readSlice n))
include hrs

theorem readFixed_total (e : Endian) (n : Nat) : Total (Dflt.readFixed C e n) :=
  (hrs n).bind (fun _ => .pure _)

theorem readSigned_total (e : Endian) (n : Nat) : Total (Dflt.readSigned C e n) :=
  (hrs n).bind (fun _ => .pure _)

/-- `read_uint(n)` panics for `n > 8` by contract -/
theorem readUint_total (e : Endian) (n : Nat) (hn : ¬ n > 8) : Total (Dflt.readUint C e n) := by
  unfold Dflt.readUint
  rw [if_neg hn]
  exact (hrs n).bind (fun _ => .pure _)

theorem readAddress_total (e : Endian) (n : Nat) : Total (Dflt.readAddress C e n) := by
  unfold Dflt.readAddress
  exact .ite (readFixed_total hrs e n) (.fail _)

theorem readWord_total (e : Endian) (f : Format) : Total (Dflt.readWord C e f) := by
  unfold Dflt.readWord
  cases f
  · exact readFixed_total hrs e 4
  · exact (readFixed_total hrs e 8).bind (fun v => .liftOut (Ints.offsetFromU64_normal 64 v))

theorem readSizedOffset_total (e : Endian) (n : Nat) : Total (Dflt.readSizedOffset C e n) := by
  unfold Dflt.readSizedOffset
  exact .ite ((readFixed_total hrs e n).bind (fun v => .liftOut (Ints.offsetFromU64_normal 64 v))) (.fail _)

theorem readInitialLength_total (e : Endian) : Total (Dflt.readInitialLength C e) := by
  unfold Dflt.readInitialLength
  refine (readFixed_total hrs e 4).bind (fun v => .ite (.pure _) (.ite ?_ (.fail _)))
  exact (readFixed_total hrs e 8).bind
    (fun v => (Total.liftOut (Ints.offsetFromU64_normal 64 v)).bind (fun _ => .pure _))

theorem readAddressSize_total : Total (Dflt.readAddressSize C) := by
  unfold Dflt.readAddressSize
  exact (readFixed_total hrs .little 1).bind (fun _ => .ite (.pure _) (.fail _))

end

theorem readUleb32_total : Total (Dflt.readUleb32 sliceCore) := by
  unfold Dflt.readUleb32
  exact (via_total _ Leb.unsigned_normal).bind (fun _ => .ite (.pure _) (.fail _))

theorem readNts_total : Total (Dflt.readNts sliceCore) := by
  intro c
  unfold Dflt.readNts
  exact (Total.liftOut (find_normal c 0)).bind
    (fun idx => (checked_total idx _ _).bind fun v => (checked_total 1 _ _).bind fun _ => .pure v) c

/-- API misuse that panics by contract: `read_uint(n)` with `n > 8` (documented), and
`offset_from` with a base the reader does not lie in (`debug_assert!`, debug builds only) -/
def Op.misuse (m : Mode) : Op → Bool
  | .uint _ n => decide (n > 8)
  | .offFrom _ _ => decide (m = .debug)
  | _ => false

section
variable {I : Impl σ} (st : St σ) (i : Nat)

theorem runM_total {x : M σ Val} (hx : Total x) : (runM I st i x).1.res.Normal := by
  unfold runM
  cases st.get i with
  | none => trivial
  | some s => exact hx s

theorem runNew_total {x : M σ σ} (hx : Total x) : (runNew I st i x).1.res.Normal := by
  unfold runNew
  cases st.get i with
  | none => trivial
  | some s =>
    have := hx s
    simp only
    generalize x s = p at this ⊢
    obtain ⟨o, s'⟩ := p
    cases o <;> first | trivial | exact this

theorem runQ_total {q : σ → Out Val} (hq : ∀ s, (q s).Normal) : (runQ I st i q).1.res.Normal := by
  unfold runQ
  cases st.get i with
  | none => trivial
  | some s => exact hq s

end

/-- **No operation of a history on the slice reader panics, API misuse apart.** The shared-buffer
reader is the same Model (`sharedImpl_eq`), which carries this over to `SubRange`'s `assert!`s
(`Props.C10.subrange_hist_no_panic`). -/
theorem step_total (m : Mode) (e : Endian) (valid : Bytes → Bool) (lossy : Bytes → Bytes)
    (st : St Cur) (op : Op) (h : Op.misuse m op = false) :
    (step sliceImpl m e valid lossy st op).1.res.Normal := by
  unfold step
  cases op with
  | fixed i n => exact runM_total st i (.map _ (readFixed_total readSlice_total e n))
  | signed i n => exact runM_total st i (.map _ (readSigned_total readSlice_total e n))
  | uint i n => exact runM_total st i (.map _ (readUint_total readSlice_total e n (of_decide_eq_false h)))
  | slice i n => exact runM_total st i (.map _ (readSlice_total n))
  | skip i n => exact runM_total st i (.map _ (checked_total n _ _))
  | split i n => exact runNew_total st i (checked_total n _ _)
  | trunc i n => exact runM_total st i (.map _ (checked_total n _ _))
  | empty i => exact runM_total st i (fun _ => trivial)
  | find i b => exact runQ_total st i (fun s => .map _ (find_normal s b))
  | clone i => exact runNew_total st i (fun _ => trivial)
  | drop i => simp only; cases st.get i <;> trivial
  | offFrom i j =>
    obtain rfl : m = .release := by
      cases m
      · cases h
      · rfl
    simp only
    cases st.get j with
    | none => trivial
    | some b =>
      refine runQ_total st i (fun s => .map _ ?_)
      show (ptrOffsetFrom .release s b).Normal
      simp only [ptrOffsetFrom]
      split <;> trivial
  | offId i => simp only; cases st.get i <;> trivial
  | lookup i k => simp only; cases st.ids[k]? <;> first | trivial | exact runQ_total st i (fun _ => trivial)
  | len i => exact runQ_total st i (fun _ => trivial)
  | toSlice i => exact runQ_total st i (fun _ => trivial)
  | toStr i =>
    refine runQ_total st i (fun s => .map _ ?_)
    show (Slice.toStr valid s).Normal
    unfold Slice.toStr; split <;> trivial
  | toLossy i =>
    refine runQ_total st i (fun s => .map _ ?_)
    show (Slice.toLossy valid lossy s).Normal
    unfold Slice.toLossy; split <;> trivial
  | nts i => exact runNew_total st i readNts_total
  | uleb i => exact runM_total st i (.map _ (via_total _ Leb.unsigned_normal))
  | sleb i => exact runM_total st i (.map _ (via_total _ Leb.signed_normal))
  | uleb32 i => exact runM_total st i (.map _ readUleb32_total)
  | uleb16 i => exact runM_total st i (.map _ (via_total _ Leb.u16_normal))
  | skipLeb i =>
    exact runM_total st i (.map _ (via_total _ fun bs => .map _ (Leb.skip_normal bs)))
  | initLen i => exact runM_total st i (.map _ (readInitialLength_total readSlice_total e))
  | addrSize i => exact runM_total st i (.map _ (readAddressSize_total readSlice_total))
  | addr i n => exact runM_total st i (.map _ (readAddress_total readSlice_total e n))
  | word i f => exact runM_total st i (.map _ (readWord_total readSlice_total e f))
  | offset i f => exact runM_total st i (.map _ (readWord_total readSlice_total e f))
  | sizedOff i n => exact runM_total st i (.map _ (readSizedOffset_total readSlice_total e n))

end Gimli.Rd
