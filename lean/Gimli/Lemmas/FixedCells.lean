import Gimli.Model.Names
import Gimli.Lemmas.Out
import Gimli.Lemmas.ReaderEnsures
/-!
# Tables of fixed-width cells

A table `t.flatMap f` whose cells `f a` all have `n` bytes: cell `i` is what lies at offset `i * n`
(`drop_table`, `skipTo_table`).  The offset arrays of `.debug_str_offsets`, `.debug_addr`,
`.debug_names` and of the package index are read through these.
-/
namespace Gimli.C17
open Gimli
open Gimli.Names (skipTo)

theorem skipTo_ensures (bs : Bytes) (off : Nat) : (skipTo bs off).Ensures fun r => Took bs r off :=
  .ite_cases (fun h => Out.ensures_ok (Took.drop_iff.mpr ⟨h, rfl⟩)) fun _ => Out.ensures_err _ _

theorem skipTo_append (pre rest : Bytes) : skipTo (pre ++ rest) pre.length = .ok rest := by
  rw [skipTo, if_pos (by rw [List.length_append]; omega), List.drop_left]

theorem flatMap_length_of {α : Type} (f : α → Bytes) (n : Nat) (t : List α)
    (hf : ∀ a, a ∈ t → (f a).length = n) : (t.flatMap f).length = n * t.length := by
  induction t with
  | nil => rfl
  | cons a t ih =>
    rw [List.flatMap_cons, List.length_append, hf a List.mem_cons_self,
      ih fun b hb => hf b (List.mem_cons_of_mem _ hb), List.length_cons, Nat.mul_succ, Nat.add_comm]

theorem length_le_flatMap_length {α : Type} (f : α → Bytes) (t : List α) (hf : ∀ a, a ∈ t → f a ≠ []) :
    t.length ≤ (t.flatMap f).length := by
  induction t with
  | nil => exact Nat.le_refl _
  | cons a t ih =>
    rw [List.flatMap_cons, List.length_append, List.length_cons]
    exact Nat.succ_le_of_lt (Nat.lt_of_le_of_lt (ih fun b hb => hf b (List.mem_cons_of_mem _ hb))
      (Nat.lt_add_of_pos_left (List.length_pos_iff.mpr (hf a List.mem_cons_self))))

theorem drop_flatMap_of {α : Type} (f : α → Bytes) (n : Nat) (t : List α)
    (hf : ∀ a, a ∈ t → (f a).length = n) (p : Nat) :
    (t.flatMap f).drop (p * n) = (t.drop p).flatMap f := by
  induction p generalizing t with
  | zero => rw [Nat.zero_mul]; rfl
  | succ p ih =>
    cases t with
    | nil => exact List.drop_nil
    | cons a t =>
      rw [List.flatMap_cons, Nat.succ_mul, Nat.add_comm, ← List.drop_drop,
        List.drop_left' (hf a List.mem_cons_self), List.drop_succ_cons]
      exact ih t fun b hb => hf b (List.mem_cons_of_mem _ hb)

theorem mul_le_flatMap_length {α : Type} (f : α → Bytes) (n : Nat) (t : List α)
    (hf : ∀ a, a ∈ t → (f a).length = n) (i : Nat) (hi : i ≤ t.length) : i * n ≤ (t.flatMap f).length := by
  rw [flatMap_length_of f n t hf, Nat.mul_comm]; exact Nat.mul_le_mul_left n hi

theorem drop_table {α : Type} (f : α → Bytes) (n : Nat) (t : List α)
    (hf : ∀ a, a ∈ t → (f a).length = n) (post : Bytes) (i : Nat) (hi : i < t.length) :
    (t.flatMap f ++ post).drop (i * n) = f t[i] ++ ((t.drop (i + 1)).flatMap f ++ post) := by
  rw [List.drop_append_of_le_length (mul_le_flatMap_length f n t hf i (Nat.le_of_lt hi)),
    drop_flatMap_of f n t hf, List.drop_eq_getElem_cons hi, List.flatMap_cons, List.append_assoc]

theorem skipTo_table {α : Type} (f : α → Bytes) (n : Nat) (t : List α)
    (hf : ∀ a, a ∈ t → (f a).length = n) (post : Bytes) (i : Nat) (hi : i < t.length) :
    skipTo (t.flatMap f ++ post) (i * n) = .ok (f t[i] ++ ((t.drop (i + 1)).flatMap f ++ post)) := by
  have hle : i * n ≤ (t.flatMap f ++ post).length :=
    List.length_append ▸ Nat.le_add_right_of_le (mul_le_flatMap_length f n t hf i (Nat.le_of_lt hi))
  rw [skipTo, if_pos hle, drop_table f n t hf post i hi]

theorem drop_cells {α : Type} (f : α → Bytes) (n : Nat) (t : List α)
    (hf : ∀ a, a ∈ t → (f a).length = n) (i : Nat) (hi : i < t.length) :
    (t.flatMap f).drop (i * n) = f t[i] ++ (t.drop (i + 1)).flatMap f := by
  have := drop_table f n t hf [] i hi
  rwa [List.append_nil, List.append_nil] at this

theorem skipTo_cells {α : Type} (f : α → Bytes) (n : Nat) (t : List α)
    (hf : ∀ a, a ∈ t → (f a).length = n) (i : Nat) (hi : i < t.length) :
    skipTo (t.flatMap f) (i * n) = .ok (f t[i] ++ (t.drop (i + 1)).flatMap f) := by
  have := skipTo_table f n t hf [] i hi
  rwa [List.append_nil, List.append_nil] at this

end Gimli.C17
