import Gimli.Lemmas.Reads
import Gimli.Lemmas.Out
/-!
# NUL-terminated strings (`Reader::read_null_terminated_slice`)

The Model has this reader once per section it occurs in (`Attr`, `Line`, `Pub`, and the reading side of the two
writer specifications). `IsCStr rd` is what all of them satisfy; the facts are proved from it once. The instances are
named `readCStr_isCStr` in the namespace of each copy: `Attr.` (Lemmas/Attr), `Line.` (Lemmas/LineDecode), `Pub.`
(Lemmas/Package), `WUnit.` (Lemmas/WUnit/Decode), `WCfi.` (Lemmas/WCfiHeader, for `Spec.WCfi.readCStr`).
-/
namespace Gimli

structure IsCStr (rd : Bytes → Out (Bytes × Bytes)) : Prop where
  nil : rd [] = .err .rUnexpectedEof
  cons : ∀ b rest, rd (b :: rest) = if b = 0 then .ok ([], rest) else rd rest >>= fun (s, r) => pure (b :: s, r)

namespace IsCStr
variable {rd : Bytes → Out (Bytes × Bytes)}

theorem reads (h : IsCStr rd) {s : Bytes} (hs : (0 : UInt8) ∉ s) : Reads rd (s ++ [0]) s := by
  intro rest
  induction s with
  | nil => exact (h.cons 0 rest).trans (if_pos rfl)
  | cons b s ih =>
    rw [List.cons_append, List.cons_append, h.cons, if_neg fun hb => hs (List.mem_cons.mpr (.inl hb.symm)),
      ih fun h0 => hs (List.mem_cons_of_mem _ h0)]
    rfl

theorem eq_ok_iff (h : IsCStr rd) {bs s rest : Bytes} :
    rd bs = .ok (s, rest) ↔ bs = s ++ 0 :: rest ∧ (0 : UInt8) ∉ s := by
  constructor
  · induction bs generalizing s with
    | nil => intro hr; rw [h.nil] at hr; cases hr
    | cons b tl ih =>
      intro hr
      rw [h.cons] at hr
      split at hr
      · cases hr; exact ⟨by rw [‹b = 0›]; rfl, List.not_mem_nil⟩
      · obtain ⟨⟨s', r⟩, h1, h2⟩ := Out.bind_eq_ok hr
        cases h2
        obtain ⟨rfl, h0⟩ := ih h1
        exact ⟨rfl, fun hm => (List.mem_cons.mp hm).elim (fun e => ‹¬ b = 0› e.symm) h0⟩
  · rintro ⟨rfl, h0⟩
    have := h.reads h0 rest
    rwa [List.append_assoc] at this

theorem normal (h : IsCStr rd) (bs : Bytes) : (rd bs).Normal := by
  induction bs with
  | nil => rw [h.nil]; trivial
  | cons b tl ih => rw [h.cons]; exact .ite trivial (ih.bind fun _ _ => trivial)

theorem shrinks (h : IsCStr rd) {bs s rest : Bytes} (hr : rd bs = .ok (s, rest)) : rest.length < bs.length := by
  obtain ⟨rfl, -⟩ := h.eq_ok_iff.mp hr
  rw [List.length_append, List.length_cons]; omega

theorem ensures (h : IsCStr rd) (bs : Bytes) : (rd bs).Ensures fun p => p.2.length < bs.length :=
  ⟨h.normal bs, fun _ hr => h.shrinks hr⟩

end IsCStr
end Gimli
