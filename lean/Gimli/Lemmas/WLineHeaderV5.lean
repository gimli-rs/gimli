import Gimli.Lemmas.WLineHeader
/-! Helper lemmas for C13: the version 5 header that `LineProgram::write` lays out is the §6.2.4
encoding (`Spec.Line.encodeHeaderV5`) of an abstract header built from the program's tables, so
C04's `header_roundtrip_v5` reads it back. -/
namespace Gimli.WLine
open Gimli Gimli.Line Gimli.Spec Gimli.Spec.Line

/-! ## optional columns: `if b then [x] else []` -/

section
variable {α β : Type} (b : Bool) (x : α)

theorem length_optional : (if b = true then [x] else []).length = b2n b := by cases b <;> rfl

theorem map_optional (f : α → β) : (if b = true then [x] else []).map f = if b = true then [f x] else [] := by
  cases b <;> rfl

theorem flatMap_optional (f : α → List β) : (if b = true then [x] else []).flatMap f = if b = true then f x else [] := by
  cases b <;> simp

end

/-! ## string tables only grow -/

theorem findIdx?_lt {α : Type} (p : α → Bool) (t : List α) (i : Nat) (h : findIdx? p t = some i) : i < t.length := by
  obtain ⟨x, hx, _⟩ := findIdx?_some p t i h
  exact (List.getElem?_eq_some_iff.mp hx).1

theorem offset_append : ∀ (t more : StrTab) (i : Nat), i < t.length →
    StrTab.offset (t ++ more) i = StrTab.offset t i := by
  intro t
  induction t with
  | nil => intro more i h; simp at h
  | cons s t ih =>
    intro more i h
    cases i with
    | zero => simp [StrTab.offset]
    | succ i =>
      simp only [List.cons_append, StrTab.offset]
      rw [ih more i (by simpa using h)]

theorem add_grows (t t' : StrTab) (s : Bytes) (i : Nat) (h : StrTab.add t s = .ok (t', i)) :
    ∃ more, t' = t ++ more := by
  unfold StrTab.add at h
  split at h
  · cases h
  · split at h <;> cases h
    · exact ⟨[], (List.append_nil t).symm⟩
    · exact ⟨[s], rfl⟩

def Tabs.le (a b : Tabs) : Prop :=
  (∃ m, b.lineStrings = a.lineStrings ++ m) ∧ (∃ m, b.strings = a.strings ++ m)

theorem Tabs.le_refl (a : Tabs) : Tabs.le a a := ⟨⟨[], by simp⟩, ⟨[], by simp⟩⟩

theorem Tabs.le_trans {a b c : Tabs} (h1 : Tabs.le a b) (h2 : Tabs.le b c) : Tabs.le a c := by
  obtain ⟨⟨m1, e1⟩, ⟨n1, f1⟩⟩ := h1
  obtain ⟨⟨m2, e2⟩, ⟨n2, f2⟩⟩ := h2
  exact ⟨⟨m1 ++ m2, by rw [e2, e1]; simp⟩, ⟨n1 ++ n2, by rw [f2, f1]; simp⟩⟩

/-- the string sections are smaller than 2^64 bytes (`usize` offsets) -/
def TabsSmall (t : Tabs) : Prop := ∀ i, t.strings.offset i < 2 ^ 64 ∧ t.lineStrings.offset i < 2 ^ 64

/-! ## one `LineString` -/

/-- offset of the entry with content `v` -/
def refOff (t : StrTab) (v : Bytes) : Nat := t.offset ((findIdx? (· == v) t).getD 0)

/-- the field a `LineString` is written as: the inline string, or the offset of its content in the
string table it refers to -/
def fieldOf (tabs : Tabs) (s : LineStr) : FieldV :=
  match s.form with
  | .string => .string s.val
  | .strp => .strp (refOff tabs.strings s.val)
  | .lineStrp => .lineStrp (refOff tabs.lineStrings s.val)

theorem refOff_grows (t more : StrTab) (v : Bytes) (i : Nat) (h : findIdx? (· == v) t = some i) :
    refOff (t ++ more) v = t.offset i := by
  unfold refOff
  rw [findIdx?_append_old _ t more i h]
  exact offset_append t more i (findIdx?_lt _ t i h)

/-- a reference form (`strp`, `line_strp`): the id of the content in the table `t` at the time of the call,
its offset written as a word; a later state `tF` of the table gives the same offset -/
theorem writeRef_v5 (en : Endian) (format : Format) (t tF : StrTab) (v b : Bytes) (hle : ∃ m, tF = t ++ m)
    (hsm : ∀ i, tF.offset i < 2 ^ 64)
    (h : (match findIdx? (· == v) t with
      | some id => Ints.writeUdata en (t.offset id) format.wordSize
      | none => .panic "string id out of range") = .ok b) :
    b = wordBytes en format (refOff tF v) ∧ refOff tF v < 2 ^ 64 ∧ (format = .dwarf32 → refOff tF v < 2 ^ 32) := by
  obtain ⟨more, rfl⟩ := hle
  cases hi : findIdx? (· == v) t with
  | none => rw [hi] at h; cases h
  | some id =>
    rw [hi] at h
    rw [refOff_grows t more v id hi]
    have hlt : t.offset id < 2 ^ 64 := by rw [← refOff_grows t more v id hi]; exact hsm _
    obtain ⟨hb, h32⟩ := writeUdata_word en format _ b hlt h
    exact ⟨hb, hlt, h32⟩

/-- `LineString::write` for version 5, read off its success: the form is the table's form and the
bytes are the §7.5.5 encoding of `fieldOf` (relative to any later state `tabsF` of the tables) -/
theorem writeStr_v5 (en : Endian) (format : Format) (m : Mode) (tabs tabsF : Tabs) (form : SForm) (s : LineStr)
    (b : Bytes) (h : writeStr en format 5 m tabs form s = .ok b) (hle : Tabs.le tabs tabsF)
    (hsm : TabsSmall tabsF) (hnul : s.form = .string → (0 : UInt8) ∉ s.val) :
    b = (fieldOf tabsF s).encode en format ∧ (fieldOf tabsF s).Ok format ∧ (fieldOf tabsF s).form = form.code := by
  unfold writeStr at h
  split at h
  · cases h
  rename_i hform
  obtain rfl : form = s.form := by simpa using hform
  unfold fieldOf
  cases hf : s.form with
  | string =>
    rw [hf] at h
    simp only at h
    split at h
    · cases h
    cases h
    exact ⟨rfl, hnul hf, rfl⟩
  | strp =>
    rw [hf] at h
    simp only [Nat.lt_irrefl, ↓reduceIte] at h
    obtain ⟨hb, hlt, h32⟩ := writeRef_v5 en format _ _ s.val b hle.2 (fun i => (hsm i).1) h
    exact ⟨hb, ⟨hlt, h32⟩, rfl⟩
  | lineStrp =>
    rw [hf] at h
    simp only [Nat.lt_irrefl, ↓reduceIte] at h
    obtain ⟨hb, hlt, h32⟩ := writeRef_v5 en format _ _ s.val b hle.1 (fun i => (hsm i).2) h
    exact ⟨hb, ⟨hlt, h32⟩, rfl⟩

/-- an inline string has no NUL -/
def NulFree (s : LineStr) : Prop := s.form = .string → (0 : UInt8) ∉ s.val

instance (s : LineStr) : Decidable (NulFree s) := by unfold NulFree; infer_instance

theorem writeStrs_v5 (en : Endian) (format : Format) (m : Mode) (tabs tabsF : Tabs) (form : SForm)
    (hle : Tabs.le tabs tabsF) (hsm : TabsSmall tabsF) :
    ∀ (ds : List LineStr) (b : Bytes), writeStrs en format 5 m tabs form ds = .ok b → (∀ d ∈ ds, NulFree d) →
      b = ds.flatMap (fun d => (fieldOf tabsF d).encode en format) ∧
      ∀ d ∈ ds, (fieldOf tabsF d).Ok format ∧ (fieldOf tabsF d).form = form.code := by
  intro ds
  induction ds with
  | nil => intro b h _; cases h; exact ⟨rfl, fun _ hd => absurd hd List.not_mem_nil⟩
  | cons d ds ih =>
    intro b h hn
    rw [writeStrs] at h
    obtain ⟨b1, h1, h⟩ := Out.bind_eq_ok h
    obtain ⟨b2, h2, h⟩ := Out.bind_eq_ok h
    cases h
    obtain ⟨e1, o1⟩ := writeStr_v5 en format m tabs tabsF form d b1 h1 hle hsm (hn d List.mem_cons_self)
    obtain ⟨e2, o2⟩ := ih b2 h2 (fun x hx => hn x (List.mem_cons_of_mem _ hx))
    refine ⟨by rw [e1, e2]; rfl, ?_⟩
    intro x hx
    rcases List.mem_cons.mp hx with rfl | hx
    · exact o1
    · exact o2 x hx

/-! ## the file table -/

/-- the source string of a file as written: its own, or the empty string in the table's form -/
def srcOf (sourceForm : SForm) (f : FileEnt) : LineStr :=
  f.info.source.getD { form := sourceForm, val := [] }

/-- a missing source is written as the empty string: a reference form first adds it to its table -/
def addEmpty (tabs : Tabs) : SForm → Out Tabs
  | .lineStrp => do
    let (t, _) ← tabs.lineStrings.add []
    pure { tabs with lineStrings := t }
  | .strp => do
    let (t, _) ← tabs.strings.add []
    pure { tabs with strings := t }
  | .string => pure tabs

/-- the `DW_LNCT_LLVM_source` part of version 5's `write_file` -/
def writeSrc (en : Endian) (format : Format) (version : Nat) (m : Mode) (p : Prog) (sourceForm : SForm)
    (tabs : Tabs) (f : FileEnt) : Out (Bytes × Tabs) :=
  if p.hasSource then do
    let tabs ← (match f.info.source with
      | some _ => pure tabs
      | none => addEmpty tabs sourceForm)
    let b ← writeStr en format version m tabs sourceForm (srcOf sourceForm f)
    pure (b, tabs)
  else pure ([], tabs)

theorem writeFilesV5_cons (en : Endian) (format : Format) (version : Nat) (m : Mode) (p : Prog)
    (fileForm sourceForm : SForm) (tabs : Tabs) (f : FileEnt) (fs : List FileEnt) :
    writeFilesV5 en format version m p fileForm sourceForm tabs (f :: fs) = (do
      let name ← writeStr en format version m tabs fileForm f.name
      let (src, tabs) ← writeSrc en format version m p sourceForm tabs f
      let (bs, tabs) ← writeFilesV5 en format version m p fileForm sourceForm tabs fs
      pure (name ++ Leb.encodeU f.dir ++ (if p.hasTimestamp then Leb.encodeU f.info.timestamp else []) ++
        (if p.hasSize then Leb.encodeU f.info.size else []) ++ (if p.hasMd5 then f.info.md5 else []) ++ src ++ bs,
        tabs)) := by
  conv => lhs; unfold writeFilesV5
  refine Out.bind_congr _ fun name => ?_
  congr 1
  unfold writeSrc srcOf addEmpty
  cases p.hasSource with
  | false => rfl
  | true =>
    cases f.info.source with
    | some s => rfl
    | none => cases sourceForm <;> simp only [Out.bind_assoc] <;> rfl

theorem addEmpty_le (tabs tabs1 : Tabs) (sf : SForm) (h : addEmpty tabs sf = .ok tabs1) : Tabs.le tabs tabs1 := by
  cases sf with
  | string => cases h; exact Tabs.le_refl _
  | strp =>
    obtain ⟨⟨t, i⟩, ha, h⟩ := Out.bind_eq_ok h
    cases h
    exact ⟨⟨[], (List.append_nil _).symm⟩, add_grows _ _ _ _ ha⟩
  | lineStrp =>
    obtain ⟨⟨t, i⟩, ha, h⟩ := Out.bind_eq_ok h
    cases h
    exact ⟨add_grows _ _ _ _ ha, ⟨[], (List.append_nil _).symm⟩⟩

theorem nulFree_srcOf (sf : SForm) (f : FileEnt) (h : NulFree (srcOf .string f)) : NulFree (srcOf sf f) := by
  unfold srcOf at h ⊢
  cases hs : f.info.source with
  | some s => rw [hs] at h; exact h
  | none => exact fun _ => List.not_mem_nil

theorem writeSrc_v5 (en : Endian) (format : Format) (m : Mode) (p : Prog) (sourceForm : SForm)
    (tabs tabs1 tabsF : Tabs) (f : FileEnt) (src : Bytes)
    (h : writeSrc en format 5 m p sourceForm tabs f = .ok (src, tabs1)) (hsm : TabsSmall tabsF)
    (hnul : NulFree (srcOf sourceForm f)) :
    Tabs.le tabs tabs1 ∧ (Tabs.le tabs1 tabsF →
      src = (if p.hasSource then (fieldOf tabsF (srcOf sourceForm f)).encode en format else []) ∧
      (p.hasSource = true → (fieldOf tabsF (srcOf sourceForm f)).Ok format ∧
        (fieldOf tabsF (srcOf sourceForm f)).form = sourceForm.code)) := by
  unfold writeSrc at h
  by_cases hs : p.hasSource = true
  · rw [if_pos hs] at h
    obtain ⟨t1, ht, h⟩ := Out.bind_eq_ok h
    obtain ⟨b, hb, h⟩ := Out.bind_eq_ok h
    cases h
    have hle : Tabs.le tabs tabs1 := by
      cases hsrc : f.info.source with
      | some s => rw [hsrc] at ht; cases ht; exact Tabs.le_refl _
      | none => rw [hsrc] at ht; exact addEmpty_le _ _ _ ht
    refine ⟨hle, fun hF => ?_⟩
    obtain ⟨e1, o1⟩ := writeStr_v5 en format m tabs1 tabsF sourceForm _ _ hb hF hsm hnul
    rw [if_pos hs]
    exact ⟨e1, fun _ => o1⟩
  · rw [if_neg hs] at h
    cases h
    exact ⟨Tabs.le_refl _, fun _ => ⟨by rw [if_neg hs], fun hx => absurd hx hs⟩⟩

/-- the fields of one `file_names` entry, in the order of `fileFormatOf` -/
def fileFields (p : Prog) (tabs : Tabs) (sourceForm : SForm) (f : FileEnt) : List FieldV :=
  [fieldOf tabs f.name, .udata f.dir] ++ (if p.hasTimestamp then [.udata f.info.timestamp] else []) ++
  (if p.hasSize then [.udata f.info.size] else []) ++ (if p.hasMd5 then [.data16 f.info.md5] else []) ++
  (if p.hasSource then [fieldOf tabs (srcOf sourceForm f)] else [])

/-- `file_name_entry_format` as `LineProgram::write` emits it -/
def fileFormatOf (p : Prog) (fileForm sourceForm : SForm) : List EntryFormat :=
  [(1, fileForm.code), (2, 0x0f)] ++ (if p.hasTimestamp then [(3, 0x0f)] else []) ++
  (if p.hasSize then [(4, 0x0f)] else []) ++ (if p.hasMd5 then [(5, 0x1e)] else []) ++
  (if p.hasSource then [(0x2001, sourceForm.code)] else [])

/-- what the file entries must satisfy to be read back: inline strings without NUL, `u64` fields,
a 16-byte MD5 (`[u8; 16]` in the code) -/
def FileOk5 (f : FileEnt) : Prop :=
  NulFree f.name ∧ FileFits f ∧ f.info.md5.length = 16 ∧ NulFree (srcOf .string f)

instance (f : FileEnt) : Decidable (FileOk5 f) := by unfold FileOk5 FileFits; infer_instance

/-- one file entry as `write_file` pushes it is the §6.2.4.1 encoding of its fields -/
theorem encodeEntry_fileFields (en : Endian) (format : Format) (p : Prog) (T : Tabs) (sf : SForm) (f : FileEnt) :
    encodeEntry en format (fileFields p T sf f) =
      (fieldOf T f.name).encode en format ++ Leb.encodeU f.dir ++
        (if p.hasTimestamp then Leb.encodeU f.info.timestamp else []) ++
        (if p.hasSize then Leb.encodeU f.info.size else []) ++ (if p.hasMd5 then f.info.md5 else []) ++
        (if p.hasSource then (fieldOf T (srcOf sf f)).encode en format else []) := by
  simp only [encodeEntry, fileFields, List.flatMap_append, flatMap_optional, List.flatMap_cons, List.flatMap_nil,
    List.append_nil, FieldV.encode]

theorem fileFields_conforms (format : Format) (p : Prog) (T : Tabs) (ff sf : SForm) (f : FileEnt)
    (hname : (fieldOf T f.name).Ok format ∧ (fieldOf T f.name).form = ff.code)
    (hsrc : p.hasSource = true → (fieldOf T (srcOf sf f)).Ok format ∧ (fieldOf T (srcOf sf f)).form = sf.code)
    (hfit : FileFits f) (hmd5 : f.info.md5.length = 16) :
    Conforms format (fileFormatOf p ff sf) (fileFields p T sf f) := by
  constructor
  · have fu : ∀ v, (FieldV.udata v).form = 0x0f := fun _ => rfl
    have fd : ∀ b, (FieldV.data16 b).form = 0x1e := fun _ => rfl
    simp only [fileFields, fileFormatOf, List.map_append, map_optional, List.map_cons, List.map_nil, fu, fd, hname.2]
    congr 1
    by_cases hs : p.hasSource = true
    · rw [if_pos hs, if_pos hs, (hsrc hs).2]
    · rw [if_neg hs, if_neg hs]
  · intro x hx
    simp only [fileFields, List.mem_append, List.mem_cons, List.mem_ite_nil_right, List.not_mem_nil, or_false] at hx
    rcases hx with (((( rfl | rfl) | ⟨_, rfl⟩) | ⟨_, rfl⟩) | ⟨_, rfl⟩) | ⟨hs, rfl⟩
    · exact hname.1
    · exact hfit.1
    · exact hfit.2.1
    · exact hfit.2.2
    · exact hmd5
    · exact (hsrc hs).1

theorem writeFilesV5_v5 (en : Endian) (format : Format) (m : Mode) (p : Prog) (fileForm sourceForm : SForm)
    (tabsF : Tabs) (hsm : TabsSmall tabsF) :
    ∀ (fs : List FileEnt) (tabs tabs' : Tabs) (b : Bytes),
      writeFilesV5 en format 5 m p fileForm sourceForm tabs fs = .ok (b, tabs') →
      Tabs.le tabs' tabsF → (∀ f ∈ fs, FileOk5 f) →
      Tabs.le tabs tabs' ∧
      b = fs.flatMap (fun f => encodeEntry en format (fileFields p tabsF sourceForm f)) ∧
      ∀ f ∈ fs, Conforms format (fileFormatOf p fileForm sourceForm) (fileFields p tabsF sourceForm f) := by
  intro fs
  induction fs with
  | nil =>
    intro tabs tabs' b h _ _
    cases h
    exact ⟨Tabs.le_refl _, rfl, fun _ hf => absurd hf List.not_mem_nil⟩
  | cons f fs ih =>
    intro tabs tabs' b h hle hok
    rw [writeFilesV5_cons] at h
    obtain ⟨name, h1, h⟩ := Out.bind_eq_ok h
    obtain ⟨⟨src, tabs1⟩, h2, h⟩ := Out.bind_eq_ok h
    obtain ⟨⟨bs, tabs2⟩, h3, h⟩ := Out.bind_eq_ok h
    cases h
    obtain ⟨hokN, hfit, hmd5, hokS⟩ := hok f List.mem_cons_self
    obtain ⟨le3, e3, c3⟩ := ih tabs1 tabs' bs h3 hle (fun x hx => hok x (List.mem_cons_of_mem _ hx))
    obtain ⟨le2, hsrc⟩ := writeSrc_v5 en format m p sourceForm tabs tabs1 tabsF f src h2 hsm (nulFree_srcOf _ _ hokS)
    obtain ⟨esrc, osrc⟩ := hsrc (Tabs.le_trans le3 hle)
    obtain ⟨e1, o1⟩ := writeStr_v5 en format m tabs tabsF fileForm f.name name h1
      (Tabs.le_trans le2 (Tabs.le_trans le3 hle)) hsm hokN
    refine ⟨Tabs.le_trans le2 le3, ?_, ?_⟩
    · rw [List.flatMap_cons, encodeEntry_fileFields, e1, esrc, e3]
    · intro x hx
      rcases List.mem_cons.mp hx with rfl | hx
      · exact fileFields_conforms format p tabsF fileForm sourceForm x o1 osrc hfit hmd5
      · exact c3 x hx

/-! ## the whole unit -/

/-- what a reader accepts: byte-sized, non-zero parameters (version 5) -/
def EncReadable5 (e : Enc) : Prop :=
  e.version = 5 ∧ 1 ≤ e.minInstLen ∧ e.minInstLen ≤ 255 ∧ 1 ≤ e.maxOps ∧ e.maxOps ≤ 255 ∧
  -128 ≤ e.lineBase ∧ e.lineBase ≤ 127 ∧ 1 ≤ e.lineRange ∧ e.lineRange ≤ 255

instance (e : Enc) : Decidable (EncReadable5 e) := by unfold EncReadable5; infer_instance

/-- the form of the directory table: that of its first entry -/
def dirFormOf (p : Prog) : SForm := (p.dirs.head?.map (·.form)).getD .string
/-- the form of the file names: that of the first file -/
def fileFormOf (p : Prog) : SForm := (p.files.head?.map (·.name.form)).getD .string

/-- the abstract version 5 header (§6.2.4, `Spec.Line.HeaderV5`) that `LineProgram::write` emits:
one-field directory entries; file entries `path, directory_index[, timestamp][, size][, MD5][, source]` -/
def headerV5Of (en : Endian) (p : Prog) (tabsF : Tabs) (prog : Bytes) : HeaderV5 :=
  { p := paramsOf en p.format p.addrSize p.enc,
    dirFormat := [(1, (dirFormOf p).code)],
    dirs := p.dirs.map (fun d => [fieldOf tabsF d]),
    fileFormat := fileFormatOf p (fileFormOf p) (firstSourceForm p.files),
    files := p.files.map (fileFields p tabsF (firstSourceForm p.files)),
    program := prog }

theorem SForm.code_lt (s : SForm) : s.code < 128 := by cases s <;> decide

/-- the parameter block: §6.2.4 bytes = what `write` pushes -/
theorem fixed_eq (en : Endian) (e : Enc) (h1 : -128 ≤ e.lineBase) (h2 : e.lineBase ≤ 127) :
    Ints.toBytes en 1 e.minInstLen ++ Ints.toBytes en 1 e.maxOps ++
      Ints.toBytes en 1 (if e.defaultIsStmt then 1 else 0) ++ Ints.toBytes en 1 (e.lineBase % 256).toNat ++
      Ints.toBytes en 1 e.lineRange ++ Ints.toBytes en 1 13 ++ stdLens =
    ([UInt8.ofNat e.minInstLen] ++ [UInt8.ofNat e.maxOps]) ++
      [UInt8.ofNat (b2n e.defaultIsStmt), UInt8.ofNat (Leb.ofI64 e.lineBase % 256),
        UInt8.ofNat e.lineRange, UInt8.ofNat opcodeBase] ++ stdLens := by
  simp only [Ints.toBytes_one, lineBase_byte]
  cases e.defaultIsStmt <;> rfl

/-- the two tables of a version 5 header in their §6.2.4 encoding: entry format, count, entries -/
def tablesV5 (en : Endian) (p : Prog) (T : Tabs) : Bytes :=
  encodeFormat [(1, (dirFormOf p).code)] ++
    (Leb.encodeU p.dirs.length ++ p.dirs.flatMap (fun d => (fieldOf T d).encode en p.format)) ++
    encodeFormat (fileFormatOf p (fileFormOf p) (firstSourceForm p.files)) ++
    (Leb.encodeU p.files.length ++
      p.files.flatMap (fun f => encodeEntry en p.format (fileFields p T (firstSourceForm p.files) f)))

theorem encodeFieldsV5_of (en : Endian) (p : Prog) (T : Tabs) (prog : Bytes)
    (h1 : -128 ≤ p.enc.lineBase) (h2 : p.enc.lineBase ≤ 127) (hv : p.enc.version ≥ 4) :
    encodeFieldsV5 (headerV5Of en p T prog) = fixedBytes p.enc ++ tablesV5 en p T := by
  have hfix := fixed_eq en p.enc h1 h2
  unfold encodeFieldsV5 encodeTable fixedBytes tablesV5
  rw [if_pos hv, ← hfix]
  simp only [headerV5Of, paramsOf, List.length_map, List.flatMap_map, encodeEntry, List.flatMap_cons,
    List.flatMap_nil, List.append_nil, List.append_assoc]
  rfl

/-- version 5: the tables `write` pushes are the §6.2.4 tables, offsets taken in the string tables
as they are afterwards; every entry is in the form its table announces -/
theorem writeTables_v5 (en : Endian) (m : Mode) (p : Prog) (tabs tabs' : Tabs) (tables : Bytes)
    (hv : p.enc.version = 5) (hds : ∀ d ∈ p.dirs, NulFree d) (hfs : ∀ f ∈ p.files, FileOk5 f)
    (hsm : TabsSmall tabs') (h : writeTables en m p tabs = .ok (tables, tabs')) :
    tables = tablesV5 en p tabs' ∧ Tabs.le tabs tabs' ∧
    (∀ d ∈ p.dirs, (fieldOf tabs' d).Ok p.format ∧ (fieldOf tabs' d).form = (dirFormOf p).code) ∧
    ∀ f ∈ p.files, Conforms p.format (fileFormatOf p (fileFormOf p) (firstSourceForm p.files))
      (fileFields p tabs' (firstSourceForm p.files) f) := by
  unfold writeTables at h
  rw [hv, if_neg (by decide)] at h
  cases hd : p.dirs with
  | nil => rw [hd] at h; cases h
  | cons d0 dtl =>
    cases hf : p.files with
    | nil =>
      rw [hd, hf] at h
      obtain ⟨ds, _, h⟩ := Out.bind_eq_ok h
      cases h
    | cons f0 ftl =>
      have hdf : dirFormOf p = d0.form := by simp [dirFormOf, hd]
      have hff : fileFormOf p = f0.name.form := by simp [fileFormOf, hf]
      rw [← hd, ← hf]
      rw [hd, hf] at h
      obtain ⟨ds, h1, h⟩ := Out.bind_eq_ok h
      obtain ⟨⟨fs, t2⟩, h2, h⟩ := Out.bind_eq_ok h
      cases h
      rw [← hd, ← hdf] at h1
      rw [← hf, ← hff] at h2
      obtain ⟨le2, efs, cfs⟩ := writeFilesV5_v5 en p.format m p _ _ tabs' hsm p.files tabs tabs' fs h2
        (Tabs.le_refl _) hfs
      obtain ⟨eds, ods⟩ := writeStrs_v5 en p.format m tabs tabs' _ le2 hsm p.dirs ds h1 hds
      refine ⟨?_, le2, ods, cfs⟩
      unfold tablesV5
      rw [← eds, ← efs, hdf, hff, hd, hf]
      simp only [encodeFormat, fileFormatOf, Ints.toBytes_one, List.length_append, length_optional, List.length_cons,
        List.length_nil, List.flatMap_append, flatMap_optional, List.flatMap_cons, List.flatMap_nil,
        List.append_nil, List.append_assoc, List.cons_append, List.nil_append]
      rw [show ∀ a b c d : Nat, a + (b + (c + d)) + 1 + 1 = 2 + a + b + c + d by omega]
      rfl

theorem formatOk_dir (c : SForm) : FormatOk [(1, c.code)] := by
  cases c <;> decide

theorem fileFormatOf_sublist (p : Prog) (ff sf : SForm) :
    (fileFormatOf p ff sf).Sublist [(1, ff.code), (2, 0x0f), (3, 0x0f), (4, 0x0f), (5, 0x1e), (0x2001, sf.code)] := by
  have opt : ∀ (b : Bool) (x : EntryFormat), (if b = true then [x] else []).Sublist [x] := by
    intro b x; cases b
    · exact List.nil_sublist _
    · exact List.Sublist.refl _
  exact ((((List.Sublist.refl [(1, ff.code), (2, 0x0f)]).append (opt _ _)).append (opt _ _)).append (opt _ _)).append
    (opt _ _)

theorem formatOk_file (p : Prog) (ff sf : SForm) : FormatOk (fileFormatOf p ff sf) := by
  have hsub := fileFormatOf_sublist p ff sf
  have h1 := SForm.code_lt ff
  have h2 := SForm.code_lt sf
  refine ⟨Nat.lt_of_le_of_lt hsub.length_le (by show 6 < 256; omega), fun x hx => ?_, Nat.le_antisymm ?_ ?_⟩
  · have := hsub.subset hx
    simp only [List.mem_cons, List.not_mem_nil, or_false] at this
    rcases this with rfl | rfl | rfl | rfl | rfl | rfl <;> exact ⟨by simp, Or.inl (by first | assumption | simp)⟩
  · exact (hsub.filter _).length_le
  · exact Nat.succ_le_of_lt (List.length_pos_of_mem (List.mem_filter.mpr ⟨List.mem_cons_self, by simp⟩))

/-- a `write` that succeeds on a version 5 program emitted the §6.2.4 encoding of `headerV5Of` -/
theorem write_v5_layout (en : Endian) (m : Mode) (p : Prog) (uver uasz : Nat) (tabs tabs' : Tabs) (bytes : Bytes)
    (he : EncReadable5 p.enc) (hasz : p.addrSize = 1 ∨ p.addrSize = 2 ∨ p.addrSize = 4 ∨ p.addrSize = 8)
    (hds : ∀ d ∈ p.dirs, NulFree d) (hfs : ∀ f ∈ p.files, FileOk5 f) (hsm : TabsSmall tabs')
    (hcount : p.dirs.length < 2 ^ 64 ∧ p.files.length < 2 ^ 64) (hsmall : bytes.length < 2 ^ 64)
    (hw : p.write en m uver uasz tabs = .ok (bytes, tabs')) :
    ∃ prog, writeInstrs en 5 p.addrSize p.instrs = .ok prog ∧
      encodeHeaderV5 (headerV5Of en p tabs' prog) = .ok bytes ∧ (headerV5Of en p tabs' prog).WF ∧
      Tabs.le tabs tabs' := by
  obtain ⟨hv, hm1, hm2, ho1, ho2, hb1, hb2, hr1, hr2⟩ := he
  obtain ⟨_, tables, hl, prog, il, h1, h2, h3, h4, rfl⟩ := Prog.write_ok.mp hw
  obtain ⟨rfl, hle, ods, cfs⟩ := writeTables_v5 en m p tabs tabs' tables hv hds hfs hsm h1
  have hfields := encodeFieldsV5_of en p tabs' prog hb1 hb2 (by omega)
  have hlen : (fixedBytes p.enc ++ tablesV5 en p tabs').length ≤
      (unitBody en p hl (tablesV5 en p tabs') prog).length := by
    simp only [unitBody, List.length_append]; omega
  have hbl : (unitBody en p hl (tablesV5 en p tabs') prog).length < 2 ^ 64 := by
    rw [List.length_append] at hsmall; omega
  obtain ⟨hhl, h32⟩ := writeUdata_word en p.format _ hl (by omega) h2
  have hbody : encodeBodyV5 (headerV5Of en p tabs' prog) = unitBody en p hl (tablesV5 en p tabs') prog := by
    unfold encodeBodyV5 unitBody
    rw [hfields, hhl, if_pos (by omega), Ints.toBytes_one, Ints.toBytes_one]
    simp only [List.append_assoc, List.cons_append, List.nil_append]
    rfl
  refine ⟨prog, hv ▸ h3, ?_, ?_, hle⟩
  · unfold encodeHeaderV5
    rw [hbody]
    exact (congrArg (· >>= fun il => pure (il ++ _)) h4 :)
  · refine ⟨?_, hv, formatOk_dir _, formatOk_file _ _ _, ?_, ?_, ?_, ?_, ?_, ?_⟩
    · exact ⟨by show 2 ≤ p.enc.version; omega, by show p.enc.version ≤ 5; omega, hasz, hm1, hm2, ho1, ho2,
        hb1, hb2, hr1, hr2, by show 1 ≤ 13; omega, by show 13 ≤ 255; omega, rfl, fun h => by
          have : p.enc.version ≤ 3 := h
          omega⟩
    · intro d hdm
      obtain ⟨x, hx, rfl⟩ := List.mem_map.mp hdm
      obtain ⟨o1, f1⟩ := ods x hx
      exact ⟨congrArg (fun c => [c]) f1, fun y hy => by rw [List.mem_singleton.mp hy]; exact o1⟩
    · intro f hfm
      obtain ⟨x, hx, rfl⟩ := List.mem_map.mp hfm
      exact cfs x hx
    · show (p.dirs.map _).length < _; rw [List.length_map]; exact hcount.1
    · show (p.files.map _).length < _; rw [List.length_map]; exact hcount.2
    · rw [hbody]; exact hbl
    · intro h32'
      rw [hfields]
      exact h32 h32'

/-! ## what the reader reports for it -/

/-- the attribute value a reader gets for a written `LineString` -/
def attrOf (tabs : Tabs) (s : LineStr) : AttrVal :=
  match s.form with
  | .string => .string s.val
  | .strp => .strp (refOff tabs.strings s.val)
  | .lineStrp => .lineStrp (refOff tabs.lineStrings s.val)

theorem fieldOf_value (tabs : Tabs) (s : LineStr) : (fieldOf tabs s).value = attrOf tabs s := by
  unfold fieldOf attrOf
  cases s.form <;> rfl

/-- the `FileEntry` a reader gets for a written version 5 file entry: fields that the table does
not announce keep the reader's defaults -/
def FileEnt.toEntry5 (p : Prog) (tabs : Tabs) (sf : SForm) (f : FileEnt) : FileEntry :=
  { path := attrOf tabs f.name, dirIndex := f.dir,
    timestamp := if p.hasTimestamp then f.info.timestamp else 0,
    size := if p.hasSize then f.info.size else 0,
    md5 := if p.hasMd5 then f.info.md5 else List.replicate 16 0,
    source := if p.hasSource then some (attrOf tabs (srcOf sf f)) else none }

theorem fileOf5_written (p : Prog) (tabs : Tabs) (ff sf : SForm) (f : FileEnt) (hmd5 : f.info.md5.length = 16) :
    fileOf5 (fileFormatOf p ff sf) (fileFields p tabs sf f) = f.toEntry5 p tabs sf := by
  have vu : ∀ v, (FieldV.udata v).value = .udata v := fun _ => rfl
  have vd : ∀ b, (FieldV.data16 b).value = .block b := fun _ => rfl
  unfold fileOf5 fileFormatOf fileFields FileEnt.toEntry5
  cases p.hasTimestamp <;> cases p.hasSize <;> cases p.hasMd5 <;> cases p.hasSource <;>
    simp [fileAccOf, FileAcc.update, vu, vd, AttrVal.udataValue, hmd5, fieldOf_value]

theorem headerV5Of_expected (en : Endian) (p : Prog) (T : Tabs) (prog : Bytes)
    (hmd5 : ∀ f ∈ p.files, f.info.md5.length = 16) :
    (headerV5Of en p T prog).expected =
      { p := paramsOf en p.format p.addrSize p.enc,
        unitLength := (encodeBodyV5 (headerV5Of en p T prog)).length,
        headerLength := (encodeFieldsV5 (headerV5Of en p T prog)).length,
        dirFormat := [(1, (dirFormOf p).code)], dirs := p.dirs.map (attrOf T),
        fileFormat := fileFormatOf p (fileFormOf p) (firstSourceForm p.files),
        files := p.files.map (FileEnt.toEntry5 p T (firstSourceForm p.files)),
        program := prog, compDir := none, compFile := none } := by
  unfold HeaderV5.expected
  have h1 : (headerV5Of en p T prog).dirs.map
      (fun d => (dirOf (headerV5Of en p T prog).dirFormat d none).getD (.string [])) = p.dirs.map (attrOf T) := by
    show (p.dirs.map (fun d => [fieldOf T d])).map _ = _
    rw [List.map_map]
    exact List.map_congr_left fun d _ => fieldOf_value T d
  have h2 : (headerV5Of en p T prog).files.map (fileOf5 (headerV5Of en p T prog).fileFormat) =
      p.files.map (FileEnt.toEntry5 p T (firstSourceForm p.files)) := by
    simp only [headerV5Of, List.map_map]
    apply List.map_congr_left
    intro f hf
    exact fileOf5_written p T _ _ f (hmd5 f hf)
  rw [h1, h2]
  rfl

/-- **a reference resolves to its string**: in the written table (`StringTable::write`:
NUL-terminated entries in insertion order) the C string at `refOff t v` is `v`, for every entry `v`
of a table whose entries have no NUL (`StringTable::add` asserts it) -/
theorem refOff_resolves : ∀ (t : StrTab) (v : Bytes), (findIdx? (· == v) t).isSome →
    (∀ s ∈ t, ∀ b ∈ s, b ≠ (0 : UInt8)) →
    ∃ rest, readCStr ((StrTab.bytes t).drop (refOff t v)) = .ok (v, rest) := by
  intro t
  induction t with
  | nil => intro v h; simp [findIdx?] at h
  | cons s t ih =>
    intro v h hn
    unfold refOff
    rw [findIdx?] at h ⊢
    by_cases hs : (s == v) = true
    · have : s = v := by simpa using hs
      subst this
      simp only [hs, ↓reduceIte, Option.getD_some, StrTab.offset, List.drop_zero, StrTab.bytes]
      exact ⟨_, readCStr_encode s _ (fun h0 => hn s (by simp) 0 h0 rfl)⟩
    · simp only [hs, Bool.false_eq_true, ↓reduceIte] at h ⊢
      cases hj : findIdx? (· == v) t with
      | none => rw [hj] at h; simp at h
      | some j =>
        simp only [Option.map_some, Option.getD_some, StrTab.offset, StrTab.bytes]
        obtain ⟨rest, hr⟩ := ih v (by rw [hj]; rfl) (fun x hx => hn x (by simp [hx]))
        unfold refOff at hr
        rw [hj] at hr
        simp only [Option.getD_some] at hr
        refine ⟨rest, ?_⟩
        have : List.drop (s.length + 1 + StrTab.offset t j) (s ++ 0 :: StrTab.bytes t) =
            List.drop (StrTab.offset t j) (StrTab.bytes t) := by
          rw [show s.length + 1 + StrTab.offset t j = s.length + (1 + StrTab.offset t j) by omega,
            ← List.drop_drop]
          simp only [List.drop_left]
          rw [Nat.add_comm]
          rfl
        rw [this]
        exact hr

end Gimli.WLine
