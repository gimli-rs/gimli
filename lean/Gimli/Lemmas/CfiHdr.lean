import Gimli.Lemmas.CfiPointer
import Gimli.Lemmas.FixedCells
/-!
# `.eh_frame_hdr`: parsing the header and the binary search of its table

The byte-level loop of `EhHdrTable::lookup` is shown to refine a search over row indexes (`bsearch`,
`lookupLoop_refines`), and that search is shown correct once (`bsearch_correct`).
-/
namespace Gimli.CfiEntry
open Gimli Gimli.Ints Gimli.Spec.Frame

/-- index-level mirror of the `while len > 1` loop of `EhHdrTable::lookup` -/
def bsearch (key : Nat → Nat) (a : Nat) : Nat → Nat → Nat → Option Nat
  | 0, lo, len => if len > 1 then none else some lo
  | fuel + 1, lo, len =>
    if len > 1 then
      if key (lo + len / 2) = a then some (lo + len / 2)
      else if key (lo + len / 2) < a then bsearch key a fuel (lo + len / 2) (len - len / 2)
      else bsearch key a fuel lo (len / 2)
    else some lo

theorem bsearch_last (key : Nat → Nat) (a n lo : Nat)
    (hsorted : ∀ i j, i ≤ j → j < n → key i ≤ key j) (hn : lo < n)
    (hhi : ∀ j, lo + 1 ≤ j → j < n → a < key j) (hlo : lo = 0 ∨ key lo ≤ a) :
    (key lo ≤ a ∧ ∀ j, j < n → key j ≤ a → key j ≤ key lo) ∨ (lo = 0 ∧ ∀ j, j < n → a < key j) := by
  by_cases hk : key lo ≤ a
  · refine .inl ⟨hk, fun j hj hja => ?_⟩
    by_cases hjl : j ≤ lo
    · exact hsorted j lo hjl hn
    · have := hhi j (by omega) hj; omega
  · refine .inr ⟨hlo.resolve_right hk, fun j hj => ?_⟩
    have := hsorted lo j (by omega) hj
    omega

theorem halve {len fuel : Nat} (hlen : len > 1) (hf : len ≤ 2 ^ (fuel + 1)) :
    1 ≤ len / 2 ∧ 1 ≤ len - len / 2 ∧ len / 2 ≤ 2 ^ fuel ∧ len - len / 2 ≤ 2 ^ fuel ∧
      len / 2 + (len - len / 2) = len := by
  rw [Nat.pow_succ] at hf
  omega

/-- invariant: every row from `lo + len` on is above `a`, and row `lo` is not (unless it is the first) -/
theorem bsearch_correct (key : Nat → Nat) (a n : Nat)
    (hsorted : ∀ i j, i ≤ j → j < n → key i ≤ key j) :
    ∀ fuel lo len, 1 ≤ len → lo + len ≤ n → len ≤ 2 ^ fuel →
      (∀ j, lo + len ≤ j → j < n → a < key j) → (lo = 0 ∨ key lo ≤ a) →
      ∃ idx, bsearch key a fuel lo len = some idx ∧ idx < n ∧
        ((key idx ≤ a ∧ ∀ j, j < n → key j ≤ a → key j ≤ key idx) ∨
         (idx = 0 ∧ ∀ j, j < n → a < key j)) := by
  intro fuel
  induction fuel with
  | zero =>
    intro lo len h1 hn hf hhi hlo
    obtain rfl : len = 1 := by simp at hf; omega
    exact ⟨lo, rfl, hn, bsearch_last key a n lo hsorted hn hhi hlo⟩
  | succ fuel ih =>
    intro lo len h1 hn hf hhi hlo
    rw [bsearch]
    by_cases hlen : len > 1
    · rw [if_pos hlen]
      obtain ⟨hl1, hr1, hlf, hrf, hsum⟩ := halve hlen hf
      generalize len / 2 = half at *
      by_cases heq : key (lo + half) = a
      · rw [if_pos heq]
        exact ⟨_, rfl, by omega, .inl ⟨by omega, fun j _ hja => by omega⟩⟩
      · rw [if_neg heq]
        by_cases hlt : key (lo + half) < a
        · rw [if_pos hlt]
          exact ih (lo + half) (len - half) hr1 (by omega) hrf
            (fun j hj1 hj2 => hhi j (by omega) hj2) (.inr (by omega))
        · rw [if_neg hlt]
          refine ih lo half hl1 (by omega) hlf (fun j hj1 hj2 => ?_) hlo
          have := hsorted (lo + half) j (by omega) hj2
          omega
    · obtain rfl : len = 1 := by omega
      exact ⟨lo, rfl, hn, bsearch_last key a n lo hsorted hn hhi hlo⟩

/-- the reader's remaining bytes `bs` begin with the `cnt` bytes of the table `tbl` from offset `k` on -/
def Agree (bs tbl : Bytes) (k cnt : Nat) : Prop :=
  cnt ≤ bs.length ∧ bs.take cnt = (tbl.drop k).take cnt

theorem agree_mono {bs tbl : Bytes} {k cnt c : Nat} (h : Agree bs tbl k cnt) (hc : c ≤ cnt) :
    Agree bs tbl k c := by
  refine ⟨by have := h.1; omega, ?_⟩
  have := congrArg (List.take c) h.2
  simpa [List.take_take, Nat.min_eq_left hc] using this

theorem agree_drop {bs tbl : Bytes} {k cnt d : Nat} (h : Agree bs tbl k cnt) (hd : d ≤ cnt) :
    Agree (bs.drop d) tbl (k + d) (cnt - d) := by
  refine ⟨by have := h.1; simp [List.length_drop]; omega, ?_⟩
  rw [List.take_drop, show d + (cnt - d) = cnt by omega, h.2, List.drop_take, List.drop_drop]

theorem agree_take {bs tbl : Bytes} {k cnt d : Nat} (h : Agree bs tbl k cnt) (hd : d ≤ cnt) :
    Agree (bs.take d) tbl k d := by
  have h' := agree_mono h hd
  refine ⟨by have := h'.1; simp [List.length_take]; omega, ?_⟩
  rw [List.take_take, Nat.min_self, h'.2]

theorem agree_le {bs tbl : Bytes} {k cnt : Nat} (h : Agree bs tbl k cnt) : cnt ≤ tbl.length := by
  have := congrArg List.length h.2
  simp only [List.length_take, List.length_drop] at this
  have := h.1
  omega

theorem agree_rows_drop {bs tbl : Bytes} {rs lo len k : Nat} (h : Agree bs tbl (lo * rs) (len * rs))
    (hk : k ≤ len) : Agree (bs.drop (k * rs)) tbl ((lo + k) * rs) ((len - k) * rs) := by
  have := agree_drop h (Nat.mul_le_mul_right rs hk)
  rwa [← Nat.add_mul, ← Nat.sub_mul] at this

/-- initial-location field of row `i` of a table starting at section offset `T0` -/
def rowKey (m : Mode) (e : Endian) (enc : Nat) (p : PeParams) (T0 : Nat) (tbl : Bytes) (size i : Nat) : Out Ptr :=
  ptrAt m e enc p (T0 + i * (size * 2)) ((tbl.drop (i * (size * 2))).take size)

/-- FDE-address field of row `i` -/
def rowVal (m : Mode) (e : Endian) (enc : Nat) (p : PeParams) (T0 : Nat) (tbl : Bytes) (size i : Nat) : Out Ptr :=
  ptrAt m e enc p (T0 + i * (size * 2) + size) ((tbl.drop (i * (size * 2) + size)).take size)

/-- the byte-level loop follows `bsearch`: its reader stands at row `lo` and views (at least) `len` rows -/
theorem lookupLoop_refines (m : Mode) (e : Endian) (enc : Nat) (p : PeParams) (size a T0 n : Nat)
    (tbl : Bytes) (key : Nat → Nat)
    (henc : tableEntrySize enc = some size) (hbig : tbl.length < 2 ^ 64)
    (hkey : ∀ i, i < n → rowKey m e enc p T0 tbl size i = .ok (.direct (key i))) :
    ∀ fuel lo len (r : Rd), 1 ≤ len → lo + len ≤ n → len ≤ 2 ^ fuel →
      r.off = T0 + lo * (size * 2) → Agree r.bs tbl (lo * (size * 2)) (len * (size * 2)) →
      ∃ idx r', bsearch key a fuel lo len = some idx ∧
        lookupLoop m e enc p (size * 2) a fuel len r = .ok r' ∧
        r'.off = T0 + idx * (size * 2) ∧ Agree r'.bs tbl (idx * (size * 2)) (size * 2) := by
  intro fuel
  induction fuel with
  | zero =>
    intro lo len r h1 hn hf hoff hag
    obtain rfl : len = 1 := by simp at hf; omega
    exact ⟨lo, r, rfl, rfl, hoff, by simpa using hag⟩
  | succ fuel ih =>
    intro lo len r h1 hn hf hoff hag
    rw [bsearch, lookupLoop]
    by_cases hlen : len > 1
    · obtain ⟨hl1, hr1, hlf, hrf, hsum⟩ := halve hlen hf
      generalize len / 2 = half at *
      have hhalf : half ≤ len := by omega
      -- the pivot row starts `half` rows into the view; its first field is `rowKey`
      have htail := agree_rows_drop hag hhalf
      have hpiv := agree_mono htail (Nat.mul_le_mul_right _ hr1)
      have hfld := agree_mono hpiv (show size ≤ 1 * (size * 2) by omega)
      have hcut := agree_mono hag (Nat.mul_le_mul_right (size * 2) hhalf)
      have hk := hkey (lo + half) (by omega)
      rw [rowKey] at hk
      simp only [hlen, if_true, if_neg (show ¬ half * (size * 2) ≥ 2 ^ 64 by have := agree_le hcut; omega),
        Rd.split, if_pos hcut.1, Out.bind_ok]
      rw [pep_fixed m e enc p size _ _ henc hfld.1, hfld.2, hoff, Nat.add_assoc, ← Nat.add_mul, hk]
      simp only [Out.bind_ok, Out.pure_eq, Ptr.toDirect]
      by_cases heq : key (lo + half) = a
      · rw [if_pos heq, if_pos heq]
        exact ⟨lo + half, _, rfl, rfl, rfl, by rwa [Nat.one_mul] at hpiv⟩
      · rw [if_neg heq, if_neg heq]
        by_cases hlt : key (lo + half) < a
        · rw [if_pos hlt, if_pos hlt]
          exact ih (lo + half) (len - half) _ hr1 (by omega) hrf rfl htail
        · rw [if_neg hlt, if_neg hlt]
          exact ih lo half _ hl1 (by omega) hlf rfl (agree_take hag (Nat.mul_le_mul_right _ hhalf))
    · obtain rfl : len = 1 := by omega
      exact ⟨lo, r, rfl, rfl, hoff, by simpa using hag⟩

theorem bind_pair_fst {α β : Type} (x : Out α) (b : β) :
    (do let (p, _) ← (do let q ← x; pure (q, b) : Out (α × β)); pure p) = x := by
  cases x <;> rfl

theorem lookup_correct (m : Mode) (e : Endian) (h : Hdr) (bases : Bases) (a size : Nat) (key : Nat → Nat)
    (henc : tableEntrySize h.tableEnc = some size)
    (hn : 1 ≤ h.fdeCount)
    (htbl : h.fdeCount * (size * 2) ≤ h.table.bs.length) (hbig : h.table.bs.length < 2 ^ 64)
    (hkey : ∀ i, i < h.fdeCount →
      rowKey m e h.tableEnc (h.params bases) h.table.off h.table.bs size i = .ok (.direct (key i)))
    (hsorted : ∀ i j, i ≤ j → j < h.fdeCount → key i ≤ key j) :
    ∃ idx, idx < h.fdeCount ∧
      lookup m e h bases a = rowVal m e h.tableEnc (h.params bases) h.table.off h.table.bs size idx ∧
      ((key idx ≤ a ∧ ∀ j, j < h.fdeCount → key j ≤ a → key j ≤ key idx) ∨
       (idx = 0 ∧ ∀ j, j < h.fdeCount → a < key j)) := by
  have hsz := tableEntrySize_cases henc
  have hn64 : h.fdeCount ≤ 2 ^ 64 := by
    have : h.fdeCount * 1 ≤ h.fdeCount * (size * 2) := Nat.mul_le_mul_left _ (by omega)
    omega
  obtain ⟨idx, r', hb, hl, hoff, hag⟩ :=
    lookupLoop_refines m e h.tableEnc (h.params bases) size a h.table.off h.fdeCount h.table.bs key henc
      hbig hkey 64 0 h.fdeCount h.table hn (by omega) hn64 (by simp) ⟨by simpa using htbl, by simp⟩
  obtain ⟨idx', hb', hlt, hprop⟩ :=
    bsearch_correct key a h.fdeCount hsorted 64 0 h.fdeCount hn (by omega) hn64
      (by intro j h1 h2; omega) (Or.inl rfl)
  rw [hb] at hb'
  cases hb'
  refine ⟨idx, hlt, ?_, hprop⟩
  unfold lookup
  simp only [henc, hl, Out.bind_ok]
  have hskip : size ≤ r'.bs.length := by have := hag.1; omega
  simp only [Rd.skip, hskip, if_true, Out.bind_ok]
  have hd := agree_drop hag (show size ≤ size * 2 by omega)
  have hd' := agree_mono hd (show size ≤ size * 2 - size by omega)
  rw [pep_fixed m e h.tableEnc (h.params bases) size _ _ henc hd'.1, hd'.2, hoff]
  unfold rowVal
  exact bind_pair_fst _ _

theorem lookupLoop_normal (m : Mode) (e : Endian) (enc : Nat) (p : PeParams) (rowSize a : Nat)
    (hs : SizeOk m p.asz) :
    ∀ fuel len (r : Rd), len ≤ 2 ^ fuel → (lookupLoop m e enc p rowSize a fuel len r).Normal := by
  intro fuel
  induction fuel with
  | zero =>
    intro len r hf
    rw [lookupLoop, if_neg (by simp at hf; omega)]
    trivial
  | succ fuel ih =>
    intro len r hf
    rw [lookupLoop]
    refine .ite_cases (fun hlen => .ite_cases (fun _ => trivial) fun _ => ?_) fun _ => trivial
    obtain ⟨-, -, hlf, hrf, -⟩ := halve hlen hf
    refine (split_normal _ _).bind fun ⟨head, tail⟩ _ => ?_
    refine (pep_normal m e enc p tail hs).bind fun ⟨pv, r'⟩ _ => ?_
    refine (toDirect_normal pv).bind fun pivot _ => ?_
    exact .ite_cases (fun _ => trivial) fun _ => .ite_cases (fun _ => ih _ _ hrf) fun _ => ih _ _ hlf

theorem lookup_normal (m : Mode) (e : Endian) (h : Hdr) (bases : Bases) (a : Nat)
    (hs : SizeOk m h.asz) (hc : h.fdeCount < 2 ^ 64) : (lookup m e h bases a).Normal := by
  unfold lookup
  cases tableEntrySize h.tableEnc with
  | none => trivial
  | some size =>
    refine (lookupLoop_normal m e _ _ _ a hs 64 _ _ (by omega)).bind fun r _ => ?_
    refine (skip_normal _ r).bind fun r' _ => ?_
    exact (pep_normal m e _ _ r' hs).bind fun _ _ => trivial

theorem hdrCount_normal (e : Endian) (cntEnc tblEnc asz : Nat) (r : Rd)
    (hv : isValidEncoding cntEnc = true) : (hdrCount e cntEnc tblEnc asz r).Normal := by
  unfold hdrCount
  refine .ite_cases (fun _ => trivial) fun ho => .ite_cases (fun _ => trivial) fun _ => ?_
  exact pev_normal e cntEnc asz r (validFormat hv (by omega)).1

theorem parseHdr_normal (m : Mode) (e : Endian) (bases : Bases) (asz : Nat) (sec : Bytes)
    (hs : SizeOk m asz) : (parseHdr m e bases asz sec).Normal := by
  unfold parseHdr
  refine (u8_normal _).bind fun ⟨version, r⟩ _ => .ite_cases (fun _ => trivial) fun _ => ?_
  refine (parsePointerEncoding_normal r).bind fun ⟨ptrEnc, r⟩ _ => ?_
  refine (parsePointerEncoding_ensures r).bind_normal fun ⟨cntEnc, r⟩ _ hv => ?_
  refine (parsePointerEncoding_normal r).bind fun ⟨tblEnc, r⟩ _ => .ite_cases (fun _ => trivial) fun _ => ?_
  refine (pep_normal m e ptrEnc _ r hs).bind fun ⟨ptr, r⟩ _ => ?_
  exact (hdrCount_normal e cntEnc tblEnc asz r hv).bind fun _ _ => trivial

theorem pointerToOffset_normal (h : Hdr) (p : Ptr) : (pointerToOffset h p).Normal := by
  unfold pointerToOffset
  refine (toDirect_normal p).bind fun a _ => (toDirect_normal _).bind fun b _ => ?_
  exact .ite_cases (fun _ => trivial) fun _ => trivial

theorem parseHdr_encoded (m : Mode) (e : Endian) (bases : Bases) (asz : Nat) (h : AHdr)
    (hw : h.WF e bases asz) :
    parseHdr m e bases asz (encodeHdr e asz h) = .ok (h.expect e bases asz) := by
  obtain ⟨hp, ⟨hc1, hc2, hc3, hc4⟩, ⟨ht1, ht2, ht3⟩, hptr, hcnt⟩ := hw
  unfold parseHdr encodeHdr
  dsimp only
  rw [u8_cons]
  simp only [Out.bind_ok, show (1 : UInt8).toNat = 1 from rfl, ne_eq, not_true_eq_false, if_false]
  rw [parsePointerEncoding_byte _ _ _ hp hptr.1]
  simp only [Out.bind_ok]
  rw [parsePointerEncoding_byte _ _ _ hc1 hc2]
  simp only [Out.bind_ok]
  rw [parsePointerEncoding_byte _ _ _ ht1 ht2]
  simp only [Out.bind_ok]
  rw [if_neg hptr.2.1]
  unfold op
  rw [show (0 : Nat) + 1 + 1 + 1 + 1 = 4 from rfl,
    pep_ptrOk m e h.ptrEnc ⟨bases.ehFrameHdr, none, asz⟩ 4 h.ptrOp _ hptr]
  simp only [Out.bind_ok]
  unfold hdrCount
  rw [if_neg (by simp [hc3, ht3]), if_neg (fun hne => hne hc4), pev_some e h.cntEnc asz h.rows.length _ _ hcnt]
  simp only [Out.bind_ok, Out.pure_eq, AHdr.expect, AHdr.tableOff, op]

section
variable (m : Mode) (e : Endian) (bases : Bases) (asz : Nat) (h : AHdr) (T0 size : Nat)
  (hs : tableEntrySize h.tblEnc = some size)
  (hok : ∀ i r, h.rows[i]? = some r → h.RowOk e bases asz T0 size i r)
include hs hok

theorem rowBytes_length : ∀ r, r ∈ h.rows → (h.rowBytes e asz r).length = size * 2 := by
  intro r hr
  obtain ⟨i, hi⟩ := List.mem_iff_getElem?.mp hr
  obtain ⟨h1, h2⟩ := hok i r hi
  rw [AHdr.rowBytes, List.length_append, op_length e _ asz _ size hs h1.2.2.2.2.2.2,
    op_length e _ asz _ size hs h2.2.2.2.2.2.2]
  omega

theorem rows_encoded (i : Nat) (r : Nat × Nat) (hi : h.rows[i]? = some r) :
    rowKey m e h.tblEnc ⟨bases.ehFrameHdr, none, asz⟩ T0 (h.tableBytes e asz) size i =
      .ok (Ptr.new h.tblEnc (h.fieldVal bases asz (T0 + i * (size * 2)) r.1)) ∧
    rowVal m e h.tblEnc ⟨bases.ehFrameHdr, none, asz⟩ T0 (h.tableBytes e asz) size i =
      .ok (Ptr.new h.tblEnc (h.fieldVal bases asz (T0 + i * (size * 2) + size) r.2)) := by
  obtain ⟨h1, h2⟩ := hok i r hi
  have hl1 := op_length e _ asz _ size hs h1.2.2.2.2.2.2
  have hl2 := op_length e _ asz _ size hs h2.2.2.2.2.2.2
  have hdrop : (h.tableBytes e asz).drop (i * (size * 2)) =
      op e h.tblEnc asz r.1 ++ (op e h.tblEnc asz r.2 ++ (h.rows.drop (i + 1)).flatMap (h.rowBytes e asz)) := by
    obtain ⟨hi', rfl⟩ := List.getElem?_eq_some_iff.mp hi
    rw [AHdr.tableBytes, C17.drop_flatMap_of _ _ _ (rowBytes_length e bases asz h T0 size hs hok),
      List.drop_eq_getElem_cons hi', List.flatMap_cons, AHdr.rowBytes, List.append_assoc]
  constructor
  · rw [rowKey, hdrop, List.take_left' hl1]
    exact ptrAt_exact m e h.tblEnc ⟨bases.ehFrameHdr, none, asz⟩ _ _ h1
  · rw [rowVal, ← List.drop_drop, hdrop, List.drop_left' hl1, List.take_left' hl2]
    exact ptrAt_exact m e h.tblEnc ⟨bases.ehFrameHdr, none, asz⟩ _ _ h2

end

end Gimli.CfiEntry
