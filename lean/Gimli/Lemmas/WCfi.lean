import Gimli.Spec.WCfi
import Gimli.Lemmas.Leb
import Gimli.Lemmas.Cfi
import Gimli.Lemmas.Out
import Gimli.Lemmas.UnwindSpec
/-!
Helper lemmas for C14 (written frame tables).  What the writer emits for an instruction is an encoding
in the sense of C06's Spec (`instrWrite_encodes`), so C06's decoder reads it back
(`Spec.Cfi.parse_encodes`); the decoded instruction means, under C06's semantics, the supplied
instruction it stands for (`unfactored`, `step_unfactored`; C12's conversion rests on the same fact).
A written program decodes chunk by chunk (`DecodesTo`).
-/
open Gimli Gimli.WCfi Gimli.Cfi Gimli.Unwind Gimli.Spec.Unwind Gimli.Spec.WCfi

namespace Gimli.WCfi

theorem factoredCodeDelta_eq (prev off factor : Nat) :
    factoredCodeDelta prev off factor =
      if prev ≤ off ∧ factor ≠ 0 ∧ (off - prev) % factor = 0 then .ok ((off - prev) / factor)
      else .err .wInvalidFrameCodeOffset := by
  unfold factoredCodeDelta
  by_cases h1 : off < prev
  · rw [if_pos h1, if_neg (by omega)]
  by_cases h2 : factor = 0
  · rw [if_neg h1, if_pos h2, if_neg (fun h => h.2.1 h2)]
  rw [if_neg h1, if_neg h2]
  by_cases h3 : (off - prev) % factor = 0
  · rw [if_neg (by simpa using (Nat.div_mul_cancel (Nat.dvd_of_mod_eq_zero h3)).symm), if_pos ⟨by omega, h2, h3⟩]
  · rw [if_pos (fun h => h3 (by rw [h]; exact Nat.mul_mod_left _ _)), if_neg (fun h => h3 h.2.2)]

theorem code_ok_iff (prev off factor : Nat) (q : Nat) :
    factoredCodeDelta prev off factor = .ok q ↔ (prev ≤ off ∧ factor ≠ 0 ∧ off - prev = q * factor) := by
  rw [factoredCodeDelta_eq]
  split
  · rename_i h
    simp only [Out.ok.injEq, h.1, h.2.1, ne_eq, not_false_eq_true, true_and,
      Nat.div_eq_iff_eq_mul_left (Nat.pos_of_ne_zero h.2.1) (Nat.dvd_of_mod_eq_zero h.2.2)]
  · rename_i h
    exact ⟨fun hq => (nomatch hq), fun hq => absurd ⟨hq.1, hq.2.1, by rw [hq.2.2]; exact Nat.mul_mod_left _ _⟩ h⟩

theorem code_err_iff (prev off factor : Nat) :
    factoredCodeDelta prev off factor = .err .wInvalidFrameCodeOffset ↔
      (off < prev ∨ factor = 0 ∨ (off - prev) % factor ≠ 0) := by
  rw [factoredCodeDelta_eq]
  split
  · exact ⟨fun h => (nomatch h), by omega⟩
  · exact ⟨fun _ => by omega, fun _ => rfl⟩

theorem factoredDataOffset_eq (offset factor : Int) :
    factoredDataOffset offset factor =
      if factor ≠ 0 ∧ ¬(offset = -(2 ^ 31) ∧ factor = -1) ∧ factor ∣ offset then .ok (offset.tdiv factor)
      else .err .wInvalidFrameDataOffset := by
  unfold factoredDataOffset
  by_cases h0 : factor = 0 ∨ (offset = -(2 ^ 31) ∧ factor = -1)
  · rw [if_pos h0, if_neg (fun h => h0.elim h.1 h.2.1)]
  rw [if_neg h0]
  by_cases hd : factor ∣ offset
  · rw [if_neg (by simpa using (Int.tdiv_mul_cancel hd).symm), if_pos ⟨fun h => h0 (.inl h), fun h => h0 (.inr h), hd⟩]
  · rw [if_pos (fun h => hd ⟨_, h.trans (Int.mul_comm _ _)⟩), if_neg (fun h => hd h.2.2)]

theorem data_ok_iff (offset factor q : Int) :
    factoredDataOffset offset factor = .ok q ↔
      (factor ≠ 0 ∧ ¬(offset = -(2 ^ 31) ∧ factor = -1) ∧ offset = q * factor) := by
  rw [factoredDataOffset_eq]
  split
  · rename_i h
    simp only [Out.ok.injEq, h.1, h.2.1, ne_eq, not_false_eq_true, true_and]
    exact ⟨fun hq => by rw [← hq, Int.tdiv_mul_cancel h.2.2], fun hq => by rw [hq, Int.mul_tdiv_cancel _ h.1]⟩
  · rename_i h
    exact ⟨fun hq => (nomatch hq), fun hq => absurd ⟨hq.1, hq.2.1, q, hq.2.2.trans (Int.mul_comm _ _)⟩ h⟩

theorem data_err_iff (offset factor : Int) :
    factoredDataOffset offset factor = .err .wInvalidFrameDataOffset ↔
      (factor = 0 ∨ (offset = -(2 ^ 31) ∧ factor = -1) ∨ ¬ factor ∣ offset) := by
  rw [factoredDataOffset_eq]
  split
  · rename_i h
    exact ⟨fun h => (nomatch h), fun h' => h'.elim (absurd · h.1) (·.elim (absurd · h.2.1) (absurd h.2.2))⟩
  · rename_i h
    refine ⟨fun _ => ?_, fun _ => rfl⟩
    by_cases h1 : factor = 0
    · exact .inl h1
    by_cases h2 : offset = -(2 ^ 31) ∧ factor = -1
    · exact .inr (.inl h2)
    · exact .inr (.inr fun hd => h ⟨h1, h2, hd⟩)

theorem factored_spec {offset factor q : Int} (h : factoredDataOffset offset factor = .ok q)
    (ho : isI32 offset) : q * factor = offset ∧ -(2 : Int) ^ 63 ≤ q ∧ q < 2 ^ 63 := by
  rw [factoredDataOffset_eq] at h
  split at h <;> cases h
  rename_i hd
  have := Int.natAbs_tdiv_le_natAbs offset factor
  unfold isI32 at ho
  exact ⟨Int.tdiv_mul_cancel hd.2.2, by omega, by omega⟩

section encodings
open Gimli.Spec.Cfi

theorem uLeb_encodeU {v : Nat} (hv : v < 2 ^ 64) : ULeb v (Leb.encodeU v) :=
  let ⟨henc, hval, hlen, _⟩ := Leb.encodeU_spec v hv
  ⟨henc, hlen, hval, hv⟩

theorem sLeb_encodeS {v : Int} (hlo : -(2 : Int) ^ 63 ≤ v) (hhi : v < 2 ^ 63) : SLeb v (Leb.encodeS v) :=
  let ⟨henc, hval, hlen, _⟩ := Leb.encodeS_spec v hlo hhi
  ⟨henc, hlen, hval, hlo, hhi⟩

theorem uLeb_toNat {x : Int} (h0 : ¬x < 0) (hx : x < 2 ^ 63) :
    ((x.toNat : Nat) : Int) = x ∧ ULeb x.toNat (Leb.encodeU x.toNat) :=
  ⟨Int.toNat_of_nonneg (Int.not_lt.mp h0), uLeb_encodeU (by omega)⟩

theorem regEnc_regU (r : Reg) : RegEnc r (regU r) :=
  uLeb_encodeU (Nat.lt_trans r.toNat_lt (by decide))

theorem block_exprW {ex : Bytes} (h : ex.length < 2 ^ 64) : Block ex (exprW ex) :=
  ⟨_, uLeb_encodeU h, rfl⟩

theorem advanceLocBytes_encodes (c : DecodeCfg) (pos : Nat) {delta : Nat} (h : delta < 2 ^ 32) :
    Encodes c pos (.advanceLoc delta) (advanceLocBytes c.endian delta) := by
  unfold advanceLocBytes
  split
  · exact .advanceLoc delta ‹_›
  · split
    · exact .advanceLoc1 delta _ ⟨rfl, ‹_›⟩
    · split
      · exact .advanceLoc2 delta _ ⟨rfl, ‹_›⟩
      · exact .advanceLoc4 delta _ ⟨rfl, h⟩

end encodings

theorem parse_adv (c : DecodeCfg) (pos delta : Nat) (rest : Bytes) (h : delta < 2 ^ 32) :
    parse c pos (advanceLocBytes c.endian delta ++ rest) = .ok (.advanceLoc delta, rest) :=
  Spec.Cfi.parse_encodes (advanceLocBytes_encodes c pos h) rest

theorem writeAdvanceLoc_ok {e : Endian} {caf prev o : Nat} {bs : Bytes} (ho : o < 2 ^ 32)
    (h : writeAdvanceLoc e caf prev o = .ok bs) :
    (o = prev ∧ bs = []) ∨ (prev < o ∧ ∃ d, bs = advanceLocBytes e d ∧ d < 2 ^ 32 ∧ d * caf = o - prev) := by
  unfold writeAdvanceLoc at h
  by_cases he : o = prev
  · rw [if_pos he] at h
    cases h
    exact .inl ⟨he, rfl⟩
  · rw [if_neg he] at h
    obtain ⟨d, hd, hb⟩ := Out.bind_eq_ok h
    obtain ⟨hle, hf, hmul⟩ := (code_ok_iff _ _ _ _).mp hd
    cases hb
    have : d ≤ d * caf := Nat.le_mul_of_pos_right d (Nat.pos_of_ne_zero hf)
    exact .inr ⟨Nat.lt_of_le_of_ne hle (Ne.symm he), d, rfl,
      Nat.lt_of_le_of_lt (Nat.le_trans this (hmul ▸ Nat.sub_le o prev)) ho, hmul.symm⟩

/-- the supplied instruction a decoded instruction stands for: factored operands multiplied back by
the data alignment factor (`nop`, `advance_loc*`, `set_loc` have no counterpart) -/
def unfactored (daf : Int) : Instr → Option WInstr
  | .defCfa r o => some (.cfa r o)
  | .defCfaSf r f => some (.cfa r (f * daf))
  | .defCfaRegister r => some (.cfaRegister r)
  | .defCfaOffset o => some (.cfaOffset o)
  | .defCfaOffsetSf f => some (.cfaOffset (f * daf))
  | .defCfaExpression e => some (.cfaExpression e)
  | .undefined r => some (.undefined r)
  | .sameValue r => some (.sameValue r)
  | .offset r f => some (.offset r (f * daf))
  | .offsetExtendedSf r f => some (.offset r (f * daf))
  | .valOffset r f => some (.valOffset r (f * daf))
  | .valOffsetSf r f => some (.valOffset r (f * daf))
  | .register d s => some (.register d s)
  | .expression r e => some (.expression r e)
  | .valExpression r e => some (.valExpression r e)
  | .restore r => some (.restore r)
  | .rememberState => some .rememberState
  | .restoreState => some .restoreState
  | .argsSize n => some (.argsSize n)
  | .negateRaState => some .negateRaState
  | .setLoc _ | .advanceLoc _ | .nop => none

theorem wrapI64_i32 {x : Int} (h : isI32 x) : wrapI64 x = x :=
  wrapI64_of_range x (Twos.range_mono (w := 64) (k := 32) (by decide) h)

theorem step_unfactored {p : Params} {i : Instr} {wi : WInstr} (h : unfactored p.dataAlign i = some wi)
    (hr : wi.InRange) (s : State) : step p s i = wStep s wi := by
  cases i <;> cases h
  case defCfa | defCfaSf | offset | offsetExtendedSf | valOffset | valOffsetSf =>
    simp only [step, wStep, factored, wrapI64_i32 hr]
  case defCfaOffset | defCfaOffsetSf =>
    simp only [step, wStep, factored, wrapI64_i32 hr]; cases s.cur.cfa <;> rfl
  case defCfaRegister => simp only [step, wStep]; cases s.cur.cfa <;> rfl
  case restore => simp only [step, wStep]; cases s.init <;> rfl
  case restoreState => simp only [step, wStep]; cases s.stack <;> rfl
  case negateRaState =>
    simp only [step, wStep]
    cases s.cur.regs Spec.Unwind.raSignState with
    | none => rfl
    | some v => cases v <;> rfl
  all_goals rfl

theorem unfactored_negateRaState {daf : Int} {i : Instr} (h : unfactored daf i = some .negateRaState) :
    i = .negateRaState := by
  cases i <;> cases h
  rfl

theorem instrWrite_encodes (c : DecodeCfg) {daf : Int} {wi : WInstr} {bs : Bytes}
    (h : instrWrite daf wi = .ok bs) (hr : wi.InRange) (hv : wi = .negateRaState → c.vendor = .aarch64) :
    ∃ i, unfactored daf i = some wi ∧ ∀ pos, Spec.Cfi.Encodes c pos i bs := by
  cases wi with
  | cfa r off =>
    rw [instrWrite] at h
    split at h
    · obtain ⟨f, hf, hb⟩ := Out.bind_eq_ok h
      obtain ⟨hmul, hlo, hhi⟩ := factored_spec hf hr
      cases hb
      exact ⟨.defCfaSf r f, by rw [unfactored, hmul],
        fun _ => .defCfaSf r f _ _ (regEnc_regU r) (sLeb_encodeS hlo hhi)⟩
    · cases h
      obtain ⟨h0, hu⟩ := uLeb_toNat ‹_› (Int.lt_trans hr.2 (by decide))
      exact ⟨.defCfa r off.toNat, by rw [unfactored, h0], fun _ => .defCfa r _ _ _ (regEnc_regU r) hu⟩
  | cfaRegister r =>
    cases h
    exact ⟨.defCfaRegister r, rfl, fun _ => .defCfaRegister r _ (regEnc_regU r)⟩
  | cfaOffset off =>
    rw [instrWrite] at h
    split at h
    · obtain ⟨f, hf, hb⟩ := Out.bind_eq_ok h
      obtain ⟨hmul, hlo, hhi⟩ := factored_spec hf hr
      cases hb
      exact ⟨.defCfaOffsetSf f, by rw [unfactored, hmul], fun _ => .defCfaOffsetSf f _ (sLeb_encodeS hlo hhi)⟩
    · cases h
      obtain ⟨h0, hu⟩ := uLeb_toNat ‹_› (Int.lt_trans hr.2 (by decide))
      exact ⟨.defCfaOffset off.toNat, by rw [unfactored, h0], fun _ => .defCfaOffset _ _ hu⟩
  | cfaExpression ex =>
    cases h
    exact ⟨.defCfaExpression ex, rfl, fun _ => .defCfaExpression ex _ (block_exprW hr)⟩
  | restore r =>
    rw [instrWrite] at h
    split at h
    · cases h
      exact ⟨.restore r, rfl, fun _ => .restore r ‹_›⟩
    · cases h
      exact ⟨.restore r, rfl, fun _ => .restoreExtended r _ (regEnc_regU r)⟩
  | undefined r =>
    cases h
    exact ⟨.undefined r, rfl, fun _ => .undefined r _ (regEnc_regU r)⟩
  | sameValue r =>
    cases h
    exact ⟨.sameValue r, rfl, fun _ => .sameValue r _ (regEnc_regU r)⟩
  | offset r off =>
    rw [instrWrite] at h
    obtain ⟨f, hf, hb⟩ := Out.bind_eq_ok h
    obtain ⟨hmul, hlo, hhi⟩ := factored_spec hf hr
    split at hb
    · cases hb
      exact ⟨.offsetExtendedSf r f, by rw [unfactored, hmul],
        fun _ => .offsetExtendedSf r f _ _ (regEnc_regU r) (sLeb_encodeS hlo hhi)⟩
    · obtain ⟨h0, hu⟩ := uLeb_toNat ‹_› hhi
      split at hb <;> cases hb
      · exact ⟨.offset r f.toNat, by rw [unfactored, h0, hmul], fun _ => .offset r _ _ ‹_› hu⟩
      · exact ⟨.offset r f.toNat, by rw [unfactored, h0, hmul],
          fun _ => .offsetExtended r _ _ _ (regEnc_regU r) hu⟩
  | valOffset r off =>
    rw [instrWrite] at h
    obtain ⟨f, hf, hb⟩ := Out.bind_eq_ok h
    obtain ⟨hmul, hlo, hhi⟩ := factored_spec hf hr
    split at hb
    · cases hb
      exact ⟨.valOffsetSf r f, by rw [unfactored, hmul],
        fun _ => .valOffsetSf r f _ _ (regEnc_regU r) (sLeb_encodeS hlo hhi)⟩
    · cases hb
      obtain ⟨h0, hu⟩ := uLeb_toNat ‹_› hhi
      exact ⟨.valOffset r f.toNat, by rw [unfactored, h0, hmul], fun _ => .valOffset r _ _ _ (regEnc_regU r) hu⟩
  | register r1 r2 =>
    cases h
    exact ⟨.register r1 r2, rfl, fun _ => .register r1 r2 _ _ (regEnc_regU r1) (regEnc_regU r2)⟩
  | expression r ex =>
    cases h
    exact ⟨.expression r ex, rfl, fun _ => .expression r ex _ _ (regEnc_regU r) (block_exprW hr)⟩
  | valExpression r ex =>
    cases h
    exact ⟨.valExpression r ex, rfl, fun _ => .valExpression r ex _ _ (regEnc_regU r) (block_exprW hr)⟩
  | rememberState => cases h; exact ⟨.rememberState, rfl, fun _ => .rememberState⟩
  | restoreState => cases h; exact ⟨.restoreState, rfl, fun _ => .restoreState⟩
  | argsSize n =>
    cases h
    exact ⟨.argsSize n, rfl, fun _ => .argsSize n _ (uLeb_encodeU (Nat.lt_trans hr (by decide)))⟩
  | negateRaState =>
    cases h
    exact ⟨.negateRaState, rfl, fun _ => .negateRaState (hv rfl)⟩

theorem instrWrite_decodes (c : DecodeCfg) {daf : Int} {wi : WInstr} {bs : Bytes}
    (h : instrWrite daf wi = .ok bs) (hr : wi.InRange) (hv : wi = .negateRaState → c.vendor = .aarch64) :
    ∃ i, unfactored daf i = some wi ∧ ∀ pos rest, parse c pos (bs ++ rest) = .ok (i, rest) :=
  let ⟨i, hu, he⟩ := instrWrite_encodes c h hr hv
  ⟨i, hu, fun pos rest => Spec.Cfi.parse_encodes (he pos) rest⟩

/-- `bs` is a concatenation of chunks, each of which the decoder reads as one instruction wherever
it stands and whatever follows -/
inductive DecodesTo (c : DecodeCfg) : Bytes → List Instr → Prop
  | nil : DecodesTo c [] []
  | cons (chunk : Bytes) (i : Instr) (bs : Bytes) (is : List Instr) :
      (∀ (pos : Nat) (rest : Bytes), parse c pos (chunk ++ rest) = .ok (i, rest)) →
      DecodesTo c bs is → DecodesTo c (chunk ++ bs) (i :: is)

theorem DecodesTo.append {c : DecodeCfg} {a b : Bytes} {la lb : List Instr}
    (ha : DecodesTo c a la) (hb : DecodesTo c b lb) : DecodesTo c (a ++ b) (la ++ lb) := by
  induction ha with
  | nil => simpa using hb
  | cons chunk i bs is hp _ ih =>
    rw [List.append_assoc, List.cons_append]
    exact DecodesTo.cons chunk i _ _ hp ih

theorem DecodesTo.single {c : DecodeCfg} {chunk : Bytes} {i : Instr}
    (hp : ∀ (pos : Nat) (rest : Bytes), parse c pos (chunk ++ rest) = .ok (i, rest)) :
    DecodesTo c chunk [i] := by
  have := DecodesTo.cons chunk i [] [] hp DecodesTo.nil
  simpa using this

theorem DecodesTo.nops (c : DecodeCfg) (n : Nat) :
    DecodesTo c (List.replicate n 0) (List.replicate n .nop) := by
  induction n with
  | zero => exact DecodesTo.nil
  | succ n ih => exact DecodesTo.cons [0] .nop _ _ (fun _ _ => rfl) ih

theorem DecodesTo.decodeFuel {c : DecodeCfg} {bs : Bytes} {is : List Instr} (h : DecodesTo c bs is) :
    ∀ (base total fuel : Nat), bs.length ≤ fuel → decodeFuel c base total fuel bs = (is, .ok ()) := by
  induction h with
  | nil => intro base total fuel _; cases fuel <;> rfl
  | cons chunk i bs is hp _ ih =>
    intro base total fuel hfuel
    have hp0 := hp (base + (total - (chunk ++ bs).length)) bs
    have hlt := parse_lt hp0
    cases hcb : chunk ++ bs with
    | nil => rw [hcb] at hlt; simp at hlt
    | cons b tl =>
      rw [hcb] at hp0 hlt hfuel
      cases fuel with
      | zero => simp at hfuel
      | succ fuel =>
        rw [Cfi.decodeFuel, hp0]
        simp only
        rw [ih base total fuel (by simp only [List.length_cons] at hlt hfuel; omega)]

theorem DecodesTo.decodeAll {c : DecodeCfg} {bs : Bytes} {is : List Instr} (h : DecodesTo c bs is)
    (base : Nat) : decodeAll c base bs = (is, .ok ()) :=
  h.decodeFuel base bs.length bs.length (Nat.le_refl _)

theorem stepB_none (p : Params) (s : State) (i : Instr) : stepB p none none s i = step p s i := by
  unfold stepB
  cases step p s i with
  | error e => rfl
  | ok q => obtain ⟨s', row⟩ := q; simp [exceeds]

theorem wStep_loc (s : State) (l : Nat) (wi : WInstr) :
    wStep { s with loc := l } wi =
      match wStep s wi with
      | .ok (s2, _) => .ok ({ s2 with loc := l }, none)
      | .error e => .error e := by
  obtain ⟨loc, cur, stack, init⟩ := s
  cases wi <;> simp only [wStep]
  case cfaRegister r => cases cur.cfa <;> rfl
  case cfaOffset o => cases cur.cfa <;> rfl
  case restore r => cases init <;> rfl
  case restoreState => cases stack <;> rfl
  case negateRaState =>
    cases cur.regs Spec.Unwind.raSignState with
    | none => rfl
    | some v => cases v <;> rfl
  all_goals rfl

theorem wStep_row {s : State} {wi : WInstr} {s' : State} {row : Option TableRow}
    (h : wStep s wi = .ok (s', row)) : row = none ∧ s'.loc = s.loc := by
  have := wStep_loc s s.loc wi
  rw [show ({ s with loc := s.loc } : State) = s from rfl, h] at this
  obtain ⟨h1, h2⟩ := Prod.mk.inj (Except.ok.inj this)
  exact ⟨h2, (congrArg State.loc h1 :)⟩

theorem exec_cons_plain (p : Params) (endAddr : Nat) (s s2 : State) (i : Instr) (is : List Instr)
    (h : step p s i = .ok (s2, none)) :
    exec p none none endAddr s (i :: is) none = exec p none none endAddr s2 is none := by
  rw [exec, stepB_none, h]

theorem exec_cons_unfactored {p : Params} {i : Instr} {wi : WInstr} (hu : unfactored p.dataAlign i = some wi)
    (hr : wi.InRange) (endAddr : Nat) (s : State) (is : List Instr) :
    exec p none none endAddr s (i :: is) none =
      match wStep s wi with
      | .error e => ([], .error e)
      | .ok (s', _) => exec p none none endAddr s' is none := by
  rw [exec, stepB_none, step_unfactored hu hr]
  cases hw : wStep s wi with
  | error e => rfl
  | ok q =>
    obtain ⟨s', row⟩ := q
    cases (wStep_row hw).1
    rfl

theorem exec_cons_advance (p : Params) (endAddr : Nat) (s : State) (d : Nat) (is : List Instr) :
    exec p none none endAddr s (.advanceLoc d :: is) none =
      if s.loc + d * p.codeAlign % 2 ^ 64 < 2 ^ (8 * p.addressSize) then
        (⟨s.loc, s.loc + d * p.codeAlign % 2 ^ 64, s.cur⟩ ::
            (exec p none none endAddr { s with loc := s.loc + d * p.codeAlign % 2 ^ 64 } is none).1,
          (exec p none none endAddr { s with loc := s.loc + d * p.codeAlign % 2 ^ 64 } is none).2)
      else ([], .error .rAddressOverflow) := by
  rw [exec, stepB_none, step]
  by_cases h : s.loc + d * p.codeAlign % 2 ^ 64 < 2 ^ (8 * p.addressSize)
  · rw [if_pos h, if_pos h]
  · rw [if_neg h, if_neg h]

theorem exec_nops (p : Params) (endAddr : Nat) (n : Nat) (s : State) :
    exec p none none endAddr s (List.replicate n .nop) none = exec p none none endAddr s [] none := by
  induction n with
  | zero => rfl
  | succ n ih => rw [List.replicate_succ, exec_cons_plain p endAddr s s .nop _ rfl, ih]

theorem wExec_advance (p : Params) (endAddr : Nat) (s : State) {prev o : Nat} (wi : WInstr)
    (is : List (Nat × WInstr)) (h : o ≠ prev) :
    wExec p endAddr s prev ((o, wi) :: is) =
      if s.loc + (o - prev) < 2 ^ (8 * p.addressSize) then
        (⟨s.loc, s.loc + (o - prev), s.cur⟩ ::
            (wExec p endAddr { s with loc := s.loc + (o - prev) } o ((o, wi) :: is)).1,
          (wExec p endAddr { s with loc := s.loc + (o - prev) } o ((o, wi) :: is)).2)
      else ([], .error .rAddressOverflow) := by
  rw [wExec, if_neg h]
  dsimp only
  split
  · rw [wExec, if_pos rfl]
    cases wStep { s with loc := s.loc + (o - prev) } wi <;> rfl
  · rfl

/-- the `n` nops are the padding that follows the program in its entry -/
theorem program_roundtrip_main (c : DecodeCfg) (p : Params) :
    ∀ (is : List (Nat × WInstr)) (prev : Nat) (bs : Bytes),
      ProgInRange is → ProgVendorOk c is →
      fdeInstrsWrite c.endian p.codeAlign p.dataAlign prev is = .ok bs →
      ∃ L, DecodesTo c bs L ∧
        ∀ (s : State) (endAddr n : Nat),
          exec p none none endAddr s (L ++ List.replicate n .nop) none = wExec p endAddr s prev is := by
  intro is
  induction is with
  | nil =>
    intro prev bs _ _ h
    cases h
    exact ⟨[], DecodesTo.nil, fun s endAddr n => exec_nops p endAddr n s⟩
  | cons oi is ih =>
    obtain ⟨o, wi⟩ := oi
    intro prev bs ⟨ho, hwi, hrest⟩ ⟨hv, hvrest⟩ h
    rw [fdeInstrsWrite] at h
    obtain ⟨adv, hadv, h⟩ := Out.bind_eq_ok h
    obtain ⟨a, ha, h⟩ := Out.bind_eq_ok h
    obtain ⟨b, hb, h⟩ := Out.bind_eq_ok h
    cases h
    obtain ⟨L', hL', hexec'⟩ := ih o b hrest hvrest hb
    obtain ⟨i, hu, hparse⟩ := instrWrite_decodes c ha hwi hv
    have hcons : ∀ s endAddr n, exec p none none endAddr s (i :: (L' ++ List.replicate n .nop)) none =
        wExec p endAddr s o ((o, wi) :: is) := fun s endAddr n => by
      rw [exec_cons_unfactored hu hwi, wExec, if_pos rfl]
      cases wStep s wi with
      | error e => rfl
      | ok q => exact hexec' q.1 endAddr n
    rcases writeAdvanceLoc_ok ho hadv with ⟨rfl, rfl⟩ | ⟨hlt, d, rfl, hd, hmul⟩
    · exact ⟨i :: L', DecodesTo.cons a i b L' hparse hL', hcons⟩
    · refine ⟨.advanceLoc d :: i :: L', ?_, fun s endAddr n => ?_⟩
      · rw [List.append_assoc]
        exact DecodesTo.cons _ _ _ _ (fun pos rest => parse_adv c pos d rest hd)
          (DecodesTo.cons a i b L' hparse hL')
      · have hmod : d * p.codeAlign % 2 ^ 64 = o - prev := by
          rw [hmul]
          exact Nat.mod_eq_of_lt (Nat.lt_of_le_of_lt (Nat.sub_le _ _) (Nat.lt_trans ho (by decide)))
        rw [wExec_advance p endAddr s wi is (Nat.ne_of_gt hlt), ← hcons _ endAddr n, List.cons_append,
          exec_cons_advance, hmod]
        rfl

theorem instrsWrite_eq (e : Endian) (caf : Nat) (daf : Int) (is : List WInstr) :
    instrsWrite daf is = fdeInstrsWrite e caf daf 0 (is.map (fun i => (0, i))) := by
  induction is with
  | nil => rfl
  | cons i is ih =>
    rw [instrsWrite, List.map_cons, fdeInstrsWrite, ih]
    have : writeAdvanceLoc e caf 0 0 = .ok [] := by unfold writeAdvanceLoc; rfl
    rw [this]
    simp only [Out.bind_ok, List.nil_append]

theorem progInRange_iff {ws : List (Nat × WInstr)} :
    ProgInRange ws ↔ ∀ x ∈ ws, x.1 < 2 ^ 32 ∧ x.2.InRange := by
  induction ws with
  | nil => simp [ProgInRange]
  | cons x ws ih => simp [ProgInRange, ih, and_assoc]

theorem progVendorOk_iff {c : DecodeCfg} {ws : List (Nat × WInstr)} :
    ProgVendorOk c ws ↔ ∀ x ∈ ws, x.2 = .negateRaState → c.vendor = .aarch64 := by
  induction ws with
  | nil => simp [ProgVendorOk]
  | cons x ws ih => simp [ProgVendorOk, ih]

end Gimli.WCfi
