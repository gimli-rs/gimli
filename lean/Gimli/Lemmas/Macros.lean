import Gimli.Model.Macros
import Gimli.Lemmas.Leb
import Gimli.Lemmas.ReaderEnsures
/-!
`MacroIter::next` returns normally and, unless it is the last call, leaves strictly fewer bytes:
the type byte is consumed, and every state-tracking sub-read is `Tame` (returns normally, leaves no
more bytes than it was given), which `andThen` preserves.
-/
namespace Gimli.Macros
open Gimli

def Tame {α : Type} (x : Out α × Bytes) (n : Nat) : Prop := x.1.Normal ∧ x.2.length ≤ n

namespace Tame

theorem mono {α : Type} {x : Out α × Bytes} {n m : Nat} (h : Tame x n) (hnm : n ≤ m) : Tame x m :=
  ⟨h.1, Nat.le_trans h.2 hnm⟩

theorem andThen {α β : Type} {x : Out α × Bytes} {f : α → Bytes → Out β × Bytes} {n : Nat}
    (hx : Tame x n) (hf : ∀ a r, r.length ≤ n → Tame (f a r) n) : Tame (Macros.andThen x f) n := by
  obtain ⟨x1, x2⟩ := x
  rw [Macros.andThen]
  cases x1 with
  | ok a => exact hf a x2 hx.2
  | _ => exact hx

end Tame

theorem ulebSt_tame (bs : Bytes) : Tame (ulebSt bs) bs.length := by
  obtain ⟨hn, hs⟩ := Leb.unsigned_ensures bs
  rw [ulebSt]
  split
  · next h => exact ⟨trivial, Nat.le_of_lt (hs _ h)⟩
  · exact ⟨trivial, Nat.zero_le _⟩
  · exact ⟨trivial, by rw [List.length_drop]; exact Nat.sub_le _ _⟩
  · next h => rw [h] at hn; exact hn.elim
  · next h => rw [h] at hn; exact hn.elim

theorem nullTerm_tame (bs : Bytes) : Tame (nullTerm bs) bs.length := by
  rw [nullTerm]
  split
  · exact ⟨trivial, by rw [List.length_drop]; exact Nat.sub_le _ _⟩
  · exact ⟨trivial, Nat.le_refl _⟩

theorem offsetSt_tame (e : Endian) (f : Format) (bs : Bytes) : Tame (offsetSt e f bs) bs.length := by
  rcases (Ints.readWord_ensures e f bs).ok_or_err with ⟨⟨v, r⟩, hp, t⟩ | ⟨x, hp⟩ <;> rw [offsetSt, hp]
  · exact ⟨trivial, t.le⟩
  · exact ⟨trivial, Nat.le_refl _⟩

theorem run_tame (e : Endian) (f : Format) (sh : Shape) (rest : Bytes) :
    Tame (run e f sh rest) rest.length := by
  have last : ∀ {α : Type} (g : α → Option Entry) (a : α) (r : Bytes), r.length ≤ rest.length →
      Tame (Out.ok (g a), r) rest.length := fun _ _ _ hr => ⟨trivial, hr⟩
  cases sh with
  | done => exact ⟨trivial, Nat.zero_le _⟩
  | bad err => exact ⟨trivial, Nat.zero_le _⟩
  | endFile => exact ⟨trivial, Nat.le_refl _⟩
  | lineStr mk =>
    exact (ulebSt_tame rest).andThen fun line r hr =>
      ((nullTerm_tame r).mono hr).andThen (last _)
  | lineUleb mk =>
    exact (ulebSt_tame rest).andThen fun line r hr =>
      ((ulebSt_tame r).mono hr).andThen (last _)
  | lineOff mk =>
    exact (ulebSt_tame rest).andThen fun line r hr =>
      ((offsetSt_tame e f r).mono hr).andThen (last _)
  | off mk => exact (offsetSt_tame e f rest).andThen (last _)

theorem next_normal (e : Endian) (f : Format) (m : Bool) (bs : Bytes) : (next e f m bs).1.Normal := by
  cases bs with
  | nil => trivial
  | cons b rest => exact (run_tame _ _ _ _).1

theorem next_decreases (e : Endian) (f : Format) (m : Bool) (bs : Bytes)
    (h : Iter.isDone (next e f m bs).1 = false) : (next e f m bs).2.length < bs.length := by
  cases bs with
  | nil => cases h
  | cons b rest => exact Nat.lt_succ_of_le (run_tame _ _ _ _).2

end Gimli.Macros
