import Gimli.Lemmas.Lists.Raw
/-! The cooked list iterator and the lists of a DIE (C08, read side).

Both the cooked iterator and `Spec.resolveList` go through a list entry by entry, each entry handing
on a base address and adding at most one result: `cooked` (`cook_cons`) and `contrib`
(`resolveList_cons`) name that step on either side. Two facts about `convert_raw` carry the first
half: without any hypothesis it yields only non-empty ranges below the tombstones (`ens_convertRaw`,
`cook_ok`); for a valid address size its step is the Spec's (`convertRaw_contrib`), and `cook_refines`
follows entry by entry. `cookedAll_encodeList` is the two halves together (`rawAll_encodeList`, then
`cook_refines`): the reader on the bytes of a well-formed list yields what the list denotes; it is the
statement to cite (`Props.C08.resolve_refines` is its name among the property theorems). The writer and
the converter compare entries through `contrib` as well.

The second half is about lists reached from attributes: the attribute loop of `die_ranges`
(`ens_dieRangesLoop`; `Benign` attributes only update the accumulator) and the bases
a unit takes from its root DIE (`lastSec`). -/
namespace Gimli.Lists
open Gimli Gimli.Ints Gimli.Spec.Lists

variable (k : Kind) (c : Cfg) (f : Fmt)

/-- The way `get_address` and `get_offset` read the `n`-byte word in slot `i` of a table that starts
at `base` (skip `base`, multiply, skip, read), in terms of positions only. -/
theorem read_slot {α : Type} (e : Endian) (n : Nat) (sec : Bytes) (base i : Nat)
    (hlen : sec.length < 2 ^ 64) (g : Nat × Bytes → Out α) :
    (if sec.length < base then .err .rUnexpectedEof
      else if 2 ^ 64 ≤ i * n then .err .rUnsupportedOffset
      else if (sec.drop base).length < i * n then .err .rUnexpectedEof
      else readFixed e n ((sec.drop base).drop (i * n)) >>= g) =
    if base + i * n + n ≤ sec.length then
      g (fromBytes e ((sec.drop (base + i * n)).take n), (sec.drop (base + i * n)).drop n)
    else if sec.length < base then .err .rUnexpectedEof
    else if 2 ^ 64 ≤ i * n then .err .rUnsupportedOffset
    else .err .rUnexpectedEof := by
  simp only [readFixed_eq, List.drop_drop, List.length_drop]
  by_cases h : base + i * n + n ≤ sec.length
  · rw [if_pos h, if_neg (by omega), if_neg (by omega), if_neg (by omega), if_pos (by omega)]; rfl
  · rw [if_neg h]
    by_cases h1 : sec.length < base
    · rw [if_pos h1, if_pos h1]
    by_cases h2 : 2 ^ 64 ≤ i * n
    · rw [if_neg h1, if_neg h1, if_pos h2, if_pos h2]
    by_cases h3 : sec.length - base < i * n
    · rw [if_neg h1, if_neg h1, if_neg h2, if_neg h2, if_pos h3]
    · rw [if_neg h1, if_neg h1, if_neg h2, if_neg h2, if_neg h3, if_neg (by omega)]; rfl

theorem getAddress_cases (sec : Bytes) (base i : Nat) (hs : ValidSize c.addrSize)
    (hlen : sec.length < 2 ^ 64) :
    getAddress c sec base i =
      if base + i * c.addrSize + c.addrSize ≤ sec.length then
        .ok (fromBytes c.endian ((sec.drop (base + i * c.addrSize)).take c.addrSize))
      else if sec.length < base then .err .rUnexpectedEof
      else if 2 ^ 64 ≤ i * c.addrSize then .err .rUnsupportedOffset
      else .err .rUnexpectedEof := by
  simp only [getAddress, readAddress_of_size hs]
  exact read_slot c.endian c.addrSize sec base i hlen _

theorem getAddress_lookup (sec : Bytes) (base i : Nat) (hs : ValidSize c.addrSize)
    (hlen : sec.length < 2 ^ 64) :
    (∃ a, tableOf c.endian c.addrSize sec base i = some a ∧ getAddress c sec base i = .ok a) ∨
    (tableOf c.endian c.addrSize sec base i = none ∧ ∃ e, getAddress c sec base i = .err e) := by
  rw [getAddress_cases c sec base i hs hlen]
  unfold tableOf
  by_cases h : base + i * c.addrSize + c.addrSize ≤ sec.length
  · rw [if_pos h, if_pos h]
    exact .inl ⟨_, rfl, rfl⟩
  · rw [if_neg h, if_neg h]
    refine .inr ⟨rfl, ?_⟩
    split
    · exact ⟨_, rfl⟩
    · split <;> exact ⟨_, rfl⟩

/-- an empty `.debug_addr` is the table without entries (the writer's `Spec.WLists.noTable`) -/
theorem tableOf_nil (e : Endian) (s : Nat) (hs : 1 ≤ s) (base : Nat) : tableOf e s [] base = fun _ => none := by
  funext i
  exact if_neg (by rw [List.length_nil]; omega)

theorem getAddress_normal (sec : Bytes) (base i : Nat) : (getAddress c sec base i).Normal :=
  Out.Normal.ite trivial (Out.Normal.ite trivial (Out.Normal.ite trivial
    ((Ints.readAddress_normal _ _ _).bind fun _ _ => trivial)))

theorem getOffset_normal (sec : Bytes) (base i : Nat) : (getOffset c sec base i).Normal := by
  refine Out.Normal.ite trivial (Out.Normal.ite trivial (Out.Normal.ite trivial ?_))
  exact (Ints.readWord_normal _ _ _ _).bind fun _ _ => Out.Normal.ite trivial trivial

theorem ens_keepRange (s base b e : Nat) (d : Bytes) :
    (keepRange s base b e d).Ensures fun r => ∀ it, r.2 = some it → it.b < it.e ∧ it.b < minTombstone s :=
  Out.Ensures.ite_cases (fun _ => Out.ensures_ok nofun) fun h => Out.ensures_ok fun it hit => by
    cases hit
    exact ⟨Nat.not_le.mp fun h' => h (.inr h'), Nat.not_le.mp fun h' => h (.inl h')⟩

theorem ens_convertRaw (addr : Bytes) (ab base : Nat) (x : Entry) :
    (convertRaw c addr ab base x).Ensures fun r =>
      ∀ it, r.2 = some it → it.b < it.e ∧ it.b < minTombstone c.addrSize := by
  have G := fun i => (getAddress_normal c addr ab i).ensures
  have K := ens_keepRange c.addrSize base
  cases x with
  | baseAddress a => exact Out.ensures_ok nofun
  | baseAddressx i => exact (G i).bind fun _ _ _ => Out.ensures_ok nofun
  | startxEndx b e d => exact (G b).bind fun _ _ _ => (G e).bind fun _ _ _ => K _ _ d
  | startxLength b len d => exact (G b).bind fun _ _ _ => K _ _ d
  | defaultLocation d => exact K _ _ d
  | startEnd b e d => exact K b e d
  | startLength b len d => exact K _ _ d
  | pair b e d | offsetPair b e d =>
    exact Out.Ensures.ite_cases (fun _ => Out.ensures_ok nofun) fun _ => K _ _ d

/-- What one result of `convert_raw` adds to the cooked iteration from `base` on: the base address
for the entries after it and at most one result. -/
def cooked (base : Nat) : Out (Nat × Option Item) → Nat × List (Ev Item)
  | .ok (base', some it) => (base', [.item it])
  | .ok (base', none) => (base', [])
  | .err e => (base, [.error e])
  | _ => (base, [])

theorem cook_cons (addr : Bytes) (ab base : Nat) (x : Entry) (rest : List (Ev Entry)) :
    cook c addr ab base (.item x :: rest) =
      (do let evs ← cook c addr ab (cooked base (convertRaw c addr ab base x)).1 rest
          pure ((cooked base (convertRaw c addr ab base x)).2 ++ evs)) := by
  rw [cook]
  rcases (ens_convertRaw c addr ab base x).1.ok_or_err with ⟨⟨base', oi⟩, h⟩ | ⟨e, h⟩ <;> rw [h]
  · cases oi with
    | some it => rfl
    | none =>
      show cook c addr ab base' rest = (cook c addr ab base' rest >>= fun evs => pure evs)
      cases cook c addr ab base' rest <;> rfl
  · rfl

theorem cooked_convertRaw (addr : Bytes) (ab base : Nat) (x : Entry) :
    (cooked base (convertRaw c addr ab base x)).2.length ≤ 1 ∧
      ∀ it, Ev.item it ∈ (cooked base (convertRaw c addr ab base x)).2 →
        it.b < it.e ∧ it.b < minTombstone c.addrSize := by
  rcases hc : convertRaw c addr ab base x with ⟨base', _ | i0⟩ | e | w | _
  · exact ⟨Nat.zero_le _, nofun⟩
  · exact ⟨Nat.le_refl _, fun it h => by cases List.mem_singleton.mp h; exact (ens_convertRaw c addr ab base x).2 _ hc _ rfl⟩
  · exact ⟨Nat.le_refl _, fun it h => nomatch List.mem_singleton.mp h⟩
  · exact ⟨Nat.zero_le _, nofun⟩
  · exact ⟨Nat.zero_le _, nofun⟩

theorem cook_ok (addr : Bytes) (ab : Nat) (evs : List (Ev Entry)) : ∀ base : Nat,
    ∃ out, cook c addr ab base evs = .ok out ∧ out.length ≤ evs.length ∧
      ∀ it, Ev.item it ∈ out → it.b < it.e ∧ it.b < minTombstone c.addrSize := by
  induction evs with
  | nil => exact fun _ => ⟨[], rfl, Nat.le_refl _, fun _ h => nomatch h⟩
  | cons ev rest ih =>
    intro base
    cases ev with
    | error e =>
      obtain ⟨out, h1, h2, h3⟩ := ih base
      exact ⟨.error e :: out, by rw [cook, h1]; rfl, Nat.succ_le_succ h2,
        fun it hit => (List.mem_cons.mp hit).elim nofun (h3 it)⟩
    | item x =>
      obtain ⟨out, h1, h2, h3⟩ := ih (cooked base (convertRaw c addr ab base x)).1
      obtain ⟨hl, hi⟩ := cooked_convertRaw c addr ab base x
      refine ⟨_, by rw [cook_cons, h1]; rfl, ?_, fun it hit => (List.mem_append.mp hit).elim (hi it) (h3 it)⟩
      rw [List.length_append, List.length_cons]; omega

theorem cook_items (addr : Bytes) (ab : Nat) (evs : List (Ev Entry)) (base : Nat)
    (out : List (Ev Item)) (h : cook c addr ab base evs = .ok out) :
    ∀ it, Ev.item it ∈ out → it.b < it.e ∧ it.b < minTombstone c.addrSize := by
  obtain ⟨out', h', _, h3⟩ := cook_ok c addr ab evs base
  cases h'.symm.trans h
  exact h3

/-- forget which error: an `Err` result of the cooked iterator corresponds to an entry the Spec
leaves undefined -/
def denot : Ev Item → Denot
  | .item it => .range it.b it.e it.data
  | .error _ => .undefined

/-- What one entry adds to the resolution of a list: the base address for the entries after it and
at most one result. Two entries with the same `contrib` are interchangeable in any list. -/
def contrib (s : Nat) (tbl : Table) (base : Nat) (x : Entry) : Nat × List Denot :=
  match resolve1 s tbl base x with
  | .setBase a => (a, [])
  | .undefined => (base, [.undefined])
  | .range b e d rel => (base, if Keep s base b e rel then [.range b e d] else [])

theorem resolveList_cons (s : Nat) (tbl : Table) (base : Nat) (x : Entry) (xs : List Entry) :
    resolveList s tbl base (x :: xs) =
      (contrib s tbl base x).2 ++ resolveList s tbl (contrib s tbl base x).1 xs := by
  rw [resolveList, contrib]
  cases resolve1 s tbl base x with
  | setBase a => rfl
  | undefined => rfl
  | range b e d rel => dsimp only; split <;> rfl

theorem cooked_keepRange (s base b e : Nat) (d : Bytes) (rel : Bool) (hs : 1 ≤ s ∧ s ≤ 8)
    (hrel : rel = true → base < tombstone s) :
    ((cooked base (keepRange s base b e d)).1, (cooked base (keepRange s base b e d)).2.map denot) =
      (base, if Keep s base b e rel then [.range b e d] else []) := by
  unfold keepRange
  rw [minTombstone_spec s hs]
  by_cases h : tombstone s ≤ b ∨ e ≤ b
  · rw [if_pos h, if_neg (fun hk : Keep s base b e rel => by unfold Keep at hk; omega)]; rfl
  · rw [if_neg h, if_pos ⟨hrel, by omega, by omega⟩]; rfl

theorem convertRaw_contrib (addr : Bytes) (ab base : Nat) (x : Entry)
    (hs : ValidSize c.addrSize) (hlen : addr.length < 2 ^ 64) :
    ((cooked base (convertRaw c addr ab base x)).1,
        (cooked base (convertRaw c addr ab base x)).2.map denot) =
      contrib c.addrSize (tableOf c.endian c.addrSize addr ab) base x := by
  have hb := validSize_bounds hs
  have T := fun i => getAddress_lookup c addr ab i hs hlen
  have W : ∀ a l, wrappingAddSized a l c.addrSize = (a + l) % addrMod c.addrSize :=
    fun a l => wrappingAddSized_eq a l c.addrSize hb.2
  have K := fun b e d => cooked_keepRange c.addrSize base b e d false hb nofun
  cases x with
  | pair b e d | offsetPair b e d =>
    simp only [contrib, resolve1, convertRaw, W]
    rw [minTombstone_spec _ hb]
    by_cases ht : tombstone c.addrSize ≤ base
    · rw [if_pos ht, if_neg (fun hk : Keep _ _ _ _ true => by have := hk.1 rfl; omega)]; rfl
    · rw [if_neg ht]
      exact cooked_keepRange _ _ _ _ _ true hb (fun _ => by omega)
  | baseAddress a => rfl
  | baseAddressx i =>
    rcases T i with ⟨a, ht, hg⟩ | ⟨ht, e, hg⟩ <;>
      simp only [contrib, resolve1, convertRaw, ht, hg, Out.bind_ok, Out.bind_err, Out.pure_eq] <;> rfl
  | startxEndx b e d =>
    rcases T b with ⟨vb, hb', tb⟩ | ⟨hb', x, hx⟩
    · rcases T e with ⟨ve, he', te⟩ | ⟨he', x, hx⟩
      · simp only [contrib, resolve1, convertRaw, hb', he', tb, te, Out.bind_ok]
        exact K _ _ _
      · simp only [contrib, resolve1, convertRaw, hb', he', tb, hx, Out.bind_ok, Out.bind_err]; rfl
    · simp only [contrib, resolve1, convertRaw, hb', hx, Out.bind_err]; rfl
  | startxLength b l d =>
    rcases T b with ⟨vb, hb', tb⟩ | ⟨hb', x, hx⟩
    · simp only [contrib, resolve1, convertRaw, W, hb', tb, Out.bind_ok]
      exact K _ _ _
    · simp only [contrib, resolve1, convertRaw, hb', hx, Out.bind_err]; rfl
  | defaultLocation d => exact K _ _ _
  | startEnd b e d => exact K _ _ _
  | startLength b l d =>
    simp only [contrib, resolve1, convertRaw, W]
    exact K _ _ _

theorem cook_refines (addr : Bytes) (ab : Nat) (hs : ValidSize c.addrSize)
    (hlen : addr.length < 2 ^ 64) : ∀ (l : List Entry) (base : Nat),
    ∃ evs, cook c addr ab base (l.map .item) = .ok evs ∧
      evs.map denot = resolveList c.addrSize (tableOf c.endian c.addrSize addr ab) base l
  | [], _ => ⟨[], rfl, rfl⟩
  | x :: xs, base => by
    have h := convertRaw_contrib c addr ab base x hs hlen
    obtain ⟨evs, h1, h2⟩ := cook_refines addr ab hs hlen xs (cooked base (convertRaw c addr ab base x)).1
    rw [List.map_cons, cook_cons, resolveList_cons, ← h, h1]
    exact ⟨_, rfl, by rw [List.map_append, h2]⟩

theorem tombstone_pos (s : Nat) (hs : ValidSize s) : 0 < tombstone s := by
  have := addrMod_ge s hs
  unfold tombstone; omega

theorem contrib_pair_zero {s : Nat} (tbl : Table) {b e : Nat} (d : Bytes) (hs : ValidSize s)
    (hb : b < addrMod s) (he : e < addrMod s) :
    contrib s tbl 0 (.pair b e d) = contrib s tbl 0 (.startEnd b e d) := by
  have hk : Keep s 0 b e true ↔ Keep s 0 b e false :=
    ⟨fun h => ⟨nofun, h.2⟩, fun h => ⟨fun _ => tombstone_pos s hs, h.2⟩⟩
  simp only [contrib, resolve1, Nat.zero_add, Nat.mod_eq_of_lt hb, Nat.mod_eq_of_lt he, hk]

theorem cookedAll_encodeList (addr : Bytes) (ab base : Nat)
    (hs : ValidSize c.addrSize) (hlen : addr.length < 2 ^ 64) (l : List Entry) (rest : Bytes)
    (hw : ∀ x ∈ l, WfEntry k c f x) :
    ∃ evs, cookedAll k c f addr ab base (encodeList k c f l ++ rest) = .ok evs ∧
      evs.map denot = resolveList c.addrSize (tableOf c.endian c.addrSize addr ab) base l := by
  obtain ⟨evs, h1, h2⟩ := cook_refines c addr ab hs hlen l base
  exact ⟨evs, by rw [cookedAll, rawAll_encodeList k c f hs l rest hw]; exact h1, h2⟩

/-- `raw_ranges` / `raw_locations[_dwo]`: select section and format, skip to the offset, iterate -/
theorem rawAt_eq (dwo : Bool) (legacy v5 : Bytes) (offset : Nat) :
    rawAt k c dwo legacy v5 offset =
      if (if (sectionFormat k c.version dwo).1 then legacy else v5).length < offset then
        .err .rUnexpectedEof
      else rawAll k c (sectionFormat k c.version dwo).2
        ((if (sectionFormat k c.version dwo).1 then legacy else v5).drop offset) := rfl

theorem cookedAt_eq (dwo : Bool) (legacy v5 : Bytes) (offset base : Nat)
    (addr : Bytes) (ab : Nat) :
    cookedAt k c dwo legacy v5 offset base addr ab =
      if (if (sectionFormat k c.version dwo).1 then legacy else v5).length < offset then
        .err .rUnexpectedEof
      else cookedAll k c (sectionFormat k c.version dwo).2 addr ab base
        ((if (sectionFormat k c.version dwo).1 then legacy else v5).drop offset) := rfl

theorem cookedAt_raw (dwo : Bool) (legacy v5 : Bytes) (offset base : Nat)
    (addr : Bytes) (ab : Nat) :
    cookedAt k c dwo legacy v5 offset base addr ab =
      (do let raw ← rawAt k c dwo legacy v5 offset; cook c addr ab base raw) := by
  rw [cookedAt_eq, rawAt_eq]
  generalize (if (sectionFormat k c.version dwo).1 then legacy else v5) = sec
  split <;> rfl

theorem rawAt_at {k : Kind} {c : Cfg} {dwo : Bool} {legacy v5 pre bs : Bytes}
    (h : (if (sectionFormat k c.version dwo).1 then legacy else v5) = pre ++ bs) :
    rawAt k c dwo legacy v5 pre.length = rawAll k c (sectionFormat k c.version dwo).2 bs := by
  rw [rawAt_eq, h, if_neg (by rw [List.length_append]; omega), List.drop_left]

theorem cookedAt_at {k : Kind} {c : Cfg} {dwo : Bool} {legacy v5 pre bs : Bytes} (base : Nat) (addr : Bytes)
    (ab : Nat) (h : (if (sectionFormat k c.version dwo).1 then legacy else v5) = pre ++ bs) :
    cookedAt k c dwo legacy v5 pre.length base addr ab =
      cookedAll k c (sectionFormat k c.version dwo).2 addr ab base bs := by
  rw [cookedAt_eq, h, if_neg (by rw [List.length_append]; omega), List.drop_left]

/-- a section passed in the slot that `b` selects, anything in the other slot -/
theorem select_section (b : Bool) (sec other : Bytes) :
    (if b then (if b then sec else other) else (if b then other else sec)) = sec := by
  cases b <;> rfl

theorem cookedAll_ok (addr : Bytes) (ab base : Nat) (bs : Bytes) :
    ∃ evs, cookedAll k c f addr ab base bs = .ok evs ∧ evs.length ≤ bs.length := by
  obtain ⟨raw, h1, h2⟩ := rawFuel_ok k c f (bs.length + 1) bs (Nat.lt_succ_self _)
  obtain ⟨out, h3, h4, _⟩ := cook_ok c addr ab raw base
  exact ⟨out, by rw [cookedAll, rawAll, h1]; exact h3, Nat.le_trans h4 h2⟩

theorem ens_cookedAt (dwo : Bool) (legacy v5 : Bytes) (offset base : Nat) (addr : Bytes) (ab : Nat) :
    (cookedAt k c dwo legacy v5 offset base addr ab).Ensures fun evs =>
      ∀ it, Ev.item it ∈ evs → it.b < it.e ∧ it.b < minTombstone c.addrSize := by
  rw [cookedAt_eq]
  generalize (if (sectionFormat k c.version dwo).1 then legacy else v5) = sec
  refine Out.Ensures.ite_cases (fun _ => Out.ensures_err _ _) fun _ => ?_
  obtain ⟨raw, h1, _⟩ := rawFuel_ok k c (sectionFormat k c.version dwo).2 _ (sec.drop offset) (Nat.lt_succ_self _)
  obtain ⟨out, h2, _, h3⟩ := cook_ok c addr ab raw base
  rw [cookedAll, rawAll, h1, Out.bind_ok, h2]
  exact Out.ensures_ok h3

theorem attrAddress_normal (u : UnitCtx) (secs : Sections) (v : AttrVal) :
    (attrAddress u secs v).Normal := by
  cases v with
  | addrx i => exact (getAddress_normal _ _ _ _).bind fun _ _ => trivial
  | _ => trivial

theorem attrRangesOffset_normal (u : UnitCtx) (secs : Sections) (v : AttrVal) :
    (attrRangesOffset u secs v).Normal := by
  cases v with
  | listx i => exact (getOffset_normal _ _ _ _).bind fun _ _ => trivial
  | _ => trivial

/-- a list that ends the attribute loop of `die_ranges` holds what the cooked iterator lets through -/
def ListYielded (s : Nat) (r : DieAcc ⊕ List (Ev Item)) : Prop :=
  ∀ evs, r = .inr evs → ∀ it, Ev.item it ∈ evs → it.b < it.e ∧ it.b < minTombstone s

theorem ens_dieRangesLoop (u : UnitCtx) (secs : Sections) : ∀ (attrs : Attrs) (acc : DieAcc),
    (dieRangesLoop u secs attrs acc).Ensures (ListYielded u.cfg.addrSize)
  | [], acc => Out.ensures_ok nofun
  | (n, v) :: rest, acc => by
    have ih := ens_dieRangesLoop u secs rest
    -- an address-valued attribute: the lookup fails, the form is unusable, or the loop goes on
    have addr : ∀ g : Nat → DieAcc, Out.Ensures (do
        match ← attrAddress u secs v with
        | some a => dieRangesLoop u secs rest (g a)
        | none => .err .rUnsupportedAttributeForm) (ListYielded u.cfg.addrSize) := fun g =>
      (attrAddress_normal u secs v).ensures.bind fun oa _ _ =>
        match oa with
        | some a => ih (g a)
        | none => Out.ensures_err _ _
    cases n with
    | lowPc => rw [dieRangesLoop]; exact addr _
    | highPc =>
      cases v with
      | udata val => rw [dieRangesLoop]; exact ih _
      | _ => simp only [dieRangesLoop]; exact addr _
    | ranges =>
      rw [dieRangesLoop]
      exact (attrRangesOffset_normal u secs v).ensures.bind fun oo _ _ =>
        match oo with
        | none => ih acc
        | some o => (ens_cookedAt ..).bind fun evs _ hev =>
            Out.ensures_ok fun _ h => by cases h; exact hev
    | _ => simp only [dieRangesLoop]; exact ih _

theorem keepSingle_some (s : Nat) (r : Option (Nat × Nat)) (b e : Nat)
    (h : keepSingle s r = some (b, e)) : r = some (b, e) ∧ b < e ∧ b < minTombstone s := by
  cases r with
  | none => cases h
  | some p =>
    by_cases hk : p.1 < minTombstone s ∧ p.1 < p.2
    · rw [keepSingle, if_pos hk] at h
      cases h
      exact ⟨rfl, hk.2, hk.1⟩
    · rw [keepSingle, if_neg hk] at h; cases h

/-- `die_ranges` returns normally, and every range in its result — the list of a `DW_AT_ranges` or
the filtered single range — is non-empty and begins below the tombstones -/
theorem ens_dieRangesCore (u : UnitCtx) (secs : Sections) (attrs : Attrs) :
    (dieRangesCore u secs attrs).Ensures fun r =>
      ∀ it, Ev.item it ∈ r.events → it.b < it.e ∧ it.b < minTombstone u.cfg.addrSize := by
  have single : ∀ p, ∀ it, Ev.item it ∈ (RangesResult.single (keepSingle u.cfg.addrSize p)).events →
      it.b < it.e ∧ it.b < minTombstone u.cfg.addrSize := by
    intro p it hit
    cases hk : keepSingle u.cfg.addrSize p with
    | none => rw [hk] at hit; cases hit
    | some q =>
      rw [hk] at hit
      cases List.mem_singleton.mp hit
      exact (keepSingle_some _ _ _ _ hk).2
  refine (ens_dieRangesLoop u secs attrs {}).bind fun r _ hr => ?_
  cases r with
  | inr evs => exact Out.ensures_ok (hr evs rfl)
  | inl acc =>
    dsimp only
    cases acc.lowPc with
    | none => exact Out.ensures_ok fun _ hit => nomatch hit
    | some b =>
      cases acc.size with
      | none => exact Out.ensures_ok (single _)
      | some sz => exact Out.Ensures.ite_cases (fun _ => Out.ensures_err _ _) fun _ => Out.ensures_ok (single _)

/-- attributes before a `DW_AT_ranges` that cannot end the loop of `die_ranges` with an error:
`DW_AT_low_pc` as `DW_FORM_addr`, `DW_AT_high_pc` as `DW_FORM_addr` or a constant, anything that is
not one of the three range attributes -/
def Benign : AttrName × AttrVal → Prop
  | (.lowPc, .addr _) => True
  | (.lowPc, _) => False
  | (.highPc, .addr _) => True
  | (.highPc, .udata _) => True
  | (.highPc, _) => False
  | (.ranges, _) => False
  | _ => True

instance (a : AttrName × AttrVal) : Decidable (Benign a) := by
  obtain ⟨n, v⟩ := a
  cases n <;> cases v <;> unfold Benign <;> infer_instance

/-- the loop state after benign attributes: the last `low_pc`, the last address-valued `high_pc`
and the last constant `high_pc` seen -/
def accStep (acc : DieAcc) : AttrName × AttrVal → DieAcc
  | (.lowPc, .addr a) => { acc with lowPc := some a }
  | (.highPc, .addr a) => { acc with highPc := some a }
  | (.highPc, .udata v) => { acc with size := some v }
  | _ => acc

theorem dieRangesLoop_benign_cons (u : UnitCtx) (secs : Sections) (a : AttrName × AttrVal)
    (rest : Attrs) (acc : DieAcc) (ha : Benign a) :
    dieRangesLoop u secs (a :: rest) acc = dieRangesLoop u secs rest (accStep acc a) := by
  obtain ⟨n, v⟩ := a
  cases n with
  | lowPc =>
    cases v with
    | addr x => simp only [dieRangesLoop, attrAddress, Out.bind_ok, accStep]
    | _ => cases ha
  | highPc =>
    cases v with
    | addr x => simp only [dieRangesLoop, attrAddress, Out.bind_ok, accStep]
    | udata w => simp only [dieRangesLoop, accStep]
    | _ => cases ha
  | ranges => cases ha
  | _ => simp only [dieRangesLoop, accStep]

theorem dieRangesLoop_benign (u : UnitCtx) (secs : Sections) : ∀ (pre rest : Attrs) (acc : DieAcc),
    (∀ a ∈ pre, Benign a) →
      dieRangesLoop u secs (pre ++ rest) acc = dieRangesLoop u secs rest (pre.foldl accStep acc)
  | [], _, _, _ => rfl
  | a :: pre, rest, acc, hb => by
    rw [List.cons_append, dieRangesLoop_benign_cons u secs a _ acc (hb a (List.mem_cons_self ..)),
      List.foldl_cons]
    exact dieRangesLoop_benign u secs pre rest _ fun x hx => hb x (List.mem_cons_of_mem _ hx)

/-- the value of the last attribute named `n` that is a section offset -/
def lastSec (n : AttrName) : Attrs → Option Nat
  | [] => none
  | (m, v) :: rest =>
    match lastSec n rest with
    | some o => some o
    | none => if m = n then (match v with | .secOffset o => some o | _ => none) else none

theorem lastSec_cons (n : AttrName) (a : AttrName × AttrVal) (rest : Attrs) :
    lastSec n (a :: rest) =
      match lastSec n rest with
      | some o => some o
      | none => lastSec n [a] := rfl

/-- `basesStep` folded over the root DIE's attributes: a field `g` that every step sets from a
section-offset attribute named `n`, and from nothing else, ends up as the last such attribute -/
theorem foldl_basesStep (n : AttrName) (g : UnitCtx → Nat)
    (hg : ∀ st a, g (basesStep st a).1 = (lastSec n [a]).getD (g st.1)) :
    ∀ (root : Attrs) (st : UnitCtx × Option AttrVal),
      g (root.foldl basesStep st).1 = (lastSec n root).getD (g st.1)
  | [], _ => rfl
  | a :: rest, st => by
    rw [List.foldl_cons, foldl_basesStep n g hg rest, hg, lastSec_cons n a rest]
    cases lastSec n rest <;> rfl

theorem foldl_basesStep_cfg : ∀ (root : Attrs) (st : UnitCtx × Option AttrVal),
    (root.foldl basesStep st).1.cfg = st.1.cfg ∧ (root.foldl basesStep st).1.dwo = st.1.dwo
  | [], _ => ⟨rfl, rfl⟩
  | a :: rest, st => by
    have h : (basesStep st a).1.cfg = st.1.cfg ∧ (basesStep st a).1.dwo = st.1.dwo := by
      unfold basesStep; split <;> exact ⟨rfl, rfl⟩
    have ih := foldl_basesStep_cfg rest (basesStep st a)
    exact ⟨ih.1.trans h.1, ih.2.trans h.2⟩

end Gimli.Lists
