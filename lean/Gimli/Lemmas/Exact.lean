import Gimli.Lemmas.Reads
import Gimli.Lemmas.Out
/-!
# Readers characterised exactly

`Exact rd P`: the reader `rd` returns `a` exactly on the inputs that begin with an encoding `pre` of `a`
(`P a pre`), it leaves what follows `pre` alone, and it never panics. Soundness, completeness, locality,
"consumes a prefix", "the value satisfies …" and totality of a reader are all read off this one statement.
It is stated for six primitives: `Leb.exact_unsigned`, `Leb.exact_signed`, `Ints.exact_take`, `Ints.exact_fixed`,
`Ints.exact_word`, `Ints.exact_address`; `u16`, the initial length, the address-size byte and the C strings have
`reads_…`, `_normal`, `_ensures` or `IsCStr` only. It has one composition rule, `Exact.bind`, where `Reads` has the
full set (`map`, `ite_neg`, `opt`, `ite`, `pure`, `congr`).
Last: `ReadsWithin`, the weaker statement a totality walk carries (returns, value has `P`, leaves a suffix).

"What a read leaves" is said in four forms: `Exact.ensures` (`∃ pre, bs = pre ++ rest ∧ P a pre`),
`Took bs rest n` (Lemmas/ReaderEnsures: the count, for the fixed-width readers), `rest <:+ bs` (`ReadsWithin`), and
`rest.length < bs.length` (`Leb.unsigned_ensures`, `signed_ensures`, `u16_ensures`, `IsCStr.ensures`: readers that take
at least one byte, whose count is not a function of the value, and all of whose users ask for the length). The first
three go from the strongest down (`Ints.readFixed_ensures` and `Exact.readsWithin` take `Exact` to the second and the
third), and each gives `rest.length ≤ bs.length` (`Exact.rest_le`, `Took.le`, `List.IsSuffix.length_le`); the strict
form does not follow from them (a read may take nothing). A walk over leaves of different forms meets at lengths.
-/
namespace Gimli
variable {α β : Type}

structure Exact (rd : Bytes → Out (α × Bytes)) (P : α → Bytes → Prop) : Prop where
  read : ∀ {a pre}, P a pre → Reads rd pre a
  sound : ∀ {bs a rest}, rd bs = .ok (a, rest) → ∃ pre, bs = pre ++ rest ∧ P a pre
  normal : ∀ bs, (rd bs).Normal

namespace Exact
variable {rd : Bytes → Out (α × Bytes)} {P : α → Bytes → Prop}

/-- a successful read does not depend on what follows the bytes it consumed -/
theorem «local» (h : Exact rd P) {bs : Bytes} {a : α} {rest : Bytes} (hr : rd bs = .ok (a, rest)) :
    ∃ pre, bs = pre ++ rest ∧ Reads rd pre a :=
  have ⟨pre, hb, hp⟩ := h.sound hr
  ⟨pre, hb, h.read hp⟩

theorem ensures (h : Exact rd P) (bs : Bytes) : (rd bs).Ensures fun x => ∃ pre, bs = pre ++ x.2 ∧ P x.1 pre :=
  ⟨h.normal bs, fun _ hr => h.sound hr⟩

theorem rest_le (h : Exact rd P) {bs : Bytes} {m : Nat} (hm : bs.length ≤ m) :
    (rd bs).Ensures fun p => p.2.length ≤ m :=
  (h.ensures bs).mono fun p ⟨pre, hb, _⟩ => by rw [hb, List.length_append] at hm; omega

theorem bind {g : α → Bytes → Out (β × Bytes)} {Q : α → β → Bytes → Prop} (hf : Exact rd P)
    (hg : ∀ a, Exact (g a) (Q a)) :
    Exact (fun bs => rd bs >>= fun x => g x.1 x.2) fun b pre => ∃ a p q, pre = p ++ q ∧ P a p ∧ Q a b q where
  read := by
    rintro b _ ⟨a, p, q, rfl, hp, hq⟩
    exact (hf.read hp).bind ((hg a).read hq)
  sound := by
    intro bs b rest hr
    obtain ⟨⟨a, r⟩, h1, h2⟩ := Out.bind_eq_ok hr
    obtain ⟨p, rfl, hp⟩ := hf.sound h1
    obtain ⟨q, rfl, hq⟩ := (hg a).sound h2
    exact ⟨p ++ q, (List.append_assoc ..).symm, a, p, q, rfl, hp, hq⟩
  normal := fun bs => (hf.normal bs).bind fun x _ => (hg x.1).normal x.2

/-- the forward reading with the value passed on to `k`: one operand, two operands -/
theorem read1 {γ : Type} (hf : Exact rd P) {k : α → γ} {a : α} {pa : Bytes} (ha : P a pa) (rest : Bytes) :
    (rd (pa ++ rest) >>= fun x => Pure.pure (k x.1, x.2)) = .ok (k a, rest) := by
  rw [hf.read ha]; rfl

theorem read2 {γ : Type} {g : Bytes → Out (β × Bytes)} {Q : β → Bytes → Prop} (hf : Exact rd P) (hg : Exact g Q)
    {k : α → β → γ} {a : α} {b : β} {pa pb : Bytes} (ha : P a pa) (hb : Q b pb) (rest : Bytes) :
    (rd (pa ++ pb ++ rest) >>= fun x => g x.2 >>= fun y => Pure.pure (k x.1 y.1, y.2)) = .ok (k a b, rest) := by
  rw [List.append_assoc, hf.read ha, Out.bind_ok, hg.read hb]; rfl

end Exact

/-! ### `ReadsWithin`: returns normally, the value has `P`, and what is left is a suffix of `bs`

The form that composes without arithmetic (`List.IsSuffix.trans`); `Exact.readsWithin` gives it for every reader that
has an `Exact`. -/

def ReadsWithin {α} (bs : Bytes) (x : Out (α × Bytes)) (P : α → Prop) : Prop :=
  x.Ensures fun p => P p.1 ∧ p.2 <:+ bs

namespace ReadsWithin
variable {α β : Type} {bs : Bytes} {P : α → Prop} {Q : β → Prop}

theorem pure {a : α} {r : Bytes} (ha : P a) (hr : r <:+ bs) : ReadsWithin bs (Pure.pure (a, r)) P :=
  Out.ensures_ok ⟨ha, hr⟩

theorem err (e : Err) : ReadsWithin bs (.err e) P := Out.ensures_err e _

theorem bind {x : Out (α × Bytes)} {f : α × Bytes → Out (β × Bytes)} (hx : ReadsWithin bs x P)
    (hf : ∀ a r, P a → r <:+ bs → ReadsWithin bs (f (a, r)) Q) : ReadsWithin bs (x >>= f) Q :=
  Out.Ensures.bind hx fun (a, r) _ h => hf a r h.1 h.2

theorem mono {x : Out (α × Bytes)} {r : Bytes} (h : ReadsWithin r x P) (hr : r <:+ bs) : ReadsWithin bs x P :=
  ⟨h.1, fun p hp => ⟨(h.2 p hp).1, (h.2 p hp).2.trans hr⟩⟩

theorem imp {x : Out (α × Bytes)} {P' : α → Prop} (h : ReadsWithin bs x P) (hP : ∀ a, P a → P' a) : ReadsWithin bs x P' :=
  ⟨h.1, fun p hp => ⟨hP _ (h.2 p hp).1, (h.2 p hp).2⟩⟩

end ReadsWithin

theorem Exact.readsWithin {α} {rd : Bytes → Out (α × Bytes)} {P : α → Bytes → Prop} (h : Exact rd P) (bs : Bytes)
    {Q : α → Prop} (hQ : ∀ a pre rest, bs = pre ++ rest → P a pre → Q a) : ReadsWithin bs (rd bs) Q :=
  ⟨h.normal bs, fun (a, r) hr =>
    have ⟨pre, hb, hp⟩ := h.sound hr
    ⟨hQ a pre r hb hp, hb ▸ List.suffix_append _ _⟩⟩

end Gimli
