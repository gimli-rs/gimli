import Gimli.Lemmas.Attr
/-! Lemmas for C03: `skip_attributes` against `read_attributes`, outcome by outcome (`SkipsAs`) —
after a successful read it is at the same position; a failed read it reproduces, except for the
errors it cannot see. `settle` turns the state of the skipper into a position, `settle_skipOne`
moves the pending bytes in front of the step, so that the induction over `DW_FORM_indirect`
(`skipOne_skipsAs`) runs with nothing pending; `skipLoop_skipsAs` has no side condition on the
pending bytes: when they overrun the input both sides are `UnexpectedEof`. What a client uses are the
two corollaries at the end, `skipLoop_of_readAttributes` (read succeeded) and
`skipLoop_err_of_readAttributes_err` (read failed with an error skipping can see); for `skipAttributes` itself,
and `legacy_offset_rule` for `DW_FORM_data4/8`, see the theorems of `Props/C03.lean`. -/
namespace Gimli.Attr
open Gimli Gimli.Ints

/-- where `skip_attributes` is once the bytes it has pending are skipped: pending bytes are a skip
not yet made -/
def settle (sk : Out (Nat × Bytes)) : Out Bytes := sk >>= fun x => skipN x.1 x.2

theorem skipN_add (p n : Nat) (bs : Bytes) : (skipN p bs >>= skipN n) = skipN (p + n) bs := by
  unfold skipN
  by_cases hp : p ≤ bs.length
  · simp only [if_pos hp, Out.bind_ok, List.length_drop, List.drop_drop, Nat.le_sub_iff_add_le' hp]
  · rw [if_neg hp, if_neg fun h => hp (Nat.le_trans (Nat.le_add_right p n) h)]; rfl

theorem settle_skipOne (enc : Encoding) (fuel : Nat) (form : Form) (p : Nat) (bs : Bytes) :
    settle (skipOne enc (fuel + 1) form p bs) =
      skipN p bs >>= fun b => settle (skipOne enc (fuel + 1) form 0 b) := by
  cases hsz : getAttributeSize form enc with
  | some n =>
    simp only [skipOne_succ_fixed _ _ _ _ _ _ hsz, settle, Out.bind_ok, Nat.zero_add]
    exact (skipN_add p n bs).symm
  | none =>
    by_cases hi : form = .indirect
    · subst hi
      simp only [skipOne_succ_indirect, flush_eq_skipN, skipN_zero, Out.bind_ok, settle, Out.bind_assoc]
    · simp only [skipOne_succ_var _ _ _ _ _ hsz hi, flush_eq_skipN, skipN_zero, Out.bind_ok, settle,
        Out.bind_assoc]

theorem settle_skipOne_direct (enc : Encoding) (spec : Spec) {fuel : Nat} {form : Form} {bs : Bytes}
    (hi : form ≠ .indirect) :
    settle (skipOne enc (fuel + 1) form 0 bs) = (shape enc spec form).skipper enc bs := by
  unfold Shape.skipper
  rw [← getAttributeSize_eq]
  cases hsz : getAttributeSize form enc with
  | some n => simp only [skipOne_succ_fixed _ _ _ _ _ _ hsz, settle, Out.bind_ok, Nat.zero_add]
  | none =>
    simp only [skipOne_succ_var _ _ _ _ _ hsz hi, flush_eq_skipN, skipN_zero, Out.bind_ok, settle,
      Out.bind_assoc, Out.pure_eq, Out.bind_ok_id, skipVar_eq enc spec]

theorem skipOne_skipsAs (enc : Encoding) (spec : Spec) : ∀ {f1 f2 : Nat} {form : Form} {bs : Bytes}, f1 ≤ f2 →
    SkipsAs (after (parseLoop enc spec f1 form bs)) (settle (skipOne enc f2 form 0 bs)) := by
  intro f1
  induction f1 with
  | zero => intros; trivial
  | succ f1 ih =>
    intro f2 form bs hf
    obtain ⟨f2, rfl⟩ := Nat.exists_eq_add_one_of_ne_zero (Nat.ne_zero_of_lt hf)
    by_cases hi : form = .indirect
    · subst hi
      rw [parseLoop_succ_indirect, skipOne_succ_indirect, flush_eq_skipN, skipN_zero, Out.bind_ok,
        after_bind, settle, Out.bind_assoc]
      cases Leb.u16 bs with
      | ok x => exact ih (Nat.le_of_succ_le_succ hf)
      | err x => exact .inr rfl
      | _ => trivial
    · rw [parseLoop_succ_direct _ _ _ _ _ hi, parseDirect_eq, settle_skipOne_direct enc spec hi]
      exact Shape.parse_skipsAs enc _ bs

theorem after_readAttributes_cons (enc : Encoding) (s : Spec) (ss : List Spec) (bs : Bytes) :
    after (readAttributes enc (s :: ss) bs) =
      after (parseAttribute enc s bs) >>= fun r => after (readAttributes enc ss r) := by
  rw [readAttributes_cons, after_bind, after, Out.bind_assoc]
  exact Out.bind_congr _ fun x => after_map _ _

theorem skipLoop_skipsAs (enc : Encoding) : ∀ (specs : List Spec) (p : Nat) (bs : Bytes),
    SkipsAs (skipN p bs >>= fun b => after (readAttributes enc specs b)) (skipLoop enc specs p bs) := by
  intro specs
  induction specs with
  | nil => intro p bs; rw [skipLoop, flush_eq_skipN]; exact .of_eq (by cases skipN p bs <;> rfl)
  | cons s ss ih =>
    intro p bs
    rw [skipLoop]
    refine SkipsAs.trans
      (b := settle (skipOne enc (bs.length + 1) s.form p bs) >>= fun b => after (readAttributes enc ss b)) ?_ ?_
    · rw [settle_skipOne, Out.bind_assoc]
      refine SkipsAs.bind_right _ fun b hb => ?_
      rw [after_readAttributes_cons, parseAttribute]
      exact SkipsAs.bind
        (skipOne_skipsAs enc s (Nat.succ_le_succ (consumes_le (skipN_ok hb)))) fun _ _ => .refl _
    · rw [settle, Out.bind_assoc]
      exact SkipsAs.bind_right _ fun x _ => ih x.1 x.2

theorem skipLoop_of_readAttributes (enc : Encoding) (specs : List Spec) (p : Nat) (bs : Bytes)
    (vs : List Value) (rest : Bytes) (hp : p ≤ bs.length)
    (h : readAttributes enc specs (bs.drop p) = .ok (vs, rest)) : skipLoop enc specs p bs = .ok rest := by
  have := skipLoop_skipsAs enc specs p bs
  rw [skipN_of_consumes ⟨hp, rfl⟩, Out.bind_ok] at this
  exact this.ok h

theorem skipLoop_err_of_readAttributes_err (enc : Encoding) (specs : List Spec) (p : Nat) (bs : Bytes)
    (x : Err) (hp : p ≤ bs.length) (h : readAttributes enc specs (bs.drop p) = .err x)
    (hx : ¬ ReadOnlyErr x) : skipLoop enc specs p bs = .err x := by
  have := skipLoop_skipsAs enc specs p bs
  rw [skipN_of_consumes ⟨hp, rfl⟩, Out.bind_ok] at this
  exact (this.err h).resolve_left hx

end Gimli.Attr
