import Gimli.Lemmas.Eval
/-!
# C07: the `u32` iteration counter at its extremes (finding C07-2)

`evaluate_internal` compares `iteration >= max_iterations` first and then increments with
`saturating_add` (`src/read/op.rs`, the `fix:` "expression iteration counter overflow"). An
increment that came before the comparison would, with `max_iterations = u32::MAX`, make a test that
never succeeds and overflow after `2^32` iterations: a panic with overflow checks, without them a
wrap to 0 and an evaluation that never ends. The theorems state the behaviour at both extremes on
the endless loop `DW_OP_skip -3`.
-/
open Gimli Gimli.Op Gimli.Eval
namespace Gimli.Eval

/-- `DW_OP_skip -3`: a one-operation endless loop -/
def selfLoop : Bytes := [0x2f, 0xfd, 0xff]

def loopCfg (mode : Mode) (mx : Option Nat) : Config :=
  { endian := .little, encoding := ⟨4, .dwarf32, 4⟩, caps := {}, mode := mode, objectAddress := none,
    maxIterations := mx, addrMask := 2 ^ 32 - 1 }

def loopMach : Mach := { bytecode := selfLoop, pc := selfLoop }

def loopState (mode : Mode) (mx : Option Nat) (it dec : Nat) : Eval :=
  { cfg := loopCfg mode mx, m := loopMach, iteration := it, state := .ready, decodes := dec }

theorem selfLoop_op (mode : Mode) (mx : Option Nat) :
    evaluateOneOperation (loopCfg mode mx) loopMach = .ok (.incomplete, loopMach) := by
  have h1 : parse .little ⟨4, .dwarf32, 4⟩ selfLoop = .ok (.skip (-3), []) := by decide +kernel
  have h2 : computePc [] selfLoop (-3) = .ok selfLoop := by decide +kernel
  unfold evaluateOneOperation
  rw [show (loopCfg mode mx).endian = .little from rfl, show (loopCfg mode mx).encoding = ⟨4, .dwarf32, 4⟩ from rfl,
    show loopMach.pc = selfLoop from rfl, h1, Out.bind_ok]
  unfold execute
  simp only []
  rw [show loopMach.bytecode = selfLoop from rfl, h2]
  rfl

theorem selfLoop_step (mode : Mode) (mx : Option Nat) (k : Eval → Out (Request × Eval)) (it dec : Nat) :
    loopBody k (loopState mode mx it dec) =
      (match overLimit mx it with
       | true => .err .rTooManyIterations
       | false => k (loopState mode mx (saturatingInc it) (dec + 1))) := by
  unfold loopBody
  have h1 : endOfExpression (loopState mode mx it dec).m = (false, loopMach) := rfl
  rw [h1]
  show (match overLimit mx it with
        | true => _
        | false => _) = _
  cases overLimit mx it with
  | true => rfl
  | false =>
    simp only []
    show (evaluateOneOperation (loopCfg mode mx) loopMach >>= _) = _
    rw [selfLoop_op]
    simp only [Out.bind_ok, afterOp]
    have h2 : endOfExpression loopMach = (false, loopMach) := rfl
    rw [h2]
    rfl

/-- with the largest limit the endless loop is stopped by `TooManyIterations` after exactly
`u32::MAX` operations -/
theorem selfLoop_u32_max_limit (mode : Mode) : ∀ (n it dec : Nat), it + n = 2 ^ 32 - 1 →
    evaluateInternal (n + 1) (loopState mode (some (2 ^ 32 - 1)) it dec) = .err .rTooManyIterations := by
  intro n
  induction n with
  | zero =>
    intro it dec h
    rw [evaluateInternal, selfLoop_step]
    have : overLimit (some (2 ^ 32 - 1)) it = true := by simp [overLimit]; omega
    rw [this]
  | succ n ih =>
    intro it dec h
    rw [evaluateInternal, selfLoop_step]
    have : overLimit (some (2 ^ 32 - 1)) it = false := by simp [overLimit]; omega
    rw [this]
    simp only []
    rw [saturatingInc_lt it (2 ^ 32 - 1) (by omega) (by omega)]
    exact ih _ _ (by omega)

/-- without a limit the counter saturates: however long the loop runs there is no panic (in either
build mode) — only fuel runs out -/
theorem selfLoop_no_limit_never_panics (mode : Mode) : ∀ (fuel it dec : Nat),
    evaluateInternal fuel (loopState mode none it dec) = .diverge := by
  intro fuel
  induction fuel with
  | zero => intro it dec; rfl
  | succ fuel ih =>
    intro it dec
    rw [evaluateInternal, selfLoop_step]
    exact ih _ _

end Gimli.Eval
