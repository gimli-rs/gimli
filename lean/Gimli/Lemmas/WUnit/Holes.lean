import Gimli.Lemmas.WUnit.Layout
import Gimli.Lemmas.Overwrite
/-!
# C11, placeholders and the loops that patch them

Pass 2 leaves two kinds of placeholders: `unit_refs` (patched when the unit is complete) and
`debug_info_refs` (patched when all units are). `Holes` is what every piece of pass 2 guarantees
about them, and it is closed under concatenation, so it holds of whole trees. Both patch loops
are one loop, `patchAll`, over different resolvers.
-/
namespace Gimli.WUnit
open Gimli Gimli.Ints

theorem writeAt_ok {buf new out : Bytes} {pos : Nat} (h : writeAt buf pos new = .ok out) :
    pos + new.length ≤ buf.length ∧ out = overwrite buf pos new :=
  overwrite_guard_eq_ok.mp h

/-- patches in increasing order, pairwise disjoint, all inside `[lo, hi)` -/
def Placed : Nat → Nat → List (Nat × Nat) → Prop
  | lo, hi, [] => lo ≤ hi
  | lo, hi, (p, size) :: rest => lo ≤ p ∧ Placed (p + size) hi rest

namespace Placed

theorem le {l : List (Nat × Nat)} {lo hi : Nat} (h : Placed lo hi l) : lo ≤ hi := by
  induction l generalizing lo with
  | nil => exact h
  | cons p rest ih => exact Nat.le_trans h.1 (Nat.le_trans (Nat.le_add_right ..) (ih h.2))

theorem weaken {l : List (Nat × Nat)} {lo hi lo' hi' : Nat} (h : Placed lo hi l) (h1 : lo' ≤ lo)
    (h2 : hi ≤ hi') : Placed lo' hi' l := by
  induction l generalizing lo lo' with
  | nil => exact Nat.le_trans h1 (Nat.le_trans h h2)
  | cons p rest ih => exact ⟨Nat.le_trans h1 h.1, ih h.2 (Nat.le_refl _)⟩

theorem append {a b : List (Nat × Nat)} {lo mid hi : Nat} (ha : Placed lo mid a) (hb : Placed mid hi b) :
    Placed lo hi (a ++ b) := by
  induction a generalizing lo with
  | nil => exact weaken hb ha (Nat.le_refl _)
  | cons p rest ih => exact ⟨ha.1, ih ha.2⟩

end Placed

theorem Placed.within : ∀ {l : List (Nat × Nat)} {lo hi : Nat}, Placed lo hi l →
    ∀ h ∈ l, lo ≤ h.1 ∧ h.1 + h.2 ≤ hi := by
  intro l
  induction l with
  | nil => intro _ _ _ _ hm; exact nomatch hm
  | cons p rest ih =>
    intro lo hi hp h hm
    rcases List.mem_cons.mp hm with rfl | hm
    · exact ⟨hp.1, hp.2.le⟩
    · exact ⟨Nat.le_trans hp.1 (Nat.le_trans (Nat.le_add_right ..) (ih hp.2 h hm).1), (ih hp.2 h hm).2⟩

/-- the shape of both patch loops: resolve the next item to a position and the bytes that go
there (or fail), `write_at` them, go on -/
def patchAll {α : Type} (res : α → Out (Nat × Bytes)) (buf : Bytes) : List α → Out Bytes
  | [] => .ok buf
  | x :: rest => do
    let (pos, b) ← res x
    let buf ← writeAt buf pos b
    patchAll res buf rest

section PatchAll
variable {α : Type} {res : α → Out (Nat × Bytes)}

theorem patchAll_ok {xs : List α} {buf out : Bytes} (h : patchAll res buf xs = .ok out) :
    out.length = buf.length ∧ ∀ x ∈ xs, ∃ pos b, res x = .ok (pos, b) ∧ pos + b.length ≤ buf.length := by
  induction xs generalizing buf with
  | nil => cases h; exact ⟨rfl, fun _ hx => (List.not_mem_nil hx).elim⟩
  | cons x rest ih =>
    rw [patchAll] at h
    obtain ⟨⟨pos, b⟩, hr, h⟩ := Out.bind_eq_ok h
    obtain ⟨buf1, hw, h⟩ := Out.bind_eq_ok h
    obtain ⟨hb, rfl⟩ := writeAt_ok hw
    obtain ⟨i1, i2⟩ := ih h
    have hl := length_overwrite hb
    refine ⟨i1.trans hl, fun y hy => ?_⟩
    rcases List.mem_cons.mp hy with rfl | hy
    · exact ⟨pos, b, hr, hb⟩
    · exact hl ▸ i2 y hy

theorem patchAll_frame {xs : List α} {buf out : Bytes} (h : patchAll res buf xs = .ok out) (i : Nat)
    (hi : ∀ x ∈ xs, ∀ pos b, res x = .ok (pos, b) → i < pos ∨ pos + b.length ≤ i) : out[i]? = buf[i]? := by
  induction xs generalizing buf with
  | nil => cases h; rfl
  | cons x rest ih =>
    rw [patchAll] at h
    obtain ⟨⟨pos, b⟩, hr, h⟩ := Out.bind_eq_ok h
    obtain ⟨buf1, hw, h⟩ := Out.bind_eq_ok h
    obtain ⟨hb, rfl⟩ := writeAt_ok hw
    rw [ih h fun y hy => hi y (List.mem_cons_of_mem _ hy),
      getElem?_overwrite_outside hb (hi x (List.mem_cons_self ..) pos b hr)]

/-- `hole` says where an item's patch goes without running the resolver, so that the order of the
patches can be a hypothesis about the list alone. -/
theorem patchAll_placed (hole : α → Nat × Nat)
    (hhole : ∀ x pos b, res x = .ok (pos, b) → hole x = (pos, b.length))
    {xs : List α} {buf out : Bytes} {lo hi : Nat} (h : patchAll res buf xs = .ok out)
    (hp : Placed lo hi (xs.map hole)) :
    (∀ x ∈ xs, ∃ pos b, res x = .ok (pos, b) ∧ ∀ i, i < b.length → out[pos + i]? = b[i]?) ∧
    (∀ i, i < lo ∨ hi ≤ i → out[i]? = buf[i]?) ∧ out.length = buf.length := by
  induction xs generalizing buf lo with
  | nil => cases h; exact ⟨fun _ hx => (List.not_mem_nil hx).elim, fun _ _ => rfl, rfl⟩
  | cons x rest ih =>
    rw [patchAll] at h
    obtain ⟨⟨pos, b⟩, hr, h⟩ := Out.bind_eq_ok h
    obtain ⟨buf1, hw, h⟩ := Out.bind_eq_ok h
    obtain ⟨hb, rfl⟩ := writeAt_ok hw
    rw [List.map_cons, hhole x pos b hr] at hp
    -- the later patches lie behind this one, so what is written here stays
    obtain ⟨i1, i2, i3⟩ := ih h hp.2
    have hle := Placed.le hp.2
    have hlo : lo ≤ pos := hp.1
    refine ⟨fun y hy => ?_, fun i hi' => ?_, i3.trans (length_overwrite hb)⟩
    · rcases List.mem_cons.mp hy with rfl | hy
      · refine ⟨pos, b, hr, fun i hi' => ?_⟩
        rw [i2 (pos + i) (.inl (Nat.add_lt_add_left hi' pos)), getElem?_overwrite_inside hb hi']
      · exact i1 y hy
    · -- outside `[lo, hi)` is outside this patch and outside the later ones
      rw [i2 i (hi'.imp_left (Nat.lt_of_lt_of_le · (Nat.le_trans hlo (Nat.le_add_right ..)))),
        getElem?_overwrite_outside hb (hi'.imp (Nat.lt_of_lt_of_le · hlo) (Nat.le_trans hle))]

end PatchAll

/-- a run of `write_at` calls: `patchAll` with the resolver `.ok`. `applyPatches_placed` states `patchAll_placed` in that
plain form; the writer's two loops (`patchUnitRefs_placed`, `applyFixups_placed`) go through `patchAll_placed` itself. -/
def applyPatches (buf : Bytes) : List (Nat × Bytes) → Out Bytes
  | [] => .ok buf
  | (pos, b) :: rest => do
    let buf ← writeAt buf pos b
    applyPatches buf rest

theorem applyPatches_eq (ps : List (Nat × Bytes)) (buf : Bytes) : applyPatches buf ps = patchAll .ok buf ps := by
  induction ps generalizing buf with
  | nil => rfl
  | cons p rest ih =>
    obtain ⟨pos, b⟩ := p
    rw [applyPatches, patchAll, Out.bind_ok]
    exact Out.bind_congr _ ih

/-- **Patches that do not overlap all survive**: after the run every patch's bytes stand at its
position and every byte outside `[lo, hi)` is untouched. -/
theorem applyPatches_placed : ∀ (ps : List (Nat × Bytes)) (buf out : Bytes) (lo hi : Nat),
    applyPatches buf ps = .ok out → Placed lo hi (ps.map (fun p => (p.1, p.2.length))) →
    (∀ p ∈ ps, ∀ i, i < p.2.length → out[p.1 + i]? = p.2[i]?) ∧
    (∀ i, i < lo ∨ hi ≤ i → out[i]? = buf[i]?) ∧ out.length = buf.length := by
  intro ps buf out lo hi h hp
  rw [applyPatches_eq] at h
  obtain ⟨q1, q2⟩ := patchAll_placed (fun p => (p.1, p.2.length)) (fun _ _ _ h => by cases h; rfl) h hp
  refine ⟨fun p hp i hi => ?_, q2⟩
  obtain ⟨pos, b, hr, hb⟩ := q1 p hp
  cases hr
  exact hb i hi

def holesU (word : Nat) (em : Emit) : List (Nat × Nat) := em.urefs.map (fun r => (r.1, word))
def holesI (fx : List IFix) : List (Nat × Nat) := fx.map (fun f => (f.pos, f.size))

theorem holesI_append (a b : List IFix) : holesI (a ++ b) = holesI a ++ holesI b := List.map_append

theorem holesU_within {word lo hi : Nat} {em : Emit} {r : Nat × Nat} (hp : Placed lo hi (holesU word em))
    (hr : r ∈ em.urefs) : lo ≤ r.1 ∧ r.1 + word ≤ hi :=
  hp.within (r.1, word) (List.mem_map.mpr ⟨r, hr, rfl⟩)

theorem holesI_within {lo hi : Nat} {fx : List IFix} {f : IFix} (hp : Placed lo hi (holesI fx)) (hf : f ∈ fx) :
    lo ≤ f.pos ∧ f.pos + f.size ≤ hi :=
  hp.within (f.pos, f.size) (List.mem_map.mpr ⟨f, hf, rfl⟩)

/-- where and what the `unit_refs` loop writes for one reference -/
def resolveURef (e : Endian) (word : Nat) (o : Offs) (r : Nat × Nat) : Out (Nat × Bytes) := do
  match ← o.unitOffset r.2 with
  | some u => do
    let b ← writeUdata e u word
    pure (r.1, b)
  | none => .err .wInvalidReference

theorem patchUnitRefs_eq (e : Endian) (word : Nat) (o : Offs) (refs : List (Nat × Nat)) (info : Bytes) :
    patchUnitRefs e word o info refs = patchAll (resolveURef e word o) info refs := by
  induction refs generalizing info with
  | nil => rfl
  | cons r rest ih =>
    obtain ⟨pos, id⟩ := r
    rw [patchUnitRefs, patchAll, resolveURef, Out.bind_assoc]
    refine Out.bind_congr _ fun r => ?_
    cases r with
    | none => rfl
    | some u =>
      rw [Out.bind_assoc]
      refine Out.bind_congr _ fun b => ?_
      rw [Out.pure_eq, Out.bind_ok]
      exact Out.bind_congr _ ih

theorem resolveURef_ok {e : Endian} {word : Nat} {o : Offs} {r : Nat × Nat} {pos : Nat} {b : Bytes}
    (h : resolveURef e word o r = .ok (pos, b)) :
    pos = r.1 ∧ ∃ u, o.unitOffset r.2 = .ok (some u) ∧ writeUdata e u word = .ok b := by
  obtain ⟨ru, hu, h⟩ := Out.bind_eq_ok h
  cases ru with
  | none => cases h
  | some u =>
    obtain ⟨b', hb, h⟩ := Out.bind_eq_ok h
    cases h
    exact ⟨rfl, u, hu, hb⟩

/-- where and what `write_debug_info_fixups` writes for one fix-up -/
def resolveFix (e : Endian) (units : List Offs) (f : IFix) : Out (Nat × Bytes) :=
  match units[f.unit]? with
  | none => .panic "index out of bounds (UnitTable.units)"
  | some o => do
    match ← o.debugInfoOffset f.id with
    | some off => do
      let b ← writeUdata e off f.size
      pure (f.pos, b)
    | none => .err .wInvalidReference

theorem applyFixups_eq (e : Endian) (units : List Offs) (fx : List IFix) (info : Bytes) :
    applyFixups e units info fx = patchAll (resolveFix e units) info fx := by
  induction fx generalizing info with
  | nil => rfl
  | cons f rest ih =>
    rw [applyFixups, patchAll, resolveFix]
    cases units[f.unit]? with
    | none => rfl
    | some o =>
      dsimp only
      rw [Out.bind_assoc]
      refine Out.bind_congr _ fun r => ?_
      cases r with
      | none => rfl
      | some off =>
        rw [Out.bind_assoc]
        refine Out.bind_congr _ fun b => ?_
        rw [Out.pure_eq, Out.bind_ok]
        exact Out.bind_congr _ ih

theorem resolveFix_ok {e : Endian} {units : List Offs} {f : IFix} {pos : Nat} {b : Bytes}
    (h : resolveFix e units f = .ok (pos, b)) :
    pos = f.pos ∧ ∃ o off, units[f.unit]? = some o ∧ o.debugInfoOffset f.id = .ok (some off) ∧
      writeUdata e off f.size = .ok b := by
  unfold resolveFix at h
  split at h
  · cases h
  · rename_i o ho
    obtain ⟨r, hr, h⟩ := Out.bind_eq_ok h
    cases r with
    | none => cases h
    | some off =>
      obtain ⟨b', hb, h⟩ := Out.bind_eq_ok h
      cases h
      exact ⟨rfl, o, off, ho, hr, hb⟩

theorem patchUnitRefs_placed (e : Endian) (word : Nat) (o : Offs) (refs : List (Nat × Nat))
    (info info' : Bytes) (lo hi : Nat) (h : patchUnitRefs e word o info refs = .ok info')
    (hp : Placed lo hi (refs.map (fun r => (r.1, word)))) :
    (∀ r ∈ refs, ∃ u, o.unitOffset r.2 = .ok (some u) ∧
      ∀ i, i < word → info'[r.1 + i]? = (toBytes e word u)[i]?) ∧
    (∀ i, i < lo ∨ hi ≤ i → info'[i]? = info[i]?) ∧ info'.length = info.length := by
  rw [patchUnitRefs_eq] at h
  obtain ⟨q1, q2⟩ := patchAll_placed (fun r => (r.1, word)) (fun r pos b hr => by
    obtain ⟨rfl, _, _, hw⟩ := resolveURef_ok hr
    rw [writeUdata_length hw]) h hp
  refine ⟨fun r hr => ?_, q2⟩
  obtain ⟨pos, b, hres, hb⟩ := q1 r hr
  obtain ⟨rfl, u, hu, hw⟩ := resolveURef_ok hres
  exact ⟨u, hu, fun i hi => (writeUdata_ok hw).1 ▸ hb i (writeUdata_length hw ▸ hi)⟩

theorem applyFixups_placed (e : Endian) (units : List Offs) (fx : List IFix) (info info' : Bytes)
    (lo hi : Nat) (h : applyFixups e units info fx = .ok info') (hp : Placed lo hi (holesI fx)) :
    (∀ f ∈ fx, ∃ o off, units[f.unit]? = some o ∧ o.debugInfoOffset f.id = .ok (some off) ∧
      ∀ i, i < f.size → info'[f.pos + i]? = (toBytes e f.size off)[i]?) ∧
    (∀ i, i < lo ∨ hi ≤ i → info'[i]? = info[i]?) ∧ info'.length = info.length := by
  rw [applyFixups_eq] at h
  obtain ⟨q1, q2⟩ := patchAll_placed (fun f => (f.pos, f.size)) (fun f pos b hr => by
    obtain ⟨rfl, _, _, _, _, hw⟩ := resolveFix_ok hr
    rw [writeUdata_length hw]) h hp
  refine ⟨fun f hf => ?_, q2⟩
  obtain ⟨pos, b, hres, hb⟩ := q1 f hf
  obtain ⟨rfl, o, off, ho, hoff, hw⟩ := resolveFix_ok hres
  exact ⟨o, off, ho, hoff, fun i hi => (writeUdata_ok hw).1 ▸ hb i (writeUdata_length hw ▸ hi)⟩

def CrossDisj (word : Nat) (em : Emit) : Prop :=
  ∀ r ∈ em.urefs, ∀ f ∈ em.ifix, r.1 + word ≤ f.pos ∨ f.pos + f.size ≤ r.1

/-- what a piece of pass 2 written at `pos` guarantees about the placeholders it leaves: each
kind in increasing order and inside the bytes of the piece, and no two of different kinds overlap -/
structure Holes (word pos : Nat) (em : Emit) : Prop where
  urefs : Placed pos (pos + em.bytes.length) (holesU word em)
  ifix : Placed pos (pos + em.bytes.length) (holesI em.ifix)
  cross : CrossDisj word em

namespace Holes

theorem of_one_kind {word pos : Nat} {em : Emit} (hu : Placed pos (pos + em.bytes.length) (holesU word em))
    (hi : Placed pos (pos + em.bytes.length) (holesI em.ifix)) (h : em.urefs = [] ∨ em.ifix = []) :
    Holes word pos em :=
  ⟨hu, hi, fun r hr f hf => by
    rcases h with h | h
    · exact (List.not_mem_nil (h ▸ hr)).elim
    · exact (List.not_mem_nil (h ▸ hf)).elim⟩

theorem of_nil {word pos : Nat} {em : Emit} (hu : em.urefs = []) (hi : em.ifix = []) : Holes word pos em :=
  of_one_kind (by rw [holesU, hu]; exact Nat.le_add_right ..) (by rw [hi]; exact Nat.le_add_right ..) (.inl hu)

theorem append {word pos : Nat} {a b : Emit} (ha : Holes word pos a)
    (hb : Holes word (pos + a.bytes.length) b) : Holes word pos (a ++ b) := by
  have hlen : pos + (a ++ b).bytes.length = pos + a.bytes.length + b.bytes.length := by
    rw [Emit.append_bytes, List.length_append, Nat.add_assoc]
  refine ⟨?_, ?_, fun r hr f hf => ?_⟩
  · rw [hlen, holesU, Emit.append_urefs, List.map_append]; exact ha.urefs.append hb.urefs
  · rw [hlen, Emit.append_ifix, holesI_append]; exact ha.ifix.append hb.ifix
  · -- placeholders of different pieces lie in different pieces
    rw [Emit.append_urefs, List.mem_append] at hr
    rw [Emit.append_ifix, List.mem_append] at hf
    rcases hr with hr | hr <;> rcases hf with hf | hf
    · exact ha.cross r hr f hf
    · exact .inl (Nat.le_trans (holesU_within ha.urefs hr).2 (holesI_within hb.ifix hf).1)
    · exact .inr (Nat.le_trans (holesI_within ha.ifix hf).2 (holesU_within hb.urefs hr).1)
    · exact hb.cross r hr f hf

end Holes

/-- only `DW_OP_call_ref` leaves a placeholder: its operand, behind the opcode byte -/
theorem exprItemEmit_placed {cx : Ctx} {pos : Nat} {it : ExprItem} {a : Bytes} {fa : List IFix}
    (h : exprItemEmit cx pos it = .ok (a, fa)) : Placed pos (pos + a.length) (holesI fa) := by
  cases it <;> dsimp only [exprItemEmit] at h
  case raw b => cases h; exact Nat.le_add_right ..
  case convert id =>
    obtain ⟨u, -, h⟩ := Out.bind_eq_ok h
    cases u <;> cases h
    exact Nat.le_add_right ..
  case call id =>
    obtain ⟨u, -, h⟩ := Out.bind_eq_ok h
    cases u with
    | none => cases h
    | some u =>
      obtain ⟨b, -, h⟩ := Out.bind_eq_ok h
      cases h
      exact Nat.le_add_right ..
  case callRef unit id =>
    obtain ⟨b, hb, h⟩ := Out.bind_eq_ok h
    cases h
    exact ⟨Nat.le_succ _, show pos + 1 + cx.enc.word ≤ pos + (b.length + 1) from
      Nat.le_of_eq (by rw [writeUdata_length hb, Nat.add_assoc, Nat.add_comm 1])⟩

theorem exprItemsEmit_placed (cx : Ctx) (items : List ExprItem) (pos : Nat) (bs : Bytes) (fx : List IFix)
    (h : exprItemsEmit cx pos items = .ok (bs, fx)) : Placed pos (pos + bs.length) (holesI fx) := by
  induction items generalizing pos bs fx with
  | nil => cases h; exact Nat.le_refl _
  | cons it rest ih =>
    rw [exprItemsEmit] at h
    obtain ⟨⟨a, fa⟩, ha, h⟩ := Out.bind_eq_ok h
    obtain ⟨⟨r, fr⟩, hr, h⟩ := Out.bind_eq_ok h
    cases h
    rw [List.length_append, ← Nat.add_assoc, holesI_append]
    exact (exprItemEmit_placed ha).append (ih _ r fr hr)

theorem attrEmit_holes {cx : Ctx} {pos : Nat} {v : AttrVal} {em : Emit} (h : attrEmit cx pos v = .ok em) :
    Holes cx.enc.word pos em := by
  rcases attrEmit_shape h with ⟨bs, rfl⟩ | ⟨items, len, body, fx, hb, rfl⟩ | ⟨id, b, hb, rfl⟩ | ⟨unit, id, b, rfl⟩
  · exact .of_nil rfl rfl
  · refine .of_one_kind (Nat.le_add_right ..) ?_ (.inl rfl)
    rw [List.length_append, ← Nat.add_assoc]
    exact (exprItemsEmit_placed cx items _ body fx hb).weaken (Nat.le_add_right ..) (Nat.le_refl _)
  · exact .of_one_kind ⟨Nat.le_refl _, Nat.le_of_eq (by rw [hb])⟩ (Nat.le_add_right ..) (.inr rfl)
  · exact .of_one_kind (Nat.le_add_right ..) ⟨Nat.le_refl _, Nat.le_refl _⟩ (.inl rfl)

theorem attrsEmit_holes (cx : Ctx) (attrs : List (Nat × AttrVal)) (pos : Nat) (em : Emit)
    (h : attrsEmit cx pos attrs = .ok em) : Holes cx.enc.word pos em := by
  induction attrs generalizing pos em with
  | nil => cases h; exact .of_nil rfl rfl
  | cons nv rest ih =>
    obtain ⟨_, v⟩ := nv
    rw [attrsEmit] at h
    obtain ⟨a, ha, h⟩ := Out.bind_eq_ok h
    obtain ⟨r, hr, h⟩ := Out.bind_eq_ok h
    cases h
    exact (attrEmit_holes ha).append (ih _ r hr)

theorem emit_holes (cx : Ctx) :
    (∀ (t : Tree) (pos : Nat) (em : Emit), emitTree cx pos t = .ok em → Holes cx.enc.word pos em) ∧
    (∀ (f : Forest) (pos : Nat) (em : Emit), emitForest cx pos f = .ok em → Holes cx.enc.word pos em) := by
  refine tree_induction (fun id tag sib attrs ch ih pos em h => ?_) (fun pos em h => ?_)
    (fun t rest iht ihf pos em h => ?_)
  · obtain ⟨code, sibBs, a, k, -, -, ha, hk, rfl, -⟩ := emitTree_node h
    refine ((Holes.of_nil rfl rfl).append (attrsEmit_holes cx attrs _ a ?_)).append
      ((ih _ k ?_).append (.of_nil rfl rfl))
    · rwa [List.length_append, ← Nat.add_assoc]
    · rwa [Emit.append_bytes, List.length_append, List.length_append, ← Nat.add_assoc, ← Nat.add_assoc]
  · rw [emitForest] at h; cases h; exact .of_nil rfl rfl
  · rw [emitForest] at h
    obtain ⟨a, ha, h⟩ := Out.bind_eq_ok h
    obtain ⟨r, hr, h⟩ := Out.bind_eq_ok h
    cases h
    exact (iht pos a ha).append (ihf _ r hr)

theorem emitForest_crossDisj (cx : Ctx) : ∀ (f : Forest) (pos : Nat) (em : Emit), emitForest cx pos f = .ok em →
    CrossDisj cx.enc.word em :=
  fun f pos em h => ((emit_holes cx).2 f pos em h).cross

end Gimli.WUnit
