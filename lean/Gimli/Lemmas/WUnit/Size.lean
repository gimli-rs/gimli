import Gimli.Model.WUnit
import Gimli.Lemmas.Ints
import Gimli.Lemmas.Out
/-!
# C11, value by value: what `AttributeValue::size` predicts is what `AttributeValue::write` emits

Also the inversions of the primitive writers that every later module reads a successful write
through, and the shape of what a successful `AttributeValue::write` hands back.
-/
namespace Gimli.WUnit
open Gimli Gimli.Ints

/-- the kinds written as one `write_udata` of a value that is final when pass 2 runs -/
theorem udataEmit_ok {e : Endian} {v size : Nat} {em : Emit}
    (h : (do let b ← writeUdata e v size; pure (Emit.ofBytes b) : Out Emit) = .ok em) :
    em = .ofBytes (toBytes e size v) ∧ (size = 8 ∨ (size = 1 ∨ size = 2 ∨ size = 4) ∧ v < 2 ^ (8 * size)) := by
  obtain ⟨b, hb, h⟩ := Out.bind_eq_ok h
  cases h
  exact ⟨(writeUdata_ok hb).1 ▸ rfl, (writeUdata_ok hb).2⟩

theorem tableOffset_ok {offsets : List Nat} {idx off : Nat} (h : tableOffset offsets idx = .ok off) :
    offsets[idx]? = some off := by
  unfold tableOffset at h
  split at h <;> cases h
  assumption

/-- inversion of the `String` arm of `AttributeValue::write` -/
theorem string_emit_inv (bs : Bytes) (em : Emit)
    (h : (if bs.contains 0 then .err .wInvalidAttributeValue else .ok (Emit.ofBytes (bs ++ [0])) : Out Emit) = .ok em) :
    bs.contains 0 = false ∧ em = Emit.ofBytes (bs ++ [0]) := by
  obtain ⟨hc, h⟩ := Out.ite_err_eq_ok h
  cases h
  exact ⟨Bool.eq_false_iff.mpr hc, rfl⟩

@[simp] theorem Emit.append_bytes (a b : Emit) : (a ++ b).bytes = a.bytes ++ b.bytes := rfl
@[simp] theorem Emit.append_urefs (a b : Emit) : (a ++ b).urefs = a.urefs ++ b.urefs := rfl
@[simp] theorem Emit.append_ifix (a b : Emit) : (a ++ b).ifix = a.ifix ++ b.ifix := rfl
@[simp] theorem Emit.append_starts (a b : Emit) : (a ++ b).starts = a.starts ++ b.starts := rfl

/-- `b` knows everything `a` knows -/
def Offs.Ext (a b : Offs) : Prop :=
  a.unit = b.unit ∧ a.n = b.n ∧ ∀ id o, a.map id = some o → b.map id = some o

theorem Offs.Ext.refl (a : Offs) : a.Ext a := ⟨rfl, rfl, fun _ _ h => h⟩

theorem Offs.Ext.trans {a b c : Offs} (h1 : a.Ext b) (h2 : b.Ext c) : a.Ext c :=
  ⟨h1.1.trans h2.1, h1.2.1.trans h2.2.1, fun id o h => h2.2.2 id o (h1.2.2 id o h)⟩

theorem unitOffset_eq_some {o : Offs} {id u : Nat} :
    o.unitOffset id = .ok (some u) ↔ id < o.n ∧ ∃ off, o.map id = some off ∧ u = off - o.unit := by
  unfold Offs.unitOffset Offs.debugInfoOffset
  by_cases hlt : id < o.n
  · rw [if_pos hlt, and_iff_right hlt]
    cases o.map id with
    | none => exact ⟨nofun, nofun⟩
    | some off =>
      constructor
      · intro h; cases h; exact ⟨off, rfl, rfl⟩
      · rintro ⟨_, h, rfl⟩; cases h; rfl
  · rw [if_neg hlt]
    exact ⟨nofun, fun h => absurd h.1 hlt⟩

theorem unitOffset_ext {a b : Offs} (h : a.Ext b) (id u : Nat)
    (ha : a.unitOffset id = .ok (some u)) : b.unitOffset id = .ok (some u) := by
  obtain ⟨hlt, off, hm, hu⟩ := unitOffset_eq_some.mp ha
  exact unitOffset_eq_some.mpr ⟨h.2.1 ▸ hlt, off, h.2.2 id off hm, h.1 ▸ hu⟩

theorem exprItem_size_eq_emit (cx : Ctx) (a : Offs) (pos : Nat) (it : ExprItem) (sz : Nat)
    (bs : Bytes) (fx : List IFix) (hext : a.Ext cx.offs)
    (hs : exprItemSize cx.enc a it = .ok sz) (he : exprItemEmit cx pos it = .ok (bs, fx)) :
    bs.length = sz := by
  cases it <;> dsimp only [exprItemSize, exprItemEmit] at hs he
  case raw b => cases hs; cases he; rfl
  case convert id =>
    obtain ⟨r, hu, hs⟩ := Out.bind_eq_ok hs
    cases r with
    | none => cases hs
    | some u =>
      rw [unitOffset_ext hext id u hu] at he
      cases hs; cases he
      simp [Leb.encodeU_length, Nat.add_comm]
  case call id =>
    obtain ⟨r, -, he⟩ := Out.bind_eq_ok he
    cases r with
    | none => cases he
    | some u =>
      obtain ⟨b, hb, he⟩ := Out.bind_eq_ok he
      cases hs; cases he
      simp [writeUdata_length hb, Nat.add_comm]
  case callRef unit id =>
    obtain ⟨b, hb, he⟩ := Out.bind_eq_ok he
    cases hs; cases he
    simp [writeUdata_length hb, Nat.add_comm]

theorem exprItems_size_eq_emit (cx : Ctx) (a : Offs) (hext : a.Ext cx.offs) (items : List ExprItem)
    (pos sz : Nat) (bs : Bytes) (fx : List IFix) (hs : exprSize cx.enc a items = .ok sz)
    (he : exprItemsEmit cx pos items = .ok (bs, fx)) : bs.length = sz := by
  induction items generalizing pos sz bs fx with
  | nil => cases hs; cases he; rfl
  | cons it rest ih =>
    rw [exprSize] at hs
    rw [exprItemsEmit] at he
    obtain ⟨s1, h1, hs⟩ := Out.bind_eq_ok hs
    obtain ⟨s2, h2, hs⟩ := Out.bind_eq_ok hs
    obtain ⟨⟨b1, f1⟩, h3, he⟩ := Out.bind_eq_ok he
    obtain ⟨⟨b2, f2⟩, h4, he⟩ := Out.bind_eq_ok he
    cases hs; cases he
    rw [List.length_append, exprItem_size_eq_emit cx a pos it s1 b1 f1 hext h1 h3, ih _ s2 b2 f2 h2 h4]

/-- `a` are the offsets known when pass 1 sized the value, `cx.offs` the final ones pass 2 reads -/
theorem attr_size_eq_emit' (cx : Ctx) (a : Offs) (pos : Nat) (v : AttrVal) (sz : Nat) (em : Emit)
    (hext : a.Ext cx.offs) (hs : attrSize cx.enc a v = .ok sz) (he : attrEmit cx pos v = .ok em) :
    em.bytes.length = sz := by
  cases v <;> dsimp only [attrSize, attrEmit] at hs he
  case addressSym | debugInfoRefSym => cases he
  case block | data1 | data2 | data4 | data8 | data16 | sdata | udata | flag | debugTypesRef | constClass
      | fileIndex =>
    cases hs; cases he
    simp [Emit.ofBytes, Leb.encodeU_length, Leb.encodeS_length, toBytes_length]
  case implicitConst | flagPresent =>
    cases hs; cases he
    simp only [Emit.ofBytes]
    split <;> simp [Leb.encodeS_length]
  case string bs =>
    cases hs; rw [(string_emit_inv bs em he).2]; simp [Emit.ofBytes]
  case exprloc items =>
    -- both passes size the body (pass 2 for the length prefix); both sizes are its length
    obtain ⟨s1, h1, hs⟩ := Out.bind_eq_ok hs
    obtain ⟨s2, h2, he⟩ := Out.bind_eq_ok he
    obtain ⟨⟨body, fx⟩, h3, he⟩ := Out.bind_eq_ok he
    cases hs; cases he
    have e1 := exprItems_size_eq_emit cx a hext items _ _ _ _ h1 h3
    have e2 := exprItems_size_eq_emit cx cx.offs (Offs.Ext.refl _) items _ _ _ _ h2 h3
    simp [Leb.encodeU_length, e1, ← e2]
  case unitRef | debugInfoRef =>
    obtain ⟨b, hb, he⟩ := Out.bind_eq_ok he
    cases hs; cases he
    exact writeUdata_length hb
  case address | debugInfoRefSup | locationListRef | debugMacinfoRef | debugMacroRef | rangeListRef
      | debugStrRefSup =>
    cases hs; rw [(udataEmit_ok he).1]; exact toBytes_length ..
  case lineProgramRef =>
    split at he
    · cases hs; rw [(udataEmit_ok he).1]; exact toBytes_length ..
    · cases he
  case stringRef | lineStringRef =>
    obtain ⟨off, -, he⟩ := Out.bind_eq_ok he
    cases hs; rw [(udataEmit_ok he).1]; exact toBytes_length ..

/-- what a successful `AttributeValue::write` hands back: plain bytes, except for the three kinds
that leave placeholders -/
theorem attrEmit_shape {cx : Ctx} {pos : Nat} {v : AttrVal} {em : Emit} (h : attrEmit cx pos v = .ok em) :
    (∃ bs, em = .ofBytes bs) ∨
    (∃ items len body fx, exprItemsEmit cx (pos + len.length) items = .ok (body, fx) ∧
      em = { bytes := len ++ body, ifix := fx }) ∨
    (∃ id b, b.length = cx.enc.word ∧ em = { bytes := b, urefs := [(pos, id)] }) ∨
    (∃ unit id b, em = { bytes := b, ifix := [{ pos := pos, size := b.length, unit := unit, id := id }] }) := by
  cases v <;> dsimp only [attrEmit] at h
  case addressSym | debugInfoRefSym => cases h
  case block | data1 | data2 | data4 | data8 | data16 | sdata | udata | flag | debugTypesRef | constClass
      | fileIndex | implicitConst | flagPresent =>
    cases h; exact .inl ⟨_, rfl⟩
  case string bs => exact .inl ⟨_, (string_emit_inv bs em h).2⟩
  case exprloc items =>
    obtain ⟨sz, -, h⟩ := Out.bind_eq_ok h
    obtain ⟨⟨body, fx⟩, hb, h⟩ := Out.bind_eq_ok h
    cases h; exact .inr (.inl ⟨items, _, body, fx, hb, rfl⟩)
  case unitRef id =>
    obtain ⟨b, hb, h⟩ := Out.bind_eq_ok h
    cases h; exact .inr (.inr (.inl ⟨id, b, writeUdata_length hb, rfl⟩))
  case debugInfoRef unit id =>
    obtain ⟨b, hb, h⟩ := Out.bind_eq_ok h
    cases h; exact .inr (.inr (.inr ⟨unit, id, b, by rw [writeUdata_length hb]⟩))
  case address | debugInfoRefSup | locationListRef | debugMacinfoRef | debugMacroRef | rangeListRef
      | debugStrRefSup =>
    exact .inl ⟨_, (udataEmit_ok h).1⟩
  case lineProgramRef =>
    split at h
    · exact .inl ⟨_, (udataEmit_ok h).1⟩
    · cases h
  case stringRef | lineStringRef =>
    obtain ⟨off, -, h⟩ := Out.bind_eq_ok h
    exact .inl ⟨_, (udataEmit_ok h).1⟩

theorem attrs_size_eq_emit (cx : Ctx) (a : Offs) (hext : a.Ext cx.offs) (attrs : List (Nat × AttrVal))
    (pos sz : Nat) (em : Emit) (hs : attrsSize cx.enc a attrs = .ok sz) (he : attrsEmit cx pos attrs = .ok em) :
    em.bytes.length = sz ∧ em.starts = [] := by
  induction attrs generalizing pos sz em with
  | nil => cases hs; cases he; exact ⟨rfl, rfl⟩
  | cons nv rest ih =>
    obtain ⟨_, v⟩ := nv
    rw [attrsSize] at hs
    rw [attrsEmit] at he
    obtain ⟨s1, h1, hs⟩ := Out.bind_eq_ok hs
    obtain ⟨s2, h2, hs⟩ := Out.bind_eq_ok hs
    obtain ⟨e1, h3, he⟩ := Out.bind_eq_ok he
    obtain ⟨e2, h4, he⟩ := Out.bind_eq_ok he
    cases hs; cases he
    obtain ⟨b1, b2⟩ := ih _ _ _ h2 h4
    have hst : e1.starts = [] := by
      rcases attrEmit_shape h3 with ⟨_, rfl⟩ | ⟨_, _, _, _, _, rfl⟩ | ⟨_, _, _, rfl⟩ | ⟨_, _, _, rfl⟩ <;> rfl
    simp [attr_size_eq_emit' cx a pos v s1 e1 hext h1 h3, hst, b1, b2]

end Gimli.WUnit
