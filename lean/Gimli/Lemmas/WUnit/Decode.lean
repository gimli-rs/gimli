import Gimli.Spec.WUnit
import Gimli.Lemmas.WUnit.Size
import Gimli.Lemmas.CStr
/-!
# C11: the emitted bytes are the encoding the form's reader decodes

`readForm` arm by arm, as "what the primitive reader takes off the front, so does `readForm`" (`Reads`); then
`AttributeValue::write` kind by kind against the primitive round trips of C09.
-/
namespace Gimli.WUnit
open Gimli Gimli.Ints

/-- the forms `parse_attribute` reads as an `n`-byte unsigned integer -/
inductive FixedForm (c : Enc) : Nat → Nat → Prop
  | data1 : FixedForm c DW_FORM_data1 1
  | flag : FixedForm c DW_FORM_flag 1
  | data2 : FixedForm c DW_FORM_data2 2
  | data4 : FixedForm c DW_FORM_data4 4
  | ref4 : FixedForm c DW_FORM_ref4 4
  | ref_sup4 : FixedForm c DW_FORM_ref_sup4 4
  | data8 : FixedForm c DW_FORM_data8 8
  | ref8 : FixedForm c DW_FORM_ref8 8
  | ref_sup8 : FixedForm c DW_FORM_ref_sup8 8
  | ref_sig8 : FixedForm c DW_FORM_ref_sig8 8
  | data16 : FixedForm c DW_FORM_data16 16
  | sec_offset : FixedForm c DW_FORM_sec_offset c.word
  | strp : FixedForm c DW_FORM_strp c.word
  | strp_sup : FixedForm c DW_FORM_strp_sup c.word
  | line_strp : FixedForm c DW_FORM_line_strp c.word

theorem readForm_fixed {e : Endian} {c : Enc} {form n v : Nat} {w : Bytes} (hf : FixedForm c form n)
    (h : Reads (readFixed e n) w v) : Reads (readForm e c form) w (.num v) := by
  cases hf <;> exact .map h fun _ => rfl

namespace FixedForm

theorem byFormat {c : Enc} {form4 form8 : Nat} (h4 : FixedForm c form4 4) (h8 : FixedForm c form8 8) :
    FixedForm c (match c.format with | .dwarf32 => form4 | .dwarf64 => form8) c.word := by
  unfold Enc.word
  cases c.format
  · exact h4
  · exact h8

/-- the form of a section offset: `DW_FORM_sec_offset` from DWARF 4 on, `DW_FORM_data4/8` before -/
theorem secOffset (c : Enc) :
    FixedForm c (if c.version = 2 ∨ c.version = 3 then
      (match c.format with | .dwarf32 => DW_FORM_data4 | .dwarf64 => DW_FORM_data8) else DW_FORM_sec_offset) c.word := by
  split
  · exact byFormat data4 data8
  · exact sec_offset

end FixedForm

theorem readForm_addr {e : Endian} {c : Enc} {v : Nat} {w : Bytes} (h : Reads (readAddress e c.addrSize) w v) :
    Reads (readForm e c DW_FORM_addr) w (.num v) :=
  .map h fun _ => rfl

theorem readForm_udata {e : Endian} {c : Enc} {v : Nat} {w : Bytes} (h : Reads Leb.unsigned w v) :
    Reads (readForm e c DW_FORM_udata) w (.num v) :=
  .map h fun _ => rfl

theorem readForm_string {e : Endian} {c : Enc} {s w : Bytes} (h : Reads readCStr w s) :
    Reads (readForm e c DW_FORM_string) w (.bytes s) :=
  .map h fun _ => rfl

theorem readForm_block {e : Endian} {c : Enc} {form : Nat} (b : Bytes) (hb : b.length < 2 ^ 64)
    (hf : form = DW_FORM_block ∨ form = DW_FORM_exprloc) :
    Reads (readForm e c form) (Leb.encodeU b.length ++ b) (.bytes b) := by
  rcases hf with rfl | rfl <;> exact .bind (Leb.reads_unsigned hb) (.map (reads_take b) fun _ => rfl)

/-- a form `readForm` knows is not one of the two signed forms -/
theorem readFormFull_of_readForm {e : Endian} {c : Enc} {form : Nat} {ic : Int} {bs : Bytes}
    {r : FormVal × Bytes} (h : readForm e c form bs = .ok r) : readFormFull e c form ic bs = .ok r := by
  unfold readFormFull
  split
  · subst form; cases h
  · split
    · subst form; cases h
    · exact h

theorem readCStr_isCStr : IsCStr readCStr := ⟨rfl, fun _ _ => by rw [readCStr]⟩

theorem udataEmit_reads {e : Endian} {v size : Nat} {em : Emit} (hv : v < 2 ^ 64)
    (h : (do let b ← writeUdata e v size; pure (Emit.ofBytes b) : Out Emit) = .ok em) :
    Reads (readFixed e size) em.bytes v := by
  obtain ⟨b, hb, h⟩ := Out.bind_eq_ok h
  cases h
  exact reads_udata hb hv

/-- the kinds `decoded` covers: unsigned, fixed-size, block, string and flag values -/
theorem attr_bytes_decode' (cx : Ctx) (pos : Nat) (v : AttrVal) (em : Emit) (fv : FormVal)
    (h : attrEmit cx pos v = .ok em) (hr : v.InRange) (hd : decoded cx v = some fv)
    (hso : ∀ o ∈ cx.strOffsets, o < 2 ^ 64) (hlo : ∀ o ∈ cx.lineStrOffsets, o < 2 ^ 64)
    (hlp : ∀ o, cx.lineProgram = some o → o < 2 ^ 64) :
    Reads (readForm cx.endian cx.enc (attrForm cx.enc v).1) em.bytes fv := by
  cases v <;> dsimp only [attrEmit, attrForm, decoded] at h hd ⊢
  case addressSym | sdata | implicitConst | exprloc | unitRef | debugInfoRef | debugInfoRefSym => cases hd
  case address x =>
    cases hd
    obtain ⟨b, hb, h⟩ := Out.bind_eq_ok h
    cases h
    exact readForm_addr (reads_address hb hr)
  case block b => cases hd; cases h; exact readForm_block b hr (.inl rfl)
  case string s =>
    cases hd
    rw [(string_emit_inv s em h).2]
    exact readForm_string (readCStr_isCStr.reads fun h0 => hr 0 h0 rfl)
  case data1 x => cases hd; cases h; exact readForm_fixed .data1 (reads_fixed _ 1 hr)
  case data2 x => cases hd; cases h; exact readForm_fixed .data2 (reads_fixed _ 2 hr)
  case data4 x => cases hd; cases h; exact readForm_fixed .data4 (reads_fixed _ 4 hr)
  case data8 x => cases hd; cases h; exact readForm_fixed .data8 (reads_fixed _ 8 hr)
  case data16 x => cases hd; cases h; exact readForm_fixed .data16 (reads_fixed _ 16 hr)
  case debugTypesRef x => cases hd; cases h; exact readForm_fixed .ref_sig8 (reads_fixed _ 8 hr)
  case udata x | constClass x => cases hd; cases h; exact readForm_udata (Leb.reads_unsigned hr)
  case fileIndex x => cases hd; cases h; exact readForm_udata (Leb.reads_unsigned hr)
  case flag b => cases hd; cases h; cases b <;> exact readForm_fixed .flag (reads_byte _ _)
  case flagPresent =>
    cases hd; cases h
    split
    · exact fun _ => rfl
    · exact readForm_fixed .flag (reads_byte _ _)
  case debugInfoRefSup off => cases hd; exact readForm_fixed (.byFormat .ref_sup4 .ref_sup8) (udataEmit_reads hr h)
  case debugStrRefSup off => cases hd; exact readForm_fixed .strp_sup (udataEmit_reads hr h)
  case locationListRef off | debugMacinfoRef off | debugMacroRef off | rangeListRef off =>
    cases hd; exact readForm_fixed (.secOffset _) (udataEmit_reads hr h)
  case lineProgramRef =>
    split at h
    · rename_i off hl
      rw [hl] at hd; cases hd
      exact readForm_fixed (.secOffset _) (udataEmit_reads (hlp off hl) h)
    · cases h
  case stringRef idx =>
    obtain ⟨off, ho, h⟩ := Out.bind_eq_ok h
    have hg := tableOffset_ok ho
    rw [hg] at hd; cases hd
    exact readForm_fixed .strp (udataEmit_reads (hso off (List.mem_of_getElem? hg)) h)
  case lineStringRef idx =>
    obtain ⟨off, ho, h⟩ := Out.bind_eq_ok h
    have hg := tableOffset_ok ho
    rw [hg] at hd; cases hd
    exact readForm_fixed .line_strp (udataEmit_reads (hlo off (List.mem_of_getElem? hg)) h)

theorem exprItemEmit_bytes_pos (cx : Ctx) (p q : Nat) (it : ExprItem) (b : Bytes) (fx : List IFix)
    (h : exprItemEmit cx p it = .ok (b, fx)) : ∃ fx', exprItemEmit cx q it = .ok (b, fx') := by
  cases it <;> dsimp only [exprItemEmit] at h ⊢
  case callRef u id =>
    obtain ⟨w, hw, h⟩ := Out.bind_eq_ok h
    cases h
    exact ⟨_, by rw [hw]; rfl⟩
  all_goals exact ⟨_, h⟩

theorem exprItemsEmit_bytes_pos (cx : Ctx) (items : List ExprItem) (p q : Nat) (b : Bytes) (fx : List IFix)
    (h : exprItemsEmit cx p items = .ok (b, fx)) : ∃ fx', exprItemsEmit cx q items = .ok (b, fx') := by
  induction items generalizing p q b fx with
  | nil => cases h; exact ⟨[], rfl⟩
  | cons it rest ih =>
    rw [exprItemsEmit] at h ⊢
    obtain ⟨⟨a, fa⟩, ha, h⟩ := Out.bind_eq_ok h
    obtain ⟨⟨r, fr⟩, hr, h⟩ := Out.bind_eq_ok h
    cases h
    obtain ⟨fa', ha'⟩ := exprItemEmit_bytes_pos cx p q it a fa ha
    obtain ⟨fr', hr'⟩ := ih (p + a.length) (q + a.length) r fr hr
    exact ⟨fa' ++ fr', by simp only [ha', hr', Out.bind_ok, Out.pure_eq]⟩

theorem exprloc_emit {cx : Ctx} {pos : Nat} {items : List ExprItem} {em : Emit}
    (h : attrEmit cx pos (.exprloc items) = .ok em) :
    ∃ body, exprBytes cx items = some body ∧ em.bytes = Leb.encodeU body.length ++ body := by
  obtain ⟨size, hsz, h⟩ := Out.bind_eq_ok h
  obtain ⟨⟨body, fx⟩, hb, h⟩ := Out.bind_eq_ok h
  cases h
  obtain ⟨fx0, hb0⟩ := exprItemsEmit_bytes_pos cx items _ 0 body fx hb
  exact ⟨body, by rw [exprBytes, hb0],
    by rw [exprItems_size_eq_emit cx cx.offs (Offs.Ext.refl _) items _ _ _ _ hsz hb]⟩

theorem signed_form_reads (e : Endian) (c : Enc) (i ic : Int) (hlo : -(2 : Int) ^ 63 ≤ i) (hhi : i < 2 ^ 63) :
    Reads (readFormFull e c DW_FORM_sdata ic) (Leb.encodeS i) (.int i) :=
  .map (Leb.reads_signed hlo hhi) fun _ => rfl

/-- **Every value that is not a patched reference decodes to itself**: `attr_bytes_decode'`
extended by signed constants (C09's `signed_roundtrip`) and expression bodies. -/
theorem attr_bytes_decode_full (cx : Ctx) (pos : Nat) (v : AttrVal) (em : Emit) (fv : FormVal) (rest : Bytes)
    (h : attrEmit cx pos v = .ok em) (hr : v.InRangeFull cx) (hd : decodedFull cx v = some fv)
    (hso : ∀ o ∈ cx.strOffsets, o < 2 ^ 64) (hlo : ∀ o ∈ cx.lineStrOffsets, o < 2 ^ 64)
    (hlp : ∀ o, cx.lineProgram = some o → o < 2 ^ 64) :
    readFormFull cx.endian cx.enc (attrForm cx.enc v).1 (attrForm cx.enc v).2 (em.bytes ++ rest) = .ok (fv, rest) := by
  obtain ⟨hr1, hr2⟩ := hr
  cases v
  case sdata i =>
    cases hd; cases h
    exact signed_form_reads cx.endian cx.enc i 0 hr2.1 hr2.2 rest
  case implicitConst i =>
    cases hd; cases h
    dsimp only [attrForm, Emit.ofBytes]
    split
    · rfl
    · exact signed_form_reads cx.endian cx.enc i 0 hr2.1 hr2.2 rest
  case exprloc items =>
    obtain ⟨body, heb, hbytes⟩ := exprloc_emit h
    rw [decodedFull, heb] at hd
    cases hd
    rw [hbytes]
    refine readFormFull_of_readForm (readForm_block body (hr2 body heb) ?_ rest)
    dsimp only [attrForm]
    split
    · exact .inr rfl
    · exact .inl rfl
  all_goals exact readFormFull_of_readForm (attr_bytes_decode' cx pos _ em fv h hr1 hd hso hlo hlp rest)

end Gimli.WUnit
