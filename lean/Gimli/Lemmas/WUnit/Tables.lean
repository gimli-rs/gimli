import Gimli.Model.WUnit
import Gimli.Lemmas.InsertFull
/-!
# C11, the de-duplicating tables and the order of the root's children

`AbbreviationTable::add` and `StringTable::add` are both `IndexSet::insert_full`: look the value
up, append it if it is new. Both are shown to be `IndexSet.insertFull` (Lemmas/InsertFull.lean).
-/
namespace Gimli.WUnit
open Gimli Gimli.Ints Gimli.IndexSet

theorem nodup_getElem?_inj {α : Type} (l : List α) (i j : Nat) (a : α) (hnd : l.Nodup)
    (hi : l[i]? = some a) (hj : l[j]? = some a) : i = j :=
  IndexSet.nodup_getElem?_inj hnd hi hj

theorem findIdx_eq (a : Abbrev) (tab : List Abbrev) : findIdx a tab = tab.idxOf? a :=
  idxOf?_of_step rfl (fun _ _ => rfl) tab

theorem findIdx_first (a : Abbrev) : ∀ (tab : List Abbrev) (i : Nat), findIdx a tab = some i →
    ∀ j, j < i → tab[j]? ≠ some a := by
  intro tab i h j hj hja
  obtain ⟨hi, -, hfirst⟩ := List.idxOf?_eq_some_iff.mp (findIdx_eq a tab ▸ h)
  exact hfirst j hj (List.getElem?_eq_some_iff.mp hja).2

theorem abbrevAdd_eq (tab : List Abbrev) (a : Abbrev) :
    abbrevAdd tab a = ((insertFull tab a).1 + 1, (insertFull tab a).2) := by
  unfold abbrevAdd insertFull
  rw [findIdx_eq]
  cases tab.idxOf? a <;> rfl

theorem abbrevAdd_spec (tab : List Abbrev) (a : Abbrev) :
    1 ≤ (abbrevAdd tab a).1 ∧ (abbrevAdd tab a).1 ≤ (abbrevAdd tab a).2.length ∧
    (abbrevAdd tab a).2[(abbrevAdd tab a).1 - 1]? = some a ∧
    ((abbrevAdd tab a).2 = tab ∨ (a ∉ tab ∧ (abbrevAdd tab a).2 = tab ++ [a])) := by
  rw [abbrevAdd_eq]
  obtain ⟨h1, h2⟩ := insertFull_spec tab a
  exact ⟨Nat.le_add_left .., (List.getElem?_eq_some_iff.mp h1).1, h1, h2⟩

theorem abbrevAdd_nodup (tab : List Abbrev) (a : Abbrev) (h : tab.Nodup) : (abbrevAdd tab a).2.Nodup := by
  rw [abbrevAdd_eq]; exact insertFull_nodup tab a h

theorem abbrevAdd_existing (tab : List Abbrev) (a : Abbrev) (k : Nat) (hnd : tab.Nodup)
    (hk : tab[k]? = some a) : abbrevAdd tab a = (k + 1, tab) := by
  rw [abbrevAdd_eq, insertFull_existing tab a k hnd hk]

theorem strFind_eq (s : Bytes) (tab : StrTab) : strFind s tab = tab.idxOf? s :=
  idxOf?_of_step rfl (fun _ _ => rfl) tab

theorem strAdd_eq (tab : StrTab) (s : Bytes) : strAdd tab s = insertFull tab s := by
  unfold strAdd insertFull
  rw [strFind_eq]
  cases tab.idxOf? s <;> rfl

theorem strAdd_spec (tab : StrTab) (s : Bytes) :
    (strAdd tab s).2[(strAdd tab s).1]? = some s ∧
    ((strAdd tab s).2 = tab ∨ (s ∉ tab ∧ (strAdd tab s).2 = tab ++ [s])) :=
  strAdd_eq tab s ▸ insertFull_spec tab s

theorem strAdd_nodup (tab : StrTab) (s : Bytes) (h : tab.Nodup) : (strAdd tab s).2.Nodup :=
  strAdd_eq tab s ▸ insertFull_nodup tab s h

theorem strAdd_existing (tab : StrTab) (s : Bytes) (k : Nat) (hnd : tab.Nodup)
    (hk : tab[k]? = some s) : strAdd tab s = (k, tab) :=
  strAdd_eq tab s ▸ insertFull_existing tab s k hnd hk

theorem str_offset_resolves (tab : StrTab) (len idx : Nat) (s : Bytes) (h : tab[idx]? = some s) :
    (strOffsetsFrom len tab)[idx]? = some (len + (strWrite (tab.take idx)).length) ∧
    (strWrite tab).drop (strWrite (tab.take idx)).length = s ++ 0 :: strWrite (tab.drop (idx + 1)) := by
  induction tab generalizing len idx with
  | nil => cases h
  | cons b rest ih =>
    cases idx with
    | zero => cases h; exact ⟨rfl, by simp [strWrite]⟩
    | succ idx =>
      obtain ⟨h1, h2⟩ := ih (len + b.length + 1) idx h
      refine ⟨?_, ?_⟩
      · rw [strOffsetsFrom, List.getElem?_cons_succ, h1, List.take_succ_cons, strWrite, List.length_append,
          List.length_append]
        exact congrArg some (by simp only [List.length_cons, List.length_nil]; omega)
      · rw [List.take_succ_cons, strWrite, strWrite, List.length_append, ← List.drop_drop, List.drop_left, h2,
          List.drop_succ_cons]

theorem toList_ofList (l : List Tree) : (Forest.ofList l).toList = l := by
  induction l with
  | nil => rfl
  | cons t rest ih => simp [Forest.ofList, Forest.toList, ih]

def isBase (t : Tree) : Bool := decide (t.tag = DW_TAG_base_type)

theorem reorder_children (id tag : Nat) (sib : Bool) (attrs : List (Nat × AttrVal)) (ch : Forest) :
    reorderBaseTypes (.node id tag sib attrs ch) =
      .node id tag sib attrs
        (Forest.ofList (ch.toList.filter isBase ++ ch.toList.filter (fun t => !isBase t))) := by
  simp only [reorderBaseTypes, isBase]
  congr 3
  apply List.filter_congr
  intro t _
  simp

theorem filter_partition_left {α : Type} (p : α → Bool) (l : List α) :
    (l.filter p ++ l.filter (fun a => !p a)).filter p = l.filter p := by
  simp [List.filter_filter]

theorem filter_partition_right {α : Type} (p : α → Bool) (l : List α) :
    (l.filter p ++ l.filter (fun a => !p a)).filter (fun a => !p a) = l.filter (fun a => !p a) := by
  simp [List.filter_filter]

end Gimli.WUnit
