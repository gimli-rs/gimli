import Gimli.Lemmas.WUnit.Size
import Gimli.Lemmas.WUnit.Tables
/-!
# C11, pass 1 against pass 2

The offsets `calculate_offsets` hands out are the positions at which `write` starts the entries.
One invariant carries the induction over the tree: pass 2 stands at the offset pass 1 has reached,
and the tables pass 2 reads hold everything pass 1 has assigned so far.  Also: the code pass 1
remembers for an entry designates the entry's own abbreviation in the final table.
-/
namespace Gimli.WUnit
open Gimli Gimli.Ints

mutual
/-- the entry ids of a tree, in the order the entries are laid out (pre-order) -/
def Tree.ids : Tree → List Nat
  | .node id _ _ _ ch => id :: ch.ids
def Forest.ids : Forest → List Nat
  | .nil => []
  | .cons t rest => t.ids ++ rest.ids
end

/-- `if ch.isEmpty then 0 else 1`: the null entry that ends a non-empty list of children -/
theorem calcTree_node {c : Enc} {st st' : P1} {id tag : Nat} {sib : Bool} {attrs : List (Nat × AttrVal)}
    {ch : Forest} (h : calcTree c st (.node id tag sib attrs ch) = .ok st') :
    ∃ code tab sz st2, abbrevAdd st.abbrevs (abbreviation c tag sib attrs (!ch.isEmpty)) = (code, tab) ∧
      entrySize c (st.offs.set id st.offset) code sib (!ch.isEmpty) attrs = .ok sz ∧
      calcForest c { offset := st.offset + sz, offs := st.offs.set id st.offset, abbrevs := tab,
                     codes := fun j => if j = id then some code else st.codes j } ch = .ok st2 ∧
      st' = { st2 with offset := st2.offset + if ch.isEmpty then 0 else 1 } := by
  rw [calcTree] at h
  obtain ⟨sz, hsz, h⟩ := Out.bind_eq_ok h
  cases ch with
  | nil => cases h; exact ⟨_, _, sz, _, rfl, hsz, by rw [calcForest]; rfl, rfl⟩
  | cons t rest =>
    obtain ⟨st2, hf, h⟩ := Out.bind_eq_ok h
    cases h; exact ⟨_, _, sz, st2, rfl, hsz, hf, rfl⟩

theorem emitTree_node {cx : Ctx} {pos id tag : Nat} {sib : Bool} {attrs : List (Nat × AttrVal)} {ch : Forest}
    {em : Emit} (h : emitTree cx pos (.node id tag sib attrs ch) = .ok em) :
    ∃ code sibBs a k, codeOf cx id = .ok code ∧
      sibBs.length = (if (sib && !ch.isEmpty) = true then cx.enc.word else 0) ∧
      attrsEmit cx (pos + (Leb.encodeU code).length + sibBs.length) attrs = .ok a ∧
      emitForest cx (pos + (Leb.encodeU code).length + sibBs.length + a.bytes.length) ch = .ok k ∧
      em = { bytes := Leb.encodeU code ++ sibBs, starts := [(id, pos)] } ++ a ++
        (k ++ .ofBytes (if ch.isEmpty then [] else [0])) ∧
      ((sib && !ch.isEmpty) = true →
        sibBs = toBytes cx.endian cx.enc.word (pos + em.bytes.length - cx.offs.unit)) := by
  rw [emitTree] at h
  obtain ⟨code, hcode, h⟩ := Out.bind_eq_ok h
  obtain ⟨a, ha, h⟩ := Out.bind_eq_ok h
  obtain ⟨k', hk', h⟩ := Out.bind_eq_ok h
  obtain ⟨sibBs, hsib, h⟩ := Out.bind_eq_ok h
  cases h
  have hsl : sibBs.length = if (sib && !ch.isEmpty) = true then cx.enc.word else 0 := by
    split at hsib
    · rw [if_pos ‹_›]; exact writeUdata_length hsib
    · cases hsib; rw [if_neg ‹_›]; rfl
  rw [← hsl] at ha hk'
  have hk : ∃ k, emitForest cx (pos + (Leb.encodeU code).length + sibBs.length + a.bytes.length) ch = .ok k ∧
      k' = k ++ .ofBytes (if ch.isEmpty then [] else [0]) := by
    cases ch with
    | nil => cases hk'; exact ⟨{}, by rw [emitForest]; rfl, rfl⟩
    | cons t rest =>
      obtain ⟨k, hk, hk'⟩ := Out.bind_eq_ok hk'
      cases hk'; exact ⟨k, hk, rfl⟩
  obtain ⟨k, hk, rfl⟩ := hk
  refine ⟨code, sibBs, a, k, hcode, hsl, ha, hk, rfl, fun hs => ?_⟩
  rw [if_pos hs] at hsib
  refine (writeUdata_ok hsib).1.trans (congrArg (fun n => toBytes cx.endian cx.enc.word (n - cx.offs.unit)) ?_)
  simp only [Emit.append_bytes, List.length_append, ← hsl, Nat.add_assoc]

theorem tree_induction {P : Tree → Prop} {Q : Forest → Prop}
    (node : ∀ id tag sib attrs ch, Q ch → P (.node id tag sib attrs ch)) (nil : Q .nil)
    (cons : ∀ t rest, P t → Q rest → Q (.cons t rest)) : (∀ t, P t) ∧ ∀ f, Q f :=
  ⟨fun t => Tree.rec (motive_1 := P) (motive_2 := Q) node nil cons t,
   fun f => Forest.rec (motive_1 := P) (motive_2 := Q) node nil cons f⟩

/-- from `st` to `st'` pass 1 has touched the offsets and codes of `ids` only -/
structure Frame (ids : List Nat) (st st' : P1) : Prop where
  unit : st'.offs.unit = st.offs.unit
  n : st'.offs.n = st.offs.n
  outside : ∀ j, j ∉ ids → st'.offs.map j = st.offs.map j ∧ st'.codes j = st.codes j

theorem calc_frame (c : Enc) :
    (∀ (t : Tree) (st st' : P1), calcTree c st t = .ok st' → Frame t.ids st st') ∧
    (∀ (f : Forest) (st st' : P1), calcForest c st f = .ok st' → Frame f.ids st st') := by
  refine tree_induction (fun id tag sib attrs ch ih st st' h => ?_) (fun st st' h => ?_)
    (fun t rest iht ihf st st' h => ?_)
  · obtain ⟨code, tab, sz, st2, -, -, hf, rfl⟩ := calcTree_node h
    obtain ⟨f1, f2, f3⟩ := ih _ st2 hf
    refine ⟨f1, f2, fun j hj => ?_⟩
    rw [Tree.ids, List.mem_cons, not_or] at hj
    exact ⟨(f3 j hj.2).1.trans (if_neg hj.1), (f3 j hj.2).2.trans (if_neg hj.1)⟩
  · rw [calcForest] at h
    cases h
    exact ⟨rfl, rfl, fun _ _ => ⟨rfl, rfl⟩⟩
  · rw [calcForest] at h
    obtain ⟨st1, ht, h⟩ := Out.bind_eq_ok h
    obtain ⟨a1, a2, a3⟩ := iht st st1 ht
    obtain ⟨b1, b2, b3⟩ := ihf st1 st' h
    refine ⟨b1.trans a1, b2.trans a2, fun j hj => ?_⟩
    rw [Forest.ids, List.mem_append, not_or] at hj
    exact ⟨(b3 j hj.2).1.trans (a3 j hj.1).1, (b3 j hj.2).2.trans (a3 j hj.1).2⟩

def Fresh (ids : List Nat) (st : P1) : Prop := ∀ j ∈ ids, st.offs.map j = none ∧ st.codes j = none

/-- pass 2 reads tables that contain everything pass 1 has assigned up to `st` -/
def P1.ExtCx (st : P1) (cx : Ctx) : Prop :=
  st.offs.Ext cx.offs ∧ ∀ j c, st.codes j = some c → cx.codes j = some c

theorem extCx_of_frame {st st' : P1} {cx : Ctx} {ids : List Nat} (hf : Frame ids st st')
    (hfr : Fresh ids st) (hx : st'.ExtCx cx) : st.ExtCx cx := by
  obtain ⟨f1, f2, f3⟩ := hf
  obtain ⟨⟨x1, x2, x3⟩, xc⟩ := hx
  refine ⟨⟨f1 ▸ x1, f2 ▸ x2, fun j o hj => ?_⟩, fun j c hj => ?_⟩
  · by_cases hmem : j ∈ ids
    · rw [(hfr j hmem).1] at hj; cases hj
    · exact x3 j o ((f3 j hmem).1 ▸ hj)
  · by_cases hmem : j ∈ ids
    · rw [(hfr j hmem).2] at hj; cases hj
    · exact xc j c ((f3 j hmem).2 ▸ hj)

theorem emit_exact (cx : Ctx) :
    (∀ (t : Tree) (st st' : P1) (em : Emit), calcTree cx.enc st t = .ok st' → emitTree cx st.offset t = .ok em →
      t.ids.Nodup → Fresh t.ids st → st'.ExtCx cx →
      st.offset + em.bytes.length = st'.offset ∧ (∀ p ∈ em.starts, cx.offs.map p.1 = some p.2) ∧
        em.starts.map (·.1) = t.ids) ∧
    (∀ (f : Forest) (st st' : P1) (em : Emit), calcForest cx.enc st f = .ok st' →
      emitForest cx st.offset f = .ok em → f.ids.Nodup → Fresh f.ids st → st'.ExtCx cx →
      st.offset + em.bytes.length = st'.offset ∧ (∀ p ∈ em.starts, cx.offs.map p.1 = some p.2) ∧
        em.starts.map (·.1) = f.ids) := by
  refine tree_induction (fun id tag sib attrs ch ih st st' em hc he hnd hfr hx => ?_)
    (fun st st' em hc he _ _ _ => ?_) (fun t rest iht ihf st st' em hc he hnd hfr hx => ?_)
  · obtain ⟨code, tab, sz, st2, -, hsz, hf, rfl⟩ := calcTree_node hc
    obtain ⟨code', sibBs, a, k, hcode, hsl, ha, hk, hem, -⟩ := emitTree_node he
    rw [Tree.ids] at hnd hfr ⊢
    obtain ⟨hid, hnd'⟩ := List.nodup_cons.mp hnd
    -- the children are still fresh once the entry itself is laid out, so pass 2 reads what pass 1
    -- held at that point: the entry's own offset and code among it
    have hfr1 : Fresh ch.ids { offset := st.offset + sz, offs := st.offs.set id st.offset, abbrevs := tab,
                               codes := fun j => if j = id then some code else st.codes j } := fun j hj => by
      have hne : j ≠ id := fun h => hid (h ▸ hj)
      exact ⟨(if_neg hne).trans (hfr j (List.mem_cons_of_mem _ hj)).1,
        (if_neg hne).trans (hfr j (List.mem_cons_of_mem _ hj)).2⟩
    have hx2 : st2.ExtCx cx := hx
    obtain ⟨hxo, hxc⟩ := extCx_of_frame ((calc_frame cx.enc).2 ch _ st2 hf) hfr1 hx2
    have hoff : cx.offs.map id = some st.offset := hxo.2.2 id _ (if_pos rfl)
    rw [codeOf, hxc id code (if_pos rfl)] at hcode
    cases hcode
    rw [entrySize] at hsz
    obtain ⟨asz, hasz, hsz⟩ := Out.bind_eq_ok hsz
    cases hsz
    obtain ⟨l1, l2⟩ := attrs_size_eq_emit cx _ hxo attrs _ _ _ hasz ha
    rw [Nat.add_assoc st.offset, Nat.add_assoc st.offset, hsl, l1, Leb.encodeU_length] at hk
    obtain ⟨i1, i2, i3⟩ := ih _ st2 k hf hk hnd' hfr1 hx2
    have hst : em.starts = (id, st.offset) :: k.starts := by simp [hem, l2, Emit.ofBytes]
    refine ⟨?_, fun p hp => ?_, by rw [hst, List.map_cons, i3]⟩
    · have hn : (Emit.ofBytes (if ch.isEmpty = true then [] else [0])).bytes.length =
          if ch.isEmpty = true then 0 else 1 := apply_ite List.length ..
      simp only [hem, Emit.append_bytes, List.length_append, hn, hsl, l1, Leb.encodeU_length] at i1 ⊢
      rw [← i1]
      simp only [Nat.add_assoc]
    · rw [hst, List.mem_cons] at hp
      rcases hp with rfl | hp
      · exact hoff
      · exact i2 p hp
  · rw [calcForest] at hc
    rw [emitForest] at he
    cases hc; cases he
    exact ⟨rfl, fun _ h => (List.not_mem_nil h).elim, rfl⟩
  · rw [calcForest] at hc
    rw [emitForest] at he
    obtain ⟨st1, ht, hc⟩ := Out.bind_eq_ok hc
    obtain ⟨a, ha, he⟩ := Out.bind_eq_ok he
    obtain ⟨r, hr, he⟩ := Out.bind_eq_ok he
    cases he
    rw [Forest.ids] at hnd hfr ⊢
    obtain ⟨hnd1, hnd2, hdis⟩ := List.nodup_append.mp hnd
    have hfr_r : Fresh rest.ids st1 := fun j hj => by
      have hnt : j ∉ t.ids := fun h => hdis j h j hj rfl
      have a3 := ((calc_frame cx.enc).1 t st st1 ht).outside
      rw [(a3 j hnt).1, (a3 j hnt).2]
      exact hfr j (List.mem_append_right _ hj)
    have hx1 : st1.ExtCx cx := extCx_of_frame ((calc_frame cx.enc).2 rest st1 st' hc) hfr_r hx
    obtain ⟨i1, i2, i3⟩ := iht st st1 a ht ha hnd1 (fun j hj => hfr j (List.mem_append_left _ hj)) hx1
    rw [i1] at hr
    obtain ⟨j1, j2, j3⟩ := ihf st1 st' r hc hr hnd2 hfr_r hx
    refine ⟨?_, fun p hp => ?_, by rw [Emit.append_starts, List.map_append, i3, j3]⟩
    · rw [Emit.append_bytes, List.length_append, ← Nat.add_assoc, i1, j1]
    · rw [Emit.append_starts, List.mem_append] at hp
      exact hp.elim (i2 p) (j2 p)

theorem emitForest_exact (cx : Ctx) : ∀ (f : Forest) (st st' : P1) (em : Emit),
    calcForest cx.enc st f = .ok st' → emitForest cx st.offset f = .ok em →
    f.ids.Nodup → Fresh f.ids st → st'.ExtCx cx →
    st.offset + em.bytes.length = st'.offset ∧ (∀ p ∈ em.starts, cx.offs.map p.1 = some p.2) ∧
      em.starts.map (·.1) = f.ids :=
  (emit_exact cx).2

mutual
/-- each entry's id with the abbreviation `DebuggingInformationEntry::abbreviation` builds for it -/
def Tree.abbrevs (c : Enc) : Tree → List (Nat × Abbrev)
  | .node id tag sib attrs ch => (id, abbreviation c tag sib attrs (!ch.isEmpty)) :: ch.abbrevs c
def Forest.abbrevs (c : Enc) : Forest → List (Nat × Abbrev)
  | .nil => []
  | .cons t rest => t.abbrevs c ++ rest.abbrevs c
end

mutual
theorem Tree.abbrevs_ids (c : Enc) : ∀ (t : Tree), (t.abbrevs c).map (·.1) = t.ids
  | .node id tag sib attrs ch => by simp [Tree.abbrevs, Tree.ids, Forest.abbrevs_ids c ch]
theorem Forest.abbrevs_ids (c : Enc) : ∀ (f : Forest), (f.abbrevs c).map (·.1) = f.ids
  | .nil => by simp [Forest.abbrevs, Forest.ids]
  | .cons t rest => by
    simp [Forest.abbrevs, Forest.ids, Tree.abbrevs_ids c t, Forest.abbrevs_ids c rest]
end

/-- the property that survives later insertions: the code of `p.1` is assigned and the table
holds `p.2` under it -/
def CodeOk (st : P1) (p : Nat × Abbrev) : Prop :=
  ∃ code, st.codes p.1 = some code ∧ 1 ≤ code ∧ st.abbrevs[code - 1]? = some p.2

theorem CodeOk.mono {st st' : P1} {p : Nat × Abbrev} (h : CodeOk st p)
    (hc : st'.codes p.1 = st.codes p.1) (ha : ∃ ext, st'.abbrevs = st.abbrevs ++ ext) : CodeOk st' p := by
  obtain ⟨code, h1, h2, h3⟩ := h
  obtain ⟨ext, he⟩ := ha
  exact ⟨code, hc ▸ h1, h2, he ▸ IndexSet.getElem?_append_of_some h3 ext⟩

theorem calc_codes (c : Enc) :
    (∀ (t : Tree) (st st' : P1), calcTree c st t = .ok st' → t.ids.Nodup → st.abbrevs.Nodup →
      st'.abbrevs.Nodup ∧ (∃ ext, st'.abbrevs = st.abbrevs ++ ext) ∧ ∀ p ∈ t.abbrevs c, CodeOk st' p) ∧
    (∀ (f : Forest) (st st' : P1), calcForest c st f = .ok st' → f.ids.Nodup → st.abbrevs.Nodup →
      st'.abbrevs.Nodup ∧ (∃ ext, st'.abbrevs = st.abbrevs ++ ext) ∧ ∀ p ∈ f.abbrevs c, CodeOk st' p) := by
  refine tree_induction (fun id tag sib attrs ch ih st st' h hnd hta => ?_) (fun st st' h _ hta => ?_)
    (fun t rest iht ihf st st' h hnd hta => ?_)
  · obtain ⟨code, tab, sz, st2, hadd, -, hf, rfl⟩ := calcTree_node h
    obtain ⟨s1, -, s3, s4⟩ := abbrevAdd_spec st.abbrevs (abbreviation c tag sib attrs !ch.isEmpty)
    have hnd1 := abbrevAdd_nodup st.abbrevs (abbreviation c tag sib attrs !ch.isEmpty) hta
    simp only [hadd] at s1 s3 s4 hnd1
    rw [Tree.ids] at hnd
    obtain ⟨hid, hnd'⟩ := List.nodup_cons.mp hnd
    obtain ⟨i1, ⟨e2, (he2 : st2.abbrevs = tab ++ e2)⟩, i3⟩ := ih _ st2 hf hnd' hnd1
    have f3 := ((calc_frame c).2 ch _ st2 hf).outside
    refine ⟨i1, ?_, fun p hp => ?_⟩
    · rcases s4 with s4 | ⟨-, s4⟩
      · exact ⟨e2, s4 ▸ he2⟩
      · exact ⟨[_] ++ e2, by rw [he2, s4, List.append_assoc]⟩
    · rw [Tree.abbrevs, List.mem_cons] at hp
      rcases hp with rfl | hp
      · exact ⟨code, (f3 id hid).2.trans (if_pos rfl), s1, he2 ▸ IndexSet.getElem?_append_of_some s3 e2⟩
      · exact i3 p hp
  · rw [calcForest] at h
    cases h
    exact ⟨hta, ⟨[], (List.append_nil _).symm⟩, fun _ hp => (List.not_mem_nil hp).elim⟩
  · rw [calcForest] at h
    obtain ⟨st1, ht, h⟩ := Out.bind_eq_ok h
    rw [Forest.ids] at hnd
    obtain ⟨hnd1, hnd2, hdis⟩ := List.nodup_append.mp hnd
    obtain ⟨a1, ⟨e1, he1⟩, a3⟩ := iht st st1 ht hnd1 hta
    obtain ⟨b1, ⟨e2, he2⟩, b3⟩ := ihf st1 st' h hnd2 a1
    have f3 := ((calc_frame c).2 rest st1 st' h).outside
    refine ⟨b1, ⟨e1 ++ e2, by rw [he2, he1, List.append_assoc]⟩, fun p hp => ?_⟩
    rw [Forest.abbrevs, List.mem_append] at hp
    rcases hp with hp | hp
    · -- an entry of the first tree: the rest of the forest neither touches its code nor its table slot
      have hmem : p.1 ∈ t.ids := Tree.abbrevs_ids c t ▸ List.mem_map_of_mem hp
      exact (a3 p hp).mono (f3 p.1 fun h => hdis p.1 hmem p.1 h rfl).2 ⟨e2, he2⟩
    · exact b3 p hp

theorem calcForest_codes (c : Enc) : ∀ (f : Forest) (st st' : P1), calcForest c st f = .ok st' →
    f.ids.Nodup → st.abbrevs.Nodup →
    st'.abbrevs.Nodup ∧ (∃ ext, st'.abbrevs = st.abbrevs ++ ext) ∧ ∀ p ∈ f.abbrevs c, CodeOk st' p :=
  (calc_codes c).2

end Gimli.WUnit
