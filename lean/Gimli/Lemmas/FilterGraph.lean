import Gimli.Lemmas.Filter
/-!
One result about each stage of the filtered conversion (C19).

* The filter pass over a unit is a fold of `recordStep` over `records` (the entries in read order,
  each with the parent the `FilterUnit` stack yields), and each step adds to the graph one node, its
  edges and possibly a requirement (`recordStep_graph`). `buildDeps_graph`: on distinct offsets the
  pass succeeds, and `GraphInv` says exactly which graph it ends in.
  Two facts that hold of any section, distinct offsets or not, stand beside it: root attributes only
  add to `required` (`buildDeps_roots`, by a frame argument: `recordStep` never reads `required`), and
  the parent the stack yields is an entry of the same unit, offset and tag (`unitRecs_parent`, `records_parent`).
* Parent links. `ConvertUnit` pushes only reserved entries on its stack. That stack is the
  `FilterUnit` stack without the unreserved elements (`convStack`), because on a stack of decreasing
  depths popping is filtering (`popParents_eq_filter`). So a reserved entry whose parent is reserved
  gets the parent the `FilterUnit` stack found: `convertLinks_eq`, `convertUnits_links`.
* Reference resolution. `convAttr_none`: an attribute converts iff it is well scoped (in bounds, not
  nested too deep: independent of the id table) and every recorded target is in the id table. Hence
  conversion is monotone in the id table (`convAttr_keep`), and `write` resolves what the conversion
  resolved (`splitWriteOk_of_converted`).
-/
namespace Gimli.Filter

/-! ## The filter pass -/

/-- one DIE as `read_entry` records it: its unit, the raw entry, the parent found on the stack -/
structure Rec where
  unit : UnitHdr
  e : Entry
  parent : Option Parent

namespace Rec
/-- `entry.offset.to_unit_section_offset(unit)` -/
def off (r : Rec) : Off := r.unit.base + r.e.off
def parentOff (r : Rec) : Option Off :=
  match r.parent with
  | some p => some (r.unit.base + p.off)
  | none => none
/-- `parent.tag != DW_TAG_namespace && entry.has_die_back_edge()` -/
def backEdge (r : Rec) : Bool :=
  match r.parent with
  | some p => parentAllowsChildEdge p.tag && hasBackEdge r.e.tag r.e.hasDecl
  | none => false
/-- offsets recorded from attributes, expressions and location lists -/
def refDeps (r : Rec) : List Off := r.e.attrs.flatMap (attrDeps r.unit)
/-- the `deps` passed to `add_entry` -/
def ownDeps (r : Rec) : List Off :=
  match r.parent with
  | some p => r.refDeps ++ [r.unit.base + p.off]
  | none => r.refDeps

theorem mem_ownDeps {r : Rec} {y : Off} : y ∈ r.ownDeps ↔ y ∈ r.refDeps ∨ r.parentOff = some y := by
  rw [ownDeps, parentOff]
  cases r.parent with
  | none => simp
  | some p => simp [eq_comm]

theorem parentOff_eq_some {r : Rec} {po : Off} :
    r.parentOff = some po ↔ ∃ p, r.parent = some p ∧ r.unit.base + p.off = po := by
  refine .trans ?_ (Option.map_eq_some_iff (f := fun p : Parent => r.unit.base + p.off))
  rw [parentOff]
  cases r.parent <;> exact .rfl
end Rec

/-- entries of one unit with the parent the stack yields -/
def withParents : List Parent → List Entry → List (Entry × Option Parent)
  | _, [] => []
  | st, e :: es =>
    (e, (popParents e.depth st).head?) :: withParents (pushParent e (popParents e.depth st)) es

def unitRecs (ue : UnitHdr × List Entry) : List Rec :=
  (withParents [] ue.2).map (fun ep => ⟨ue.1, ep.1, ep.2⟩)

def records (units : List (UnitHdr × List Entry)) : List Rec := units.flatMap unitRecs

def recordStep (m : Mode) (d : Deps) (r : Rec) : Out Deps := recordEntry m r.unit d r.e r.parent

theorem foldOut_cons {σ α : Type} (f : σ → α → Out σ) (s : σ) (a : α) (as : List α) :
    foldOut f s (a :: as) = f s a >>= fun s' => foldOut f s' as := by
  rw [foldOut]; cases f s a <;> rfl

theorem foldOut_readEntry (m : Mode) (u : UnitHdr) (es : List Entry) : ∀ (d : Deps) (st : List Parent),
    (foldOut (readEntry m u) (d, st) es).map (·.1) =
      foldOut (recordStep m) d ((withParents st es).map (fun ep => ⟨u, ep.1, ep.2⟩)) := by
  induction es with
  | nil => exact fun _ _ => rfl
  | cons e es ih =>
    intro d st
    rw [withParents, List.map_cons, foldOut_cons, foldOut_cons, readEntry, recordStep]
    cases recordEntry m u d e (popParents e.depth st).head? with
    | ok d' => exact ih d' _
    | _ => rfl

theorem filterUnit_eq (m : Mode) (d : Deps) (ue : UnitHdr × List Entry) :
    filterUnit m d ue = foldOut (recordStep m) d (unitRecs ue) :=
  foldOut_readEntry m ue.1 ue.2 d []

/-- the first stage of `read_entry`: `add_edge(parent, entry)` for a member-like child -/
def linkParent (d : Deps) (r : Rec) : Out Deps :=
  match r.parentOff with
  | some po => if r.backEdge then d.addEdge po r.off else .ok d
  | none => .ok d

theorem recordStep_steps (m : Mode) (d : Deps) (r : Rec) :
    recordStep m d r =
      linkParent d r >>= fun d1 =>
      d1.addEntry m r.off r.ownDeps >>= fun d2 =>
      .ok (if r.e.required then d2.requireEntry r.off else d2) := by
  obtain ⟨u, e, parent⟩ := r
  cases parent with
  | none => rfl
  | some p =>
    have hbe : Rec.backEdge ⟨u, e, some p⟩ = (parentAllowsChildEdge p.tag && hasBackEdge e.tag e.hasDecl) := rfl
    rw [recordStep, recordEntry, linkParent]
    simp only [Rec.parentOff, hbe]
    by_cases hb : (parentAllowsChildEdge p.tag && hasBackEdge e.tag e.hasDecl) = true
    · rw [if_pos hb, if_pos hb]; rfl
    · rw [if_neg hb, if_neg hb]; rfl

/-- `read_entry` as an operation on the graph: it adds the node `r.off`, an edge to each of
`r.ownDeps`, the edge from the parent if `r` is member-like, and the requirement if the user wants
`r`. The two hypotheses are what keeps `add_entry`'s `debug_assert!` and `add_edge`'s `unwrap` from
firing. -/
theorem recordStep_graph (m : Mode) (d : Deps) (r : Rec) (hnew : ¬ d.edges.Valid r.off)
    (hpar : ∀ po, r.parentOff = some po → d.edges.Valid po) :
    ∃ d', recordStep m d r = .ok d' ∧
      (∀ a, d'.edges.Valid a ↔ d.edges.Valid a ∨ r.off = a) ∧
      (∀ a b, d'.edges.Edge a b ↔ d.edges.Edge a b ∨
        (r.off = a ∧ b ∈ r.ownDeps) ∨ (r.off = b ∧ r.backEdge = true ∧ r.parentOff = some a)) ∧
      (∀ a, a ∈ d'.required ↔ a ∈ d.required ∨ (r.off = a ∧ r.e.required = true)) := by
  obtain ⟨E, h1, hV, hE⟩ : ∃ E, linkParent d r = .ok ⟨E, d.required⟩ ∧ (∀ a, E.Valid a ↔ d.edges.Valid a) ∧
      ∀ a b, E.Edge a b ↔ d.edges.Edge a b ∨ (r.off = b ∧ r.backEdge = true ∧ r.parentOff = some a) := by
    rw [linkParent]
    cases hp : r.parentOff with
    | none => exact ⟨_, rfl, fun _ => .rfl, fun a b => by simp⟩
    | some po =>
      cases hb : r.backEdge with
      | false => exact ⟨_, rfl, fun _ => .rfl, fun a b => by simp⟩
      | true =>
        refine ⟨d.edges.push po r.off, (if_pos rfl).trans (if_pos (hpar po hp)),
          EdgeMap.valid_push _ _ _, fun a b => ?_⟩
        rw [EdgeMap.edge_push _ (hpar po hp), Option.some.injEq, eq_self, true_and]
  -- `add_edge` adds no node, so `r.off` is still new
  have hnew' : ¬ E.Valid r.off := fun h => hnew ((hV _).1 h)
  rw [recordStep_steps, h1, Out.bind_ok, Deps.addEntry, if_neg fun h => hnew' h.2, Out.bind_ok]
  have hreq : ∀ d2 : Deps, (if r.e.required then d2.requireEntry r.off else d2) =
      ⟨d2.edges, if r.e.required then d2.required ++ [r.off] else d2.required⟩ :=
    fun d2 => by split <;> rfl
  refine ⟨_, rfl, fun a => ?_, fun a b => ?_, fun a => ?_⟩
  · rw [hreq, EdgeMap.valid_insert, hV]
  · rw [hreq, EdgeMap.edge_insert _ hnew', hE, or_assoc, or_comm (a := _ ∧ _ ∧ _)]
  · rw [hreq]
    cases r.e.required <;> simp [eq_comm]

/-- `x` keeps `y` because `y` is referenced by `x` or is the parent of `x` -/
def DepOwn (pre : List Rec) (x y : Off) : Prop := ∃ r, r ∈ pre ∧ r.off = x ∧ y ∈ r.ownDeps
/-- `x` keeps `y` because `y` is a member-like child of the non-namespace entry `x` -/
def DepChild (pre : List Rec) (x y : Off) : Prop :=
  ∃ c, c ∈ pre ∧ c.off = y ∧ c.backEdge = true ∧ c.parentOff = some x

/-- The graph a `FilterDependencies` value denotes after the records `pre`, when `roots` are the
offsets required on behalf of unit roots: its nodes are the entry offsets, `x` has an edge to
precisely its references, its parent and its member-like children, and `required` holds the wanted
entries and `roots`. These are the three components `Deps.Reachable` is the `Reach` of. The right
sides are the bodies of `Gimli.Props.C19.IsEntry pre x` (`keys`), `Dep pre x y` (`edges`) and
`Required pre roots x` (`req`), written out because those definitions stand in Props/C19.lean: a
statement in their terms meets a field by unfolding, not syntactically. -/
structure GraphInv (roots : List Off) (pre : List Rec) (d : Deps) : Prop where
  keys : ∀ x, d.edges.Valid x ↔ ∃ r, r ∈ pre ∧ r.off = x
  edges : ∀ x y, d.edges.Edge x y ↔ (DepOwn pre x y ∨ DepChild pre x y)
  req : ∀ x, x ∈ d.required ↔ (∃ r, r ∈ pre ∧ r.off = x ∧ r.e.required = true) ∨ x ∈ roots

theorem graphInv_nil : GraphInv [] [] {} where
  keys x := by simp [EdgeMap.Valid, EdgeMap.contains, EdgeMap.get?]
  edges x y := by simp [EdgeMap.Edge, EdgeMap.get?, DepOwn, DepChild]
  req x := by simp

private theorem exists_mem_append_singleton {pre : List Rec} {r : Rec} (P : Rec → Prop) :
    (∃ r', r' ∈ pre ++ [r] ∧ P r') ↔ ((∃ r', r' ∈ pre ∧ P r') ∨ P r) := by
  simp only [List.mem_append, List.mem_singleton, or_and_right, exists_or, exists_eq_left]

/-- Both sides of each clause grow by the same disjunct. -/
theorem graphInv_step (m : Mode) {roots : List Off} {pre : List Rec} {d : Deps} (r : Rec)
    (hinv : GraphInv roots pre d) (hdist : ∀ r', r' ∈ pre → r'.off ≠ r.off)
    (hpar : ∀ po, r.parentOff = some po → ∃ r', r' ∈ pre ∧ r'.off = po) :
    ∃ d', recordStep m d r = .ok d' ∧ GraphInv roots (pre ++ [r]) d' := by
  obtain ⟨d', hd', V, E, Q⟩ := recordStep_graph m d r
    (fun hc => let ⟨r', hr', ho⟩ := (hinv.keys _).1 hc; hdist r' hr' ho)
    fun po hp => (hinv.keys po).2 (hpar po hp)
  refine ⟨d', hd', fun x => ?_, fun x y => ?_, fun x => ?_⟩
  · rw [V, hinv.keys, exists_mem_append_singleton (fun r' => r'.off = x)]
  · rw [E, hinv.edges, DepOwn, DepOwn, DepChild, DepChild, exists_mem_append_singleton,
      exists_mem_append_singleton, or_or_or_comm]
  · rw [Q, hinv.req, exists_mem_append_singleton (fun r' => r'.off = x ∧ r'.e.required = true),
      or_right_comm]

theorem popParents_eq_dropWhile (d : Int) (st : List Parent) :
    popParents d st = st.dropWhile (fun p => !decide (p.depth < d)) := by
  induction st with
  | nil => rfl
  | cons q st ih =>
    rw [popParents, List.dropWhile_cons, ← ih]
    by_cases hq : q.depth < d <;> simp [hq]

theorem popParents_subset (depth : Int) (st : List Parent) (p : Parent) :
    p ∈ popParents depth st → p ∈ st :=
  fun h => (popParents_eq_dropWhile depth st ▸ List.dropWhile_sublist _).subset h

theorem mem_pushParent {e : Entry} {st : List Parent} {p : Parent} (h : p ∈ pushParent e st) :
    p = ⟨e.depth, e.off, e.tag⟩ ∨ p ∈ st := by
  rw [pushParent] at h
  split at h
  · exact List.mem_cons.1 h
  · exact .inr h

/-- What the `FilterUnit` stack yields, for entries paired with their parents: every parent is known
beforehand (`K`: an element of the start stack) or is the `FilterParent` of an earlier entry of the
list. -/
def ParentsEarlier (K : Parent → Prop) : List (Entry × Option Parent) → Prop
  | [] => True
  | ep :: l => (∀ p, ep.2 = some p → K p) ∧
      ParentsEarlier (fun p => K p ∨ p = ⟨ep.1.depth, ep.1.off, ep.1.tag⟩) l

namespace ParentsEarlier
theorem mem {l : List (Entry × Option Parent)} {K : Parent → Prop} (h : ParentsEarlier K l)
    {ep : Entry × Option Parent} (hep : ep ∈ l) {p : Parent} (hp : ep.2 = some p) :
    K p ∨ ∃ ep', ep' ∈ l ∧ p = ⟨ep'.1.depth, ep'.1.off, ep'.1.tag⟩ := by
  induction l generalizing K with
  | nil => cases hep
  | cons a l ih =>
    rcases List.mem_cons.1 hep with rfl | hep
    · exact .inl (h.1 p hp)
    · rcases ih h.2 hep with (hk | rfl) | ⟨ep', h', rfl⟩
      · exact .inl hk
      · exact .inr ⟨a, List.mem_cons_self, rfl⟩
      · exact .inr ⟨ep', List.mem_cons_of_mem _ h', rfl⟩
end ParentsEarlier

theorem parentsEarlier_withParents (es : List Entry) : ∀ (st : List Parent) (K : Parent → Prop),
    (∀ p, p ∈ st → K p) → ParentsEarlier K (withParents st es) := by
  induction es with
  | nil => exact fun _ _ _ => trivial
  | cons e es ih =>
    intro st K hst
    refine ⟨fun p hp => hst p (popParents_subset _ _ _ (List.mem_of_mem_head? hp)), ih _ _ fun p hp => ?_⟩
    -- the new stack holds old elements and possibly `e`
    rcases mem_pushParent hp with rfl | hp
    · exact .inr rfl
    · exact .inl (hst p (popParents_subset _ _ _ hp))

/-- `K` is read as "is a record of `pre`"; that stays true as `pre` grows by the entries read. -/
theorem graphInv_fold (m : Mode) {roots : List Off} (u : UnitHdr) (l : List (Entry × Option Parent)) :
    ∀ {K : Parent → Prop} {pre : List Rec} {d : Deps}, GraphInv roots pre d →
    ((pre ++ l.map fun ep => Rec.mk u ep.1 ep.2).map Rec.off).Nodup → ParentsEarlier K l →
    (∀ p, K p → ∃ r', r' ∈ pre ∧ r'.off = u.base + p.off) →
    ∃ d', foldOut (recordStep m) d (l.map fun ep => Rec.mk u ep.1 ep.2) = .ok d' ∧
      GraphInv roots (pre ++ l.map fun ep => Rec.mk u ep.1 ep.2) d' := by
  induction l with
  | nil => exact fun {_ _ d} hinv _ _ _ => ⟨d, rfl, by rwa [List.map_nil, List.append_nil]⟩
  | cons ep l ih =>
    intro K pre d hinv hnd hpe hK
    rw [List.map_cons] at hnd ⊢
    have hdist : ∀ r', r' ∈ pre → r'.off ≠ Rec.off ⟨u, ep.1, ep.2⟩ := fun r' hr' heq => by
      rw [List.map_append, List.map_cons, List.nodup_append] at hnd
      exact hnd.2.2 _ (List.mem_map_of_mem hr') _ List.mem_cons_self heq
    obtain ⟨d1, h1, hinv1⟩ := graphInv_step m _ hinv hdist fun po hp =>
      let ⟨p, h2, ho⟩ := Rec.parentOff_eq_some.1 hp
      ho ▸ hK p (hpe.1 p h2)
    rw [List.append_cons] at hnd ⊢
    rw [foldOut_cons, h1]
    refine ih hinv1 hnd hpe.2 fun p hp => ?_
    rcases hp with hk | rfl
    · exact (hK p hk).imp fun r' h => ⟨List.mem_append_left _ h.1, h.2⟩
    · exact ⟨_, List.mem_append_right _ List.mem_cons_self, rfl⟩

theorem requireRoot_eq (u : UnitHdr) (ra : List AttrRef) (d : Deps) :
    requireRoot u ra d = ⟨d.edges, d.required ++ ra.flatMap (attrDeps u)⟩ := by
  rw [requireRoot]
  generalize ra.flatMap (attrDeps u) = l
  induction l generalizing d with
  | nil => rw [List.append_nil]; rfl
  | cons x l ih => rw [List.foldl_cons, ih, Deps.requireEntry, List.append_assoc]; rfl

namespace GraphInv
theorem requireRoot {roots : List Off} {pre : List Rec} {d : Deps} (h : GraphInv roots pre d)
    (u : UnitHdr) (ra : List AttrRef) :
    GraphInv (roots ++ ra.flatMap (attrDeps u)) pre (requireRoot u ra d) := by
  rw [requireRoot_eq]
  exact ⟨h.keys, h.edges, fun x => by rw [List.mem_append, List.mem_append, h.req x, or_assoc]⟩
end GraphInv

/-- the offsets required on behalf of the unit roots -/
def rootReqs : List (UnitHdr × List Entry) → List (List AttrRef) → List Off
  | [], _ => []
  | ue :: rest, ras => (ras.headD []).flatMap (attrDeps ue.1) ++ rootReqs rest ras.tail

def Distinct (units : List (UnitHdr × List Entry)) : Prop := ((records units).map Rec.off).Nodup

theorem buildDepsFrom_cons (m : Mode) (d : Deps) (ue : UnitHdr × List Entry)
    (rest : List (UnitHdr × List Entry)) (ras : List (List AttrRef)) :
    buildDepsFrom m d (ue :: rest) ras =
      filterUnit m (requireRoot ue.1 (ras.headD []) d) ue >>= fun d' => buildDepsFrom m d' rest ras.tail := by
  rw [buildDepsFrom]; cases filterUnit m (requireRoot ue.1 (ras.headD []) d) ue <;> rfl

theorem buildDepsFrom_graph (m : Mode) (units : List (UnitHdr × List Entry)) : ∀ (ras : List (List AttrRef))
    {roots : List Off} {pre : List Rec} {d : Deps},
    GraphInv roots pre d → ((pre ++ records units).map Rec.off).Nodup →
    ∃ d', buildDepsFrom m d units ras = .ok d' ∧
      GraphInv (roots ++ rootReqs units ras) (pre ++ records units) d' := by
  induction units with
  | nil =>
    intro _ _ _ d hinv _
    exact ⟨d, rfl, by rwa [records, List.flatMap_nil, rootReqs, List.append_nil, List.append_nil]⟩
  | cons ue units ih =>
    intro ras roots pre d hinv hnd
    rw [records, List.flatMap_cons, ← List.append_assoc] at hnd ⊢
    have hnd1 : ((pre ++ unitRecs ue).map Rec.off).Nodup := by
      rw [List.map_append] at hnd; exact (List.nodup_append.1 hnd).1
    obtain ⟨d1, h1, hinv1⟩ := graphInv_fold m ue.1 (withParents [] ue.2) (hinv.requireRoot ue.1 (ras.headD []))
      hnd1 (parentsEarlier_withParents ue.2 [] (fun _ => False) fun _ hp => nomatch hp) fun _ => False.elim
    obtain ⟨d', h', hinv'⟩ := ih ras.tail hinv1 hnd
    rw [List.append_assoc] at hinv'
    exact ⟨d', by rw [buildDepsFrom_cons, filterUnit_eq, unitRecs, h1]; exact h', hinv'⟩

/-- On a section whose DIE offsets are distinct the filter pass never panics, and it builds exactly
the graph `GraphInv` describes. -/
theorem buildDeps_graph (m : Mode) (units : List (UnitHdr × List Entry)) (ras : List (List AttrRef))
    (hd : Distinct units) :
    ∃ d, buildDeps m units ras = .ok d ∧ GraphInv (rootReqs units ras) (records units) d :=
  buildDepsFrom_graph m units ras graphInv_nil hd

theorem buildDeps_graph_of_ok {m : Mode} {units : List (UnitHdr × List Entry)} {ras : List (List AttrRef)}
    {d : Deps} (hb : buildDeps m units ras = .ok d) (hd : Distinct units) :
    GraphInv (rootReqs units ras) (records units) d := by
  obtain ⟨d', hb', G⟩ := buildDeps_graph m units ras hd
  cases hb.symm.trans hb'
  exact G

/-! ## root attributes only add to `required` (any section, distinct offsets or not)

`recordStep` reads the edge map only and appends to `required`; so a prefix `q` of `required` passes through the
pass over a unit unchanged, and two runs that start with the same edges stay together whatever they have required. -/

theorem recordStep_frame (m : Mode) (r : Rec) (E : EdgeMap) (l q : List Off) :
    recordStep m ⟨E, q ++ l⟩ r = (recordStep m ⟨E, l⟩ r).map fun d' => ⟨d'.edges, q ++ d'.required⟩ := by
  have fin : ∀ E' : EdgeMap,
      ((⟨E', q ++ l⟩ : Deps).addEntry m r.off r.ownDeps >>= fun d2 =>
        Out.ok (if r.e.required then d2.requireEntry r.off else d2)) =
      ((⟨E', l⟩ : Deps).addEntry m r.off r.ownDeps >>= fun d2 =>
        Out.ok (if r.e.required then d2.requireEntry r.off else d2)).map
          fun d' => ⟨d'.edges, q ++ d'.required⟩ := by
    intro E'
    unfold Deps.addEntry
    split
    · rfl
    · cases r.e.required
      · rfl
      · simp only [Out.bind_ok, if_true, Deps.requireEntry, Out.map, List.append_assoc]
  rw [recordStep_steps, recordStep_steps, linkParent, linkParent]
  cases r.parentOff with
  | none => exact fin E
  | some po =>
    cases r.backEdge with
    | false => exact fin E
    | true =>
      simp only [if_true, Deps.addEdge]
      split
      · exact fin _
      · rfl

theorem foldOut_recordStep_frame (m : Mode) (recs : List Rec) : ∀ (E : EdgeMap) (l q : List Off),
    foldOut (recordStep m) ⟨E, q ++ l⟩ recs =
      (foldOut (recordStep m) ⟨E, l⟩ recs).map fun d' => ⟨d'.edges, q ++ d'.required⟩ := by
  induction recs with
  | nil => exact fun _ _ _ => rfl
  | cons r recs ih =>
    intro E l q
    rw [foldOut_cons, foldOut_cons, recordStep_frame]
    cases recordStep m ⟨E, l⟩ r with
    | ok d' => exact ih d'.edges d'.required q
    | _ => rfl

/-- Two runs from states with the same edges, the first with root attributes, the second without:
same edges at the end, and the first has required what the second has and the root references.
Each unit's pass is the pass from an empty `required` behind a prefix, for both. -/
theorem buildDepsFrom_roots (m : Mode) (units : List (UnitHdr × List Entry)) :
    ∀ (ras : List (List AttrRef)) (S : List Off) (E : EdgeMap) (l l0 : List Off) (d : Deps),
    (∀ x, x ∈ l ↔ (x ∈ l0 ∨ x ∈ S)) → buildDepsFrom m ⟨E, l⟩ units ras = .ok d →
    ∃ d0, buildDepsFrom m ⟨E, l0⟩ units [] = .ok d0 ∧ d.edges = d0.edges ∧
      ∀ x, x ∈ d.required ↔ (x ∈ d0.required ∨ x ∈ S ++ rootReqs units ras) := by
  induction units with
  | nil =>
    intro _ S E l l0 d hl h
    cases h
    exact ⟨_, rfl, rfl, fun x => by rw [rootReqs, List.append_nil]; exact hl x⟩
  | cons ue rest ih =>
    intro ras S E l l0 d hl h
    have hf := fun q => foldOut_recordStep_frame m (unitRecs ue) E [] q
    simp only [List.append_nil] at hf
    rw [buildDepsFrom_cons, requireRoot_eq, filterUnit_eq, hf] at h
    rw [buildDepsFrom_cons, requireRoot_eq, List.headD_nil, List.flatMap_nil, List.append_nil, filterUnit_eq, hf]
    cases hr : foldOut (recordStep m) ⟨E, []⟩ (unitRecs ue) with
    | ok r =>
      rw [hr] at h
      obtain ⟨d0, h0, he, hm⟩ := ih ras.tail (S ++ (ras.headD []).flatMap (attrDeps ue.1)) r.edges _
        (l0 ++ r.required) d (fun x => by
          rw [List.mem_append, List.mem_append, List.mem_append, List.mem_append, hl x,
            or_assoc (a := x ∈ l0), or_right_comm]) h
      exact ⟨d0, h0, he, fun x => by rw [hm x, rootReqs, List.append_assoc]⟩
    | _ => rw [hr] at h; cases h

theorem buildDeps_roots (m : Mode) (units : List (UnitHdr × List Entry)) (ras : List (List AttrRef))
    (d : Deps) (h : buildDeps m units ras = .ok d) :
    ∃ d0, buildDeps m units = .ok d0 ∧ d.edges = d0.edges ∧
      ∀ x, x ∈ d.required ↔ (x ∈ d0.required ∨ x ∈ rootReqs units ras) :=
  buildDepsFrom_roots m units ras [] [] [] [] d (fun _ => by simp) h

theorem mem_rootReqs (units : List (UnitHdr × List Entry)) : ∀ (ras : List (List AttrRef)) (i : Nat)
    (ue : UnitHdr × List Entry) (ra : List AttrRef), units[i]? = some ue → ras[i]? = some ra →
    ∀ a, a ∈ ra → ∀ t, t ∈ attrDeps ue.1 a → t ∈ rootReqs units ras := by
  induction units with
  | nil => intro _ _ _ _ hu; cases hu
  | cons u0 units ih =>
    rintro (_ | ⟨r0, ras⟩) i ue ra hu hr a ha t ht
    · cases hr
    · cases i with
      | zero =>
        cases hu; cases hr
        exact List.mem_append_left _ (List.mem_flatMap.2 ⟨a, ha, ht⟩)
      | succ i => exact List.mem_append_right _ (ih ras i ue ra hu hr a ha t ht)

theorem withParents_fst (es : List Entry) : ∀ (st : List Parent), (withParents st es).map (·.1) = es := by
  induction es with
  | nil => exact fun _ => rfl
  | cons e es ih => exact fun st => by rw [withParents, List.map_cons, ih]

theorem mem_unitRecs {ue : UnitHdr × List Entry} {r : Rec} (hr : r ∈ unitRecs ue) :
    r.unit = ue.1 ∧ r.e ∈ ue.2 := by
  obtain ⟨ep, hep, rfl⟩ := List.mem_map.1 hr
  exact ⟨rfl, withParents_fst ue.2 [] ▸ List.mem_map_of_mem hep⟩

theorem unitRecs_of_mem {ue : UnitHdr × List Entry} {e : Entry} (he : e ∈ ue.2) :
    ∃ r, r ∈ unitRecs ue ∧ r.off = ue.1.base + e.off := by
  rw [← withParents_fst ue.2 []] at he
  obtain ⟨ep, hep, rfl⟩ := List.mem_map.1 he
  exact ⟨_, List.mem_map_of_mem hep, rfl⟩

theorem records_mem (units : List (UnitHdr × List Entry)) (r : Rec) (hr : r ∈ records units) :
    ∃ ue, ue ∈ units ∧ r.unit = ue.1 ∧ r.e ∈ ue.2 :=
  let ⟨ue, hue, hr⟩ := List.mem_flatMap.1 hr
  ⟨ue, hue, mem_unitRecs hr⟩

theorem unitRecs_parent {ue : UnitHdr × List Entry} {r : Rec} (hr : r ∈ unitRecs ue) {p : Parent}
    (hp : r.parent = some p) : ∃ r', r' ∈ unitRecs ue ∧ r'.off = ue.1.base + p.off ∧ r'.e.tag = p.tag := by
  obtain ⟨ep, hep, rfl⟩ := List.mem_map.1 hr
  obtain h | ⟨ep', hep', rfl⟩ :=
    (parentsEarlier_withParents ue.2 [] (fun _ => False) fun _ h => nomatch h).mem hep hp
  · exact h.elim
  · exact ⟨_, List.mem_map_of_mem hep', rfl, rfl⟩

theorem withParents_parent : ∀ (es : List Entry) (st : List Parent) (e : Entry) (p : Parent),
    (e, some p) ∈ withParents st es → p ∈ st ∨ ∃ e', e' ∈ es ∧ p.off = e'.off ∧ p.tag = e'.tag :=
  fun es st _ _ h => ((parentsEarlier_withParents es st (· ∈ st) fun _ h => h).mem h rfl).imp_right
    fun ⟨ep', hep', hp⟩ =>
      ⟨ep'.1, withParents_fst es st ▸ List.mem_map_of_mem hep', by rw [hp], by rw [hp]⟩

theorem records_parent (units : List (UnitHdr × List Entry)) (r : Rec) (hr : r ∈ records units)
    (p : Parent) (hp : r.parent = some p) :
    ∃ r', r' ∈ records units ∧ r'.off = r.unit.base + p.off ∧ r'.e.tag = p.tag := by
  obtain ⟨ue, hue, hr⟩ := List.mem_flatMap.1 hr
  obtain ⟨r', hr', h⟩ := unitRecs_parent hr hp
  exact ⟨r', List.mem_flatMap.2 ⟨ue, hue, hr'⟩, by rw [(mem_unitRecs hr).1]; exact h⟩

theorem records_parentOff {units : List (UnitHdr × List Entry)} {r : Rec} (hr : r ∈ records units)
    {po : Off} (hp : r.parentOff = some po) : ∃ r', r' ∈ records units ∧ r'.off = po := by
  obtain ⟨p, h, ho⟩ := Rec.parentOff_eq_some.1 hp
  obtain ⟨r', hr', ho', _⟩ := records_parent units r hr p h
  exact ⟨r', hr', ho'.trans ho⟩

theorem containsOff_entry (u : UnitHdr) (off : Nat) (h : u.inBounds off = true) :
    u.containsOff (u.base + off) = true := by
  rw [UnitHdr.containsOff, Nat.add_sub_cancel_left, h, decide_eq_true (Nat.le_add_right _ _)]
  rfl

/-- a section as the raw reader can deliver it: distinct DIE offsets, units in ascending
non-overlapping order, every DIE inside the bounds of its unit -/
structure WellFormed (units : List (UnitHdr × List Entry)) : Prop where
  distinct : Distinct units
  ascending : (units.map (·.1)).Pairwise (fun u v => u.endOff ≤ v.base)
  inside : ∀ ue, ue ∈ units → ∀ e, e ∈ ue.2 → ue.1.inBounds e.off = true

namespace WellFormed
theorem covered {units : List (UnitHdr × List Entry)} (wf : WellFormed units) {r : Rec}
    (hr : r ∈ records units) : ∃ u, u ∈ units.map (·.1) ∧ u.containsOff r.off = true := by
  obtain ⟨ue, hue, hu, he⟩ := records_mem units r hr
  exact ⟨ue.1, List.mem_map_of_mem hue, by rw [Rec.off, hu]; exact containsOff_entry _ _ (wf.inside ue hue _ he)⟩

theorem mem_first {ue : UnitHdr × List Entry} {rest : List (UnitHdr × List Entry)}
    (wf : WellFormed (ue :: rest)) {r : Rec} (hr : r ∈ records (ue :: rest))
    (hc : ue.1.containsOff r.off = true) : r.unit = ue.1 ∧ r.e ∈ ue.2 := by
  obtain ⟨ve, hve, hu, he⟩ := records_mem _ r hr
  rcases List.mem_cons.1 hve with rfl | hve
  · exact ⟨hu, he⟩
  · -- `r` is in a later unit, which starts at or after the end of `ue`: `r.off` lies beyond `ue`
    have h1 := (List.pairwise_cons.1 wf.ascending).1 ve.1 (List.mem_map_of_mem hve)
    have h2 : ve.1.base ≤ r.off := by rw [Rec.off, hu]; exact Nat.le_add_right _ _
    rw [UnitHdr.containsOff_of_endOff_le (Nat.le_trans h1 h2)] at hc
    cases hc
end WellFormed

theorem mem_flatten_filter {us : List UnitHdr} {out : List Off} {x : Off} :
    x ∈ (us.map (fun u => out.filter u.containsOff)).flatten ↔
      x ∈ out ∧ ∃ u, u ∈ us ∧ u.containsOff x = true := by
  rw [List.mem_flatten]
  constructor
  · rintro ⟨l, hl, hx⟩
    obtain ⟨u, hu, rfl⟩ := List.mem_map.1 hl
    exact ⟨(List.mem_filter.1 hx).1, u, hu, (List.mem_filter.1 hx).2⟩
  · rintro ⟨hx, u, hu, hc⟩
    exact ⟨_, List.mem_map.2 ⟨u, hu, rfl⟩, List.mem_filter.2 ⟨hx, hc⟩⟩

/-! ## Parent links -/

/-- `ConvertUnit::read_entry` without the attribute conversion: `(offset, parent)` of the reserved
entries, in order -/
def convertLinks (ids : List Off) (u : UnitHdr) : List (Int × Off) → List Entry → List (Off × Option Off)
  | _, [] => []
  | stack, e :: es =>
    let stack1 := stack.dropWhile (fun p => !(decide (p.1 < e.depth)))
    let stack2 := if ids.contains (u.base + e.off) && e.hasChildren then (e.depth, u.base + e.off) :: stack1 else stack1
    if ids.contains (u.base + e.off) then (u.base + e.off, stack1.head?.map (·.2)) :: convertLinks ids u stack2 es
    else convertLinks ids u stack2 es

theorem convertEntries_ok (ids : List Off) (u : UnitHdr) (es : List Entry) : ∀ (st : List (Int × Off))
    (acc res : List (Off × Option Off)), convertEntries ids u st es acc = .ok res →
    res = acc.reverse ++ convertLinks ids u st es ∧
    ∀ e, e ∈ es → ids.contains (u.base + e.off) = true → firstErr (e.attrs.map (convAttr ids u)) = none := by
  induction es with
  | nil =>
    intro _ acc res h
    exact ⟨by rw [← Except.ok.inj h, convertLinks, List.append_nil], fun _ he => by cases he⟩
  | cons e es ih =>
    intro st acc res h
    rw [convertEntries] at h
    rw [convertLinks, List.forall_mem_cons]
    cases hr : ids.contains (u.base + e.off) with
    | true =>
      simp only [hr, if_true, Bool.true_and] at h ⊢
      cases hf : firstErr (e.attrs.map (convAttr ids u)) with
      | some err => rw [hf] at h; cases h
      | none =>
        rw [hf] at h
        obtain ⟨h1, h2⟩ := ih _ _ _ h
        exact ⟨by rw [h1, List.reverse_cons, List.append_assoc]; rfl, fun _ => rfl, h2⟩
    | false =>
      simp only [hr, Bool.false_and, Bool.false_eq_true, if_false] at h ⊢
      obtain ⟨h1, h2⟩ := ih _ _ _ h
      exact ⟨h1, False.elim, h2⟩

theorem convertLinks_fst (ids : List Off) (u : UnitHdr) (es : List Entry) : ∀ (st : List (Int × Off)),
    (convertLinks ids u st es).map (·.1) = (es.map (u.base + ·.off)).filter ids.contains := by
  induction es with
  | nil => exact fun _ => rfl
  | cons e es ih =>
    intro st
    rw [convertLinks, List.map_cons, List.filter_cons]
    by_cases hr : ids.contains (u.base + e.off) = true
    · rw [if_pos hr, if_pos hr, List.map_cons, ih]
    · rw [if_neg hr, if_neg hr, ih]

theorem dropWhile_not_eq_filter {α : Type} (q : α → Bool) (l : List α)
    (h : l.Pairwise (fun a b => q a = true → q b = true)) :
    l.dropWhile (fun a => !q a) = l.filter q := by
  induction l with
  | nil => rfl
  | cons a l ih =>
    have h' := List.pairwise_cons.1 h
    cases ha : q a with
    | false =>
      rw [List.dropWhile_cons_of_pos (by rw [ha]; rfl),
        List.filter_cons_of_neg (by rw [ha]; exact Bool.false_ne_true), ih h'.2]
    | true =>
      rw [List.dropWhile_cons_of_neg (by rw [ha]; exact Bool.false_ne_true), List.filter_cons_of_pos ha,
        List.filter_eq_self.2 fun b hb => h'.1 b hb ha]

def StackSorted (st : List Parent) : Prop := st.Pairwise (fun a b => b.depth < a.depth)

theorem popParents_eq_filter (d : Int) (st : List Parent) (hs : StackSorted st) :
    popParents d st = st.filter (fun p => decide (p.depth < d)) := by
  rw [popParents_eq_dropWhile]
  exact dropWhile_not_eq_filter _ st
    (hs.imp fun hab ha => decide_eq_true (Int.lt_trans hab (of_decide_eq_true ha)))

theorem StackSorted.read {st : List Parent} (hs : StackSorted st) (e : Entry) :
    StackSorted (pushParent e (popParents e.depth st)) := by
  rw [pushParent, popParents_eq_filter _ _ hs]
  have hs1 : StackSorted (st.filter fun p => decide (p.depth < e.depth)) := hs.filter _
  split
  · exact List.pairwise_cons.2 ⟨fun b hb => of_decide_eq_true (List.mem_filter.1 hb).2, hs1⟩
  · exact hs1

/-- the `ConvertUnit` stack that corresponds to a `FilterUnit` stack: its reserved elements, then the root -/
def convStack (ids : List Off) (u : UnitHdr) (st : List Parent) : List (Int × Off) :=
  (st.filter (fun p => ids.contains (u.base + p.off))).map (fun p => (p.depth, u.base + p.off)) ++ [(0, u.rootOff)]

/-- both stacks are sorted, so each pop is a filter, and filters commute; the root (depth 0) stays -/
theorem convStack_pop (ids : List Off) (u : UnitHdr) (st : List Parent) (hs : StackSorted st) (d : Int) (hd : 0 < d) :
    (convStack ids u st).dropWhile (fun p => !(decide (p.1 < d))) = convStack ids u (popParents d st) := by
  rw [dropWhile_not_eq_filter (fun p : Int × Off => decide (p.1 < d)), popParents_eq_filter d st hs,
    convStack, convStack, List.filter_append, List.filter_map, List.filter_filter, List.filter_filter]
  · simp only [Bool.and_comm, Function.comp_def, List.filter_cons, decide_eq_true hd, if_true, List.filter_nil]
  · refine List.pairwise_append.2 ⟨.map _ (fun a b hab ha => ?_) (hs.filter _), List.pairwise_singleton _ _,
      fun _ _ b hb _ => ?_⟩
    · exact decide_eq_true (Int.lt_trans hab (of_decide_eq_true ha))
    · rw [List.mem_singleton.1 hb]; exact decide_eq_true hd

/-- what the parent-link theorem says the output is: the reserved entries with the parent the
`FilterUnit` stack found (the root if none) -/
def filterLinks (ids : List Off) (u : UnitHdr) (st : List Parent) (es : List Entry) : List (Off × Option Off) :=
  ((withParents st es).filter (fun ep => ids.contains (u.base + ep.1.off))).map
    (fun ep => (u.base + ep.1.off, some (match ep.2 with | some p => u.base + p.off | none => u.rootOff)))

theorem convStack_push (ids : List Off) (u : UnitHdr) (e : Entry) (st : List Parent) :
    (if (ids.contains (u.base + e.off) && e.hasChildren) = true
      then (e.depth, u.base + e.off) :: convStack ids u st else convStack ids u st) =
    convStack ids u (pushParent e st) := by
  rw [pushParent]
  cases e.hasChildren <;> cases hr : ids.contains (u.base + e.off) <;>
    simp only [convStack, List.filter_cons, hr, Bool.and_true, Bool.and_false, Bool.false_eq_true,
      if_true, if_false, List.map_cons, List.cons_append]

theorem convStack_head? (ids : List Off) (u : UnitHdr) (st : List Parent)
    (h : ∀ p, st.head? = some p → ids.contains (u.base + p.off) = true) :
    (convStack ids u st).head?.map (·.2) =
      some (match st.head? with | some p => u.base + p.off | none => u.rootOff) := by
  cases st with
  | nil => rfl
  | cons a l => simp only [convStack, List.filter_cons, h a rfl, if_true, List.map_cons, List.cons_append,
      List.head?_cons, Option.map_some]

theorem convertLinks_eq (ids : List Off) (u : UnitHdr) (es : List Entry) : ∀ (st : List Parent),
    StackSorted st →
    (∀ e, e ∈ es → 0 < e.depth) →
    (∀ ep, ep ∈ withParents st es → ids.contains (u.base + ep.1.off) = true →
        ∀ p, ep.2 = some p → ids.contains (u.base + p.off) = true) →
    convertLinks ids u (convStack ids u st) es = filterLinks ids u st es := by
  induction es with
  | nil => exact fun _ _ _ _ => rfl
  | cons e es ih =>
    intro st hs hd hc
    rw [convertLinks, filterLinks, withParents, convStack_pop ids u st hs e.depth (hd e List.mem_cons_self),
      convStack_push, ih _ (hs.read e) (fun e' he' => hd e' (List.mem_cons_of_mem _ he'))
        (fun ep hep => hc ep (by rw [withParents]; exact List.mem_cons_of_mem _ hep))]
    cases hr : ids.contains (u.base + e.off) with
    | false => simp only [Bool.false_eq_true, if_false, filterLinks, List.filter_cons, hr]
    | true =>
      rw [if_pos rfl, convStack_head? ids u _ fun p hp =>
        hc (e, some p) (by rw [withParents, hp]; exact List.mem_cons_self) hr p rfl]
      simp only [filterLinks, List.filter_cons, hr, if_true, List.map_cons]

theorem convertEntries_filterLinks (ids : List Off) (u : UnitHdr) (es : List Entry)
    (res : List (Off × Option Off))
    (hdepth : ∀ e, e ∈ es → 0 < e.depth)
    (hclosed : ∀ ep, ep ∈ withParents [] es → ids.contains (u.base + ep.1.off) = true →
        ∀ p, ep.2 = some p → ids.contains (u.base + p.off) = true)
    (h : convertEntries ids u [(0, u.rootOff)] es [] = .ok res) :
    res = filterLinks ids u [] es := by
  rw [(convertEntries_ok ids u es _ [] res h).1]
  exact convertLinks_eq ids u es [] List.Pairwise.nil hdepth hclosed

theorem convertUnits_cons_ok {ids : List Off} {u : UnitHdr} {es : List Entry}
    {rest : List (UnitHdr × List Entry)} {ras : List (List AttrRef)} {us : List (List (Off × Option Off))}
    (h : convertUnits ids ((u, es) :: rest) ras = .ok us) :
    ∃ r rs, firstErr ((ras.headD []).map (convAttr ids u)) = none ∧
      convertEntries ids u (if es.isEmpty then [] else [(0, u.rootOff)]) es [] = .ok r ∧
      convertUnits ids rest ras.tail = .ok rs ∧ us = r :: rs := by
  rw [convertUnits] at h
  split at h
  · cases h
  · split at h
    · cases h
    · split at h
      · cases h
      · next hra _ r hr _ rs hrs => exact ⟨r, rs, hra, hr, hrs, (Except.ok.inj h).symm⟩

/-- `q` stands for the id table on entry offsets (`· ∈ out` for the filtered conversions, `True` for
the unfiltered one): `ids` may hold more (the unit roots), but on the entries of a unit it agrees
with `q`, and `q` is closed under "parent of". -/
theorem convertUnits_links (ids : List Off) (q : Off → Prop) (units : List (UnitHdr × List Entry)) :
    ∀ (ras : List (List AttrRef)) (us : List (List (Off × Option Off))),
    (∀ ue, ue ∈ units → (∀ e, e ∈ ue.2 → 0 < e.depth) ∧
      (∀ e, e ∈ ue.2 → (ids.contains (ue.1.base + e.off) = true ↔ q (ue.1.base + e.off))) ∧
      ∀ r, r ∈ unitRecs ue → q r.off → ∀ po, r.parentOff = some po → q po) →
    convertUnits ids units ras = .ok us →
    us = units.map (fun ue => filterLinks ids ue.1 [] ue.2) := by
  induction units with
  | nil => exact fun _ _ _ h => (Except.ok.inj h).symm
  | cons ue units ih =>
    obtain ⟨u, es⟩ := ue
    intro ras us hP h
    obtain ⟨r, rs, _, hr, hrs, rfl⟩ := convertUnits_cons_ok h
    rw [List.map_cons, ih _ rs (fun ue hue => hP ue (List.mem_cons_of_mem _ hue)) hrs]
    congr 1
    cases es with
    | nil => exact (Except.ok.inj hr).symm
    | cons e es =>
      obtain ⟨hd, hq, hcl⟩ := hP (u, e :: es) List.mem_cons_self
      refine convertEntries_filterLinks ids u (e :: es) r hd (fun ep hep hin p hp => ?_) hr
      have hrec : (⟨u, ep.1, ep.2⟩ : Rec) ∈ unitRecs (u, e :: es) := List.mem_map.2 ⟨ep, hep, rfl⟩
      have hp' : Rec.parentOff ⟨u, ep.1, ep.2⟩ = some (u.base + p.off) := Rec.parentOff_eq_some.2 ⟨p, hp, rfl⟩
      -- the parent is an entry of the unit too, so `q` speaks for the id table on both
      obtain ⟨r', hr', ho, _⟩ := unitRecs_parent hrec hp
      obtain ⟨hu', he'⟩ := mem_unitRecs hr'
      have hq' : ids.contains r'.off = true ↔ q r'.off := by rw [Rec.off, hu']; exact hq _ he'
      rw [← ho, hq', ho]
      exact hcl _ hrec ((hq _ (mem_unitRecs hrec).2).1 hin) _ hp'

theorem filterLinks_filter (ids ids' : List Off) (u : UnitHdr) (st : List Parent) (es : List Entry)
    (q : Off → Bool)
    (h : ∀ e, e ∈ es → ids.contains (u.base + e.off) = (ids'.contains (u.base + e.off) && q (u.base + e.off))) :
    filterLinks ids u st es = (filterLinks ids' u st es).filter (fun p => q p.1) := by
  rw [filterLinks, filterLinks, List.filter_map, List.filter_filter]
  refine congrArg _ (List.filter_congr fun ep hep => ?_)
  rw [h ep.1 (withParents_fst es st ▸ List.mem_map_of_mem hep), Bool.and_comm]
  rfl

/-! ## Reference resolution -/

theorem firstErr_none {l : List (Option ConvErr)} : firstErr l = none ↔ ∀ x, x ∈ l → x = none := by
  induction l with
  | nil => simp [firstErr]
  | cons a l ih => cases a <;> simp [firstErr, ih]

theorem convUnitRef_none {ids : List Off} {u : UnitHdr} {val : Nat} :
    convUnitRef ids u val = none ↔ (u.inBounds val = true ∧ u.base + val ∈ ids) := by
  rw [convUnitRef, ← List.contains_iff_mem, ← Bool.and_eq_true]
  split <;> simp_all

theorem convInfoRef_none {ids : List Off} {val : Off} :
    convInfoRef ids val = none ↔ val ∈ ids := by
  rw [convInfoRef, ← List.contains_iff_mem]
  split <;> simp_all

/-- The part of `convOp ids u o = none` that does not depend on the id table: a unit-relative
reference is in bounds and nothing is nested deeper than `MAX_ENTRY_VALUE_DEPTH`. Exactly then all
references of the operation are recorded by `opDeps`. -/
def opScoped (u : UnitHdr) : OpRef → Bool
  | .unitRef val => u.inBounds val
  | .infoRef _ | .implicitRef _ => true
  | .nestedUnitRef depth val => scansDepth depth && u.inBounds val
  | .nestedInfoRef depth _ | .nestedPlain depth => scansDepth depth

theorem convOp_none {ids : List Off} {u : UnitHdr} {o : OpRef} :
    convOp ids u o = none ↔ opScoped u o = true ∧ ∀ t, t ∈ opDeps u o → t ∈ ids := by
  have hu : ∀ val, convUnitRef ids u val = none ↔ u.inBounds val = true ∧
      ∀ t, t ∈ (if u.inBounds val then [u.base + val] else []) → t ∈ ids := fun val => by
    rw [convUnitRef_none]
    exact and_congr_right fun h => by simp [h]
  have hi : ∀ val, convInfoRef ids val = none ↔ true = true ∧ ∀ t, t ∈ [val] → t ∈ ids := fun val => by
    simp [convInfoRef_none]
  cases o with
  | unitRef val => exact hu val
  | infoRef val => exact hi val
  | implicitRef val => exact hi val
  | nestedUnitRef k val =>
    simp only [convOp, opScoped, opDeps]
    cases scansDepth k
    · simp
    · exact hu val
  | nestedInfoRef k val =>
    simp only [convOp, opScoped, opDeps]
    cases scansDepth k
    · simp
    · exact hi val
  | nestedPlain k =>
    simp only [convOp, opScoped, opDeps]
    cases scansDepth k <;> simp

def attrScoped (u : UnitHdr) : AttrRef → Bool
  | .unitRef val => u.inBounds val
  | .infoRef _ => true
  | .expr ops => ops.all (opScoped u)
  | .loclist locs => locs.all fun l => l.2.all (opScoped u)

private theorem forall_mem_and_flatMap {α β : Type} (l : List α) (p : α → Bool) (f : α → List β)
    (q : β → Prop) :
    (∀ a, a ∈ l → p a = true ∧ ∀ b, b ∈ f a → q b) ↔ l.all p = true ∧ ∀ b, b ∈ l.flatMap f → q b := by
  simp only [List.all_eq_true, List.mem_flatMap]
  exact ⟨fun h => ⟨fun a ha => (h a ha).1, fun b ⟨a, ha, hb⟩ => (h a ha).2 b hb⟩,
    fun h a ha => ⟨h.1 a ha, fun b hb => h.2 b ⟨a, ha, hb⟩⟩⟩

theorem convOps_none {ids : List Off} {u : UnitHdr} {ops : List OpRef} :
    firstErr (ops.map (convOp ids u)) = none ↔
      ops.all (opScoped u) = true ∧ ∀ t, t ∈ ops.flatMap (opDeps u) → t ∈ ids := by
  simp only [firstErr_none, List.forall_mem_map, convOp_none]
  exact forall_mem_and_flatMap ops _ _ _

theorem convAttr_none {ids : List Off} {u : UnitHdr} {a : AttrRef} :
    convAttr ids u a = none ↔ attrScoped u a = true ∧ ∀ t, t ∈ attrDeps u a → t ∈ ids := by
  cases a with
  | unitRef val => exact convOp_none (o := .unitRef val)
  | infoRef val => exact convOp_none (u := u) (o := .infoRef val)
  | expr ops => exact convOps_none
  | loclist locs =>
    rw [convAttr, firstErr_none]
    simp only [List.forall_mem_map, convOps_none]
    exact forall_mem_and_flatMap locs _ _ _

/-- `keep` need only speak of recorded targets: a reference nested deeper than
`MAX_ENTRY_VALUE_DEPTH` is not recorded, but it makes the conversion fail with either table. -/
theorem convAttr_keep (ids ids' : List Off) (u : UnitHdr) (a : AttrRef)
    (keep : ∀ t, t ∈ attrDeps u a → t ∈ ids → t ∈ ids')
    (hfull : convAttr ids u a = none) : convAttr ids' u a = none :=
  let ⟨hs, hd⟩ := convAttr_none.1 hfull
  convAttr_none.2 ⟨hs, fun t ht => keep t ht (hd t ht)⟩

theorem convAttr_targets (ids : List Off) (u : UnitHdr) (a : AttrRef) (h : convAttr ids u a = none) :
    ∀ t, t ∈ attrDeps u a → t ∈ ids :=
  (convAttr_none.1 h).2

theorem attrTargets_subset (u : UnitHdr) (a : AttrRef) : ∀ t, t ∈ attrTargets u a → t ∈ attrDeps u a := by
  intro t ht
  cases a with
  | loclist locs =>
    obtain ⟨l, hl, htl⟩ := List.mem_flatMap.1 ht
    refine List.mem_flatMap.2 ⟨l, hl, ?_⟩
    split at htl
    · exact htl
    · cases htl
  | _ => exact ht

/-- After a successful conversion of one unit, if every id in the table is the unit root or the
offset of an entry of the unit, every reference of a written DIE points to a written DIE. -/
theorem splitWriteOk_of_converted {ids : List Off} {u : UnitHdr} {es : List Entry} {ra : List AttrRef}
    {st : List (Int × Off)} {res : List (Off × Option Off)}
    (hids : ∀ t, t ∈ ids → t = u.rootOff ∨ t ∈ es.map (u.base + ·.off))
    (hra : firstErr (ra.map (convAttr ids u)) = none)
    (hce : convertEntries ids u st es [] = .ok res) :
    splitWriteOk ids u es ra res = true := by
  obtain ⟨hres, hattrs⟩ := convertEntries_ok ids u es st [] res hce
  -- everything in the id table is written: the reserved entries are converted in read order
  have hwritten : ∀ t, t ∈ ids → (u.rootOff :: res.map (·.1)).contains t = true := by
    intro t ht
    rw [List.contains_iff_mem, hres, List.reverse_nil, List.nil_append, convertLinks_fst]
    exact (hids t ht).elim (· ▸ List.mem_cons_self) fun h =>
      List.mem_cons_of_mem _ (List.mem_filter.2 ⟨h, List.contains_iff_mem.2 ht⟩)
  -- so every target of a converted attribute is
  have hattr : ∀ (as : List AttrRef), firstErr (as.map (convAttr ids u)) = none →
      (as.flatMap (attrTargets u)).all (u.rootOff :: res.map (·.1)).contains = true := by
    intro as has
    rw [List.all_eq_true]
    intro t ht
    obtain ⟨a, ha, hta⟩ := List.mem_flatMap.1 ht
    exact hwritten t (convAttr_targets ids u a (firstErr_none.1 has _ (List.mem_map_of_mem ha)) t
      (attrTargets_subset _ a t hta))
  rw [splitWriteOk, Bool.and_eq_true]
  refine ⟨hattr _ hra, List.all_eq_true.2 fun e he => ?_⟩
  cases hk : ids.contains (u.base + e.off) with
  | false => rfl
  | true => exact hattr _ (hattrs e he hk)

end Gimli.Filter
