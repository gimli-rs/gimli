import Gimli.Spec.Unwind
import Gimli.Lemmas.TwosComp
/-!
# The DWARF call-frame semantics by itself (C06)

What one `step` can do (`StepOut`), how `stepB` adds the two storage limits, and what follows for whole runs
(`exec`, `table`): rows tile the address space (`exec_tiles`, `table_tiles`), the possible errors
(`table_error_kinds`), more storage changes nothing (`table_mono`).
-/
namespace Gimli.Spec.Unwind
open Gimli Gimli.Cfi Gimli.Unwind

def IsInvalid (e : Err) : Prop :=
  e = .rInvalidCfiSetLoc ∨ e = .rAddressOverflow ∨ e = .rCfiInstructionInInvalidContext ∨ e = .rPopWithEmptyStack

/-- what one instruction can do: fail with a validity error; change the rules and leave location and
initial rules alone; or complete the current row by moving the location forward -/
inductive StepOut (s : State) : Except Err (State × Option TableRow) → Prop
  | invalid {e : Err} : IsInvalid e → StepOut s (.error e)
  | quiet {s' : State} : s'.loc = s.loc → s'.init = s.init → StepOut s (.ok (s', none))
  | row {a : Nat} : s.loc ≤ a → StepOut s (.ok ({ s with loc := a }, some ⟨s.loc, a, s.cur⟩))

theorem step_out (p : Params) (s : State) (i : Instr) : StepOut s (step p s i) := by
  have ctx : StepOut s (.error .rCfiInstructionInInvalidContext) := .invalid (.inr (.inr (.inl rfl)))
  cases i with
  | setLoc a =>
    simp only [step]
    split
    · exact .invalid (.inl rfl)
    · exact .row (Nat.le_of_not_lt ‹_›)
  | advanceLoc d =>
    simp only [step]
    split
    · exact .row (Nat.le_add_right _ _)
    · exact .invalid (.inr (.inl rfl))
  | defCfaRegister _ | defCfaOffset _ | defCfaOffsetSf _ | restore _ | negateRaState =>
    simp only [step]
    split <;> first | exact ctx | exact .quiet rfl rfl
  | restoreState =>
    simp only [step]
    split
    · exact .invalid (.inr (.inr (.inr rfl)))
    · exact .quiet rfl rfl
  | _ => exact .quiet rfl rfl

theorem step_error_invalid {p : Params} {s : State} {i : Instr} {e : Err}
    (h : step p s i = .error e) : IsInvalid e := by
  have := step_out p s i
  rw [h] at this
  cases this
  assumption

theorem stepB_eq_ok_iff {p : Params} {R N : Cap} {s : State} {i : Instr} {r : State × Option TableRow} :
    stepB p R N s i = .ok r ↔
      step p s i = .ok r ∧ exceeds R (rowsNeeded r.1) = false ∧ exceeds N (ruleCount r.1.cur.regs) = false := by
  unfold stepB
  cases step p s i with
  | error e => simp
  | ok q =>
    cases hR : exceeds R (rowsNeeded q.1) <;> cases hN : exceeds N (ruleCount q.1.cur.regs) <;>
      simp only [hR, hN, Bool.false_eq_true, if_false, if_true, Except.ok.injEq, reduceCtorEq, false_iff, not_and]
    · exact ⟨fun e => ⟨e, e ▸ hR, e ▸ hN⟩, fun e => e.1⟩
    · intro e; subst e; simp [hN]
    · intro e; subst e; simp [hR]
    · intro e; subst e; simp [hR]

theorem stepB_eq_error_iff {p : Params} {R N : Cap} {s : State} {i : Instr} {e : Err} :
    stepB p R N s i = .error e ↔
      step p s i = .error e ∨ ∃ r, step p s i = .ok r ∧
        (exceeds R (rowsNeeded r.1) = true ∧ e = .rStackFull ∨
          exceeds R (rowsNeeded r.1) = false ∧ exceeds N (ruleCount r.1.cur.regs) = true ∧
            e = .rTooManyRegisterRules) := by
  unfold stepB
  cases step p s i with
  | error e' => simp
  | ok q =>
    cases hR : exceeds R (rowsNeeded q.1) <;> cases hN : exceeds N (ruleCount q.1.cur.regs) <;>
      simp [hR, hN]
    all_goals exact eq_comm

/-- `stepB` as a function of `step`'s result (`stepB_eq_bound`): the refinement lemmas of Lemmas/Unwind are stated once per
arm of `step`, each against `bound` of that arm's value -/
def bound (R N : Cap) : Except Err (State × Option TableRow) → Except Err (State × Option TableRow)
  | .error e => .error e
  | .ok q =>
    if exceeds R (rowsNeeded q.1) then .error .rStackFull
    else if exceeds N (ruleCount q.1.cur.regs) then .error .rTooManyRegisterRules
    else .ok q

theorem stepB_eq_bound (p : Params) (R N : Cap) (s : State) (i : Instr) :
    stepB p R N s i = bound R N (step p s i) := by
  unfold stepB bound
  cases step p s i <;> rfl

theorem ruleCount_empty : ruleCount RegMap.empty = 0 := by
  simp [ruleCount, RegMap.empty]

def IsStepError (e : Err) : Prop := IsInvalid e ∨ e = .rStackFull ∨ e = .rTooManyRegisterRules

theorem stepB_error_kinds {p : Params} {R N : Cap} {s : State} {i : Instr} {e : Err}
    (h : stepB p R N s i = .error e) : IsStepError e := by
  rcases stepB_eq_error_iff.mp h with h | ⟨r, _, ⟨_, h⟩ | ⟨_, _, h⟩⟩
  · exact .inl (step_error_invalid h)
  · exact .inr (.inl h)
  · exact .inr (.inr h)

section runs
variable (p : Params) (R N : Cap) (endAddr : Nat)

theorem exec_cons_cases (s : State) (i : Instr) (is : List Instr) (bad : Option Err) :
    (∃ e, stepB p R N s i = .error e ∧ exec p R N endAddr s (i :: is) bad = ([], .error e)) ∨
    (∃ s', stepB p R N s i = .ok (s', none) ∧ s'.loc = s.loc ∧ s'.init = s.init ∧
      exec p R N endAddr s (i :: is) bad = exec p R N endAddr s' is bad) ∨
    (∃ a, s.loc ≤ a ∧ stepB p R N s i = .ok ({ s with loc := a }, some ⟨s.loc, a, s.cur⟩) ∧
      exec p R N endAddr s (i :: is) bad =
        (⟨s.loc, a, s.cur⟩ :: (exec p R N endAddr { s with loc := a } is bad).1,
          (exec p R N endAddr { s with loc := a } is bad).2)) := by
  rw [exec]
  cases hB : stepB p R N s i with
  | error e => exact .inl ⟨e, rfl, rfl⟩
  | ok q =>
    have hq := step_out p s i
    rw [(stepB_eq_ok_iff.mp hB).1] at hq
    cases hq with
    | quiet hl hi => exact .inr (.inl ⟨_, rfl, hl, hi, rfl⟩)
    | row hle => exact .inr (.inr ⟨_, hle, rfl, rfl⟩)

variable {p R N endAddr}

theorem exec_init {is : List Instr} {bad : Option Err} :
    ∀ {s s' : State}, (exec p R N endAddr s is bad).2 = .ok s' → s'.init = s.init := by
  induction is with
  | nil =>
    intro s s' h
    cases bad <;> cases h
    rfl
  | cons i is ih =>
    intro s s' h
    rcases exec_cons_cases p R N endAddr s i is bad with ⟨e, _, he⟩ | ⟨s1, _, _, hi, he⟩ | ⟨a, _, _, he⟩ <;>
      rw [he] at h
    · cases h
    · exact (ih h).trans hi
    · exact ih (s := { s with loc := a }) h

variable (p R N endAddr)

/-- `rows` tile the addresses from `a` on: every row starts where the previous one ended, and every
row that has a successor is not backwards -/
def Tiles : Nat → List (Nat × Nat) → Prop
  | _, [] => True
  | a, [(s, _)] => s = a
  | a, (s, e) :: r :: rest => s = a ∧ s ≤ e ∧ Tiles e (r :: rest)

def spans (rows : List TableRow) : List (Nat × Nat) := rows.map (fun r => (r.start, r.end_))

theorem Tiles.cons {a e : Nat} {rest : List (Nat × Nat)} (h : a ≤ e) (ht : Tiles e rest) :
    Tiles a ((a, e) :: rest) := by
  cases rest with
  | nil => rfl
  | cons r rest => exact ⟨rfl, h, ht⟩

theorem exec_tiles (is : List Instr) (bad : Option Err) :
    ∀ (s : State),
      Tiles s.loc (spans (exec p R N endAddr s is bad).1) ∧
      (∀ s', (exec p R N endAddr s is bad).2 = .ok s' →
        ∃ last, (exec p R N endAddr s is bad).1.getLast? = some last ∧ last.end_ = endAddr) ∧
      (∀ e, (exec p R N endAddr s is bad).2 = .error e →
        ∀ r ∈ (exec p R N endAddr s is bad).1, r.start ≤ r.end_) := by
  induction is with
  | nil => intro s; cases bad <;> simp [exec, spans, Tiles]
  | cons i is ih =>
    intro s
    rcases exec_cons_cases p R N endAddr s i is bad with ⟨e, _, he⟩ | ⟨s1, _, hloc, _, he⟩ | ⟨a, hle, _, he⟩ <;>
      rw [he]
    · simp [spans, Tiles]
    · exact hloc ▸ ih s1
    · obtain ⟨t1, t2, t3⟩ := ih { s with loc := a }
      refine ⟨Tiles.cons hle t1, fun s' hs' => ?_, fun e he r hr => ?_⟩
      · obtain ⟨last, hl, he⟩ := t2 s' hs'
        exact ⟨last, by rw [List.getLast?_cons, hl]; rfl, he⟩
      · rcases List.mem_cons.mp hr with rfl | hr
        · exact hle
        · exact t3 e he r hr

variable {p R N endAddr}

theorem exec_error_kinds {is : List Instr} {bad : Option Err} :
    ∀ {s : State} {e : Err}, (exec p R N endAddr s is bad).2 = .error e → IsStepError e ∨ bad = some e := by
  induction is with
  | nil =>
    intro s e h
    cases bad <;> cases h
    exact .inr rfl
  | cons i is ih =>
    intro s e h
    rcases exec_cons_cases p R N endAddr s i is bad with ⟨e', hB, he⟩ | ⟨s1, _, _, _, he⟩ | ⟨a, _, _, he⟩ <;>
      rw [he] at h
    · cases h; exact .inl (stepB_error_kinds hB)
    · exact ih h
    · exact ih h

variable (p R N endAddr)

abbrev fdeStart (s1 : State) (initial : Nat) : State := { s1 with loc := initial, init := some s1.cur.regs }

variable (cie : List Instr) (cieBad : Option Err) (fde : List Instr) (fdeBad : Option Err) (initial len : Nat)

theorem table_cases :
    (∃ e, (exec p R N 0 ⟨0, RuleSet.initial, [], none⟩ cie cieBad).2 = .error e ∧
      table p R N cie cieBad fde fdeBad initial len = ([], .error e)) ∨
    ∃ s1, (exec p R N 0 ⟨0, RuleSet.initial, [], none⟩ cie cieBad).2 = .ok s1 ∧
      (exceeds R (rowsNeeded (fdeStart s1 initial)) = true ∧
          table p R N cie cieBad fde fdeBad initial len = ([], .error .rStackFull) ∨
        exceeds R (rowsNeeded (fdeStart s1 initial)) = false ∧
          table p R N cie cieBad fde fdeBad initial len =
            ((exec p R N (fdeEnd p initial len) (fdeStart s1 initial) fde fdeBad).1,
              (exec p R N (fdeEnd p initial len) (fdeStart s1 initial) fde fdeBad).2.map fun _ => ())) := by
  unfold table
  simp only
  cases h1 : (exec p R N 0 ⟨0, RuleSet.initial, [], none⟩ cie cieBad).2 with
  | error e => exact .inl ⟨e, rfl, rfl⟩
  | ok s1 =>
    refine .inr ⟨s1, rfl, ?_⟩
    cases hx : exceeds R (rowsNeeded (fdeStart s1 initial))
    · exact .inr ⟨rfl, if_neg (by simp [hx])⟩
    · exact .inl ⟨rfl, if_pos hx⟩

theorem map_unit_eq_ok {ε α : Type} {x : Except ε α} : x.map (fun _ => ()) = .ok () ↔ ∃ a, x = .ok a := by
  cases x <;> simp [Except.map]

theorem map_unit_eq_error {ε α : Type} {x : Except ε α} {e : ε} : x.map (fun _ => ()) = .error e ↔ x = .error e := by
  cases x <;> simp [Except.map]

theorem table_tiles :
    Tiles initial (spans (table p R N cie cieBad fde fdeBad initial len).1) ∧
    ((table p R N cie cieBad fde fdeBad initial len).2 = .ok () →
      ∃ last, (table p R N cie cieBad fde fdeBad initial len).1.getLast? = some last ∧ last.end_ = fdeEnd p initial len) ∧
    (∀ e, (table p R N cie cieBad fde fdeBad initial len).2 = .error e →
      ∀ r ∈ (table p R N cie cieBad fde fdeBad initial len).1, r.start ≤ r.end_) := by
  rcases table_cases p R N cie cieBad fde fdeBad initial len with ⟨e, _, ht⟩ | ⟨s1, _, ⟨_, ht⟩ | ⟨_, ht⟩⟩ <;> rw [ht]
  · simp [spans, Tiles]
  · simp [spans, Tiles]
  · obtain ⟨t1, t2, t3⟩ := exec_tiles p R N (fdeEnd p initial len) fde fdeBad (fdeStart s1 initial)
    exact ⟨t1, fun hok => (map_unit_eq_ok.mp hok).elim t2, fun e he => t3 e (map_unit_eq_error.mp he)⟩

theorem table_error_kinds (p : Params) (R N : Cap) (cie fde : List Instr) (cieBad fdeBad : Option Err)
    (initial len : Nat) (e : Err) (h : (table p R N cie cieBad fde fdeBad initial len).2 = .error e) :
    IsStepError e ∨ cieBad = some e ∨ fdeBad = some e := by
  rcases table_cases p R N cie cieBad fde fdeBad initial len with ⟨e', h1, ht⟩ | ⟨s1, _, ⟨_, ht⟩ | ⟨_, ht⟩⟩ <;>
    rw [ht] at h
  · cases h; exact (exec_error_kinds h1).imp_right .inl
  · cases h; exact .inl (.inr (.inl rfl))
  · exact (exec_error_kinds (map_unit_eq_error.mp h)).imp_right .inr

def CapLe (c c' : Cap) : Prop := ∀ n, exceeds c' n = true → exceeds c n = true

theorem CapLe.none (c : Cap) : CapLe c none := by
  intro n h; simp [exceeds] at h

theorem CapLe.some {a b : Nat} (h : a ≤ b) : CapLe (some a) (some b) := by
  intro n hn
  simp only [exceeds, decide_eq_true_eq] at hn ⊢
  omega

theorem CapLe.not_exceeds {c c' : Cap} (h : CapLe c c') {n : Nat} (hn : exceeds c n = false) :
    exceeds c' n = false := by
  cases hx : exceeds c' n with
  | false => rfl
  | true => rw [h n hx] at hn; cases hn

variable {p R N endAddr cie cieBad fde fdeBad initial len} {R' N' : Cap} (hR : CapLe R R') (hN : CapLe N N')
include hR hN

theorem stepB_mono {s : State} {i : Instr} {r : State × Option TableRow}
    (h : stepB p R N s i = .ok r) : stepB p R' N' s i = .ok r :=
  let ⟨hs, h1, h2⟩ := stepB_eq_ok_iff.mp h
  stepB_eq_ok_iff.mpr ⟨hs, hR.not_exceeds h1, hN.not_exceeds h2⟩

theorem exec_mono {is : List Instr} {bad : Option Err} :
    ∀ {s s' : State}, (exec p R N endAddr s is bad).2 = .ok s' →
      exec p R' N' endAddr s is bad = exec p R N endAddr s is bad := by
  induction is with
  | nil => intro s s' _; cases bad <;> rfl
  | cons i is ih =>
    intro s s' h
    rcases exec_cons_cases p R N endAddr s i is bad with ⟨e, _, he⟩ | ⟨s1, hB, _, _, he⟩ | ⟨a, _, hB, he⟩ <;>
      rw [he] at h ⊢
    · cases h
    · rw [exec, stepB_mono hR hN hB]; exact ih h
    · rw [exec, stepB_mono hR hN hB]; simp only [ih h]

theorem table_mono (h : (table p R N cie cieBad fde fdeBad initial len).2 = .ok ()) :
    table p R' N' cie cieBad fde fdeBad initial len = table p R N cie cieBad fde fdeBad initial len := by
  rcases table_cases p R N cie cieBad fde fdeBad initial len with ⟨e, _, ht⟩ | ⟨s1, h1, ⟨_, ht⟩ | ⟨hx, ht⟩⟩
  · rw [ht] at h; cases h
  · rw [ht] at h; cases h
  · rw [ht] at h ⊢
    obtain ⟨s2, h2⟩ := map_unit_eq_ok.mp h
    unfold table
    simp only
    rw [exec_mono hR hN h1, h1]
    simp only [hR.not_exceeds hx, Bool.false_eq_true, if_false, exec_mono hR hN h2]

end runs
end Gimli.Spec.Unwind

namespace Gimli.Unwind

theorem wrapI64_eq_smod (x : Int) : wrapI64 x = Twos.smod 64 x := (Twos.smod_eq (w := 64) (by decide) x).symm

theorem wrapI64_mul_wrap (a b : Int) : wrapI64 (wrapI64 a * b) = wrapI64 (a * b) := by
  rw [wrapI64_eq_smod, wrapI64_eq_smod, wrapI64_eq_smod]
  exact Twos.smod_congr (by rw [Int.mul_emod, Twos.smod_emod, ← Int.mul_emod])

theorem wrapI64_range (x : Int) : -2^63 ≤ wrapI64 x ∧ wrapI64 x < 2^63 :=
  wrapI64_eq_smod x ▸ Twos.smod_range (w := 64) (by decide) x

theorem wrapI64_of_range (x : Int) (h : -2^63 ≤ x ∧ x < 2^63) : wrapI64 x = x :=
  (wrapI64_eq_smod x).trans (Twos.smod_of_range (w := 64) (by decide) h)

end Gimli.Unwind
