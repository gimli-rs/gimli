import Gimli.Spec.ConvOp
import Gimli.Lemmas.Out
/-!
# C12 expression component: what `Expression::from` (`Model/ConvOp.lean`) returns

`Converts … r w` lists, arm by arm, the operation `w` that `convertOp` builds from `r` and the
look-ups it was built under; `convertOp_converts` is the one walk through `convertOp` that shows it
of every value returned. Each fact about converted operations (nesting depth, operand ranges,
reader image) is then a case analysis of `Converts`.

`Converts` is a post-condition: it says what `convertOp` can have returned, not that it returns (that a given operation
converts is an evaluation of `convertOp`). From a whole conversion the chain is `convertNested_ok` (the input decoded, the
list was converted) → `convertList_allPairs` (position by position) → `convertOp_converts` → `cases`; at a concrete
operation the rule `simple` is left over with `WOp.simpleImage opc = some r` to read off or refute.
-/
namespace Gimli.ConvOp
open Gimli.Op (Encoding)

def Yields {α : Type} (P : α → Prop) (x : CR α) : Prop := ∀ a, x = .ok a → P a

section
variable {α β : Type} {P : α → Prop}

theorem Yields.pure {a : α} (h : P a) : Yields P (pure a) := by
  intro a' h'; cases h'; exact h

theorem Yields.error (c : CErr) : Yields P (.error c) := by
  intro a h; cases h

theorem Yields.bind {x : CR β} {f : β → CR α} (hf : ∀ b, x = .ok b → Yields P (f b)) : Yields P (x >>= f) := by
  intro a h
  obtain ⟨b, hb, hfb⟩ := Except.bind_eq_ok h
  exact hf b hb a hfb

theorem Yields.ite {c : Prop} [Decidable c] {x y : CR α} (hx : c → Yields P x) (hy : ¬c → Yields P y) :
    Yields P (if c then x else y) := by
  split
  · exact hx ‹_›
  · exact hy ‹_›
end

section
variable (env : Env) (enc : Encoding) (offsets : List Nat) (endOff : Nat) (sub : Bytes → CR (List WOp.Operation))

/-- The arms of `convertOp` as rules. The 29 operand-free operations are one rule: `r` becomes the
opcode whose reader image (`WOp.simpleImage`, C15) is `r`. -/
inductive Converts : Op.Operation → WOp.Operation → Prop
  | simple {r opc} : WOp.simpleImage opc = some r → Converts r (.simple opc)
  | pick {i} : Converts (.pick i) (.pick i)
  | plusConstant {v} : Converts (.plusConstant v) (.plusConstant v)
  | unsignedConstant {v} : Converts (.unsignedConstant v) (.unsignedConstant v)
  | signedConstant {v} : Converts (.signedConstant v) (.signedConstant v)
  | register {r} : Converts (.register r) (.register r)
  | frameOffset {o} : Converts (.frameOffset o) (.frameOffset o)
  | implicitValue {d} : Converts (.implicitValue d) (.implicitValue d)
  | wasmLocal {i} : Converts (.wasmLocal i) (.wasmLocal i)
  | wasmGlobal {i} : Converts (.wasmGlobal i) (.wasmGlobal i)
  | wasmStack {i} : Converts (.wasmStack i) (.wasmStack i)
  | piece {bits} : Converts (.piece bits none) (.piece (bits / 8))
  | bitPiece {bits o} : Converts (.piece bits (some o)) (.bitPiece bits o)
  | derefType {bt base size space} : bt ≠ 0 → env.unitRef bt = .ok base →
      Converts (.deref bt size space) (.derefType space size base)
  | derefSize {size space} : size ≠ enc.addressSize → Converts (.deref 0 size space) (.derefSize space size)
  | deref {space} : Converts (.deref 0 enc.addressSize space) (.deref space)
  | registerType {bt base r o} : bt ≠ 0 → env.unitRef bt = .ok base →
      Converts (.registerOffset r o bt) (.registerType r base)
  | registerOffset {r o} : Converts (.registerOffset r o 0) (.registerOffset r o)
  | call {o en} : env.unitRef o = .ok en → Converts (.call (.unitRef o)) (.call en)
  | parameterRef {o en} : env.unitRef o = .ok en → Converts (.parameterRef o) (.parameterRef en)
  | typedLiteral {bt en v} : env.unitRef bt = .ok en → Converts (.typedLiteral bt v) (.constantType en v)
  | convertNone : Converts (.convert 0) (.convert none)
  | convert {bt en} : bt ≠ 0 → env.unitRef bt = .ok en → Converts (.convert bt) (.convert (some en))
  | reinterpretNone : Converts (.reinterpret 0) (.reinterpret none)
  | reinterpret {bt en} : bt ≠ 0 → env.unitRef bt = .ok en → Converts (.reinterpret bt) (.reinterpret (some en))
  | callRef {o r} : env.infoRef o = .ok r → Converts (.call (.debugInfoRef o)) (.callRef r)
  | variableValue {o r} : env.infoRef o = .ok r → Converts (.variableValue o) (.variableValue r)
  | implicitPointer {o r bo} : env.infoRef o = .ok r → Converts (.implicitPointer o bo) (.implicitPointer r bo)
  | branch {d k} : branchIndex offsets endOff d = .ok k → Converts (.bra d) (.branch k)
  | skip {d k} : branchIndex offsets endOff d = .ok k → Converts (.skip d) (.skip k)
  | entryValue {x ws} : sub x = .ok ws → Converts (.entryValue x) (.entryValue ws)
  | address {a x} : env.convAddr a = some x → Converts (.address a) (.address x)
  | addressIndex {f i v x} : env.addrIndex = some f → f i = .ok v → env.convAddr v = some x →
      Converts (.addressIndex i) (.address x)
  | constantIndex {f i v} : env.addrIndex = some f → f i = .ok v → Converts (.constantIndex i) (.unsignedConstant v)

theorem convertOp_converts (r : Op.Operation) :
    Yields (Converts env enc offsets endOff sub r) (convertOp env enc offsets endOff sub r) := by
  cases r with
  | drop | swap | rot | abs | and | div | minus | mod | mul | neg | not | or | plus | shl | shr | shra | xor
  | eq | ge | gt | le | lt | ne | nop | pushObjectAddress | tls | callFrameCFA | stackValue | uninitialized =>
    exact .pure (.simple rfl)
  -- the operands are copied: the rule named after the operation
  | pick | plusConstant | unsignedConstant | signedConstant | register | frameOffset | implicitValue
  | wasmLocal | wasmGlobal | wasmStack => exact .pure (by constructor)
  | piece bits bo => cases bo <;> exact .pure (by constructor)
  | deref bt size space =>
    refine .ite (fun h => .bind fun _ hb => .pure (.derefType h hb)) fun h => ?_
    cases Decidable.not_not.mp h
    exact .ite (fun h => .pure (.derefSize h)) fun h => by cases Decidable.not_not.mp h; exact .pure .deref
  | registerOffset rg o bt =>
    refine .ite (fun h => .bind fun _ hb => .pure (.registerType h hb)) fun h => ?_
    cases Decidable.not_not.mp h
    exact .pure .registerOffset
  | call d =>
    cases d
    · exact .bind fun _ hb => .pure (.call hb)
    · exact .bind fun _ hb => .pure (.callRef hb)
  | parameterRef => exact .bind fun _ hb => .pure (.parameterRef hb)
  | typedLiteral => exact .bind fun _ hb => .pure (.typedLiteral hb)
  | variableValue => exact .bind fun _ hb => .pure (.variableValue hb)
  | implicitPointer => exact .bind fun _ hb => .pure (.implicitPointer hb)
  | bra => exact .bind fun _ hb => .pure (.branch hb)
  | skip => exact .bind fun _ hb => .pure (.skip hb)
  | entryValue => exact .bind fun _ hb => .pure (.entryValue hb)
  | convert bt =>
    exact .ite (fun h => h ▸ .pure .convertNone) fun h => .bind fun _ hb => .pure (.convert h hb)
  | reinterpret bt =>
    exact .ite (fun h => h ▸ .pure .reinterpretNone) fun h => .bind fun _ hb => .pure (.reinterpret h hb)
  | address a =>
    simp only [convertOp]
    split
    · exact .pure (.address ‹_›)
    · exact .error _
  | addressIndex i =>
    simp only [convertOp]
    split
    · exact .error _
    · refine .bind fun _ hv => ?_
      split
      · exact .pure (.addressIndex ‹_› hv ‹_›)
      · exact .error _
  | constantIndex i =>
    simp only [convertOp]
    split
    · exact .error _
    · exact .bind fun _ hv => .pure (.constantIndex ‹_› hv)
end

/-- an operand-free operation has nothing for `mapOp` to map -/
theorem mapOp_simple {opc : Nat} {r : Op.Operation} (h : WOp.simpleImage opc = some r)
    (u addr addrx : Nat → Nat) (refv : Nat) (body : Bytes) : mapOp u addr addrx refv body r = r := by
  unfold WOp.simpleImage at h
  split at h <;> cases h <;> rfl

theorem convertOp_depth (env : Env) (enc : Encoding) (offsets : List Nat) (endOff : Nat)
    (sub : Bytes → CR (List WOp.Operation)) (n : Nat)
    (hsub : ∀ x ws, sub x = .ok ws → exprDepth ws + 1 ≤ n) (r : Op.Operation) :
    Yields (opDepth · ≤ n) (convertOp env enc offsets endOff sub r) := by
  intro w hw
  cases convertOp_converts env enc offsets endOff sub r w hw with
  | entryValue hs => exact hsub _ _ hs
  -- no other operation has a sub-expression
  | _ => exact Nat.zero_le n

theorem convertList_depth (env : Env) (enc : Encoding) (offsets : List Nat)
    (sub : Bytes → CR (List WOp.Operation)) (n : Nat)
    (hsub : ∀ x ws, sub x = .ok ws → exprDepth ws + 1 ≤ n) :
    ∀ ops, Yields (exprDepth · ≤ n) (convertList env enc offsets sub ops)
  | [] => .pure (Nat.zero_le n)
  | (op, en) :: rest => .bind fun w hw => .bind fun ws hws => .pure <|
    Nat.max_le.mpr ⟨convertOp_depth env enc offsets en sub n hsub op w hw,
      convertList_depth env enc offsets sub n hsub rest ws hws⟩

theorem convertNested_unfold (env : Env) (e : Endian) (enc : Encoding) (left : Nat) (bs : Bytes) :
    convertNested env e enc left bs =
      match Op.iterAll e enc bs.length (bs.length + 1) bs with
      | (_, some er) => .error (.read er)
      | (ops, none) => convertList env enc (inputOffsets ops bs.length) (subAt env e enc left) ops := by
  cases left <;> rfl

theorem convertNested_ok {env : Env} {e : Endian} {enc : Encoding} {left : Nat} {bs : Bytes} {ws : List WOp.Operation}
    (h : convertNested env e enc left bs = .ok ws) :
    ∃ ins, Op.iterAll e enc bs.length (bs.length + 1) bs = (ins, none) ∧
      convertList env enc (inputOffsets ins bs.length) (subAt env e enc left) ins = .ok ws := by
  rw [convertNested_unfold] at h
  split at h
  · cases h
  · exact ⟨_, ‹_›, h⟩

theorem convertList_allPairs (env : Env) (enc : Encoding) (offsets : List Nat) (sub : Bytes → CR (List WOp.Operation)) :
    ∀ (ops : List (Op.Operation × Nat)) (ws : List WOp.Operation),
      convertList env enc offsets sub ops = .ok ws →
      AllPairs (fun p w => convertOp env enc offsets p.2 sub p.1 = .ok w) ops ws
  | [], ws, h => by cases h; trivial
  | (op, en) :: rest, ws, h => by
    obtain ⟨w, hw, h⟩ := Except.bind_eq_ok h
    obtain ⟨ws', hws, h⟩ := Except.bind_eq_ok h
    cases h
    exact ⟨hw, convertList_allPairs env enc offsets sub rest ws' hws⟩

/-! ## operand ranges -/

theorem convertOp_wf (env : Env) (henv : EnvRanges env) (enc : Encoding) (offsets : List Nat) (endOff : Nat)
    (sub : Bytes → CR (List WOp.Operation)) (r : Op.Operation) (hr : RWf enc r) :
    Yields WOp.OpWf (convertOp env enc offsets endOff sub r) := by
  intro w hw
  -- what comes from the environment is in range by `henv`
  have haddr : ∀ a x, env.convAddr a = some x → WOp.OpWf (.address x) := by
    intro a x hx
    cases x with
    | constant v => exact henv.address a v hx
    | symbol s ad => trivial
  cases convertOp_converts env enc offsets endOff sub r w hw with
  | simple h => exact Option.isSome_iff_exists.mpr ⟨_, h⟩
  -- copied operands have the same range on both sides
  | pick | plusConstant | unsignedConstant | signedConstant | register | frameOffset | implicitValue
  | wasmLocal | wasmGlobal | wasmStack | bitPiece | implicitPointer => exact hr
  | piece => have := hr.1; show _ / 8 < 2 ^ 64; omega
  | derefType hbt => exact hr.resolve_right fun h => hbt h.1
  | derefSize hs => exact hr.resolve_right fun h => hs h.2
  | registerType => exact hr.1
  | registerOffset => exact ⟨hr.1, hr.2.1⟩
  | address ha => exact haddr _ _ ha
  | addressIndex _ _ ha => exact haddr _ _ ha
  | constantIndex hf hv => exact henv.index _ _ _ hf hv
  | _ => trivial

theorem convertList_wf (env : Env) (henv : EnvRanges env) (enc : Encoding) (offsets : List Nat)
    (sub : Bytes → CR (List WOp.Operation)) :
    ∀ ops, (∀ p ∈ ops, RWf enc p.1) → Yields (∀ w ∈ ·, WOp.OpWf w) (convertList env enc offsets sub ops)
  | [], _ => .pure nofun
  | (op, en) :: rest, hr => .bind fun w hw => .bind fun ws hws => .pure <| List.forall_mem_cons.mpr
    ⟨convertOp_wf env henv enc offsets en sub op (hr _ (.head _)) w hw,
      convertList_wf env henv enc offsets sub rest (fun p hp => hr p (.tail _ hp)) ws hws⟩

/-! ## branch targets -/

theorem branchIndex_ok (offsets : List Nat) (endOff : Nat) (d : Int) (k : Nat)
    (h : branchIndex offsets endOff d = .ok k) :
    offsets[k]? = some (wrapOff endOff d) ∧ ∀ j, j < k → offsets[j]? ≠ some (wrapOff endOff d) := by
  unfold branchIndex at h
  dsimp only at h
  split at h <;> cases h
  -- `findIdx?` returns the first index whose entry is the target
  have hf : offsets.findIdx? (· == wrapOff endOff d) = some k := ‹_›
  obtain ⟨hk, hp, hlt⟩ := List.findIdx?_eq_some_iff_getElem.mp hf
  refine ⟨by rw [List.getElem?_eq_getElem hk, eq_of_beq hp], fun j hj hjo => ?_⟩
  rw [List.getElem?_eq_getElem (Nat.lt_trans hj hk), Option.some.injEq] at hjo
  exact hlt j hj (hjo ▸ beq_self_eq_true _)

theorem branchIndex_err (offsets : List Nat) (endOff : Nat) (d : Int) (x : CErr)
    (h : branchIndex offsets endOff d = .error x) :
    x = .invalidBranchTarget ∧ wrapOff endOff d ∉ offsets := by
  unfold branchIndex at h
  dsimp only at h
  split at h <;> cases h
  have hf : offsets.findIdx? (· == wrapOff endOff d) = none := ‹_›
  exact ⟨rfl, fun hm => by simpa using List.findIdx?_eq_none_iff.mp hf _ hm⟩

end Gimli.ConvOp
