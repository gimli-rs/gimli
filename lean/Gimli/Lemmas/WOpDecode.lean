import Gimli.Lemmas.WOp
import Gimli.Lemmas.OpDecode
/-!
# C15: the C07 reader Model on the opcodes the writer emits

`Op.parseOperands` at each opcode byte `Operation::write` can produce (closed evaluation of the
reader Model for a literal opcode, `if_pos`/`if_neg` for the three opcode ranges); the round trip of
every operand codec (C09 lemmas) as `Reads rd w v`: "`rd` consumes exactly `w` and returns `v`";
and from the two, what the reader makes of each written operation.
-/
namespace Gimli.WOp
open Gimli.Op (Encoding)
variable (e : Endian) (enc : Encoding) (rest : Bytes)

theorem po_03 : Op.parseOperands e enc 0x03 rest =
    (do let (a, bs) ← Ints.readAddress e enc.addressSize rest; pure (.address a, bs)) := rfl
theorem po_06 : Op.parseOperands e enc 0x06 rest = .ok (.deref 0 enc.addressSize false, rest) := rfl
theorem po_18 : Op.parseOperands e enc 0x18 rest = .ok (.deref 0 enc.addressSize true, rest) := rfl
theorem po_10 : Op.parseOperands e enc 0x10 rest =
    (do let (v, bs) ← Leb.unsigned rest; pure (.unsignedConstant v, bs)) := rfl
theorem po_11 : Op.parseOperands e enc 0x11 rest =
    (do let (v, bs) ← Leb.signed rest; pure (.signedConstant v, bs)) := rfl
theorem po_12 : Op.parseOperands e enc 0x12 rest = .ok (.pick 0, rest) := rfl
theorem po_14 : Op.parseOperands e enc 0x14 rest = .ok (.pick 1, rest) := rfl
theorem po_15 : Op.parseOperands e enc 0x15 rest =
    (do let (v, bs) ← Op.rdU e 1 rest; pure (.pick v, bs)) := rfl
theorem po_23 : Op.parseOperands e enc 0x23 rest =
    (do let (v, bs) ← Leb.unsigned rest; pure (.plusConstant v, bs)) := rfl
theorem po_28 : Op.parseOperands e enc 0x28 rest =
    (do let (t, bs) ← Op.rdI e 2 rest; pure (.bra t, bs)) := rfl
theorem po_2f : Op.parseOperands e enc 0x2f rest =
    (do let (t, bs) ← Op.rdI e 2 rest; pure (.skip t, bs)) := rfl
theorem po_90 : Op.parseOperands e enc 0x90 rest =
    (do let (r, bs) ← Op.rdRegister rest; pure (.register r, bs)) := rfl
theorem po_91 : Op.parseOperands e enc 0x91 rest =
    (do let (v, bs) ← Leb.signed rest; pure (.frameOffset v, bs)) := rfl
theorem po_92 : Op.parseOperands e enc 0x92 rest = (do
    let (r, bs) ← Op.rdRegister rest
    let (o, bs) ← Leb.signed bs
    pure (.registerOffset r o 0, bs)) := rfl
theorem po_93 : Op.parseOperands e enc 0x93 rest = (do
    let (size, bs) ← Leb.unsigned rest
    if size * 8 < 2 ^ 64 then pure (.piece (size * 8) none, bs) else .err .rInvalidPiece) := rfl
theorem po_94 : Op.parseOperands e enc 0x94 rest =
    (do let (s, bs) ← Op.rdU e 1 rest; pure (.deref 0 s false, bs)) := rfl
theorem po_95 : Op.parseOperands e enc 0x95 rest =
    (do let (s, bs) ← Op.rdU e 1 rest; pure (.deref 0 s true, bs)) := rfl
theorem po_99 : Op.parseOperands e enc 0x99 rest =
    (do let (v, bs) ← Op.rdU e 4 rest; pure (.call (.unitRef v), bs)) := rfl
theorem po_9a : Op.parseOperands e enc 0x9a rest =
    (do let (v, bs) ← Op.rdOffset e enc.format rest; pure (.call (.debugInfoRef v), bs)) := rfl
theorem po_fd : Op.parseOperands e enc 0xfd rest =
    (do let (v, bs) ← Op.rdOffset e enc.format rest; pure (.variableValue v, bs)) := rfl
theorem po_9d : Op.parseOperands e enc 0x9d rest = (do
    let (size, bs) ← Leb.unsigned rest
    let (off, bs) ← Leb.unsigned bs
    pure (.piece size (some off), bs)) := rfl
theorem po_9e : Op.parseOperands e enc 0x9e rest = (do
    let (len, bs) ← Leb.unsigned rest
    let (data, bs) ← Op.split len bs
    pure (.implicitValue data, bs)) := rfl

def poImplicitPointer : Out (Op.Operation × Bytes) := do
  let (value, bs) ←
    if enc.version = 2 then Ints.readAddress e enc.addressSize rest else Op.rdOffset e enc.format rest
  let (off, bs) ← Leb.signed bs
  pure (.implicitPointer value off, bs)
theorem po_a0 : Op.parseOperands e enc 0xa0 rest = poImplicitPointer e enc rest := rfl
theorem po_f2 : Op.parseOperands e enc 0xf2 rest = poImplicitPointer e enc rest := rfl

def poEntryValue : Out (Op.Operation × Bytes) := do
  let (len, bs) ← Leb.unsigned rest
  let (expr, bs) ← Op.split len bs
  pure (.entryValue expr, bs)
theorem po_a3 : Op.parseOperands e enc 0xa3 rest = poEntryValue rest := rfl
theorem po_f3 : Op.parseOperands e enc 0xf3 rest = poEntryValue rest := rfl

def poTypedLiteral : Out (Op.Operation × Bytes) := do
  let (bt, bs) ← Leb.unsigned rest
  let (len, bs) ← Op.rdU e 1 bs
  let (value, bs) ← Op.split len bs
  pure (.typedLiteral bt value, bs)
theorem po_a4 : Op.parseOperands e enc 0xa4 rest = poTypedLiteral e rest := rfl
theorem po_f4 : Op.parseOperands e enc 0xf4 rest = poTypedLiteral e rest := rfl

def poRegvalType : Out (Op.Operation × Bytes) := do
  let (r, bs) ← Op.rdRegister rest
  let (bt, bs) ← Leb.unsigned bs
  pure (.registerOffset r 0 bt, bs)
theorem po_a5 : Op.parseOperands e enc 0xa5 rest = poRegvalType rest := rfl
theorem po_f5 : Op.parseOperands e enc 0xf5 rest = poRegvalType rest := rfl

def poDerefType (space : Bool) : Out (Op.Operation × Bytes) := do
  let (s, bs) ← Op.rdU e 1 rest
  let (bt, bs) ← Leb.unsigned bs
  pure (.deref bt s space, bs)
theorem po_a6 : Op.parseOperands e enc 0xa6 rest = poDerefType e rest false := rfl
theorem po_f6 : Op.parseOperands e enc 0xf6 rest = poDerefType e rest false := rfl
theorem po_a7 : Op.parseOperands e enc 0xa7 rest = poDerefType e rest true := rfl

def poConvert : Out (Op.Operation × Bytes) := do
  let (bt, bs) ← Leb.unsigned rest; pure (.convert bt, bs)
theorem po_a8 : Op.parseOperands e enc 0xa8 rest = poConvert rest := rfl
theorem po_f7 : Op.parseOperands e enc 0xf7 rest = poConvert rest := rfl
def poReinterpret : Out (Op.Operation × Bytes) := do
  let (bt, bs) ← Leb.unsigned rest; pure (.reinterpret bt, bs)
theorem po_a9 : Op.parseOperands e enc 0xa9 rest = poReinterpret rest := rfl
theorem po_f9 : Op.parseOperands e enc 0xf9 rest = poReinterpret rest := rfl

theorem po_fa : Op.parseOperands e enc 0xfa rest =
    (do let (v, bs) ← Op.rdU e 4 rest; pure (.parameterRef v, bs)) := rfl

theorem po_ed : Op.parseOperands e enc 0xed rest = (do
    let (k, bs) ← Op.rdU e 1 rest
    match k with
    | 0 => do let (i, bs) ← Ints.readUlebU32 bs; pure (.wasmLocal i, bs)
    | 1 => do let (i, bs) ← Ints.readUlebU32 bs; pure (.wasmGlobal i, bs)
    | 2 => do let (i, bs) ← Ints.readUlebU32 bs; pure (.wasmStack i, bs)
    | 3 => do let (i, bs) ← Op.rdU e 4 bs; pure (.wasmGlobal i, bs)
    | _ => .err .rInvalidExpression) := rfl

theorem b8_toNat (n : Nat) (h : n < 256) : (b8 n).toNat = n := by
  simp [b8]; omega

theorem simpleImage_spec (opc : Nat) (img : Op.Operation) (h : simpleImage opc = some img) :
    Op.parse e enc (b8 opc :: rest) = .ok (img, rest) ∧ (∀ t, img ≠ .skip t) ∧ (∀ t, img ≠ .bra t) := by
  unfold simpleImage at h
  split at h <;> cases h
  all_goals exact ⟨rfl, fun _ => nofun, fun _ => nofun⟩

theorem po_lit (v : Nat) (hv : v < 32) (bs : Bytes) :
    Op.parseOperands e enc (b8 (0x30 + v)).toNat bs = .ok (.unsignedConstant v, bs) := by
  rw [b8_toNat _ (by omega), Op.parseOperands_lit _ _ _ _ ⟨by omega, by omega⟩, Nat.add_sub_cancel_left]

theorem po_reg (r : Nat) (hr : r < 32) (bs : Bytes) :
    Op.parseOperands e enc (b8 (0x50 + r)).toNat bs = .ok (.register r, bs) := by
  rw [b8_toNat _ (by omega), Op.parseOperands_reg _ _ _ _ ⟨by omega, by omega⟩, Nat.add_sub_cancel_left]

theorem po_breg (r : Nat) (hr : r < 32) (bs : Bytes) :
    Op.parseOperands e enc (b8 (0x70 + r)).toNat bs =
      (do let (v, bs) ← Leb.signed bs; pure (.registerOffset r v 0, bs)) := by
  rw [b8_toNat _ (by omega), Op.parseOperands_breg _ _ _ _ ⟨by omega, by omega⟩, Nat.add_sub_cancel_left]

theorem vOp_cases (enc : Encoding) (std gnu : Nat) :
    (enc.version ≥ 5 ∧ vOp enc std gnu = b8 std) ∨ (¬ enc.version ≥ 5 ∧ vOp enc std gnu = b8 gnu) := by
  unfold vOp
  by_cases h : enc.version ≥ 5
  · exact .inl ⟨h, if_pos h⟩
  · exact .inr ⟨h, if_neg h⟩

/-- the version-dependent opcodes: the DWARF 5 opcode and its GNU predecessor read alike -/
theorem po_vOp (std gnu : Nat) {F : Bytes → Out (Op.Operation × Bytes)}
    (hs : ∀ bs, Op.parseOperands e enc (b8 std).toNat bs = F bs)
    (hg : ∀ bs, Op.parseOperands e enc (b8 gnu).toNat bs = F bs) :
    ∀ bs, Op.parseOperands e enc (vOp enc std gnu).toNat bs = F bs := by
  unfold vOp; split <;> assumption

/-! ## operand round trips -/

theorem parse_reads (b : UInt8) {F : Bytes → Out (Op.Operation × Bytes)}
    (hpo : ∀ bs, Op.parseOperands e enc b.toNat bs = F bs) {w : Bytes} {img : Op.Operation}
    (h : Reads F w img) : Op.parse e enc (b :: w ++ rest) = .ok (img, rest) := by
  rw [List.cons_append, Op.parse_cons, hpo]; exact h rest

theorem reads_u8 (n : Nat) (h : n < 2 ^ 8) : Reads (Op.rdU e 1) [b8 n] n := by
  have := Ints.reads_byte e (b8 n)
  rwa [b8_toNat n h] at this

theorem writeUdata_fits {v size : Nat} {bs : Bytes} (h : Ints.writeUdata e v size = .ok bs)
    (hs : size = 1 ∨ size = 2 ∨ size = 4) : v < 2 ^ (8 * size) :=
  ((Ints.writeUdata_ok h).2.resolve_left (by omega)).2

theorem reads_reg (r : Nat) (h : r < 2 ^ 16) : Reads Op.rdRegister (Leb.encodeU r) r :=
  .map (Leb.reads_unsigned (by omega)) fun _ => if_pos h

theorem reads_offset {f : Format} {o : Nat} {p : Bytes} (h : Ints.writeUdata e o f.wordSize = .ok p)
    (ho : o < 2 ^ 64) : Reads (Op.rdOffset e f) p o :=
  (Ints.reads_udata h ho).congr (Ints.readWord_eq_fixed e f)

/-- the operands of `DW_OP_implicit_pointer`: the reference is an address in DWARF 2, an offset later -/
theorem reads_implicitPointer {o : Nat} {p : Bytes}
    (h : Ints.writeUdata e o (implicitPointerRefSize enc) = .ok p) (ho : o < 2 ^ 64)
    (bo : Int) (hbo : -(2 : Int) ^ 63 ≤ bo ∧ bo < 2 ^ 63) :
    Reads (poImplicitPointer e enc) (p ++ Leb.encodeS bo) (.implicitPointer o bo) := by
  intro rest
  unfold implicitPointerRefSize at h
  unfold poImplicitPointer
  rw [List.append_assoc]
  split at h <;> rename_i hv
  · simp only [hv, if_true, Ints.reads_address h ho _, Leb.reads_signed hbo.1 hbo.2 _, Out.bind_ok, Out.pure_eq]
  · simp only [hv, if_false, reads_offset e h ho _, Leb.reads_signed hbo.1 hbo.2 _, Out.bind_ok, Out.pure_eq]

theorem reads_i16 {v : Int} {bs : Bytes} (h : Ints.writeSdata e v 2 = .ok bs) :
    Reads (Op.rdI e 2) bs v ∧ -(2 : Int) ^ 15 ≤ v ∧ v < 2 ^ 15 :=
  ⟨Ints.reads_sdata h (fun h8 => nomatch h8), by simpa only [Nat.reduceMul, Nat.reduceSub] using Ints.writeSdata_range h (by decide)⟩

/-- the displacement of a branch written at `pos`: `offsets[t] - (w.len() + 2)` with `w.len()` taken
after the opcode byte; `write_sdata` checks that it fits `i16` -/
theorem writeBranch_ok {offs : List Nat} {t pos : Nat} {d : Bytes} (hd : writeBranch e offs t (pos + 1) = .ok d) :
    ∃ tt, offs[t]? = some tt ∧ d.length = 2 ∧ Reads (Op.rdI e 2) d ((tt : Int) - ((pos : Int) + 3)) ∧
      -(2 : Int) ^ 15 ≤ (tt : Int) - ((pos : Int) + 3) ∧ (tt : Int) - ((pos : Int) + 3) < 2 ^ 15 := by
  have hdl := writeBranch_length _ _ _ _ _ hd
  unfold writeBranch at hd
  split at hd
  · cases hd
  · rename_i tt hg
    have e3 : (tt : Int) - (((pos + 1 : Nat) : Int) + 2) = (tt : Int) - ((pos : Int) + 3) := by omega
    exact ⟨tt, hg, hdl, e3 ▸ reads_i16 e hd⟩

theorem entryOffset_some (uo : UnitOffs) (en o : Nat) (h : entryOffset uo en = .ok o) :
    ∃ offs, uo = some offs ∧ offs en = some o := by
  cases uo with
  | none => cases h
  | some offs =>
    refine ⟨offs, rfl, ?_⟩
    simp only [entryOffset] at h
    split at h <;> cases h
    assumption

theorem pow16_lt : (2:Nat) ^ 16 < 2 ^ 64 := by decide
theorem pow32_lt : (2:Nat) ^ 32 < 2 ^ 64 := by decide

theorem opWrite_branch (e : Endian) (enc : Encoding) (uo : UnitOffs) (hasRefs : Bool)
    (op : Operation) (t : Nat) (hb : isBranchTo op t) (offs : List Nat) (pos : Nat)
    (bs : Bytes) (fx : List Fixup) (rest : Bytes)
    (hw : opWrite e enc uo hasRefs offs pos op = .ok (bs, fx)) :
    ∃ tt, offs[t]? = some tt ∧ bs.length = 3 ∧
      Op.parse e enc (bs ++ rest) = .ok (branchImage op ((tt : Int) - ((pos : Int) + 3)), rest) ∧
      -(2 : Int) ^ 15 ≤ (tt : Int) - ((pos : Int) + 3) ∧ (tt : Int) - ((pos : Int) + 3) < 2 ^ 15 := by
  rcases hb with rfl | rfl
  all_goals
    obtain ⟨d, hd, h⟩ := Out.bind_eq_ok hw
    cases h
    obtain ⟨tt, htt, hdl, hrd, hr⟩ := writeBranch_ok e hd
    refine ⟨tt, htt, by simp [hdl], ?_, hr⟩
  · exact parse_reads e enc rest 0x2f (po_2f e enc) (hrd.map fun _ => rfl)
  · exact parse_reads e enc rest 0x28 (po_28 e enc) (hrd.map fun _ => rfl)

theorem opWrite_decode (e : Endian) (enc : Encoding) (uo : UnitOffs) (hasRefs : Bool)
    (op : Operation) (offsets : List Nat) (pos : Nat) (bs : Bytes) (fx : List Fixup) (rest : Bytes)
    (hoffs : ∀ offs, uo = some offs → ∀ en o, offs en = some o → o < 2 ^ 64)
    (hlen : bs.length < 2 ^ 64)
    (hw : opWrite e enc uo hasRefs offsets pos op = .ok (bs, fx)) (hwf : OpWf op) :
    ∃ img, opImage e enc uo hasRefs offsets pos op = some img ∧
      Op.parse e enc (bs ++ rest) = .ok (img, rest) := by
  cases op with
  | raw b => exact hwf.elim
  | simple opc =>
    cases hw
    obtain ⟨img, himg⟩ := Option.isSome_iff_exists.mp hwf
    exact ⟨img, himg, (simpleImage_spec e enc rest opc img himg).1⟩
  | address a =>
    obtain ⟨b, hb, h⟩ := Out.bind_eq_ok hw
    cases h
    cases a with
    | symbol s ad => cases hb
    | constant v =>
      exact ⟨_, rfl, parse_reads e enc rest 0x03 (po_03 e enc) ((Ints.reads_address hb hwf).map fun _ => rfl)⟩
  | unsignedConstant v =>
    refine ⟨_, rfl, ?_⟩
    simp only [opWrite] at hw
    split at hw <;> cases hw <;> rename_i h32
    · exact parse_reads e enc rest _ (po_lit e enc v h32) fun _ => rfl
    · exact parse_reads e enc rest 0x10 (po_10 e enc) ((Leb.reads_unsigned hwf).map fun _ => rfl)
  | signedConstant v =>
    cases hw
    exact ⟨_, rfl, parse_reads e enc rest 0x11 (po_11 e enc) ((Leb.reads_signed hwf.1 hwf.2).map fun _ => rfl)⟩
  | constantType base value =>
    obtain ⟨o, ho, h⟩ := Out.bind_eq_ok hw
    obtain ⟨l, hl, h⟩ := Out.bind_eq_ok h
    cases h
    obtain ⟨offs, rfl, hoe⟩ := entryOffset_some _ _ _ ho
    have hl8 := writeUdata_fits e hl (.inl rfl)
    refine ⟨.typedLiteral o value, by simp [opImage, image, hoe], ?_⟩
    rw [List.append_assoc]
    exact parse_reads e enc rest _ (po_vOp e enc 0xa4 0xf4 (po_a4 e enc) (po_f4 e enc))
      ((Leb.reads_unsigned (hoffs _ rfl _ _ hoe)).bind
        ((Ints.reads_udata hl (by omega)).bind ((Ints.reads_take value).map fun _ => rfl)))
  | frameOffset o =>
    cases hw
    exact ⟨_, rfl, parse_reads e enc rest 0x91 (po_91 e enc) ((Leb.reads_signed hwf.1 hwf.2).map fun _ => rfl)⟩
  | registerOffset r o =>
    obtain ⟨hr, ho⟩ := hwf
    refine ⟨_, rfl, ?_⟩
    simp only [opWrite] at hw
    split at hw <;> cases hw <;> rename_i h32
    · exact parse_reads e enc rest _ (po_breg e enc r h32) ((Leb.reads_signed ho.1 ho.2).map fun _ => rfl)
    · exact parse_reads e enc rest 0x92 (po_92 e enc)
        ((reads_reg r hr).bind ((Leb.reads_signed ho.1 ho.2).map fun _ => rfl))
  | registerType r base =>
    obtain ⟨o, ho, h⟩ := Out.bind_eq_ok hw
    cases h
    obtain ⟨offs, rfl, hoe⟩ := entryOffset_some _ _ _ ho
    refine ⟨.registerOffset r 0 o, by simp [opImage, image, hoe], ?_⟩
    exact parse_reads e enc rest _ (po_vOp e enc 0xa5 0xf5 (po_a5 e enc) (po_f5 e enc))
      ((reads_reg r hwf).bind ((Leb.reads_unsigned (hoffs _ rfl _ _ hoe)).map fun _ => rfl))
  | pick i =>
    refine ⟨_, rfl, ?_⟩
    match i with
    | 0 => cases hw; rfl
    | 1 => cases hw; rfl
    | i + 2 =>
      cases hw
      exact parse_reads e enc rest 0x15 (po_15 e enc) ((reads_u8 e _ hwf).map fun _ => rfl)
  | deref sp =>
    cases hw
    exact ⟨_, rfl, by cases sp <;> rfl⟩
  | derefSize sp sz =>
    cases hw
    refine ⟨_, rfl, ?_⟩
    cases sp
    · exact parse_reads e enc rest 0x94 (po_94 e enc) ((reads_u8 e sz hwf).map fun _ => rfl)
    · exact parse_reads e enc rest 0x95 (po_95 e enc) ((reads_u8 e sz hwf).map fun _ => rfl)
  | derefType sp sz base =>
    obtain ⟨o, ho, h⟩ := Out.bind_eq_ok hw
    cases h
    obtain ⟨offs, rfl, hoe⟩ := entryOffset_some _ _ _ ho
    have ho64 := hoffs _ rfl _ _ hoe
    refine ⟨.deref o sz sp, by simp [opImage, image, hoe], ?_⟩
    cases sp
    · exact parse_reads e enc rest _ (po_vOp e enc 0xa6 0xf6 (po_a6 e enc) (po_f6 e enc))
        ((reads_u8 e sz hwf).bind ((Leb.reads_unsigned ho64).map fun _ => rfl))
    · exact parse_reads e enc rest 0xa7 (po_a7 e enc)
        ((reads_u8 e sz hwf).bind ((Leb.reads_unsigned ho64).map fun _ => rfl))
  | plusConstant v =>
    cases hw
    exact ⟨_, rfl, parse_reads e enc rest 0x23 (po_23 e enc) ((Leb.reads_unsigned hwf).map fun _ => rfl)⟩
  | skip t =>
    obtain ⟨tt, hg, -, hp, -⟩ := opWrite_branch e enc uo hasRefs _ t (.inl rfl) offsets pos bs fx rest hw
    exact ⟨_, by simp [opImage, image, dispOf, List.getD, hg, branchImage], hp⟩
  | branch t =>
    obtain ⟨tt, hg, -, hp, -⟩ := opWrite_branch e enc uo hasRefs _ t (.inr rfl) offsets pos bs fx rest hw
    exact ⟨_, by simp [opImage, image, dispOf, List.getD, hg, branchImage], hp⟩
  | call en =>
    obtain ⟨o, ho, h⟩ := Out.bind_eq_ok hw
    obtain ⟨b, hb, h⟩ := Out.bind_eq_ok h
    cases h
    obtain ⟨offs, rfl, hoe⟩ := entryOffset_some _ _ _ ho
    have h32 := writeUdata_fits e hb (.inr (.inr rfl))
    refine ⟨.call (.unitRef o), by simp [opImage, image, hoe], ?_⟩
    exact parse_reads e enc rest 0x99 (po_99 e enc) ((Ints.reads_udata hb (by omega)).map fun _ => rfl)
  | callRef r =>
    obtain ⟨⟨b, f⟩, hb, h⟩ := Out.bind_eq_ok hw
    cases h
    obtain ⟨hb0, -⟩ := writeDRef_entry _ _ _ _ _ _ _ hb
    exact ⟨_, rfl, parse_reads e enc rest 0x9a (po_9a e enc)
      ((reads_offset e hb0 (by decide)).map fun _ => rfl)⟩
  | variableValue r =>
    obtain ⟨⟨b, f⟩, hb, h⟩ := Out.bind_eq_ok hw
    cases h
    obtain ⟨hb0, -⟩ := writeDRef_entry _ _ _ _ _ _ _ hb
    exact ⟨_, rfl, parse_reads e enc rest 0xfd (po_fd e enc)
      ((reads_offset e hb0 (by decide)).map fun _ => rfl)⟩
  | convert base =>
    cases base with
    | none =>
      cases hw
      exact ⟨_, rfl, parse_reads e enc rest _ (po_vOp e enc 0xa8 0xf7 (po_a8 e enc) (po_f7 e enc))
        ((Leb.reads_unsigned (v := 0) (by decide)).map fun _ => rfl)⟩
    | some bb =>
      obtain ⟨o, ho, h⟩ := Out.bind_eq_ok hw
      cases h
      obtain ⟨offs, rfl, hoe⟩ := entryOffset_some _ _ _ ho
      refine ⟨.convert o, by simp [opImage, image, hoe], ?_⟩
      exact parse_reads e enc rest _ (po_vOp e enc 0xa8 0xf7 (po_a8 e enc) (po_f7 e enc))
        ((Leb.reads_unsigned (hoffs _ rfl _ _ hoe)).map fun _ => rfl)
  | reinterpret base =>
    cases base with
    | none =>
      cases hw
      exact ⟨_, rfl, parse_reads e enc rest _ (po_vOp e enc 0xa9 0xf9 (po_a9 e enc) (po_f9 e enc))
        ((Leb.reads_unsigned (v := 0) (by decide)).map fun _ => rfl)⟩
    | some bb =>
      obtain ⟨o, ho, h⟩ := Out.bind_eq_ok hw
      cases h
      obtain ⟨offs, rfl, hoe⟩ := entryOffset_some _ _ _ ho
      refine ⟨.reinterpret o, by simp [opImage, image, hoe], ?_⟩
      exact parse_reads e enc rest _ (po_vOp e enc 0xa9 0xf9 (po_a9 e enc) (po_f9 e enc))
        ((Leb.reads_unsigned (hoffs _ rfl _ _ hoe)).map fun _ => rfl)
  | entryValue body =>
    obtain ⟨len, hlen', h⟩ := Out.bind_eq_ok hw
    obtain ⟨offs, hoffs', h⟩ := Out.bind_eq_ok h
    obtain ⟨⟨b, fb⟩, hwr, h⟩ := Out.bind_eq_ok h
    cases h
    have hsz := exprWriteOps_length e enc uo hasRefs body _ _ _ _ hwr
    rw [hlen', Out.ok.injEq] at hsz
    subst hsz
    have hew : exprWrite e enc uo hasRefs (pos + (1 + (Leb.encodeU b.length).length)) body = .ok (b, fx) := by
      simp only [exprWrite, Out.bind_eq_ok_iff]
      exact ⟨offs, by simpa [Nat.add_comm] using hoffs', by simpa [Nat.add_comm] using hwr⟩
    refine ⟨.entryValue b, by simp [opImage, image, bodyOf, hlen', hew], ?_⟩
    exact parse_reads e enc rest _ (po_vOp e enc 0xa3 0xf3 (po_a3 e enc) (po_f3 e enc))
      ((Leb.reads_unsigned (v := b.length) (by simp at hlen; omega)).bind ((Ints.reads_take b).map fun _ => rfl))
  | register r =>
    refine ⟨_, rfl, ?_⟩
    simp only [opWrite] at hw
    split at hw <;> cases hw <;> rename_i h32
    · exact parse_reads e enc rest _ (po_reg e enc r h32) fun _ => rfl
    · exact parse_reads e enc rest 0x90 (po_90 e enc) ((reads_reg r hwf).map fun _ => rfl)
  | implicitValue d =>
    cases hw
    exact ⟨_, rfl, parse_reads e enc rest 0x9e (po_9e e enc)
      ((Leb.reads_unsigned hwf).bind ((Ints.reads_take d).map fun _ => rfl))⟩
  | implicitPointer r o =>
    obtain ⟨⟨b, f⟩, hb, h⟩ := Out.bind_eq_ok hw
    cases h
    obtain ⟨hb0, -⟩ := writeDRef_entry _ _ _ _ _ _ _ hb
    exact ⟨_, rfl, parse_reads e enc rest _ (po_vOp e enc 0xa0 0xf2 (po_a0 e enc) (po_f2 e enc))
      (reads_implicitPointer e enc hb0 (by decide) o hwf)⟩
  | piece n =>
    refine ⟨_, rfl, ?_⟩
    simp only [opWrite] at hw
    split at hw <;> cases hw
    rename_i hfit
    have h8 : n * 8 < 2 ^ 64 := by omega
    exact parse_reads e enc rest 0x93 (po_93 e enc) ((Leb.reads_unsigned hwf).map fun _ => if_pos h8)
  | bitPiece s o =>
    cases hw
    exact ⟨_, rfl, parse_reads e enc rest 0x9d (po_9d e enc)
      ((Leb.reads_unsigned hwf.1).bind ((Leb.reads_unsigned hwf.2).map fun _ => rfl))⟩
  | parameterRef en =>
    obtain ⟨o, ho, h⟩ := Out.bind_eq_ok hw
    obtain ⟨b, hb, h⟩ := Out.bind_eq_ok h
    cases h
    obtain ⟨offs, rfl, hoe⟩ := entryOffset_some _ _ _ ho
    have h32 := writeUdata_fits e hb (.inr (.inr rfl))
    refine ⟨.parameterRef o, by simp [opImage, image, hoe], ?_⟩
    exact parse_reads e enc rest 0xfa (po_fa e enc) ((Ints.reads_udata hb (by omega)).map fun _ => rfl)
  | wasmLocal i =>
    cases hw
    exact ⟨_, rfl, parse_reads e enc rest 0xed (po_ed e enc)
      ((reads_u8 e 0 (by decide)).bind ((Ints.reads_ulebU32 hwf).map fun _ => rfl))⟩
  | wasmGlobal i =>
    cases hw
    exact ⟨_, rfl, parse_reads e enc rest 0xed (po_ed e enc)
      ((reads_u8 e 1 (by decide)).bind ((Ints.reads_ulebU32 hwf).map fun _ => rfl))⟩
  | wasmStack i =>
    cases hw
    exact ⟨_, rfl, parse_reads e enc rest 0xed (po_ed e enc)
      ((reads_u8 e 2 (by decide)).bind ((Ints.reads_ulebU32 hwf).map fun _ => rfl))⟩

end Gimli.WOp
