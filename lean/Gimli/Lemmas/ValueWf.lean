import Gimli.Lemmas.Value
import Gimli.Lemmas.Out
/-! # C07: results of `Value` operations on well-formed integer values are well-formed integer values

That the operations return at all (`Value.…_normal`) stands at the head of Lemmas/ExecInv.lean, `Value.parse_normal` in
Lemmas/Eval.lean. -/
open Gimli Gimli.Value Gimli.Spec.Expr

namespace Gimli.Value

def VOk (v : Value) : Prop := WF v ∧ IsInt v

theorem vok_mk (t : ValueType) (b : Nat) (ht : t.kind ≠ .float) (hb : b < 2 ^ t.width) : VOk ⟨t, b⟩ := ⟨hb, ht⟩

theorem width_pos (t : ValueType) : 0 < t.width := by cases t <;> simp [ValueType.width]

theorem mod_width_lt (t : ValueType) (n : Nat) : n % 2 ^ t.width < 2 ^ t.width := Nat.mod_lt _ (Nat.two_pow_pos _)

theorem lt64_of_lt_width (t : ValueType) (n : Nat) (h : n < 2 ^ t.width) : n < 2 ^ 64 :=
  wf_lt64 ⟨t, n⟩ h

theorem vok_generic (v : Nat) (hv : v < 2 ^ 64) : VOk ⟨.generic, v⟩ := ⟨hv, fun h => nomatch h⟩

theorem vok_pat (t : ValueType) (ht : t.kind ≠ .float) (i : Int) : VOk ⟨t, pat t.width i⟩ := ⟨pat_lt _ _, ht⟩

theorem VOk.of_le {t : ValueType} {b n : Nat} (h : VOk ⟨t, b⟩) (hn : n ≤ b) : VOk ⟨t, n⟩ :=
  ⟨Nat.lt_of_le_of_lt hn h.1, h.2⟩

theorem toU64_lt (v : Value) (mask : Nat) (hv : WF v) (u : Nat) (h : v.toU64 mask = .ok u) : u < 2 ^ 64 := by
  unfold toU64 at h
  split at h
  · cases h; exact Nat.lt_of_le_of_lt Nat.and_le_left (wf_lt64 v hv)
  · cases h; exact pat_lt 64 _
  · cases h; exact wf_lt64 v hv
  · cases h

theorem fromU64_vok (t : ValueType) (ht : t.kind ≠ .float) (n : Nat) (hn : n < 2 ^ 64) (r : Value)
    (h : fromU64 t n = .ok r) : VOk r := by
  unfold fromU64 at h
  split at h
  · cases h; exact vok_generic n hn
  · exact absurd rfl ht
  · exact absurd rfl ht
  · cases h; exact ⟨mod_width_lt t n, ht⟩

theorem fromU64_ok {a : Nat} (ha : AddrSize a) (t : ValueType) (ht : t.kind ≠ .float) (n : Nat) (hn : n < 2 ^ 64)
    (z : Int) (hz : (n : Int) % 2 ^ width a t = z % 2 ^ width a t) :
    ∃ r, fromU64 t n = .ok r ∧ absV a r = ⟨t, canon a t z⟩ ∧ VOk r := by
  have h := fromU64_abs ha t ht n z hz
  cases hr : fromU64 t n with
  | ok r => rw [hr] at h; exact ⟨r, rfl, Out.ok.inj h, fromU64_vok t ht n hn r hr⟩
  | _ => rw [hr] at h; cases h

theorem arith_vok (g f32 f64) (x y r : Value) (mask : Nat) (hx : VOk x)
    (h : arith g f32 f64 x y mask = .ok r) : VOk r := by
  unfold arith at h
  split at h
  · cases h
  · split at h
    · cases h; exact vok_generic _ (Nat.lt_of_le_of_lt Nat.and_le_left (Nat.mod_lt _ (Nat.two_pow_pos _)))
    · next heq => exact absurd (heq ▸ rfl : x.ty.kind = .float) hx.2
    · next heq => exact absurd (heq ▸ rfl : x.ty.kind = .float) hx.2
    · cases h; exact ⟨mod_width_lt _ _, hx.2⟩

theorem div_vok (x y r : Value) (mask : Nat) (hx : VOk x) (h : x.div y mask = .ok r) : VOk r := by
  unfold Value.div at h
  split at h; · cases h
  split at h; · cases h
  split at h; · cases h
  split at h
  · cases h; exact vok_generic _ (pat_lt 64 _)
  · cases h; exact vok_pat _ hx.2 _
  · cases h; exact VOk.of_le hx (Nat.div_le_self _ _)
  · next heq => exact absurd heq hx.2

theorem rem_vok (x y r : Value) (mask : Nat) (hx : VOk x) (h : x.rem y mask = .ok r) : VOk r := by
  unfold Value.rem at h
  split at h; · cases h
  split at h; · cases h
  split at h; · cases h
  split at h
  · cases h
    exact vok_generic _ (Nat.lt_of_le_of_lt (Nat.le_trans (Nat.mod_le _ _) Nat.and_le_left) (wf_lt64 x hx.1))
  · cases h; exact vok_pat _ hx.2 _
  · cases h; exact VOk.of_le hx (Nat.mod_le _ _)
  · cases h

theorem bitwise_vok (f : Nat → Nat → Nat) (hf : ∀ p q, p < 2 ^ 64 → q < 2 ^ 64 → f p q < 2 ^ 64)
    (x y r : Value) (mask : Nat) (hx : VOk x) (hy : VOk y) (h : bitwise f x y mask = .ok r) : VOk r := by
  unfold bitwise at h
  split at h; · cases h
  obtain ⟨u1, h1, h⟩ := Out.bind_eq_ok h
  obtain ⟨u2, h2, h⟩ := Out.bind_eq_ok h
  exact fromU64_vok _ hx.2 _ (hf _ _ (toU64_lt _ _ hx.1 _ h1) (toU64_lt _ _ hy.1 _ h2)) _ h

theorem compare_vok (ri rf32 rf64) (x y r : Value) (mask : Nat) (h : compare ri rf32 rf64 x y mask = .ok r) :
    VOk r := by
  unfold compare at h
  split at h; · cases h
  cases h
  exact vok_generic _ (Nat.lt_of_le_of_lt (Bool.toNat_le _) (by decide))

theorem unaryOf_vok (op : UnOp) (x r : Value) (mask : Nat) (hx : VOk x) (h : unaryOf op x mask = .ok r) : VOk r := by
  cases op
  case not =>
    obtain ⟨u, h1, h⟩ := Out.bind_eq_ok (show (x.toU64 mask >>= fun u => fromU64 x.ty (2 ^ 64 - 1 - u)) = _ from h)
    exact fromU64_vok _ hx.2 _ (Nat.lt_of_le_of_lt (Nat.sub_le _ _) (by decide)) _ h
  all_goals
    simp only [unaryOf, Value.abs, Value.neg] at h
    split at h
    · cases h; exact vok_generic _ (pat_lt 64 _)
    · cases h; exact vok_pat _ hx.2 _
    · first | (cases h; exact hx) | cases h
    · next heq => exact absurd heq hx.2

theorem ite_lt {c : Prop} [Decidable c] (x y n : Nat) (hx : x < n) (hy : y < n) : (if c then x else y) < n := by
  split <;> assumption

theorem shl_vok (x y r : Value) (mask : Nat) (hx : VOk x) (h : x.shl y mask = .ok r) : VOk r := by
  obtain ⟨c, _, h⟩ := Out.bind_eq_ok (show (y.shiftLength mask >>= _) = _ from h)
  split at h
  · cases h; exact vok_generic _ (ite_lt _ _ _ (by decide) (Nat.mod_lt _ (by decide)))
  · cases h; exact ⟨ite_lt _ _ _ (Nat.two_pow_pos _) (mod_width_lt _ _), hx.2⟩
  · cases h; exact ⟨ite_lt _ _ _ (Nat.two_pow_pos _) (mod_width_lt _ _), hx.2⟩
  · cases h

theorem shr_le (n c : Nat) : n >>> c ≤ n := by
  rw [Nat.shiftRight_eq_div_pow]; exact Nat.div_le_self _ _

theorem shr_vok (x y r : Value) (mask : Nat) (hx : VOk x) (h : x.shr y mask = .ok r) : VOk r := by
  obtain ⟨c, _, h⟩ := Out.bind_eq_ok (show (y.shiftLength mask >>= _) = _ from h)
  split at h
  · cases h
    exact vok_generic _ (ite_lt _ _ _ (by decide)
      (Nat.lt_of_le_of_lt (Nat.le_trans (shr_le _ _) Nat.and_le_left) (wf_lt64 x hx.1)))
  · cases h; exact ⟨ite_lt _ _ _ (Nat.two_pow_pos _) (Nat.lt_of_le_of_lt (shr_le _ _) hx.1), hx.2⟩
  · cases h
  · cases h

theorem shra_vok (x y r : Value) (mask : Nat) (hx : VOk x) (h : x.shra y mask = .ok r) : VOk r := by
  obtain ⟨c, _, h⟩ := Out.bind_eq_ok (show (y.shiftLength mask >>= _) = _ from h)
  have hs : ∀ w (N : Prop) [Decidable N], (if N then 2 ^ w - 1 else 0) < 2 ^ w := fun w N _ =>
    ite_lt _ _ _ (Nat.sub_lt (Nat.two_pow_pos w) (by decide)) (Nat.two_pow_pos w)
  split at h
  · cases h; exact vok_generic _ (ite_lt _ _ _ (hs 64 _) (pat_lt 64 _))
  · cases h; exact ⟨ite_lt _ _ _ (hs _ _) (pat_lt _ _), hx.2⟩
  · cases h
  · cases h

theorem binaryOf_vok (op : BinOp) (x y r : Value) (mask : Nat) (hx : VOk x) (hy : VOk y)
    (h : binaryOf op x y mask = .ok r) : VOk r := by
  cases op <;> simp only [binaryOf] at h
  case add | sub | mul => exact arith_vok _ _ _ _ _ _ _ hx h
  case div => exact div_vok _ _ _ _ hx h
  case rem => exact rem_vok _ _ _ _ hx h
  case and => exact bitwise_vok _ (fun p q hp _ => Nat.lt_of_le_of_lt Nat.and_le_left hp) _ _ _ _ hx hy h
  case or => exact bitwise_vok _ (fun p q hp hq => Nat.or_lt_two_pow hp hq) _ _ _ _ hx hy h
  case xor => exact bitwise_vok _ (fun p q hp hq => Nat.xor_lt_two_pow hp hq) _ _ _ _ hx hy h
  case shl => exact shl_vok x y r mask hx h
  case shr => exact shr_vok x y r mask hx h
  case shra => exact shra_vok x y r mask hx h
  all_goals exact compare_vok _ _ _ _ _ _ _ h

end Gimli.Value
