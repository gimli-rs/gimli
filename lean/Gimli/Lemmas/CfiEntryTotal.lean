import Gimli.Lemmas.CfiPointer
import Gimli.Lemmas.ReaderEnsures
/-!
# CFI entries on arbitrary bytes: parsing and iteration end normally

A CIE's address size is the caller's or one read by `read_address_size` (1, 2, 4 or 8), so `SizeOk` of the caller's
size carries over to every parsed CIE and FDE; `Out.Ensures` states that together with normal return.
-/
namespace Gimli.CfiEntry
open Gimli Gimli.Ints Gimli.Spec.Frame

theorem readCstr_normal (r : Rd) : (readCstr r).Normal := by
  unfold readCstr; split <;> trivial

theorem augLoop_normal (m : Mode) (e : Endian) (bases : Bases) (asz : Nat) (hs : SizeOk m asz) :
    ∀ (s : Bytes) pf aug data input, (augLoop m e bases asz s pf aug data input).Normal := by
  intro s
  induction s with
  | nil => intro pf aug data input; trivial
  | cons ch s ih =>
    intro pf aug data input
    -- `L`, `R` (and `P`, which also reads the pointer) take their argument from the augmentation data
    have henc : ∀ (k : Nat × Rd → Out (Aug × Rd)), (∀ x, (k x).Normal) →
        (match data with
          | none => .err .rUnknownAugmentation
          | some d => parsePointerEncoding d >>= k : Out (Aug × Rd)).Normal := fun k hk => by
      cases data with
      | none => trivial
      | some d => exact (parsePointerEncoding_normal d).bind fun x _ => hk x
    unfold augLoop
    refine .ite_cases (fun _ => .ite_cases (fun _ => trivial) fun _ => ?z) fun _ => .ite_cases (fun _ => ?l) fun _ =>
      .ite_cases (fun _ => ?p) fun _ => .ite_cases (fun _ => ?r) fun _ => .ite_cases (fun _ => ih _ _ _ _) fun _ => trivial
    case z =>
      refine (lift_normal _ _ (Leb.unsigned_normal _)).bind fun ⟨len, input'⟩ _ => ?_
      exact (split_normal _ _).bind fun ⟨d, input''⟩ _ => ih _ _ _ _
    case l => exact henc _ fun x => ih _ _ _ _
    case p => exact henc _ fun ⟨enc, d'⟩ => (pep_normal m e enc _ d' hs).bind fun _ _ => ih _ _ _ _
    case r => exact henc _ fun x => ih _ _ _ _

theorem cieAddressSize_ensures (c : Cfg) (version : Nat) (rest : Rd) (hs : SizeOk c.m c.asz) :
    (cieAddressSize c version rest).Ensures fun a => SizeOk c.m a.1 := by
  unfold cieAddressSize
  refine .ite_cases (fun _ => ?_) fun _ => Out.ensures_ok hs
  · refine (lift_ensures (Ints.readAddressSize_ensures rest.bs)).bind fun ⟨asz, rest'⟩ _ h => ?_
    have hasz : SizeOk c.m asz := .inl (by have := h.2; dsimp only at this; omega)
    refine (u8_normal rest').ensures.bind fun ⟨seg, rest''⟩ _ _ => ?_
    exact .ite_cases (fun _ => Out.ensures_err _ _) fun _ => Out.ensures_ok hasz

theorem cieRar_normal (version : Nat) (rest : Rd) : (cieRar version rest).Normal := by
  unfold cieRar
  refine .ite_cases (fun _ => u8_normal _) fun _ => ?_
  refine (lift_normal _ _ (Leb.unsigned_normal _)).bind fun ⟨v, rest'⟩ _ => ?_
  exact .ite_cases (fun _ => trivial) fun _ => trivial

theorem cieAug_normal (c : Cfg) (bases : Bases) (asz : Nat) (augStr : Bytes) (rest : Rd)
    (hs : SizeOk c.m asz) : (cieAug c bases asz augStr rest).Normal := by
  unfold cieAug
  exact .ite_cases (fun _ => trivial) fun _ => (augLoop_normal c.m c.e bases asz hs _ _ _ _ _).bind fun _ _ => trivial

theorem cieFromPrefix_ensures (c : Cfg) (bases : Bases) (p : Prefix) (hs : SizeOk c.m c.asz) :
    (cieFromPrefix c bases p).Ensures fun cie => SizeOk c.m cie.asz := by
  unfold cieFromPrefix
  refine (u8_normal _).ensures.bind fun ⟨version, rest⟩ _ _ => .ite_cases (fun _ => Out.ensures_err _ _) fun _ => ?_
  refine (readCstr_normal rest).ensures.bind fun ⟨augStr, rest⟩ _ _ => ?_
  refine (cieAddressSize_ensures c version rest hs).bind fun ⟨asz, rest⟩ _ hasz => ?_
  refine (lift_normal _ rest (Leb.unsigned_normal _)).ensures.bind fun ⟨caf, rest⟩ _ _ => ?_
  refine (lift_normal _ rest (Leb.signed_normal _)).ensures.bind fun ⟨daf, rest⟩ _ _ => ?_
  refine (cieRar_normal version rest).ensures.bind fun ⟨rar, rest⟩ _ _ => ?_
  refine (cieAug_normal c bases asz augStr rest hasz).ensures.bind fun ⟨aug, rest⟩ _ _ => ?_
  exact Out.ensures_ok hasz

theorem readCieId_normal (c : Cfg) (format : Format) (rest : Rd) : (readCieId c format rest).Normal := by
  unfold readCieId
  exact .ite_cases (fun _ => lift_normal _ _ (Ints.readFixed_normal _ _ _)) fun _ =>
    lift_normal _ _ (Ints.readFixed_normal _ _ _)

theorem parsePrefix_ensures (c : Cfg) (r : Rd) :
    (parsePrefix c r).Ensures fun x => x.2.bs.length + 4 ≤ r.bs.length := by
  unfold parsePrefix
  refine (lift_ensures (Ints.readInitialLength_ensures c.e r.bs)).bind fun ⟨⟨length, format⟩, r1⟩ _ ht => ?_
  -- 4: the 32-bit form of the length field, with which every entry begins
  have hc : r1.bs.length + 4 ≤ r.bs.length := by
    have := ht.length
    cases format <;> dsimp only at this <;> omega
  refine .ite_cases (fun _ => Out.ensures_ok hc) fun _ => ?_
  have hsplit : (r1.split length).Ensures fun y => y.2.bs.length ≤ r1.bs.length :=
    .ite_cases (fun _ => Out.ensures_ok (by simp [List.length_drop])) fun _ => Out.ensures_err _ _
  refine hsplit.bind fun ⟨rest, r2⟩ _ h2 => ?_
  refine (readCieId_normal c format rest).ensures.bind fun ⟨id, rest'⟩ _ _ => ?_
  exact Out.ensures_ok (by dsimp only at hc h2 ⊢; omega)

theorem partialFromPrefix_normal (c : Cfg) (p : Prefix) : (partialFromPrefix c p).Normal := by
  unfold partialFromPrefix; split <;> trivial

theorem parseCfiEntry_ensures (c : Cfg) (bases : Bases) (r : Rd) (hs : SizeOk c.m c.asz) :
    (parseCfiEntry c bases r).Ensures fun x => x.2.bs.length + 4 ≤ r.bs.length := by
  unfold parseCfiEntry
  refine (parsePrefix_ensures c r).bind fun ⟨op, r'⟩ _ hc => ?_
  cases op with
  | none => exact Out.ensures_ok hc
  | some p =>
    exact .ite_cases (fun _ => (cieFromPrefix_ensures c bases p hs).1.ensures.bind fun _ _ _ => Out.ensures_ok hc)
      fun _ => (partialFromPrefix_normal c p).ensures.bind fun _ _ _ => Out.ensures_ok hc

theorem next_normal (c : Cfg) (bases : Bases) (hs : SizeOk c.m c.asz) :
    ∀ fuel (r : Rd), r.bs.length < fuel →
      (next c bases fuel r).Normal ∧
      ∀ en r', next c bases fuel r = .ok (some en, r') → r'.bs.length + 4 ≤ r.bs.length := by
  intro fuel
  induction fuel with
  | zero => intro r h; omega
  | succ fuel ih =>
    intro r hf
    rw [next]
    split
    · exact ⟨trivial, fun en r' h => by cases h⟩
    · obtain ⟨hn, hc⟩ := parseCfiEntry_ensures c bases r hs
      split
      · rename_i en r1 hp
        exact ⟨trivial, fun en' r' h => by cases h; exact hc _ hp⟩
      · rename_i r1 hp
        have hc := hc _ hp
        split
        · exact ⟨trivial, fun en r' h => by cases h⟩
        · obtain ⟨h1, h2⟩ := ih r1 (by dsimp only at hc; omega)
          exact ⟨h1, fun en r' h => by have := h2 en r' h; dsimp only at hc; omega⟩
      · exact ⟨trivial, fun en r' h => by cases h⟩
      · rename_i hp; rw [hp] at hn; exact hn.elim
      · rename_i hp; rw [hp] at hn; exact hn.elim

theorem entries_normal (c : Cfg) (bases : Bases) (hs : SizeOk c.m c.asz) :
    ∀ fuel (r : Rd), r.bs.length < fuel → (entries c bases fuel r).2.Normal := by
  intro fuel
  induction fuel with
  | zero => intro r h; omega
  | succ fuel ih =>
    intro r hf
    rw [entries]
    obtain ⟨hn, hc⟩ := next_normal c bases hs (r.bs.length + 1) r (by omega)
    split
    · rename_i en r' hx
      have := hc en r' hx
      exact ih r' (by omega)
    · trivial
    · trivial
    · rename_i hx; rw [hx] at hn; exact hn.elim
    · rename_i hx; rw [hx] at hn; exact hn.elim

theorem cieFromOffset_ensures (c : Cfg) (bases : Bases) (sec : Bytes) (off : Nat) (hs : SizeOk c.m c.asz) :
    (cieFromOffset c bases sec off).Ensures fun cie => SizeOk c.m cie.asz := by
  unfold cieFromOffset
  refine (skip_normal _ _).ensures.bind fun r _ _ => ?_
  refine (parsePrefix_ensures c r).1.ensures.bind fun ⟨op, r'⟩ _ _ => ?_
  cases op with
  | none => exact Out.ensures_err _ _
  | some p => exact .ite_cases (fun _ => Out.ensures_err _ _) fun _ => cieFromPrefix_ensures c bases p hs

theorem parseAddresses_normal (c : Cfg) (cie : Cie) (params : PeParams) (r : Rd)
    (hs : SizeOk c.m params.asz) : (parseAddresses c cie params r).Normal := by
  unfold parseAddresses
  split
  · rename_i enc _
    refine (pep_normal c.m c.e enc params r hs).bind fun ⟨p, r'⟩ hok => ?_
    obtain ⟨hv, ho⟩ := valid_of_pep_ok hok
    exact (pev_normal c.e enc params.asz r' (validFormat hv ho).1).bind fun _ _ => trivial
  · refine (lift_normal _ _ (Ints.readAddress_normal _ _ _)).bind fun ⟨i, r'⟩ _ => ?_
    exact (lift_normal _ _ (Ints.readAddress_normal _ _ _)).bind fun _ _ => trivial

theorem fdeAugData_normal (c : Cfg) (cie : Cie) (params : PeParams) (initial : Nat) (rest : Rd)
    (hs : SizeOk c.m params.asz) : (fdeAugData c cie params initial rest).Normal := by
  unfold fdeAugData
  split
  · refine (lift_normal _ _ (Leb.unsigned_normal _)).bind fun ⟨len, rest'⟩ _ => ?_
    refine (split_normal _ _).bind fun ⟨d, rest''⟩ _ => ?_
    dsimp only
    split
    · exact (pep_normal c.m c.e _ { params with funcBase := some initial } d hs).bind fun _ _ => trivial
    · trivial
  · trivial

theorem parseRest_ensures (c : Cfg) (bases : Bases) (sec : Bytes) (p : PartialFde) (hs : SizeOk c.m c.asz) :
    (parseRest c bases sec p).Ensures fun f => SizeOk c.m f.cie.asz := by
  unfold parseRest
  refine (cieFromOffset_ensures c bases sec _ hs).bind fun cie _ hsz => ?_
  refine (parseAddresses_normal c cie _ _ hsz).ensures.bind fun ⟨⟨initial, range⟩, rest⟩ _ _ => ?_
  refine (fdeAugData_normal c cie _ initial rest hsz).ensures.bind fun ⟨lsda, rest'⟩ _ _ => ?_
  exact Out.ensures_ok hsz

theorem fdeFromOffset_ensures (c : Cfg) (bases : Bases) (sec : Bytes) (off : Nat) (hs : SizeOk c.m c.asz) :
    (fdeFromOffset c bases sec off).Ensures fun f => SizeOk c.m f.cie.asz := by
  unfold fdeFromOffset
  refine (skip_normal _ _).ensures.bind fun r _ _ => ?_
  refine (parsePrefix_ensures c r).1.ensures.bind fun ⟨op, r'⟩ _ _ => ?_
  cases op with
  | none => exact Out.ensures_err _ _
  | some p =>
    exact .ite_cases (fun _ => Out.ensures_err _ _) fun _ =>
      (partialFromPrefix_normal c p).ensures.bind fun pf _ _ => parseRest_ensures c bases sec pf hs

theorem contains_normal (m : Mode) (f : Fde) (a : Nat) (hs : SizeOk m f.cie.asz) :
    (f.contains m a).Normal := by
  unfold Fde.contains Fde.endAddress
  exact .ite_cases (fun _ => (wrappingAddSized_normal _ _ _ _ hs).bind fun _ _ => trivial) fun _ => trivial

end Gimli.CfiEntry
