import Gimli.Lemmas.ExecInv
/-! # C07 `stack_within_capacity`: the fixed value stack never holds more than its capacity

`StackOk` is kept by the three stack primitives (a push establishes it, whatever the stack was) and does not look at
the control fields, so it is kept by whole calls (`Lemmas/ExecInv`: `execute_inv`, `evaluateInternal_inv`, `resume_inv`). -/
open Gimli Gimli.Op Gimli.Eval

namespace Gimli.Eval

def StackOk (c : Config) (m : Mach) : Prop := ∀ n, c.caps.stack = some n → m.stack.length ≤ n

theorem stackOk_inv (c : Config) : MachInv c (StackOk c) :=
  .of_updates (fun _ _ _ h hs n hn => Nat.le_of_succ_le (by have := h n hn; rwa [hs] at this))
    (fun _ _ _ hr n hn => of_decide_eq_true (by rwa [hn] at hr)) fun _ _ h _ => h

def KeepsStack (k : Eval → Out (Request × Eval)) : Prop := Keeps StackOk k

theorem evaluateInternal_stackOk (fuel : Nat) : KeepsStack (evaluateInternal fuel) :=
  evaluateInternal_inv stackOk_inv (fun _ _ _ _ _ _ h => h) fuel

theorem resume_stackOk (fuel : Nat) (a : Answer) (s : Eval) (h0 : StackOk s.cfg s.m) :
    (resume fuel a s).All (fun p => p.2.cfg = s.cfg ∧ StackOk p.2.cfg p.2.m) :=
  resume_inv stackOk_inv (fun _ _ _ _ _ _ h => h) fuel a s h0

end Gimli.Eval
