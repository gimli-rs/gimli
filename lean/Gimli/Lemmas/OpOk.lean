import Gimli.Lemmas.OpDecode
import Gimli.Lemmas.Ints
import Gimli.Spec.ConvOp
/-!
# C07: what decoding one operation guarantees

It returns (no panic, no fuel), every field of the operation is in the range of the operand it was read from
(`Decoded`: `OpOk`, what `compute_pc` and `Value::Generic` rely on, and `ConvOp.RWf`, what the converter relies on), and
the bytes consumed are a prefix of the input. The three are proved in one walk through the Spec decode
(`readOperands_fits`, `specOperands_reads`, `decode_reads` as `ReadsWithin` statements; `meaning_fits`, which reads no
bytes, as an `Out.Ensures`) and carried over to `Operation::parse` by `parse_eq_decode` (`parse_reads`, an `Out.Ensures`
whose postcondition has the suffix in it); `parse_normal`, `parse_ok` and the lemmas of `Lemmas/OpSuffix` are projections.
-/
open Gimli Gimli.Op Gimli.Spec.OpTable

/-- what the evaluator relies on about a decoded operation -/
def OpOk : Operation → Prop
  | .bra t | .skip t => -2 ^ 63 ≤ t ∧ t < 2 ^ 63
  | .unsignedConstant v | .plusConstant v => v < 2 ^ 64
  | _ => True

/-- what `readOperands` delivers for a signature from an input of `k` bytes: each argument in the range of its
operand kind -/
def Gimli.Op.Fits (k : Nat) : List Operand → List Arg → Prop
  | [], [] => True
  | .u n :: os, .nat v :: as => v < 256 ^ n ∧ Fits k os as
  | .s n :: os, .int v :: as => (-(2 : Int) ^ (8 * n - 1) ≤ v ∧ v < 2 ^ (8 * n - 1)) ∧ Fits k os as
  | .uleb :: os, .nat v :: as => v < 2 ^ 64 ∧ Fits k os as
  | .sleb :: os, .int v :: as => (-(2 : Int) ^ 63 ≤ v ∧ v < 2 ^ 63) ∧ Fits k os as
  | .addr :: os, .nat v :: as => v < 2 ^ 64 ∧ Fits k os as
  | .off :: os, .nat v :: as => v < 2 ^ 64 ∧ Fits k os as
  | .refAddr :: os, .nat v :: as => v < 2 ^ 64 ∧ Fits k os as
  | .reg :: os, .nat v :: as => v < 2 ^ 16 ∧ Fits k os as
  | .blockUleb :: os, .bytes b :: as => (b.length < 2 ^ 64 ∧ b.length ≤ k) ∧ Fits k os as
  | .block1 :: os, .bytes b :: as => b.length < 2 ^ 8 ∧ Fits k os as
  | .wasm :: os, .nat _ :: .nat i :: as => i < 2 ^ 32 ∧ Fits k os as
  | _, _ => False

theorem Gimli.Op.Fits.mono {k k' : Nat} (hk : k ≤ k') {os : List Operand} {as : List Arg} (h : Fits k os as) : Fits k' os as := by
  fun_induction Fits k os as
  case case10 ih => exact ⟨⟨h.1.1, Nat.le_trans h.1.2 hk⟩, ih h.2⟩
  case case13 => exact h.elim
  case case1 => trivial
  all_goals exact ⟨h.1, (by assumption : _ → _) h.2⟩

theorem readFixed_reads (e : Endian) (n : Nat) (bs : Bytes) : ReadsWithin bs (Ints.readFixed e n bs) (· < 256 ^ n) :=
  (Ints.exact_fixed e n).readsWithin bs fun _ _ _ _ h => h.2

theorem unsigned_reads (bs : Bytes) : ReadsWithin bs (Leb.unsigned bs) (· < 2 ^ 64) :=
  Leb.exact_unsigned.readsWithin bs fun _ _ _ _ h => h.2.2.2

theorem signed_reads (bs : Bytes) : ReadsWithin bs (Leb.signed bs) fun v => -2 ^ 63 ≤ v ∧ v < 2 ^ 63 :=
  Leb.exact_signed.readsWithin bs fun _ _ _ _ h => h.2.2.2

theorem lt_u64_of_bytes {v n : Nat} (hv : v < 256 ^ n) (hn : n ≤ 8) : v < 2 ^ 64 :=
  Nat.lt_of_lt_of_le hv (Nat.pow_le_pow_right (by decide) hn : _ ≤ 256 ^ 8)

theorem readAddress_reads (e : Endian) (n : Nat) (bs : Bytes) : ReadsWithin bs (Ints.readAddress e n bs) (· < 2 ^ 64) :=
  (Ints.exact_address e n).readsWithin bs fun _ _ _ _ h =>
    lt_u64_of_bytes h.2.2 (by rcases h.1 with rfl | rfl | rfl | rfl <;> decide)

theorem readWord_reads (e : Endian) (f : Format) (bs : Bytes) : ReadsWithin bs (Ints.readWord e 64 f bs) (· < 2 ^ 64) :=
  (Ints.exact_word e f).readsWithin bs fun _ _ _ _ h => lt_u64_of_bytes h.2 (by cases f <;> decide)

theorem take_reads_len (n : Nat) (bs : Bytes) : ReadsWithin bs (Ints.take n bs) fun a => a.length = n ∧ n ≤ bs.length :=
  (Ints.exact_take n).readsWithin bs fun a pre rest hb h =>
    ⟨h.2, by rw [hb, h.1, List.length_append, h.2]; exact Nat.le_add_right _ _⟩

theorem readUlebU32_reads32 (bs : Bytes) : ReadsWithin bs (Ints.readUlebU32 bs) (· < 2 ^ 32) :=
  (unsigned_reads bs).bind fun v r _ hr => by
    show ReadsWithin bs (if v < 2 ^ 32 then _ else _) _
    split
    · exact .pure ‹v < 2 ^ 32› hr
    · exact .err _

theorem toSigned_fits (n v : Nat) : -(2 : Int) ^ (8 * n - 1) ≤ Ints.toSigned n v ∧ Ints.toSigned n v < 2 ^ (8 * n - 1) := by
  cases n with
  | zero => unfold Ints.toSigned; split <;> omega
  | succ n => exact Ints.toSigned_range (n + 1) (Nat.succ_pos n) v

theorem readOperands_fits (e : Endian) (enc : Encoding) (os : List Operand) :
    ∀ bs, ReadsWithin bs (readOperands e enc os bs) (Fits bs.length os) := by
  induction os with
  | nil => intro bs; exact .pure trivial (List.suffix_refl _)
  | cons o os ih =>
    intro bs
    -- every operand: read it, read the rest, and the range the reader gives is the clause of `Fits`
    have rest {a : List Arg} {r : Bytes} (hr : r <:+ bs) {P : Prop} (hP : P)
        (hc : ∀ as, P ∧ Fits bs.length os as → Fits bs.length (o :: os) (a ++ as)) :
        ReadsWithin bs (readOperands e enc os r >>= fun p => pure (a ++ p.1, p.2)) (Fits bs.length (o :: os)) :=
      ((ih r).mono hr).bind fun as _ has hr' => .pure (hc as ⟨hP, has.mono hr.length_le⟩) hr'
    unfold readOperands
    cases o <;> simp only [readOperand, Out.bind_assoc]
    case u n => exact (readFixed_reads e n bs).bind fun _ _ hv hr => rest hr hv fun _ h => h
    case s n => exact (readFixed_reads e n bs).bind fun v _ _ hr => rest hr (toSigned_fits n v) fun _ h => h
    case uleb => exact (unsigned_reads bs).bind fun _ _ hv hr => rest hr hv fun _ h => h
    case sleb => exact (signed_reads bs).bind fun _ _ hv hr => rest hr hv fun _ h => h
    case addr => exact (readAddress_reads e _ bs).bind fun _ _ hv hr => rest hr hv fun _ h => h
    case off => exact (readWord_reads e _ bs).bind fun _ _ hv hr => rest hr hv fun _ h => h
    case refAddr =>
      split <;> rw [Out.bind_assoc]
      · exact (readAddress_reads e _ bs).bind fun _ _ hv hr => rest hr hv fun _ h => h
      · exact (readWord_reads e _ bs).bind fun _ _ hv hr => rest hr hv fun _ h => h
    case reg =>
      refine (unsigned_reads bs).bind fun v r _ hr => ?_
      show ReadsWithin bs ((if v < 2 ^ 16 then _ else _) >>= _) _
      split
      · exact rest hr ‹v < 2 ^ 16› fun _ h => h
      · exact .err _
    case blockUleb =>
      exact (unsigned_reads bs).bind fun len r hlen hr => ((take_reads_len len r).mono hr).bind fun b _ hb hr =>
        rest hr (show b.length < 2 ^ 64 ∧ b.length ≤ bs.length from
          ⟨hb.1 ▸ hlen, hb.1 ▸ Nat.le_trans hb.2 ‹r <:+ bs›.length_le⟩) fun _ h => h
    case block1 =>
      exact (readFixed_reads e 1 bs).bind fun len r hlen hr => ((take_reads_len len r).mono hr).bind fun b _ hb hr =>
        rest hr (show b.length < 2 ^ 8 from hb.1 ▸ hlen) fun _ h => h
    case wasm =>
      refine (readFixed_reads e 1 bs).bind fun k r _ hr => ?_
      show ReadsWithin bs ((if _ then _ else if _ then _ else _) >>= _) _
      split
      · rw [Out.bind_assoc]
        refine ((readUlebU32_reads32 r).mono hr).bind fun _ _ hi hr => ?_
        exact rest hr hi fun _ h => h
      · split
        · rw [Out.bind_assoc]
          refine ((readFixed_reads e 4 r).mono hr).bind fun _ _ hi hr => ?_
          exact rest hr (show _ < 2 ^ 32 from hi) fun _ h => h
        · exact .err _

/-- what is known of an operation decoded from `k` bytes of operands -/
def Gimli.Op.Decoded (enc : Encoding) (k : Nat) (op : Operation) : Prop :=
  OpOk op ∧ ConvOp.RWf enc op ∧ ∀ x, op = .entryValue x → x.length ≤ k

section
variable {args : List Arg} {Q : List Arg → Operation → Prop}

theorem args0_post {o : Operation} (ho : Q [] o) : (args0 args o).Ensures (Q args) := by
  unfold args0; split
  · exact Out.ensures_ok ho
  · exact Out.ensures_err _ _
theorem argsN_post {f : Nat → Out Operation} (hf : ∀ a, (f a).Ensures (Q [.nat a])) : (argsN args f).Ensures (Q args) := by
  unfold argsN; split
  · exact hf _
  · exact Out.ensures_err _ _
theorem argsI_post {f : Int → Operation} (hf : ∀ a, Q [.int a] (f a)) : (argsI args f).Ensures (Q args) := by
  unfold argsI; split
  · exact Out.ensures_ok (hf _)
  · exact Out.ensures_err _ _
theorem argsB_post {f : Bytes → Operation} (hf : ∀ a, Q [.bytes a] (f a)) : (argsB args f).Ensures (Q args) := by
  unfold argsB; split
  · exact Out.ensures_ok (hf _)
  · exact Out.ensures_err _ _
theorem argsNN_post {f : Nat → Nat → Out Operation} (hf : ∀ a b, (f a b).Ensures (Q [.nat a, .nat b])) :
    (argsNN args f).Ensures (Q args) := by
  unfold argsNN; split
  · exact hf _ _
  · exact Out.ensures_err _ _
theorem argsNI_post {f : Nat → Int → Operation} (hf : ∀ a b, Q [.nat a, .int b] (f a b)) :
    (argsNI args f).Ensures (Q args) := by
  unfold argsNI; split
  · exact Out.ensures_ok (hf _ _)
  · exact Out.ensures_err _ _
theorem argsNB_post {f : Nat → Bytes → Operation} (hf : ∀ a b, Q [.nat a, .bytes b] (f a b)) :
    (argsNB args f).Ensures (Q args) := by
  unfold argsNB; split
  · exact Out.ensures_ok (hf _ _)
  · exact Out.ensures_err _ _
end

theorem i64_of_bytes {n : Nat} {v : Int} (hn : n ≤ 8) (h : -(2 : Int) ^ (8 * n - 1) ≤ v ∧ v < 2 ^ (8 * n - 1)) :
    -(2 : Int) ^ 63 ≤ v ∧ v < 2 ^ 63 :=
  Twos.range_mono (w := 64) (k := 8 * n) (by omega) h

def Gimli.Op.FitsSig (k : Nat) : Option (List Operand) → List Arg → Prop
  | none, _ => False
  | some sig, args => Fits k sig args

/-- postcondition of `meaning enc n args` (`meaning_fits`): on arguments that fit `signature n` (`FitsSig`; none fit an opcode
without a signature) the operation is `Decoded` -/
def Gimli.Op.MeaningYields (enc : Encoding) (k n : Nat) (args : List Arg) (op : Operation) : Prop :=
  FitsSig k (signature n) args → Decoded enc k op

/-- One arm of `meaning` after the other: the operands arrive in the form the arm expects (`args…_post`), and
each field that `OpOk` or `RWf` bounds is an operand whose kind in `signature n` has that bound (`h`, which
evaluates `signature` at the arm's opcode where it is looked at). -/
theorem meaning_fits (enc : Encoding) (k : Nat) (args : List Arg) (n : Nat) :
    (meaning enc n args).Ensures (MeaningYields enc k n args) := by
  unfold meaning
  refine .ite_cases (fun _ => args0_post fun _ => ⟨show n - 0x30 < 2 ^ 64 by omega, show n - 0x30 < 2 ^ 64 by omega, nofun⟩)
    fun _ => .ite_cases (fun _ => args0_post fun _ => ⟨trivial, show n - 0x50 < 2 ^ 16 by omega, nofun⟩)
    fun _ => .ite_cases (fun h3 => argsI_post fun _ h => ?_) fun _ => ?_
  · unfold MeaningYields at h; rw [signature_breg h3] at h
    exact ⟨trivial, ⟨show n - 0x70 < 2 ^ 16 by omega, h.1, fun h0 => absurd rfl h0⟩, nofun⟩
  split
  case h_2 | h_19 => exact args0_post fun _ => ⟨trivial, .inr ⟨rfl, rfl⟩, nofun⟩                 -- deref, xderef
  case h_13 | h_15 => exact args0_post fun _ => ⟨trivial, show _ < 2 ^ 8 by decide, nofun⟩        -- dup, over
  case h_3 | h_4 | h_5 | h_6 =>                                                                   -- const1u … const8u
    exact argsN_post fun _ => Out.ensures_ok fun h =>
      ⟨lt_u64_of_bytes h.1 (by decide), lt_u64_of_bytes h.1 (by decide), nofun⟩
  case h_7 | h_30 => exact argsN_post fun _ => Out.ensures_ok fun h => ⟨h.1, h.1, nofun⟩          -- constu, plus_uconst
  case h_8 | h_9 | h_10 | h_11 =>                                                                 -- const1s … const8s
    exact argsI_post fun _ h => ⟨trivial, i64_of_bytes (by decide) h.1, nofun⟩
  case h_12 | h_44 => exact argsI_post fun _ h => ⟨trivial, h.1, nofun⟩                           -- consts, fbreg
  case h_35 | h_42 => exact argsI_post fun _ h => ⟨i64_of_bytes (by decide) h.1, trivial, nofun⟩  -- bra, skip
  case h_16 | h_43 => exact argsN_post fun _ => Out.ensures_ok fun h => ⟨trivial, h.1, nofun⟩     -- pick, regx
  case h_45 =>                                                                                    -- bregx
    exact argsNI_post fun _ _ h => ⟨trivial, ⟨h.1, h.2.1, fun h0 => absurd rfl h0⟩, nofun⟩
  case h_46 =>                                                                                    -- piece: bytes to bits
    exact argsN_post fun size => .ite_cases
      (fun hlt => Out.ensures_ok fun _ => ⟨trivial, ⟨hlt, Nat.mul_mod_left size 8⟩, nofun⟩) fun _ => Out.ensures_err _ _
  case h_47 | h_48 => exact argsN_post fun _ => Out.ensures_ok fun h => ⟨trivial, .inl h.1, nofun⟩  -- deref_size
  case h_57 => exact argsNN_post fun _ _ => Out.ensures_ok fun h => ⟨trivial, ⟨h.1, h.2.1⟩, nofun⟩  -- bit_piece
  case h_58 => exact argsB_post fun _ h => ⟨trivial, h.1.1, nofun⟩                                  -- implicit_value
  case h_60 | h_61 => exact argsNI_post fun _ _ h => ⟨trivial, h.2.1, nofun⟩                        -- implicit_pointer
  case h_66 | h_67 =>                                                                             -- entry_value
    exact argsB_post fun _ h => ⟨trivial, trivial, fun _ hx => Operation.entryValue.inj hx ▸ h.1.2⟩
  case h_68 | h_69 => exact argsNB_post fun _ _ _ => ⟨trivial, trivial, nofun⟩                    -- const_type
  case h_70 | h_71 =>                                                                             -- regval_type
    exact argsNN_post fun _ _ => Out.ensures_ok fun h => ⟨trivial, ⟨h.1, by decide, fun _ => rfl⟩, nofun⟩
  case h_72 | h_73 | h_74 =>                                                                      -- deref_type
    exact argsNN_post fun _ _ => Out.ensures_ok fun h => ⟨trivial, .inl h.1, nofun⟩
  case h_80 =>                                                                                    -- WASM_location
    exact argsNN_post fun _ _ => .ite_cases (fun _ => Out.ensures_ok fun h => ⟨trivial, h.1, nofun⟩) fun _ =>
      .ite_cases (fun _ => Out.ensures_ok fun h => ⟨trivial, h.1, nofun⟩) fun _ =>
      .ite_cases (fun _ => Out.ensures_ok fun h => ⟨trivial, h.1, nofun⟩) fun _ => Out.ensures_err _ _
  case h_83 => exact Out.ensures_err _ _
  -- operands that no bound is asked of
  case h_1 | h_51 | h_52 | h_53 | h_62 | h_63 | h_64 | h_65 | h_75 | h_76 | h_77 | h_78 | h_81 | h_82 =>
    exact argsN_post fun _ => Out.ensures_ok fun _ => ⟨trivial, trivial, nofun⟩
  all_goals exact args0_post fun _ => ⟨trivial, trivial, nofun⟩

theorem specOperands_reads (e : Endian) (enc : Encoding) (n : Nat) (tl : Bytes) :
    ReadsWithin tl (specOperands e enc n tl) (Decoded enc tl.length) := by
  unfold specOperands
  cases hs : signature n with
  | none => exact .err _
  | some sig =>
    exact (readOperands_fits e enc sig tl).bind fun args r ha hr =>
      Out.Ensures.bind (meaning_fits enc tl.length args n) fun _ _ hop => ReadsWithin.pure (hop (hs ▸ ha)) hr

macro "mok" ha:ident h:ident : tactic => `(tactic| first
  | exact args0_ok _ _ _ (by first | trivial | (show _ < _; omega)) $h
  | exact argsN_ok _ _ $ha (fun _ hx _ hh => by first | (cases hh; first | trivial | exact hx) | (split at hh <;> cases hh; trivial)) _ $h
  | exact argsI_ok _ _ $ha (fun _ hx => by first | trivial | exact hx) _ $h
  | exact argsB_ok _ _ (fun _ => by trivial) _ $h
  | exact argsNN_ok _ _ (fun _ _ _ hh => by first | (cases hh; trivial) | (repeat (first | (cases hh <;> trivial) | split at hh))) _ $h
  | exact argsNI_ok _ _ (fun _ _ => by trivial) _ $h
  | exact argsNB_ok _ _ (fun _ _ => by trivial) _ $h
  | cases $h:ident)

theorem decode_reads (e : Endian) (enc : Encoding) (b : UInt8) (tl : Bytes) :
    ReadsWithin tl (decode e enc (b :: tl)) (Decoded enc tl.length) :=
  specOperands_reads e enc b.toNat tl

theorem meaning_normal (enc : Encoding) (args : List Arg) (n : Nat) : (meaning enc n args).Normal :=
  (meaning_fits enc 0 args n).1

theorem parse_reads (e : Endian) (enc : Encoding) (bs : Bytes) :
    (parse e enc bs).Ensures fun p => Decoded enc (bs.length - 1) p.1 ∧ p.2.length < bs.length ∧ p.2 <:+ bs := by
  rw [parse_eq_decode]
  cases bs with
  | nil => exact Out.ensures_err _ _
  | cons b tl =>
    have h := decode_reads e enc b tl
    exact ⟨h.1, fun p hp => ⟨(h.2 p hp).1, Nat.lt_succ_of_le (h.2 p hp).2.length_le,
      (h.2 p hp).2.trans (List.suffix_cons b tl)⟩⟩

theorem parse_normal (e : Endian) (enc : Encoding) (bs : Bytes) : (parse e enc bs).Normal :=
  (parse_reads e enc bs).1

theorem parse_ok (e : Endian) (enc : Encoding) (bs : Bytes) (op : Operation) (rest : Bytes)
    (h : parse e enc bs = .ok (op, rest)) : OpOk op :=
  ((parse_reads e enc bs).2 _ h).1.1
