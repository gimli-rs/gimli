import Gimli.Model.Attr
import Gimli.Lemmas.Ints
import Gimli.Lemmas.Leb
import Gimli.Lemmas.Out
import Gimli.Lemmas.CStr
import Gimli.Lemmas.ReaderEnsures
/-! Lemmas for C03 (attribute forms). `parse_attribute`, `get_attribute_size` and
`skip_attributes` each have an arm per form (48 of them), but only ten ways of decoding: every
reader used is `read_uN` for some width, possibly behind a check of the address size, or a LEB128
read, a block, a string, a flag, a constant. `Shape` names these ten; `shape enc spec form` is the
one a form has. `parseDirect_eq`, `getAttributeSize_eq`, `skipVar_eq` (here) and `rawKind_eq`,
`encode_shape` (`AttrRoundtrip`) say that the Model's per-form functions are `Shape.parse`,
`.size`, `.skip`, `.kind`, `.encode` of that shape.

What a shape's reader does to the input is said once: forgetting the value it read (`after`) it is
where the skipper is, up to the errors only reading can see (`SkipsAs`); with "returns normally"
and "leaves no more than it got" that is `ReadsAs`, a law per primitive reader (`read_uN`, the two
LEB128 readers, the string reader, no read at all) closed under the maps of the value and under
blocks. `Shape.parse_readsAs` names the law of each shape; `Shape.parse_consumes` and `ReadsAs.ensures` are
its parts and reach the forms through the equations above.

The rest follows the two loops (`parseLoop` for `DW_FORM_indirect`, `skipOne`/`skipLoop`) one step
at a time, and shows that `Attribute::value` keeps the payload. -/
namespace Gimli.Attr
open Gimli Gimli.Ints

/-- `Form.ofCode` has one `if` per known code, each returning the form with that code -/
theorem Form.code_ofCode (c : Nat) : (Form.ofCode c).code = c := by
  have step : ∀ {p : Prop} [Decidable p] {a b : Form}, (p → a.code = c) → b.code = c →
      (if p then a else b).code = c := fun ha hb => by
    split
    · exact ha ‹_›
    · exact hb
  unfold Form.ofCode
  repeat (refine step (fun h => h.symm) ?_)
  rfl

/-- `Took bs rest n` in terms of positions (`Took.drop_iff`): the form `skipN` computes -/
def Consumes (n : Nat) (bs rest : Bytes) : Prop := n ≤ bs.length ∧ rest = bs.drop n

theorem readFixed_consumes {e n bs v rest} (h : readFixed e n bs = .ok (v, rest)) : Consumes n bs rest :=
  Took.drop_iff.mp ((readFixed_ensures e n bs).2 _ h)

theorem take_consumes {n : Nat} {bs a rest : Bytes} (h : Ints.take n bs = .ok (a, rest)) :
    Consumes n bs rest :=
  Took.drop_iff.mp ⟨a, take_eq_ok.mp h⟩

theorem skipN_of_consumes {n : Nat} {bs rest : Bytes} (h : Consumes n bs rest) : skipN n bs = .ok rest := by
  simp [skipN, h.1, h.2]

theorem offsetFromU64_ok {ob v w} (h : offsetFromU64 ob v = .ok w) : w = v := (offsetFromU64_eq_ok.mp h).1

theorem readSizedOffset_eq (e : Endian) (n : Nat) (bs : Bytes) :
    readSizedOffset e 64 n bs =
      if n = 1 ∨ n = 2 ∨ n = 4 ∨ n = 8 then readFixed e n bs else .err .rUnsupportedOffsetSize := by
  unfold readSizedOffset
  split
  · next h => exact readFixed_bind_offset e (by omega) bs
  · rfl

theorem readUint_eq_fixed (e : Endian) {n : Nat} (hn : n ≤ 8) (bs : Bytes) :
    readUint e n bs = readFixed e n bs := by
  rw [readUint_eq e n bs hn, readFixed_eq]

/-- how `parse_attribute` decodes a form -/
inductive Shape where
  /-- a number of `n` bytes in the unit's byte order -/
  | fixed (k : Kind) (n : Nat)
  /-- a number as wide as an address, once the address size is found to be 1, 2, 4 or 8;
  `read_sized_offset` (`off`) and `read_address` name the failure differently -/
  | sized (k : Kind) (off : Bool)
  | uleb (k : Kind)
  /-- a length (in `w` bytes, or as ULEB128) and that many bytes -/
  | block (k : Kind) (w : Option Nat)
  | sdata | flag | present | string
  /-- the constant stored in the abbreviation, if the specification has one -/
  | implicit (c : Option Int)
  /-- no value: `DW_FORM_indirect` (handled by the loop) and the unknown codes -/
  | bad

def shape (enc : Encoding) (spec : Spec) : Form → Shape
  | .addr => .sized .addr false
  | .block1 => .block .block (some 1) | .block2 => .block .block (some 2)
  | .block4 => .block .block (some 4) | .block => .block .block none
  | .exprloc => .block .exprloc none
  | .data1 => .fixed .data1 1 | .data2 => .fixed .data2 2
  | .data4 =>
    if enc.format = .dwarf32 ∧ allowSectionOffset spec.name enc.version then .fixed .secOffset 4
    else .fixed .data4 4
  | .data8 =>
    if enc.format = .dwarf64 ∧ allowSectionOffset spec.name enc.version then .fixed .secOffset 8
    else .fixed .data8 8
  | .data16 => .fixed .data16 16
  | .udata => .uleb .udata | .sdata => .sdata | .flag => .flag | .flagPresent => .present
  | .secOffset => .fixed .secOffset enc.format.wordSize
  | .ref1 => .fixed .unitRef 1 | .ref2 => .fixed .unitRef 2 | .ref4 => .fixed .unitRef 4
  | .ref8 => .fixed .unitRef 8 | .refUdata => .uleb .unitRef
  | .refAddr =>
    if enc.version = 2 then .sized .debugInfoRef true
    else .fixed .debugInfoRef enc.format.wordSize
  | .refSig8 => .fixed .debugTypesRef 8
  | .refSup4 => .fixed .debugInfoRefSup 4 | .refSup8 => .fixed .debugInfoRefSup 8
  | .gnuRefAlt => .fixed .debugInfoRefSup enc.format.wordSize
  | .string => .string
  | .strp => .fixed .debugStrRef enc.format.wordSize
  | .strpSup | .gnuStrpAlt => .fixed .debugStrRefSup enc.format.wordSize
  | .lineStrp => .fixed .debugLineStrRef enc.format.wordSize
  | .implicitConst => .implicit spec.implicitConstValue
  | .strx | .gnuStrIndex => .uleb .debugStrOffsetsIndex
  | .strx1 => .fixed .debugStrOffsetsIndex 1 | .strx2 => .fixed .debugStrOffsetsIndex 2
  | .strx3 => .fixed .debugStrOffsetsIndex 3 | .strx4 => .fixed .debugStrOffsetsIndex 4
  | .addrx | .gnuAddrIndex => .uleb .debugAddrIndex
  | .addrx1 => .fixed .debugAddrIndex 1 | .addrx2 => .fixed .debugAddrIndex 2
  | .addrx3 => .fixed .debugAddrIndex 3 | .addrx4 => .fixed .debugAddrIndex 4
  | .loclistx => .uleb .debugLocListsIndex | .rnglistx => .uleb .debugRngListsIndex
  | .indirect | .unknown _ => .bad

namespace Shape

def parse (enc : Encoding) : Shape → Bytes → Out (Value × Bytes)
  | .fixed k n, bs => numV k (readFixed enc.endian n bs)
  | .sized k off, bs =>
    numV k (if enc.addressSize = 1 ∨ enc.addressSize = 2 ∨ enc.addressSize = 4 ∨ enc.addressSize = 8
      then readFixed enc.endian enc.addressSize bs
      else .err (if off then .rUnsupportedOffsetSize else .rUnsupportedAddressSize))
  | .uleb k, bs => numV k (Leb.unsigned bs)
  | .block k (some w), bs => blockV k (readFixed enc.endian w bs)
  | .block k none, bs => blockV k (Leb.unsigned bs)
  | .sdata, bs => Leb.signed bs >>= fun x => pure (⟨.sdata, .int x.1⟩, x.2)
  | .flag, bs => readFixed enc.endian 1 bs >>= fun x => pure (⟨.flag, .flag (x.1 != 0)⟩, x.2)
  | .present, bs => .ok (⟨.flag, .flag true⟩, bs)
  | .string, bs => readCStr bs >>= fun x => pure (⟨.string, .bytes x.1⟩, x.2)
  | .implicit (some v), bs => .ok (⟨.sdata, .int v⟩, bs)
  | .implicit none, _ => .err .rInvalidImplicitConst
  | .bad, _ => .err .rUnknownForm

/-- what `get_attribute_size` advertises -/
def size (enc : Encoding) : Shape → Option Nat
  | .fixed _ n => some n
  | .sized _ _ => some enc.addressSize
  | .flag => some 1
  | .present | .implicit _ => some 0
  | _ => none

/-- the arm of `skip_attributes` for the forms without an advertised size -/
def skip (enc : Encoding) : Shape → Bytes → Out Bytes
  | .uleb _, bs | .sdata, bs => Leb.skip bs
  | .block _ (some w), bs => skipBlock (readFixed enc.endian w bs)
  | .block _ none, bs => skipBlock (Leb.unsigned bs)
  | .string, bs => readCStr bs >>= fun x => pure x.2
  | _, _ => .err .rUnknownForm

end Shape

theorem parseDirect_eq (enc : Encoding) (spec : Spec) (form : Form) (bs : Bytes) :
    parseDirect enc spec form bs = (shape enc spec form).parse enc bs := by
  cases form
  -- `unfold`, not `simp only [parseDirect]`: the latter first derives an equation for each of the 48 arms
  case data4 | data8 | refAddr =>
    unfold parseDirect shape
    dsimp only
    split <;> simp only [Shape.parse, readWord_eq_fixed, readSizedOffset_eq] <;> rfl
  case secOffset | gnuRefAlt | strp | strpSup | gnuStrpAlt | lineStrp =>
    unfold parseDirect shape
    simp only [Shape.parse, readWord_eq_fixed]
  case strx3 | addrx3 =>
    unfold parseDirect shape
    simp only [Shape.parse, readUint_eq_fixed _ (show 3 ≤ 8 by decide)]
  case implicitConst =>
    unfold parseDirect shape
    dsimp only
    cases spec.implicitConstValue <;> rfl
  all_goals rfl

theorem getAttributeSize_eq (enc : Encoding) (spec : Spec) (form : Form) :
    getAttributeSize form enc = (shape enc spec form).size enc := by
  cases form
  case data4 | data8 | refAddr =>
    unfold getAttributeSize shape
    dsimp only
    split <;> simp only [Shape.size, *] <;> rfl
  all_goals rfl

theorem skipVar_eq (enc : Encoding) (spec : Spec) (form : Form) (bs : Bytes) :
    skipVar enc form bs = (shape enc spec form).skip enc bs := by
  cases form
  case data4 | data8 | refAddr => unfold shape; dsimp only; split <;> rfl
  all_goals rfl

namespace Shape
theorem parse_fixed (enc : Encoding) (k : Kind) (n : Nat) (bs : Bytes) :
    (Shape.fixed k n).parse enc bs =
      if bs.length < n then .err .rUnexpectedEof
      else .ok (⟨k, .num (fromBytes enc.endian (bs.take n))⟩, bs.drop n) := by
  simp only [Shape.parse, readFixed_eq]
  by_cases h : n ≤ bs.length
  · rw [if_pos h, if_neg (by omega)]; rfl
  · rw [if_neg h, if_pos (by omega)]; rfl
end Shape

theorem numV_ok {k : Kind} {r : Out (Nat × Bytes)} {v : Value} {rest : Bytes}
    (h : numV k r = .ok (v, rest)) : ∃ x, r = .ok (x, rest) ∧ v = ⟨k, .num x⟩ := by
  obtain ⟨⟨x, r'⟩, hr, h⟩ := Out.bind_eq_ok h
  cases h
  exact ⟨x, hr, rfl⟩

/-- the errors that only *reading* an attribute can report: they depend on the value
(LEB128 that is over-long or does not fit), on the abbreviation (`DW_FORM_indirect` resolving to
`DW_FORM_implicit_const`) or on an encoding that no unit header can produce (address size not
1/2/4/8); `skip_attributes` does not look at any of these -/
def ReadOnlyErr (e : Err) : Prop :=
  e = .rBadUnsignedLeb128 ∨ e = .rBadSignedLeb128 ∨ e = .rInvalidImplicitConst ∨
    e = .rUnsupportedAddressSize ∨ e = .rUnsupportedOffsetSize ∨ e = .rUnsupportedOffset

/-- where a read leaves the input: its outcome without the value -/
def after {α : Type} (r : Out (α × Bytes)) : Out Bytes := r >>= fun x => pure x.2

/-- `sk` is where `rd` is, and fails as `rd` fails unless `rd` fails with an error only reading can
see. One relation for a single form (`Shape.parse_readsAs`), for one specification with its pending
bytes (`skipOne_skipsAs`) and for `skip_attributes` against `read_attributes` (`skipLoop_skipsAs`). -/
def SkipsAs (rd sk : Out Bytes) : Prop :=
  match rd with
  | .ok rest => sk = .ok rest
  | .err x => ReadOnlyErr x ∨ sk = .err x
  | _ => True

namespace SkipsAs

theorem of_eq {rd sk : Out Bytes} (h : rd = sk) : SkipsAs rd sk := by
  subst h; cases rd <;> first | rfl | exact .inr rfl | trivial

theorem ok {α : Type} {r : Out (α × Bytes)} {sk : Out Bytes} {a : α} {rest : Bytes}
    (h : SkipsAs (after r) sk) (hr : r = .ok (a, rest)) : sk = .ok rest := by
  subst hr; exact h

theorem err {α : Type} {r : Out (α × Bytes)} {sk : Out Bytes} {x : Err}
    (h : SkipsAs (after r) sk) (hr : r = .err x) : ReadOnlyErr x ∨ sk = .err x := by
  subst hr; exact h

protected theorem refl (a : Out Bytes) : SkipsAs a a := of_eq rfl

protected theorem trans {a b c : Out Bytes} (h1 : SkipsAs a b) (h2 : SkipsAs b c) : SkipsAs a c := by
  cases a with
  | ok r => cases h1; exact h2
  | err x =>
    rcases h1 with h | h
    · exact .inl h
    · cases h; exact h2
  | _ => trivial

protected theorem bind {a b : Out Bytes} {f g : Bytes → Out Bytes} (h : SkipsAs a b)
    (hf : ∀ r, a = .ok r → SkipsAs (f r) (g r)) : SkipsAs (a >>= f) (b >>= g) := by
  cases a with
  | ok r => cases h; exact hf r rfl
  | err x =>
    rcases h with h | h
    · exact .inl h
    · cases h; exact .inr rfl
  | _ => trivial

theorem bind_right {α : Type} (a : Out α) {f g : α → Out Bytes} (h : ∀ x, a = .ok x → SkipsAs (f x) (g x)) :
    SkipsAs (a >>= f) (a >>= g) := by
  cases a with
  | ok x => exact h x rfl
  | err x => exact .inr rfl
  | _ => trivial

end SkipsAs

theorem after_map {α β : Type} (r : Out (α × Bytes)) (f : α × Bytes → β) :
    after (r >>= fun x => pure (f x, x.2)) = after r := by cases r <;> rfl

theorem after_bind {α β : Type} (r : Out (α × Bytes)) (f : α × Bytes → Out (β × Bytes)) :
    after (r >>= f) = r >>= fun x => after (f x) := by cases r <;> rfl

theorem skipN_ok {n : Nat} {bs rest : Bytes} (h : skipN n bs = .ok rest) : Consumes n bs rest := by
  unfold skipN at h; split at h <;> cases h; exact ⟨‹_›, rfl⟩

theorem skipN_zero (bs : Bytes) : skipN 0 bs = .ok bs := by simp [skipN]

theorem after_readFixed (e : Endian) (n : Nat) (bs : Bytes) : after (readFixed e n bs) = skipN n bs := by
  rw [readFixed_eq]; unfold skipN; split <;> rfl

theorem after_take (n : Nat) (bs : Bytes) : after (Ints.take n bs) = skipN n bs := by
  unfold Ints.take skipN; split <;> rfl

theorem after_blockV (k : Kind) (r : Out (Nat × Bytes)) : after (blockV k r) = skipBlock r := by
  cases r with
  | ok x => exact (after_map (Ints.take x.1 x.2) _).trans (after_take x.1 x.2)
  | _ => rfl

theorem unsigned_skipsAs (bs : Bytes) : SkipsAs (after (Leb.unsigned bs)) (Leb.skip bs) := by
  cases h : Leb.unsigned bs with
  | ok x => exact Leb.skip_of_unsigned (v := x.1) (rest := x.2) h
  | err x =>
    rcases Leb.unsigned_err_skip h with h1 | ⟨h1, h2⟩
    · exact .inl (.inl h1)
    · exact .inr (h1 ▸ h2)
  | _ => trivial

theorem signed_skipsAs (bs : Bytes) : SkipsAs (after (Leb.signed bs)) (Leb.skip bs) := by
  cases h : Leb.signed bs with
  | ok x => exact Leb.skip_of_signed (v := x.1) (rest := x.2) h
  | err x =>
    rcases Leb.signed_err_skip h with h1 | ⟨h1, h2⟩
    · exact .inl (.inr (.inl h1))
    · exact .inr (h1 ▸ h2)
  | _ => trivial

theorem consumes_le {n : Nat} {bs rest : Bytes} (h : Consumes n bs rest) : rest.length ≤ bs.length :=
  (Took.drop_iff.mpr h).le

theorem readCStr_isCStr : IsCStr readCStr := ⟨rfl, fun _ _ => by rw [readCStr]⟩

theorem blockV_le {k : Kind} {r : Out (Nat × Bytes)} {bs : Bytes} {v : Value} {rest : Bytes}
    (hr : ∀ x r1, r = .ok (x, r1) → r1.length ≤ bs.length)
    (h : blockV k r = .ok (v, rest)) : rest.length ≤ bs.length := by
  obtain ⟨⟨len, r1⟩, h1, h2⟩ := Out.bind_eq_ok h
  obtain ⟨⟨b, r2⟩, h3, h4⟩ := Out.bind_eq_ok (x := Ints.take len r1) h2
  cases h4
  exact Nat.le_trans (consumes_le (take_consumes h3)) (hr len r1 h1)

theorem blockV_normal {k : Kind} {r : Out (Nat × Bytes)} (h : r.Normal) : (blockV k r).Normal :=
  Out.Normal.bind h fun _ _ => Out.Normal.bind (Ints.take_normal _ _) fun _ _ => Out.normal_ok _

/-- what every caller wants of a reader on the input `bs`: it returns normally, leaves no more than
it got, and `sk` is where it is. Stated once per primitive reader and carried through the maps that
only change the value (`map`, `numV`) and through `blockV`. -/
structure ReadsAs {α : Type} (bs : Bytes) (rd : Out (α × Bytes)) (sk : Out Bytes) : Prop where
  normal : rd.Normal
  le : ∀ a rest, rd = .ok (a, rest) → rest.length ≤ bs.length
  skips : SkipsAs (after rd) sk

namespace ReadsAs
variable {α β : Type} {bs : Bytes} {rd : Out (α × Bytes)} {sk : Out Bytes}

theorem ensures (h : ReadsAs bs rd sk) : rd.Ensures fun x => x.2.length ≤ bs.length :=
  ⟨h.normal, fun x hx => h.le x.1 x.2 hx⟩

theorem map (h : ReadsAs bs rd sk) (f : α × Bytes → β) : ReadsAs bs (rd >>= fun x => pure (f x, x.2)) sk where
  normal := h.normal.bind fun _ _ => trivial
  le a rest e := by
    obtain ⟨x, hx, e⟩ := Out.bind_eq_ok e
    cases e
    exact h.le _ _ hx
  skips := after_map rd f ▸ h.skips

theorem numV (k : Kind) {rd : Out (Nat × Bytes)} (h : ReadsAs bs rd sk) : ReadsAs bs (numV k rd) sk :=
  h.map fun x => (⟨k, .num x.1⟩ : Value)

theorem blockV (k : Kind) {rd : Out (Nat × Bytes)} (h : ReadsAs bs rd sk) : ReadsAs bs (blockV k rd) (skipBlock rd) where
  normal := blockV_normal h.normal
  le _ _ e := blockV_le (fun x r hx => h.le x r hx) e
  skips := .of_eq (after_blockV k rd)

theorem ok (a : α) (bs : Bytes) : ReadsAs bs (.ok (a, bs)) (skipN 0 bs) where
  normal := trivial
  le _ _ e := by cases e; exact Nat.le_refl _
  skips := .of_eq (skipN_zero bs).symm

theorem err_readOnly {x : Err} (h : ReadOnlyErr x) : ReadsAs bs (.err x : Out (α × Bytes)) sk where
  normal := trivial
  le _ _ e := nomatch e
  skips := .inl h

end ReadsAs

theorem readFixed_readsAs (e : Endian) (n : Nat) (bs : Bytes) : ReadsAs bs (readFixed e n bs) (skipN n bs) where
  normal := Ints.readFixed_normal e n bs
  le _ _ h := consumes_le (readFixed_consumes h)
  skips := .of_eq (after_readFixed e n bs)

theorem unsigned_readsAs (bs : Bytes) : ReadsAs bs (Leb.unsigned bs) (Leb.skip bs) where
  normal := Leb.unsigned_normal bs
  le _ _ h := Nat.le_of_lt (Leb.unsigned_shrinks h)
  skips := unsigned_skipsAs bs

theorem signed_readsAs (bs : Bytes) : ReadsAs bs (Leb.signed bs) (Leb.skip bs) where
  normal := Leb.signed_normal bs
  le _ _ h := Nat.le_of_lt (Leb.signed_shrinks h)
  skips := signed_skipsAs bs

theorem readCStr_readsAs (bs : Bytes) : ReadsAs bs (readCStr bs) (after (readCStr bs)) where
  normal := readCStr_isCStr.normal bs
  le _ _ h := Nat.le_of_lt (readCStr_isCStr.shrinks h)
  skips := .refl _

namespace Shape

/-- what `skip_attributes` does for a shape: a form of advertised size is a skip of that size, made
later -/
def skipper (enc : Encoding) (s : Shape) (bs : Bytes) : Out Bytes :=
  match s.size enc with
  | some n => skipN n bs
  | none => s.skip enc bs

theorem parse_readsAs (enc : Encoding) (s : Shape) (bs : Bytes) : ReadsAs bs (s.parse enc bs) (s.skipper enc bs) := by
  cases s
  case fixed k n => exact (readFixed_readsAs _ n bs).numV k
  case sized k off =>
    simp only [parse]
    split
    · exact (readFixed_readsAs _ _ bs).numV k
    · cases off <;> exact .err_readOnly (by simp [ReadOnlyErr])
  case uleb k => exact (unsigned_readsAs bs).numV k
  case block k w =>
    cases w
    · exact (unsigned_readsAs bs).blockV k
    · exact (readFixed_readsAs _ _ bs).blockV k
  case sdata => exact (signed_readsAs bs).map _
  case flag => exact (readFixed_readsAs _ 1 bs).map _
  case present => exact .ok _ bs
  case string => exact (readCStr_readsAs bs).map _
  case implicit c =>
    cases c
    · exact .err_readOnly (by simp [ReadOnlyErr])
    · exact .ok _ bs
  case bad => exact ⟨trivial, fun _ _ e => (nomatch e), .inr rfl⟩

theorem parse_skipsAs (enc : Encoding) (s : Shape) (bs : Bytes) :
    SkipsAs (after (s.parse enc bs)) (s.skipper enc bs) :=
  (parse_readsAs enc s bs).skips

theorem parse_consumes {enc : Encoding} {s : Shape} {bs : Bytes} {v : Value}
    {rest : Bytes} {n : Nat} (hsz : s.size enc = some n) (h : s.parse enc bs = .ok (v, rest)) :
    Consumes n bs rest :=
  skipN_ok (by simpa only [skipper, hsz] using (parse_skipsAs enc s bs).ok h)

end Shape

theorem parseDirect_fixed {enc : Encoding} {spec : Spec} {form : Form} {bs : Bytes} {v : Value}
    {rest : Bytes} {n : Nat} (hsz : getAttributeSize form enc = some n)
    (h : parseDirect enc spec form bs = .ok (v, rest)) : Consumes n bs rest :=
  Shape.parse_consumes (getAttributeSize_eq enc spec form ▸ hsz) (parseDirect_eq enc spec form bs ▸ h)

theorem parseLoop_succ_indirect (enc : Encoding) (spec : Spec) (fuel : Nat) (bs : Bytes) :
    parseLoop enc spec (fuel + 1) .indirect bs =
      (Leb.u16 bs >>= fun x => parseLoop enc spec fuel (Form.ofCode x.1) x.2) := by
  rw [parseLoop]

theorem parseLoop_succ_direct (enc : Encoding) (spec : Spec) (fuel : Nat) (form : Form) (bs : Bytes)
    (h : form ≠ .indirect) : parseLoop enc spec (fuel + 1) form bs = parseDirect enc spec form bs := by
  rw [parseLoop]
  exact h

theorem parseAttribute_direct {spec : Spec} (h : spec.form ≠ .indirect) (enc : Encoding) (bs : Bytes) :
    parseAttribute enc spec bs = parseDirect enc spec spec.form bs :=
  parseLoop_succ_direct enc spec _ _ bs h

theorem readAttributes_cons (enc : Encoding) (s : Spec) (ss : List Spec) (bs : Bytes) :
    readAttributes enc (s :: ss) bs =
      parseAttribute enc s bs >>= fun x => readAttributes enc ss x.2 >>= fun y => pure (x.1 :: y.1, y.2) := by
  rw [readAttributes]

theorem getAttributeSize_indirect (enc : Encoding) : getAttributeSize .indirect enc = none := rfl

theorem skipOne_succ_fixed (enc : Encoding) (fuel : Nat) (form : Form) (p n : Nat) (bs : Bytes)
    (h : getAttributeSize form enc = some n) : skipOne enc (fuel + 1) form p bs = .ok (p + n, bs) := by
  rw [skipOne, h]

theorem skipOne_succ_indirect (enc : Encoding) (fuel : Nat) (p : Nat) (bs : Bytes) :
    skipOne enc (fuel + 1) .indirect p bs =
      (flush p bs >>= fun bs => Leb.u16 bs >>= fun x => skipOne enc fuel (Form.ofCode x.1) 0 x.2) := by
  rw [skipOne]; rfl

theorem skipOne_succ_var (enc : Encoding) (fuel : Nat) (form : Form) (p : Nat) (bs : Bytes)
    (hsz : getAttributeSize form enc = none) (h : form ≠ .indirect) :
    skipOne enc (fuel + 1) form p bs =
      (flush p bs >>= fun bs => skipVar enc form bs >>= fun r => pure (0, r)) := by
  rw [skipOne, hsz]
  refine Out.bind_congr _ fun bs => ?_
  split
  · exact absurd rfl h
  · rfl

theorem flush_eq_skipN (p : Nat) (bs : Bytes) : flush p bs = skipN p bs := by
  unfold flush
  split
  · rfl
  · rename_i h
    cases Decidable.not_not.mp h
    exact (skipN_zero bs).symm

theorem flush_ok {p : Nat} {bs : Bytes} (h : p ≤ bs.length) : flush p bs = .ok (bs.drop p) :=
  (flush_eq_skipN p bs).trans (skipN_of_consumes ⟨h, rfl⟩)

theorem parseLoop_ensures (enc : Encoding) (spec : Spec) : ∀ (fuel : Nat) (form : Form) (bs : Bytes),
    bs.length < fuel → (parseLoop enc spec fuel form bs).Ensures fun x => x.2.length ≤ bs.length := by
  intro fuel
  induction fuel with
  | zero => intro _ bs h; exact absurd h (Nat.not_lt_zero _)
  | succ fuel ih =>
    intro form bs hl
    by_cases hi : form = .indirect
    · subst hi
      rw [parseLoop_succ_indirect]
      exact (Leb.u16_ensures bs).bind_rest fun _ r1 (h1 : r1.length < bs.length) =>
        (ih _ r1 (Nat.lt_of_lt_of_le h1 (Nat.le_of_lt_succ hl))).mono fun _ h => Nat.le_trans h (Nat.le_of_lt h1)
    · rw [parseLoop_succ_direct _ _ _ _ _ hi, parseDirect_eq]
      exact (Shape.parse_readsAs enc _ bs).ensures

theorem parseAttribute_ensures (enc : Encoding) (spec : Spec) (bs : Bytes) :
    (parseAttribute enc spec bs).Ensures fun x => x.2.length ≤ bs.length :=
  parseLoop_ensures enc spec _ _ _ (Nat.lt_succ_self _)

theorem parseAttribute_normal (enc : Encoding) (spec : Spec) (bs : Bytes) :
    (parseAttribute enc spec bs).Normal :=
  (parseAttribute_ensures enc spec bs).1

theorem readAttributes_ensures (enc : Encoding) (specs : List Spec) : ∀ bs : Bytes,
    (readAttributes enc specs bs).Ensures fun x => x.2.length ≤ bs.length := by
  induction specs with
  | nil => intro bs; exact Out.ensures_ok (Nat.le_refl _)
  | cons s ss ih =>
    intro bs
    exact (parseAttribute_ensures enc s bs).bind_rest fun _ r1 h1 =>
      (ih r1).bind_rest fun _ _ h2 => .pure (Nat.le_trans h2 h1)

theorem readAttributes_normal (enc : Encoding) (specs : List Spec) : ∀ bs : Bytes,
    (readAttributes enc specs bs).Normal :=
  fun bs => (readAttributes_ensures enc specs bs).1

theorem skipN_normal (n : Nat) (bs : Bytes) : (skipN n bs).Normal := by
  unfold skipN; split <;> trivial

theorem flush_normal (p : Nat) (bs : Bytes) : (flush p bs).Normal :=
  flush_eq_skipN p bs ▸ skipN_normal p bs

theorem flush_le {p : Nat} {bs r : Bytes} (h : flush p bs = .ok r) : r.length ≤ bs.length :=
  consumes_le (skipN_ok (flush_eq_skipN p bs ▸ h))

theorem skipBlock_normal {r : Out (Nat × Bytes)} (h : r.Normal) : (skipBlock r).Normal :=
  Out.Normal.bind h fun _ _ => skipN_normal _ _

theorem skipVar_normal (enc : Encoding) (form : Form) (bs : Bytes) : (skipVar enc form bs).Normal := by
  rw [skipVar_eq enc default]
  cases shape enc default form <;> simp only [Shape.skip]
  case block w =>
    cases w
    · exact skipBlock_normal (Leb.unsigned_normal _)
    · exact skipBlock_normal (Ints.readFixed_normal _ _ _)
  case string => exact Out.Normal.bind (readCStr_isCStr.normal _) fun _ _ => Out.normal_ok _
  case uleb | sdata => exact Leb.skip_normal _
  all_goals trivial

theorem skipOne_normal (enc : Encoding) : ∀ (fuel : Nat) (form : Form) (p : Nat) (bs : Bytes),
    bs.length < fuel → (skipOne enc fuel form p bs).Normal := by
  intro fuel
  induction fuel with
  | zero => intro _ _ bs h; exact absurd h (Nat.not_lt_zero _)
  | succ fuel ih =>
    intro form p bs hl
    cases hsz : getAttributeSize form enc with
    | some n => rw [skipOne_succ_fixed _ _ _ _ _ _ hsz]; trivial
    | none =>
      by_cases hi : form = .indirect
      · subst hi
        rw [skipOne_succ_indirect]
        refine Out.Normal.bind (flush_normal _ _) fun b hb =>
          Out.Normal.bind (Leb.u16_normal _) fun a ha => ih _ _ _ ?_
        have h1 := Leb.u16_shrinks (c := a.1) (rest := a.2) ha
        exact Nat.lt_of_lt_of_le h1 (Nat.le_trans (flush_le hb) (Nat.le_of_lt_succ hl))
      · rw [skipOne_succ_var _ _ _ _ _ hsz hi]
        exact Out.Normal.bind (flush_normal _ _) fun _ _ =>
          Out.Normal.bind (skipVar_normal _ _ _) fun _ _ => Out.normal_ok _

theorem skipLoop_normal (enc : Encoding) (specs : List Spec) : ∀ (p : Nat) (bs : Bytes),
    (skipLoop enc specs p bs).Normal := by
  induction specs with
  | nil => intro p bs; exact flush_normal _ _
  | cons s ss ih =>
    intro p bs
    exact Out.Normal.bind (skipOne_normal _ _ _ _ _ (Nat.lt_succ_self _)) fun _ _ => ih _ _

/-! ### `Attribute::value`: normalisation re-labels the class and keeps the payload -/

def Payload.Same (a b : Payload) : Prop :=
  a.numeric = b.numeric ∧ a.bytes? = b.bytes? ∧ a.flag? = b.flag?

theorem udataValue_same {v : Value} {n : Nat} (h : v.udataValue = some n) :
    Payload.Same (.num n) v.payload := by
  unfold Value.udataValue at h
  split at h
  all_goals try (simp only [Option.some.injEq] at h; subst h; rename_i hp; rw [hp]; exact ⟨rfl, rfl, rfl⟩)
  · split at h
    · simp at h
    · rename_i i hk hp hi
      simp only [Option.some.injEq] at h
      subst h; rw [hp]
      refine ⟨?_, rfl, rfl⟩
      simp only [Payload.numeric]
      congr 1; omega
  · simp at h

/-- `u8_value`, `u16_value`: `udata_value` with a bound -/
theorem udataValue_bind_same {v : Value} {n : Nat} {p : Nat → Prop} [DecidablePred p]
    (h : (v.udataValue.bind fun m => if p m then some m else none) = some n) :
    Payload.Same (.num n) v.payload := by
  obtain ⟨m, hm, h⟩ := Option.bind_eq_some_iff.mp h
  split at h <;> cases h
  exact udataValue_same hm

theorem apply_same {r : Rule} {v v' : Value} (h : r.apply v = some v') :
    Payload.Same v'.payload v.payload := by
  cases r <;> simp only [Rule.apply, Option.map_eq_some_iff] at h <;> obtain ⟨n, hn, rfl⟩ := h
  case constU8 | constU16 => exact udataValue_bind_same hn
  case constUdata | dwoid => exact udataValue_same hn
  case exprloc =>
    unfold Value.exprlocValue at hn
    split at hn <;> simp only [Option.some.injEq, reduceCtorEq] at hn
    all_goals (subst hn; rename_i hp; rw [hp]; exact ⟨rfl, rfl, rfl⟩)
  case offset k =>
    unfold Value.offsetValue at hn
    split at hn <;> simp only [Option.some.injEq, reduceCtorEq] at hn
    subst hn; rename_i hp; rw [hp]; exact ⟨rfl, rfl, rfl⟩

theorem findSome_same (rs : List Rule) (v : Value) :
    Payload.Same ((rs.findSome? (·.apply v)).getD v).payload v.payload := by
  induction rs with
  | nil => exact ⟨rfl, rfl, rfl⟩
  | cons r rs ih =>
    simp only [List.findSome?_cons]
    cases h : r.apply v with
    | some v' => exact apply_same h
    | none => exact ih

end Gimli.Attr
