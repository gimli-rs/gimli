import Gimli.Lemmas.WCfiTable
import Gimli.Lemmas.Cfi
import Gimli.Lemmas.CStr
/-!
Helper lemmas for C14 about the layout of entries: `write_eh_pointer(_data)` is inverted by C06's
Model of `parse_encoded_pointer` / `parse_encoded_value`, and each field of the CIE / FDE the writer
emits is read back by the small Spec reader of `Gimli/Spec/WCfi.lean`.
-/
open Gimli Gimli.WCfi Gimli.Cfi

namespace Gimli.WCfi
open Gimli.Spec.WCfi Gimli.Spec.Cfi

theorem readCStr_isCStr : IsCStr readCStr := ⟨rfl, fun _ _ => by rw [readCStr]⟩

/-- the augmentation string is `z` followed by optional letters, so it holds no NUL -/
theorem augString_nonzero (c : WCie) : (0 : UInt8) ∉ c.augString := by
  have letter : ∀ {p : Prop} [Decidable p] {x : UInt8}, x ≠ 0 → (0 : UInt8) ∉ (if p then [x] else []) := by
    intro p _ x hx h
    split at h
    · exact hx (List.mem_singleton.mp h).symm
    · cases h
  unfold WCie.augString
  split
  · simp only [List.mem_append, List.mem_singleton, not_or]
    exact ⟨⟨⟨⟨by decide, letter (by decide)⟩, letter (by decide)⟩, letter (by decide)⟩, letter (by decide)⟩
  · exact List.not_mem_nil

theorem augString_head (c : WCie) :
    c.augString.head? = some 0x7a ↔ c.hasAugmentation = true := by
  unfold WCie.augString
  split
  · rename_i h; simp [h]
  · rename_i h; simp [h]

theorem encodeU_small (v : Nat) (h : v < 128) : Leb.encodeU v = [UInt8.ofNat v] :=
  Leb.encodeU_small v h

theorem fixed_writeUdata {e : Endian} {v k : Nat} {bs : Bytes} (hv : v < 2 ^ 64)
    (h : Ints.writeUdata e v k = .ok bs) : Fixed e k v bs :=
  ⟨(Ints.writeUdata_ok h).1, Ints.pow256 k ▸ Ints.writeUdata_fits h hv⟩

theorem fixed_writeSdata {e : Endian} {w k : Nat} {bs : Bytes} (hk : k = 2 ∨ k = 4 ∨ k = 8) (hw : w < 2 ^ 64)
    (h : Ints.writeSdata e (Leb.toI64 w) k = .ok bs) : ∃ v, Fixed e k v bs ∧ signExtend k v = w := by
  obtain ⟨pat, rfl, hlt, hs⟩ := Ints.writeSdata_pat h fun _ => Leb.toI64_range w
  exact ⟨pat, ⟨rfl, hlt⟩, by rw [← sext_eq k pat (by omega) hlt, hs, Leb.ofI64_toI64 w hw]⟩

/-- each format `write_eh_pointer_data` supports is a row of the Spec's table of value formats, so
`Spec.Cfi.operand_read` reads the data back under every encoding with that format -/
theorem ehPointerData_operand {e : Endian} {w enc size : Nat} {bs : Bytes} (hw : w < 2 ^ 64)
    (h : ehPointerData e w (enc % 16) size = .ok bs) : Operand e size enc w bs := by
  unfold ehPointerData at h
  split at h
  · exact .absptr w bs ‹_› (Ints.writeUdata_size h) (fixed_writeUdata hw h)
  · cases h
    exact .uleb128 w _ ‹_› (uLeb_encodeU hw)
  · exact .udata2 w bs ‹_› (fixed_writeUdata hw h)
  · exact .udata4 w bs ‹_› (fixed_writeUdata hw h)
  · exact .udata8 w bs ‹_› (fixed_writeUdata hw h)
  · cases h
    have hi := Leb.toI64_range w
    have hop := Operand.sleb128 (e := e) (asz := size) (Leb.toI64 w) _ ‹enc % 16 = 9› (sLeb_encodeS hi.1 hi.2)
    rwa [show pattern64 (Leb.toI64 w) = w from Leb.ofI64_toI64 w hw] at hop
  · obtain ⟨v, hv, rfl⟩ := fixed_writeSdata (by decide) hw h
    exact .sdata2 v bs ‹_› hv
  · obtain ⟨v, hv, rfl⟩ := fixed_writeSdata (by decide) hw h
    exact .sdata4 v bs ‹_› hv
  · obtain ⟨v, hv, rfl⟩ := fixed_writeSdata (by decide) hw h
    exact .sdata8 v bs ‹_› hv
  · cases h

theorem lt_u64_of_sized {v size : Nat} (hs : size = 1 ∨ size = 2 ∨ size = 4 ∨ size = 8)
    (hv : v < 2 ^ (8 * size)) : v < 2 ^ 64 :=
  Nat.lt_of_lt_of_le hv (Nat.pow_le_pow_right (by decide) (by omega))

theorem ehPointer_length (e : Endian) (pos : Nat) (a : Addr) (enc size : Nat) (bs : Bytes)
    (ha : ∀ v, a = .const v → v < 2 ^ 64) (h : ehPointer e pos a enc size = .ok bs) : bs.length ≤ 10 := by
  unfold ehPointer at h
  cases a with
  | symbol => cases h
  | const v =>
    simp only at h
    split at h
    · exact (ehPointerData_operand (ha v rfl) h).length_le
    · exact (ehPointerData_operand (Nat.mod_lt _ (by decide)) h).length_le
    · cases h

/-- section base 0 is what the writer assumes for `DW_EH_PE_pcrel` -/
theorem ehPointer_roundtrip (m : Mode) (e : Endian) (pos v enc size : Nat) (p : PtrParams) (bs rest : Bytes)
    (hs : size = 1 ∨ size = 2 ∨ size = 4 ∨ size = 8) (hv : v < 2 ^ (8 * size))
    (hp : p.addressSize = size) (hb : p.sectionBase = some 0)
    (h : ehPointer e pos (.const v) enc size = .ok bs) :
    parseEncodedPointer m e enc p pos (bs ++ rest) = .ok ((v, enc / 128 % 2 = 1), rest) := by
  subst hp
  have hs8 : 1 ≤ p.addressSize ∧ p.addressSize ≤ 8 := by omega
  have hdvd : 2 ^ (8 * p.addressSize) ∣ 2 ^ 64 := Nat.pow_dvd_pow 2 (by omega)
  unfold ehPointer at h
  simp only at h
  split at h
  · rename_i happ
    have hv64 : v < 2 ^ 64 := lt_u64_of_sized hs hv
    rw [parseEncodedPointer_operand m e enc pos 0 v p bs rest hs8 (happ ▸ Nat.zero_le 1)
      (by unfold pointerBase; rw [happ]; rfl) (ehPointerData_operand hv64 h),
      Nat.zero_add, Nat.mod_eq_of_lt hv64, Nat.mod_eq_of_lt hv]
  · -- pcrel: the writer subtracted the position, the reader adds it back (both modulo 2^64)
    rename_i happ
    have hq : pos % 2 ^ 64 < 2 ^ 64 := Nat.mod_lt _ (by decide)
    rw [parseEncodedPointer_operand m e enc pos _ _ p bs rest hs8 (happ ▸ Nat.le_refl 1)
      (by unfold pointerBase; rw [happ]; simp only [hb]; exact wrappingAddSized_ok m 0 pos _ hs8)
      (ehPointerData_operand (Nat.mod_lt _ (by decide)) h),
      Nat.zero_add]
    generalize pos % 2 ^ 64 = q at hq
    rw [Nat.mod_mod_of_dvd _ hdvd, Nat.add_mod, Nat.mod_mod, Nat.mod_mod_of_dvd _ hdvd, ← Nat.add_mod,
      Nat.add_sub_of_le (Nat.le_trans (Nat.le_of_lt hq) (Nat.le_add_left _ v)), Nat.add_mod,
      Nat.mod_eq_zero_of_dvd hdvd, Nat.add_zero, Nat.mod_mod, Nat.mod_eq_of_lt hv]
  · cases h

/-- the reader's first two steps on an entry: the length field, then exactly that much as payload -/
theorem read_envelope (e : Endian) (f : Format) (body : Bytes) (n : Nat) (lf : Bytes)
    (hlf : Ints.writeInitialLength e f (body.length + n) = .ok lf)
    (hlen : (lf ++ body ++ List.replicate n 0).length < 2 ^ 64) :
    Ints.readInitialLength e 64 (lf ++ body ++ List.replicate n 0) =
      .ok (((lf ++ body ++ List.replicate n 0).length - lenFieldSize f, f), body ++ List.replicate n 0) ∧
    Ints.take ((lf ++ body ++ List.replicate n 0).length - lenFieldSize f) (body ++ List.replicate n 0) =
      .ok (body ++ List.replicate n 0, []) := by
  have hl : lf.length = lenFieldSize f := Ints.writeInitialLength_length hlf
  have hsz : (lf ++ body ++ List.replicate n 0).length = lenFieldSize f + (body.length + n) := by
    simp only [List.length_append, List.length_replicate, hl, Nat.add_assoc]
  rw [hsz] at hlen ⊢
  rw [Nat.add_sub_cancel_left, List.append_assoc]
  exact ⟨Ints.reads_initialLength (Nat.lt_of_le_of_lt (Nat.le_add_left _ _) hlen) hlf _, by
    rw [show body.length + n = (body ++ List.replicate n 0).length by simp]; exact Ints.take_all _⟩

/-- the left side is the augmentation-data step of `readCieHeader` -/
theorem cieAugData_reads (e : Endian) (c : WCie) (pos : Nat) (aug : Bytes) (hr : c.InRange)
    (h : cieAugData e c pos = .ok aug) (r : Bytes) :
    (if c.augString.head? = some 0x7a then
        Leb.unsigned (aug ++ r) >>= fun x => Ints.take x.1 x.2 >>= fun y => .ok (some y.1, y.2)
      else .ok (none, aug ++ r)) = .ok (if c.hasAugmentation then some aug.tail else none, r) := by
  unfold cieAugData at h
  cases hh : c.hasAugmentation with
  | false =>
    rw [hh] at h
    cases h
    rw [if_neg (by rw [augString_head c, hh]; simp)]
    rfl
  | true =>
    rw [hh, if_pos rfl] at h
    -- a length byte and the data: short enough for the length to be a one-byte ULEB128
    have fin : ∀ data : Bytes, data.length < 128 →
        (if c.augString.head? = some 0x7a then
          Leb.unsigned (UInt8.ofNat data.length :: data ++ r) >>= fun x => Ints.take x.1 x.2 >>= fun y =>
            .ok (some y.1, y.2)
        else .ok (none, UInt8.ofNat data.length :: data ++ r)) = .ok (some data, r) := fun data hdl => by
      rw [if_pos ((augString_head c).mpr hh), List.cons_append, Leb.unsigned_small _ hdl, Out.bind_ok, Ints.take_prefix]
      rfl
    have hrl : (if c.fdeAddressEncoding != 0 then [UInt8.ofNat c.fdeAddressEncoding] else ([] : Bytes)).length ≤ 1 := by
      split <;> simp
    -- at most 1 (`L`) + 1 + 10 (`P`) + 1 (`R`) bytes
    cases hpers : c.personality with
    | none =>
      rw [hpers] at h
      cases h
      refine fin _ ?_
      cases c.lsdaEncoding <;> simp only [List.length_append, List.length_cons, List.length_nil] <;> omega
    | some ea =>
      rw [hpers] at h
      obtain ⟨ptr, hptr, h⟩ := Out.bind_eq_ok h
      cases h
      have := ehPointer_length _ _ _ _ _ _ (hr.2.2.2.2.1 ea.1 ea.2 hpers).2 hptr
      refine fin _ ?_
      cases c.lsdaEncoding <;> simp only [List.length_append, List.length_cons, List.length_nil] <;> omega

theorem versionOk_cases {eh : Bool} {v : Nat} (h : versionOk eh v = true) :
    v = 1 ∨ v = 3 ∨ v = 4 := by
  unfold versionOk at h
  cases eh with
  | true => simp at h; exact Or.inl h
  | false => simp at h; omega

theorem readId (e : Endian) (eh : Bool) (f : Format) (r : Bytes) :
    Ints.readFixed e (if eh then 4 else f.wordSize) (cieIdBytes e eh f ++ r) =
      .ok ((if eh then 0 else 2 ^ (8 * (if eh then 4 else f.wordSize)) - 1), r) := by
  unfold cieIdBytes
  cases eh with
  | true => exact Ints.readFixed_toBytes e 4 0 r (by decide)
  | false =>
    cases f with
    | dwarf32 => exact Ints.readFixed_toBytes e 4 0xffff_ffff r (by decide)
    | dwarf64 => exact Ints.readFixed_toBytes e 8 0xffff_ffff_ffff_ffff r (by decide)

/-- the address / segment size bytes are there exactly in version 4; the left side is that step of
`readCieHeader` on what `cieFixed` holds there -/
theorem readAsz (e : Endian) (c : WCie) (hv : c.version = 1 ∨ c.version = 3 ∨ c.version = 4)
    (hA : c.addressSize < 256) (r : Bytes) :
    (if c.version = 4 then
        Ints.readFixed e 1 ((if c.version ≥ 4 then [UInt8.ofNat c.addressSize, 0] else []) ++ r) >>= fun x =>
          Ints.readFixed e 1 x.2 >>= fun y =>
            if ¬y.1 = 0 then .err .rUnsupportedSegmentSize else .ok (some x.1, y.2)
      else .ok (none, (if c.version ≥ 4 then [UInt8.ofNat c.addressSize, 0] else []) ++ r)) =
      .ok (if c.version = 4 then some c.addressSize else none, r) := by
  by_cases h4 : c.version = 4
  · have hz : Ints.readFixed e 1 (0 :: r) = .ok (0, r) := Ints.readFixed_byte e 0 (by decide) r
    rw [if_pos h4, if_pos (Nat.le_of_eq h4.symm), if_pos h4, List.cons_append, List.cons_append, List.nil_append,
      Ints.readFixed_byte e _ hA, Out.bind_ok]
    dsimp only
    rw [hz, Out.bind_ok]
    rfl
  · rw [if_neg h4, if_neg (by omega), if_neg h4]
    rfl

theorem readRa (e : Endian) (c : WCie) (ra r : Bytes)
    (h : raBytes c.version c.raReg = .ok ra) :
    (if c.version = 1 then Ints.readFixed e 1 (ra ++ r) else Leb.unsigned (ra ++ r)) = .ok (c.raReg.toNat, r) := by
  have hlt : c.raReg.toNat < 2 ^ 16 := c.raReg.toNat_lt
  unfold raBytes at h
  by_cases h1 : c.version = 1
  · rw [if_pos h1]
    rw [if_pos h1] at h
    split at h
    · cases h
    · cases h
      exact Ints.readFixed_byte e _ (by omega) r
  · rw [if_neg h1]
    rw [if_neg h1] at h
    cases h
    exact Leb.unsigned_roundtrip _ (Nat.lt_trans hlt (by decide)) r

theorem fdeCiePointer_roundtrip (e : Endian) (eh : Bool) (f : Format) (base cieOff : Nat) (ptr r : Bytes)
    (hc : cieOff ≤ base) (hb : base < 2 ^ 64) (h : fdeCiePointer e eh f base cieOff = .ok ptr) :
    ptr.length = (if eh then 4 else f.wordSize) ∧
    ∃ p, Ints.readFixed e (if eh then 4 else f.wordSize) (ptr ++ r) = .ok (p, r) ∧
      (if eh then base - p else p) = cieOff := by
  unfold fdeCiePointer at h
  cases eh with
  | true =>
    simp only [if_true] at h ⊢
    obtain ⟨h1, h2⟩ := Ints.writeUdata_roundtrip e _ 4 ptr r h (Nat.lt_of_le_of_lt (Nat.sub_le _ _) hb)
    exact ⟨h1, _, h2, Nat.sub_sub_self hc⟩
  | false =>
    simp only [Bool.false_eq_true, if_false] at h ⊢
    obtain ⟨h1, h2⟩ := Ints.writeUdata_roundtrip e _ _ ptr r h (Nat.lt_of_le_of_lt hc hb)
    exact ⟨h1, _, h2, rfl⟩

theorem fdeAddrs_roundtrip (m : Mode) (e : Endian) (c : WCie) (f : WFde) (pos a : Nat) (addrs r : Bytes)
    (hs : c.addressSize = 1 ∨ c.addressSize = 2 ∨ c.addressSize = 4 ∨ c.addressSize = 8)
    (ha : f.address = .const a) (hav : a < 2 ^ (8 * c.addressSize)) (hl : f.length < 2 ^ 32)
    (h : fdeAddrs e c f pos = .ok addrs) :
    readFdeAddrs m e c.info pos (addrs ++ r) = .ok (a, f.length, r) := by
  have hl64 : f.length < 2 ^ 64 := Nat.lt_trans hl (by decide)
  unfold fdeAddrs at h
  unfold readFdeAddrs
  rw [show c.info.fdeEncoding = if c.fdeAddressEncoding != 0 then some c.fdeAddressEncoding else none from rfl]
  by_cases henc : (c.fdeAddressEncoding != 0) = true
  · rw [if_pos henc] at h ⊢
    obtain ⟨ab, hab, h⟩ := Out.bind_eq_ok h
    obtain ⟨lb, hlb, h⟩ := Out.bind_eq_ok h
    cases h
    rw [ha] at hab
    refine ReadsTo.bind (w' := lb) (k := fun r => (a, f.length, r)) (fun rest => ehPointer_roundtrip m e pos a _ _
      { addressSize := c.addressSize, sectionBase := some 0 } ab rest hs hav rfl rfl hab) ?_ r
    exact .map (operand_read (ehPointerData_operand hl64 hlb)) fun _ => rfl
  · rw [if_neg henc] at h ⊢
    obtain ⟨ab, hab, h⟩ := Out.bind_eq_ok h
    obtain ⟨lb, hlb, h⟩ := Out.bind_eq_ok h
    cases h
    rw [ha] at hab
    refine ReadsTo.bind (w' := lb) (k := fun r => (a, f.length, r)) (Ints.reads_address hab (lt_u64_of_sized hs hav)) ?_ r
    exact .map (Ints.reads_address hlb hl64) fun _ => rfl

/-- where `readFdeHeader` places the LSDA pointer (entry size minus what remains behind the length
byte) against where the writer did; stated apart, omega's certificate being slow to re-check in the
context of the header proof -/
theorem lsdaPos (b p a d t : Nat) : b + (p + (a + (d + 1 + t)) - (d + t)) = b + p + a + 1 := by omega

theorem fdeAug_roundtrip (m : Mode) (e : Endian) (c : WCie) (f : WFde) (pos : Nat) (aug tail : Bytes)
    (g : Bytes → Nat)
    (hs : c.addressSize = 1 ∨ c.addressSize = 2 ∨ c.addressSize = 4 ∨ c.addressSize = 8)
    (hmatch : f.lsda.isSome = c.lsdaEncoding.isSome)
    (hlsda : ∀ l, f.lsda = some l → ∃ v, l = .const v ∧ v < 2 ^ (8 * c.addressSize))
    (hg : ∀ data : Bytes, aug = UInt8.ofNat data.length :: data → g (data ++ tail) = pos + 1)
    (h : fdeAugData m e c f pos = .ok aug) :
    readFdeAug m e c.info g (aug ++ tail) = .ok (expectedLsda c f, tail) := by
  unfold fdeAugData at h
  unfold readFdeAug WCie.info expectedLsda
  simp only
  rw [if_neg (show ¬(m = .debug ∧ f.lsda.isSome ≠ c.lsdaEncoding.isSome) from fun hc => hc.2 hmatch)] at h
  -- by `hmatch` the LSDA and its encoding are there together or not at all
  cases hl : f.lsda with
  | none =>
    cases he : c.lsdaEncoding with
    | some enc => rw [hl, he] at hmatch; cases hmatch
    | none =>
      rw [hl, he] at h
      cases hh : c.hasAugmentation with
      | false =>
        rw [hh] at h
        cases h
        rfl
      | true =>
        rw [hh] at h
        cases h
        simp only [if_true, List.length_nil, List.cons_append, List.nil_append]
        rw [Leb.unsigned_small 0 (by decide)]
        simp only [Out.bind_ok]
        exact congrArg (· >>= _) (Ints.take_prefix [] tail)
  | some l =>
    obtain ⟨v, rfl, hvlt⟩ := hlsda l hl
    cases he : c.lsdaEncoding with
    | none => rw [hl, he] at hmatch; cases hmatch
    | some enc =>
      -- an LSDA encoding alone makes `has_augmentation` true
      have hh : c.hasAugmentation = true := by
        unfold WCie.hasAugmentation
        rw [he, Option.isSome_some, Bool.or_true, Bool.true_or, Bool.true_or]
      rw [hl, he, hh] at h
      rw [hh]
      simp only [if_true] at h ⊢
      obtain ⟨data, hdata, h⟩ := Out.bind_eq_ok h
      cases h
      have hdl := ehPointer_length e _ _ _ _ _ (fun w hw => by
        cases hw
        exact lt_u64_of_sized hs hvlt) hdata
      simp only [List.cons_append]
      rw [Leb.unsigned_small _ (Nat.lt_of_le_of_lt hdl (by decide))]
      simp only [Out.bind_ok]
      rw [Ints.take_prefix]
      simp only [Out.bind_ok]
      rw [hg data rfl]
      have := ehPointer_roundtrip m e (pos + 1) v enc c.addressSize
        { addressSize := c.addressSize, sectionBase := some 0 } data [] hs hvlt rfl rfl hdata
      rw [List.append_nil] at this
      rw [this]
      rfl

end Gimli.WCfi
