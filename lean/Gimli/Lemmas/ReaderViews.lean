import Gimli.Lemmas.ReaderKinds
/-! What a reader shows is the section at its offset (C10 `views_are_views`); offset ids. -/
namespace Gimli.Rd
variable {σ α β : Type}

theorem Cur.bytes_eq_extract (c : Cur) : c.bytes = c.sec.extract c.off (c.off + c.len) := by
  simp [Cur.bytes, List.extract_eq_take_drop]

theorem Cur.bytes_length {c : Cur} (h : c.Inv) : c.bytes.length = c.len := by
  simp only [Cur.bytes, List.length_take, List.length_drop]
  exact Nat.min_eq_left (Nat.le_sub_of_add_le' h)

theorem Cur.bytes_cut (c : Cur) {n : Nat} (hn : n ≤ c.len) :
    ({ c with len := n } : Cur).bytes = c.bytes.take n := by
  simp only [Cur.bytes, List.take_take, Nat.min_eq_left hn]

theorem Cur.bytes_adv (c : Cur) (n : Nat) : (c.adv n).bytes = c.bytes.drop n := by
  simp only [Cur.bytes, Cur.adv, List.drop_take, List.drop_drop]

theorem Slice.conv_congr (valid : Bytes → Bool) (lossy : Bytes → Bytes) {c c' : Cur}
    (h : c'.bytes = c.bytes) :
    Slice.toSlice c = Slice.toSlice c' ∧ Slice.toStr valid c = Slice.toStr valid c' ∧
      Slice.toLossy valid lossy c = Slice.toLossy valid lossy c' := by
  unfold Slice.toSlice Slice.toStr Slice.toLossy
  rw [h]
  exact ⟨rfl, rfl, rfl⟩

theorem position_spec {bs : Bytes} {b : UInt8} {i : Nat} (h : position bs b = some i) :
    ∃ hi : i < bs.length, bs[i] = b ∧ ∀ j (hj : j < i), bs[j]'(by omega) ≠ b := by
  unfold position at h
  obtain ⟨hi, h1, h2⟩ := List.findIdx?_eq_some_iff_getElem.mp h
  exact ⟨hi, by simpa using h1, fun j hj => by simpa using h2 j hj⟩

theorem Slice.readNts_ok {c r c' : Cur} (h : Dflt.readNts sliceCore c = (.ok r, c')) :
    ∃ idx, position c.bytes 0 = some idx ∧ idx + 1 ≤ c.len ∧ r = { c with len := idx } ∧
      c' = { c with off := c.off + idx + 1, len := c.len - idx - 1 } := by
  simp only [Dflt.readNts, sliceCore, Slice.find, Slice.split_eq_checked, Slice.skip_eq_checked] at h
  obtain ⟨idx, _, hfind, h⟩ := M.bind_eq_ok h
  unfold M.liftOut at hfind
  cases hpos : position c.bytes 0 <;> rw [hpos] at hfind <;> cases hfind
  obtain ⟨_, _, hsplit, h⟩ := M.bind_eq_ok h
  obtain ⟨_, _, hskip, h⟩ := M.bind_eq_ok h
  obtain ⟨h1, rfl, rfl⟩ := checked_ok.mp hsplit
  obtain ⟨h2, -, rfl⟩ := checked_ok.mp hskip
  cases h
  simp only [Cur.adv] at h2 ⊢
  exact ⟨idx, rfl, Nat.succ_le_of_lt (Nat.lt_of_sub_pos h2), rfl, by rw [Nat.add_assoc, Nat.sub_sub]⟩

/-- a decoder run through `via` on a window inside the section: the reader returns exactly what the
decoder returns on the window's bytes and continues on exactly the bytes it left -/
theorem via_ok {α : Type} (f : Bytes → Out (α × Bytes)) (adv : Bytes → Err → Nat) (c c' : Cur)
    (v : α) (hinv : c.Inv)
    (hsuffix : ∀ v rest, f c.bytes = .ok (v, rest) → ∃ pre, c.bytes = pre ++ rest)
    (h : Dflt.via sharedCore f adv c = (.ok v, c')) :
    ∃ rest, f c.bytes = .ok (v, rest) ∧ c'.sec = c.sec ∧ c'.bytes = rest ∧
      c'.off = c.off + (c.len - rest.length) ∧ c'.len = rest.length := by
  rw [sharedCore_eq] at h
  unfold Dflt.via at h
  simp only [sliceCore, Slice.toSlice] at h
  cases hf : f c.bytes with
  | ok p =>
    rw [hf] at h; cases h
    obtain ⟨pre, hp⟩ := hsuffix p.1 p.2 hf
    have hl : pre.length + p.2.length = c.len := by rw [← Cur.bytes_length hinv, hp, List.length_append]
    rw [Cur.bytes_length hinv, Slice.skip_eq_checked, checked_le (by omega)]
    refine ⟨p.2, rfl, rfl, ?_, rfl, by show c.len - (c.len - p.2.length) = _; omega⟩
    rw [Cur.bytes_adv, hp, show c.len - p.2.length = pre.length by omega, List.drop_left]
  | _ => rw [hf] at h; cases h

theorem ptrLookup_offsetId {s r : Cur} (h1 : s.off ≤ r.off) (h2 : r.off ≤ s.off + s.len) :
    ptrLookup s (.inSec r.off) = some (r.off - s.off) := by
  simp [ptrLookup, h1, h2]

theorem ptrLookup_some {s : Cur} {id : Addr} {k : Nat} (h : ptrLookup s id = some k) :
    id = .inSec (s.off + k) ∧ k ≤ s.len := by
  unfold ptrLookup at h
  cases id with
  | inSec n =>
    simp only at h
    split at h
    · cases h
      rename_i hh
      exact ⟨congrArg _ (Nat.add_sub_cancel' hh.1).symm, Nat.sub_le_iff_le_add'.mpr hh.2⟩
    · cases h

theorem ptrOffsetFrom_within (m : Mode) {s r : Cur} (h1 : s.off ≤ r.off)
    (h2 : r.off + r.len ≤ s.off + s.len) : ptrOffsetFrom m r s = .ok (r.off - s.off) := by
  cases m <;> simp [ptrOffsetFrom, h1, h2]

theorem ptrOffsetFrom_ofSec (m : Mode) {sec : Bytes} {c : Cur} (h : c.off + c.len ≤ sec.length) :
    ptrOffsetFrom m c (Cur.ofSec sec) = .ok c.off :=
  ptrOffsetFrom_within m (s := Cur.ofSec sec) (Nat.zero_le _) (by simpa [Cur.ofSec] using h)

end Gimli.Rd
