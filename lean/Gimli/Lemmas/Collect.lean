import Gimli.Model.Aranges
import Gimli.Lemmas.Out
/-!
# Iterators driven to the end

The Model runs each iterator (`entries`, `items`, `headers`, `drain`, …) to its first `Ok(None)`
under a cap on the number of `next` calls, each with a loop of its own.  `collect` is that loop over
an arbitrary step function, `yield` what it makes of the outcome of one call (nothing here is about
one section, in spite of the namespace and of `Item`, which the Model declares with aranges); the
lemma files of aranges, pubnames and `.debug_names` prove their Model loops equal to a `collect`
(`*_succ`, `*_eq_collect`), and one induction (`collect_total`) then shows for all of them that the
cap is not reached once it exceeds a measure that every yielded item or error decreases.
-/
namespace Gimli.C17
open Gimli
open Gimli.Aranges (Item)
variable {σ α : Type}

/-- what a drain makes of the outcome of one call of its iterator, `k` draining the state left.
`stop`: an error ends the iteration (the iterator empties its input) -/
def yield (stop : Bool) (k : σ → List (Item α)) : Out (Option α) × σ → List (Item α)
  | (.ok (some a), s') => .item a :: k s'
  | (.ok none, _) => []
  | (.err x, s') => .error x :: if stop then [] else k s'
  | (_, _) => []

def collect (stop : Bool) (step : σ → Out (Option α) × σ) : Nat → σ → List (Item α)
  | 0, _ => []
  | fuel + 1, s => yield stop (collect stop step fuel) (step s)

theorem eq_collect_of_succ (stop : Bool) (step : σ → Out (Option α) × σ) (f : Nat → σ → List (Item α))
    (h0 : ∀ s, f 0 s = []) (hs : ∀ F s, f (F + 1) s = yield stop (f F) (step s)) (F : Nat) (s : σ) :
    f F s = collect stop step F s := by
  induction F generalizing s with
  | zero => exact h0 s
  | succ F ih => rw [hs, collect, funext ih]

/-- An error that ends the iteration need not decrease `μ`; it is counted against `c` instead
(`c = 1` for an iterator that can fail at measure 0). -/
theorem collect_total (stop : Bool) (step : σ → Out (Option α) × σ) (μ : σ → Nat) (c : Nat)
    (hn : ∀ s, (step s).1.Normal)
    (hitem : ∀ s a, (step s).1 = .ok (some a) → μ (step s).2 < μ s)
    (herr : ∀ s x, (step s).1 = .err x → if stop then 0 < μ s + c else μ (step s).2 < μ s)
    (fuel : Nat) (s : σ) (hf : μ s < fuel) :
    collect stop step fuel s = collect stop step (fuel + 1) s ∧
      (collect stop step fuel s).length ≤ μ s + c := by
  induction fuel generalizing s with
  | zero => omega
  | succ f ih =>
    have hn := hn s
    have hitem := hitem s
    have herr := herr s
    rw [collect, collect]
    cases hs : step s with
    | mk r s' =>
      rw [hs] at hn hitem herr
      dsimp only at hn hitem herr
      rcases hn.ok_or_err with ⟨o, rfl⟩ | ⟨x, rfl⟩
      · cases o with
        | some a =>
          have hlt := hitem a rfl
          obtain ⟨h1, h2⟩ := ih s' (by omega)
          exact ⟨congrArg _ h1, Nat.succ_le_of_lt (Nat.lt_of_le_of_lt h2 (Nat.add_lt_add_right hlt c))⟩
        | none => exact ⟨rfl, Nat.zero_le _⟩
      · have hx := herr x rfl
        cases stop with
        | true => exact ⟨rfl, hx⟩
        | false =>
          have hx : μ s' < μ s := hx
          obtain ⟨h1, h2⟩ := ih s' (by omega)
          exact ⟨congrArg _ h1, Nat.succ_le_of_lt (Nat.lt_of_le_of_lt h2 (Nat.add_lt_add_right hx c))⟩

theorem collect_error_last (step : σ → Out (Option α) × σ) (fuel : Nat) (s : σ) (i : Nat) (x : Err)
    (h : (collect true step fuel s)[i]? = some (.error x)) :
    i + 1 = (collect true step fuel s).length := by
  induction fuel generalizing s i with
  | zero => simp [collect] at h
  | succ f ih =>
    rw [collect] at h ⊢
    unfold yield at h ⊢
    split at h
    · cases i with
      | zero => simp at h
      | succ i => exact congrArg (· + 1) (ih _ i h)
    · simp at h
    · cases i with
      | zero => rfl
      | succ i => simp at h
    · simp at h

/-- one iterator step, `before` and `after` the bytes left -/
def StepOk (r : Out (Option α)) (before after : Nat) : Prop :=
  r.Normal ∧ after ≤ before ∧ (r ≠ .ok none → after < before)

theorem collect_total_of_stepOk (step : σ → Out (Option α) × σ) (μ : σ → Nat)
    (h : ∀ s, StepOk (step s).1 (μ s) (μ (step s).2)) (fuel : Nat) (s : σ) (hf : μ s < fuel) :
    collect false step fuel s = collect false step (fuel + 1) s ∧
      (collect false step fuel s).length ≤ μ s :=
  collect_total false step μ 0 (fun s => (h s).1)
    (fun s _ ha => (h s).2.2 fun hn => nomatch ha.symm.trans hn)
    (fun s _ hx => (h s).2.2 fun hn => nomatch hx.symm.trans hn) fuel s hf

/-- one call of an iterator that parses its next item off the input left in its state (`bytes`);
`k` gives the item yielded and the next state -/
def parseStep {β : Type} (bytes : σ → Bytes) (parse : σ → Out β) (k : σ → β → Option α × σ) (s : σ) :
    Out (Option α) × σ :=
  if (bytes s).isEmpty then (.ok none, s)
  else match parse s with
    | .ok b => (.ok (k s b).1, (k s b).2)
    | .err x => (.err x, s)
    | .panic w => (.panic w, s)
    | .diverge => (.diverge, s)

theorem parseStep_total {β : Type} (bytes : σ → Bytes) (parse : σ → Out β) (k : σ → β → Option α × σ)
    (h : ∀ s, (parse s).Ensures fun b => ∀ a, (k s b).1 = some a → (bytes (k s b).2).length < (bytes s).length)
    (fuel : Nat) (s : σ) (hf : (bytes s).length < fuel) :
    collect true (parseStep bytes parse k) fuel s = collect true (parseStep bytes parse k) (fuel + 1) s ∧
      (collect true (parseStep bytes parse k) fuel s).length ≤ (bytes s).length := by
  have key : ∀ s, (parseStep bytes parse k s).1.Normal ∧
      (∀ a, (parseStep bytes parse k s).1 = .ok (some a) →
        (bytes (parseStep bytes parse k s).2).length < (bytes s).length) ∧
      (∀ x, (parseStep bytes parse k s).1 = .err x → 0 < (bytes s).length) := by
    intro s
    unfold parseStep
    split
    · exact ⟨trivial, fun _ h => (nomatch h), fun _ h => (nomatch h)⟩
    · rename_i hne
      have hpos : 0 < (bytes s).length := List.length_pos_iff.mpr fun h => hne (h ▸ rfl)
      rcases (h s).ok_or_err with ⟨b, hp, hc⟩ | ⟨x, hp⟩
      · rw [hp]
        exact ⟨trivial, fun a ha => hc a (Out.ok.inj ha), fun _ h => (nomatch h)⟩
      · rw [hp]
        exact ⟨trivial, fun _ h => (nomatch h), fun _ _ => hpos⟩
  exact collect_total true _ (fun s => (bytes s).length) 0 (fun s => (key s).1) (fun s => (key s).2.1)
    (fun s => (key s).2.2) fuel s hf

/-- one call of a header iterator (`ArangeHeaderIter`, `NameIndexHeaderIter`): the state is the
remaining input and the section offset of the next header -/
def hdrStep {β : Type} (parse : Bytes → Out (β × Bytes)) : Bytes × Nat → Out (Option (Nat × β)) × (Bytes × Nat) :=
  parseStep (·.1) (fun s => parse s.1) fun s (h, rest) => (some (s.2, h), (rest, s.2 + (s.1.length - rest.length)))

theorem hdr_total {β : Type} (parse : Bytes → Out (β × Bytes))
    (h : ∀ input, (parse input).Ensures fun p => p.2.length < input.length)
    (fuel : Nat) (input : Bytes) (off : Nat) (hf : input.length < fuel) :
    collect true (hdrStep parse) fuel (input, off) = collect true (hdrStep parse) (fuel + 1) (input, off) ∧
      (collect true (hdrStep parse) fuel (input, off)).length ≤ input.length ∧
      ∀ i x, (collect true (hdrStep parse) fuel (input, off))[i]? = some (.error x) →
        i + 1 = (collect true (hdrStep parse) fuel (input, off)).length := by
  unfold hdrStep
  refine And.imp_right (fun h2 => ⟨h2, collect_error_last _ _ _⟩) (parseStep_total _ _ _ ?_ fuel (input, off) hf)
  exact fun s => ⟨(h s.1).1, fun p hp _ _ => (h s.1).2 p hp⟩

end Gimli.C17
