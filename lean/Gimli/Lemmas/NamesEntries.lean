import Gimli.Lemmas.LebU16
import Gimli.Lemmas.Names
import Gimli.Lemmas.Package
/-!
# `.debug_names`: abbreviation table and entry pool

The entry parser ends on every byte string, an entry consuming at least its abbreviation code.
On the encodings of abstract entries and abbreviations (`AbsEntry`, `encSeries`, `encAbbrevs`) the
parsers read back what was encoded, each entry at its pool offset, and stop at the terminating 0;
`scanSeries` is what a drained series has to equal.  Last, cell `i` of the offset arrays and unit
lists.
-/
namespace Gimli.Names
open Gimli Gimli.Ints Gimli.C17
open Gimli.Aranges (Item)

theorem readFormValue_ensures (e : Endian) (form : Nat) (bs : Bytes) :
    (readFormValue e form bs).Ensures fun p => p.2.length ≤ bs.length := by
  -- an arm reads one number and returns it, wrapped, with what is left
  have fx : ∀ n, (readFixed e n bs).Ensures fun p => p.2.length ≤ bs.length := fun n =>
    (readFixed_ensures e n bs).mono fun _ t => t.le
  have ul := (Leb.unsigned_ensures bs).mono fun _ h => Nat.le_of_lt h
  exact .ite_cases (fun _ => (fx 1).bind_rest fun _ _ h => .pure h) fun _ => .ite_cases (fun _ => .pure (Nat.le_refl _)) fun _ =>
    .ite_cases (fun _ => (fx 1).bind_rest fun _ _ h => .pure h) fun _ => .ite_cases (fun _ => (fx 2).bind_rest fun _ _ h => .pure h) fun _ =>
    .ite_cases (fun _ => (fx 4).bind_rest fun _ _ h => .pure h) fun _ => .ite_cases (fun _ => (fx 8).bind_rest fun _ _ h => .pure h) fun _ =>
    .ite_cases (fun _ => ul.bind_rest fun _ _ h => .pure h) fun _ => .ite_cases (fun _ => (fx 1).bind_rest fun _ _ h => .pure h) fun _ =>
    .ite_cases (fun _ => (fx 2).bind_rest fun _ _ h => .pure h) fun _ => .ite_cases (fun _ => (fx 4).bind_rest fun _ _ h => .pure h) fun _ =>
    .ite_cases (fun _ => (fx 8).bind_rest fun _ _ h => .pure h) fun _ => .ite_cases (fun _ => ul.bind_rest fun _ _ h => .pure h) fun _ =>
    Out.ensures_err _ _

theorem readAttrs_ensures (e : Endian) (specs : List (Nat × Nat)) (bs : Bytes) :
    (readAttrs e specs bs).Ensures fun p => p.2.length ≤ bs.length := by
  induction specs generalizing bs with
  | nil => exact Out.ensures_ok (Nat.le_refl _)
  | cons sp specs ih =>
    rw [readAttrs]
    refine (readFormValue_ensures e sp.2 bs).bind ?_
    rintro ⟨v, r1⟩ - h1
    refine (ih r1).bind ?_
    rintro ⟨as, r2⟩ - h2
    exact .pure (Nat.le_trans h2 h1)

theorem parseEntry_ensures (e : Endian) (abbrevs : List Abbrev) (off : Nat) (bs : Bytes) :
    (parseEntry e abbrevs off bs).Ensures fun p => ∀ en, p.1 = some en → p.2.length < bs.length := by
  unfold parseEntry
  refine (Leb.unsigned_ensures bs).bind ?_
  rintro ⟨code, r1⟩ - h1
  refine .ite_cases (fun _ => .pure fun _ h => nomatch h) fun _ => ?_
  dsimp only
  split
  · exact Out.ensures_err _ _
  · refine (readAttrs_ensures e _ r1).bind ?_
    rintro ⟨as, r2⟩ - h2
    exact .pure fun _ _ => Nat.lt_of_le_of_lt h2 h1

/-- one call of a `NameEntryIter` on the remaining pool bytes -/
def entryStep (e : Endian) (abbrevs : List Abbrev) (poolLen : Nat) : Bytes → Out (Option Entry) × Bytes :=
  parseStep (fun bs => bs) (fun bs => parseEntry e abbrevs (poolLen - bs.length) bs) fun _ p => p

theorem entrySeries_eq_collect (e : Endian) (abbrevs : List Abbrev) (poolLen fuel : Nat) (bs : Bytes) :
    entrySeries e abbrevs poolLen fuel bs = collect true (entryStep e abbrevs poolLen) fuel bs := by
  induction fuel generalizing bs with
  | zero => rfl
  | succ f ih =>
    rw [entrySeries, collect, entryStep, parseStep]
    split
    · rfl
    · cases parseEntry e abbrevs (poolLen - bs.length) bs with
      | ok p =>
        obtain ⟨o, r⟩ := p
        cases o with
        | some en => exact congrArg _ (ih r)
        | none => rfl
      | err x => rfl
      | panic w => rfl
      | diverge => rfl

theorem entrySeries_total (e : Endian) (abbrevs : List Abbrev) (poolLen fuel : Nat) (bs : Bytes)
    (hf : bs.length < fuel) :
    entrySeries e abbrevs poolLen fuel bs = entrySeries e abbrevs poolLen (fuel + 1) bs ∧
      (entrySeries e abbrevs poolLen fuel bs).length ≤ bs.length := by
  rw [entrySeries_eq_collect, entrySeries_eq_collect]
  exact parseStep_total (fun bs => bs) _ _ (fun bs => parseEntry_ensures e abbrevs _ bs) fuel bs hf

/-! ### the entry pool reads back what was encoded -/

/-- payload bytes of an attribute value `v` in a `DW_FORM` the entry pool may use -/
def encForm (e : Endian) (form v : Nat) : Bytes :=
  if form = 0x0c ∨ form = 0x0b ∨ form = 0x11 then toBytes e 1 v
  else if form = 0x19 then []
  else if form = 0x05 ∨ form = 0x12 then toBytes e 2 v
  else if form = 0x06 ∨ form = 0x13 then toBytes e 4 v
  else if form = 0x07 ∨ form = 0x14 then toBytes e 8 v
  else Leb.encodeU v

def valueOf (form v : Nat) : Value :=
  if form = 0x0c then .flag (v ≠ 0)
  else if form = 0x19 then .flag true
  else if form = 0x0b ∨ form = 0x05 ∨ form = 0x06 ∨ form = 0x07 ∨ form = 0x0f then .unsigned v
  else .offset v

def FormOk (form v : Nat) : Prop :=
  ((form = 0x0c ∨ form = 0x0b ∨ form = 0x11) ∧ v < 2 ^ 8) ∨ form = 0x19 ∨
  ((form = 0x05 ∨ form = 0x12) ∧ v < 2 ^ 16) ∨ ((form = 0x06 ∨ form = 0x13) ∧ v < 2 ^ 32) ∨
  ((form = 0x07 ∨ form = 0x14 ∨ form = 0x0f ∨ form = 0x15) ∧ v < 2 ^ 64)

theorem reads_formValue (e : Endian) (form v : Nat) (h : FormOk form v) :
    Reads (readFormValue e form) (encForm e form v) (valueOf form v) := by
  rcases h with ⟨hf | hf | hf, hv⟩ | hf | ⟨hf | hf, hv⟩ | ⟨hf | hf, hv⟩ | ⟨hf | hf | hf | hf, hv⟩ <;>
    subst hf
  · exact .map (reads_fixed e 1 hv) fun _ => rfl
  · exact .map (reads_fixed e 1 hv) fun _ => rfl
  · exact .map (reads_fixed e 1 hv) fun _ => rfl
  · exact .pure _
  · exact .map (reads_fixed e 2 hv) fun _ => rfl
  · exact .map (reads_fixed e 2 hv) fun _ => rfl
  · exact .map (reads_fixed e 4 hv) fun _ => rfl
  · exact .map (reads_fixed e 4 hv) fun _ => rfl
  · exact .map (reads_fixed e 8 hv) fun _ => rfl
  · exact .map (reads_fixed e 8 hv) fun _ => rfl
  · exact .map (Leb.reads_unsigned hv) fun _ => rfl
  · exact .map (Leb.reads_unsigned hv) fun _ => rfl

/-- an abstract entry: its abbreviation and one value per attribute specification -/
structure AbsEntry where
  ab : Abbrev
  vals : List Nat

def encAttrs (e : Endian) : List (Nat × Nat) → List Nat → Bytes
  | (_, form) :: specs, v :: vs => encForm e form v ++ encAttrs e specs vs
  | _, _ => []

def attrsOf : List (Nat × Nat) → List Nat → List Attr
  | (name, form) :: specs, v :: vs => { name, form, value := valueOf form v } :: attrsOf specs vs
  | _, _ => []

def ValsOk : List (Nat × Nat) → List Nat → Prop
  | [], [] => True
  | (_, form) :: specs, v :: vs => FormOk form v ∧ ValsOk specs vs
  | _, _ => False

def encEntry (e : Endian) (en : AbsEntry) : Bytes :=
  Leb.encodeU en.ab.code ++ encAttrs e en.ab.attrs en.vals

theorem reads_attrs (e : Endian) (specs : List (Nat × Nat)) (vs : List Nat) (h : ValsOk specs vs) :
    Reads (readAttrs e specs) (encAttrs e specs vs) (attrsOf specs vs) := by
  induction specs generalizing vs with
  | nil =>
    cases vs with
    | nil => exact .pure _
    | cons v vs => exact h.elim
  | cons sp specs ih =>
    obtain ⟨name, form⟩ := sp
    cases vs with
    | nil => exact h.elim
    | cons v vs => exact .bind (reads_formValue e form v h.1) <| .map (ih vs h.2) fun _ => rfl

structure AbsEntry.Ok (abbrevs : List Abbrev) (en : AbsEntry) : Prop where
  code_ne : en.ab.code ≠ 0
  code_lt : en.ab.code < 2 ^ 64
  get : getAbbrev abbrevs en.ab.code = some en.ab
  vals : ValsOk en.ab.attrs en.vals

def entryOf (off : Nat) (en : AbsEntry) : Entry :=
  { offset := off, abbrevCode := en.ab.code, tag := en.ab.tag,
    attrs := attrsOf en.ab.attrs en.vals }

theorem reads_entry (e : Endian) (abbrevs : List Abbrev) (en : AbsEntry) (h : en.Ok abbrevs) (off : Nat) :
    Reads (parseEntry e abbrevs off) (encEntry e en) (some (entryOf off en)) :=
  .bind (Leb.reads_unsigned h.code_lt) <| .ite_neg h.code_ne <|
    .congr (.map (reads_attrs e _ _ h.vals) fun _ => rfl) fun _ => by rw [h.get]

theorem parseEntry_zero (e : Endian) (abbrevs : List Abbrev) (off : Nat) (rest : Bytes) :
    parseEntry e abbrevs off (0 :: rest) = .ok (none, rest) := by
  rw [parseEntry, Leb.unsigned_zero, Out.bind_ok]
  rfl

def encSeries (e : Endian) (es : List AbsEntry) : Bytes := es.flatMap (encEntry e)

/-- **exhaustive scan** of a series: every entry, in order, at its pool offset -/
def scanSeries (e : Endian) : Nat → List AbsEntry → List (Item Entry)
  | _, [] => []
  | off, en :: es => .item (entryOf off en) :: scanSeries e (off + (encEntry e en).length) es

theorem encEntry_ne_nil (e : Endian) (en : AbsEntry) : encEntry e en ≠ [] :=
  List.append_ne_nil_of_left_ne_nil (Leb.encodeU_ne_nil _) _

theorem length_le_encSeries (e : Endian) (es : List AbsEntry) : es.length ≤ (encSeries e es).length :=
  length_le_flatMap_length _ es fun en _ => encEntry_ne_nil e en

/-- `off`: the pool offset of the first entry of the series -/
theorem entrySeries_enc (e : Endian) (abbrevs : List Abbrev) (es : List AbsEntry)
    (hes : ∀ en, en ∈ es → en.Ok abbrevs) (post : Bytes) (poolLen fuel off : Nat)
    (hoff : off + (encSeries e es ++ 0 :: post).length = poolLen) (hf : es.length < fuel) :
    entrySeries e abbrevs poolLen fuel (encSeries e es ++ 0 :: post) = scanSeries e off es := by
  induction es generalizing fuel off with
  | nil =>
    cases fuel with
    | zero => exact absurd hf (Nat.lt_irrefl _)
    | succ f =>
      show entrySeries e abbrevs poolLen (f + 1) (0 :: post) = _
      rw [entrySeries, List.isEmpty_cons, if_neg Bool.false_ne_true, parseEntry_zero]
      rfl
  | cons en es ih =>
    cases fuel with
    | zero => exact absurd hf (Nat.not_lt_zero _)
    | succ f =>
      have hsplit : encSeries e (en :: es) ++ 0 :: post = encEntry e en ++ (encSeries e es ++ 0 :: post) := by
        rw [encSeries, List.flatMap_cons, List.append_assoc]; rfl
      rw [hsplit] at hoff ⊢
      have hne : (encEntry e en ++ (encSeries e es ++ 0 :: post)).isEmpty = false :=
        List.isEmpty_eq_false_iff.mpr (List.append_ne_nil_of_left_ne_nil (encEntry_ne_nil e en) _)
      rw [entrySeries, hne, if_neg Bool.false_ne_true, Nat.sub_eq_of_eq_add hoff.symm,
        reads_entry e abbrevs en (hes en List.mem_cons_self) _ _]
      rw [List.length_append, ← Nat.add_assoc] at hoff
      exact congrArg _ (ih (fun en' h' => hes en' (List.mem_cons_of_mem _ h')) f _ hoff (Nat.lt_of_succ_lt_succ hf))

/-! ### abbreviation table -/

def encSpec (p : Nat × Nat) : Bytes := Leb.encodeU p.1 ++ Leb.encodeU p.2
def encSpecs (specs : List (Nat × Nat)) : Bytes := specs.flatMap encSpec ++ [0, 0]
def encAbbrev (a : Abbrev) : Bytes := Leb.encodeU a.code ++ Leb.encodeU a.tag ++ encSpecs a.attrs
def encAbbrevs (abbrevs : List Abbrev) : Bytes := abbrevs.flatMap encAbbrev

structure Abbrev.Ok (a : Abbrev) : Prop where
  code_ne : a.code ≠ 0
  code_lt : a.code < 2 ^ 64
  tag_ne : a.tag ≠ 0
  tag_lt : a.tag < 2 ^ 16
  attrs : ∀ p, p ∈ a.attrs → p.1 ≠ 0 ∧ p.2 ≠ 0 ∧ p.1 < 2 ^ 16 ∧ p.2 < 2 ^ 16

theorem reads_attrSpecs (specs : List (Nat × Nat)) (fuel : Nat)
    (h : ∀ p, p ∈ specs → p.1 ≠ 0 ∧ p.2 ≠ 0 ∧ p.1 < 2 ^ 16 ∧ p.2 < 2 ^ 16) (hf : specs.length < fuel) :
    Reads (parseAttrSpecs fuel) (encSpecs specs) specs := by
  induction specs generalizing fuel with
  | nil =>
    cases fuel with
    | zero => omega
    | succ f =>
      intro rest
      show parseAttrSpecs (f + 1) (0 :: 0 :: rest) = _
      rw [parseAttrSpecs, Leb.u16_zero, Out.bind_ok]
      dsimp only
      rw [Leb.u16_zero, Out.bind_ok]
      rfl
  | cons p specs ih =>
    cases fuel with
    | zero => omega
    | succ f =>
      obtain ⟨hn, hfm, hnl, hfl⟩ := h p List.mem_cons_self
      have hsplit : encSpecs (p :: specs) = Leb.encodeU p.1 ++ (Leb.encodeU p.2 ++ encSpecs specs) := by
        simp only [encSpecs, encSpec, List.flatMap_cons, List.append_assoc]
      rw [hsplit]
      exact .bind (Leb.reads_u16 hnl) <| .bind (Leb.reads_u16 hfl) <| .ite_neg (fun h => hn h.1) <|
        .ite_neg hn <| .ite_neg hfm <|
        .map (ih f (fun q hq => h q (List.mem_cons_of_mem _ hq)) (Nat.lt_of_succ_lt_succ hf)) fun _ => rfl

theorem encSpecs_length (specs : List (Nat × Nat)) : specs.length < (encSpecs specs).length :=
  (List.length_append ▸ Nat.lt_succ_of_le (Nat.le_succ_of_le (length_le_flatMap_length _ specs fun p _ =>
    List.append_ne_nil_of_left_ne_nil (Leb.encodeU_ne_nil p.1) _)) : _ < (specs.flatMap encSpec ++ [0, 0]).length)

theorem parseAbbrevs_abbrev (a : Abbrev) (ha : a.Ok) (f : Nat) (more : Bytes) :
    parseAbbrevs (f + 1) (encAbbrev a ++ more) = parseAbbrevs f more >>= fun rest => pure (a :: rest) := by
  have hsplit : encAbbrev a ++ more = Leb.encodeU a.code ++ (Leb.encodeU a.tag ++ (encSpecs a.attrs ++ more)) := by
    simp only [encAbbrev, List.append_assoc]
  have hne : (Leb.encodeU a.code ++ (Leb.encodeU a.tag ++ (encSpecs a.attrs ++ more))).isEmpty = false :=
    List.isEmpty_eq_false_iff.mpr (List.append_ne_nil_of_left_ne_nil (Leb.encodeU_ne_nil _) _)
  rw [hsplit, parseAbbrevs, hne, if_neg Bool.false_ne_true, Leb.reads_unsigned ha.code_lt _, Out.bind_ok]
  dsimp only
  rw [if_neg ha.code_ne, Leb.reads_u16 ha.tag_lt _, Out.bind_ok]
  dsimp only
  rw [if_neg ha.tag_ne, reads_attrSpecs a.attrs _ ha.attrs (by
      have := encSpecs_length a.attrs
      rw [List.length_append]; omega) _, Out.bind_ok]

/-- the table ends with its bytes or at a 0 code -/
theorem parseAbbrevs_end (f : Nat) (tail : Bytes) (htail : tail = [] ∨ ∃ junk, tail = 0 :: junk) :
    parseAbbrevs (f + 1) tail = .ok [] := by
  rcases htail with rfl | ⟨junk, rfl⟩
  · rfl
  · rw [parseAbbrevs, List.isEmpty_cons, if_neg Bool.false_ne_true, Leb.unsigned_zero]
    rfl

/-! ### unit references -/

theorem offsetAt_normal (e : Endian) (f : Format) (l : Bytes) (i : Nat) : (offsetAt e f l i).Normal :=
  (skipTo_ensures _ _).1.bind fun r _ => (readWord_ensures e f r).1.bind fun _ _ => trivial

theorem foreignTypeUnit_normal (e : Endian) (ix : Index) (i : Nat) : (ix.foreignTypeUnit e i).Normal :=
  (skipTo_ensures _ _).1.bind fun r _ => (readFixed_ensures e 8 r).1.bind fun _ _ => trivial

theorem typeUnit_normal (e : Endian) (ix : Index) (i : Nat) : (ix.typeUnit e i).Normal :=
  .ite ((foreignTypeUnit_normal e ix _).map _) ((offsetAt_normal e _ _ _).map _)

theorem nameEntries_normal (e : Endian) (ix : Index) (i : Nat) : (ix.nameEntries e i).Normal :=
  (offsetAt_normal e _ _ _).bind fun _ _ => (skipTo_ensures _ _).1.bind fun _ _ => trivial

theorem nameEntry_normal (e : Endian) (ix : Index) (off : Nat) : (ix.nameEntry e off).Normal :=
  (skipTo_ensures _ _).1.bind fun r _ =>
    (parseEntry_ensures e ix.abbrevs off r).1.bind fun (en, _) _ => by cases en <;> trivial

theorem offsetAt_table (e : Endian) (f : Format) (vals : List Nat) (i : Nat) (hi : i < vals.length)
    (hb : ∀ v, v ∈ vals → v < 2 ^ (8 * f.wordSize)) :
    offsetAt e f (vals.flatMap fun v => toBytes e f.wordSize v) i = .ok vals[i] := by
  rw [offsetAt, skipTo_cells _ f.wordSize vals (fun a _ => toBytes_length e f.wordSize a) i hi, Out.bind_ok, reads_word e f (pow256 _ ▸ hb _ (List.getElem_mem hi)) _]
  rfl

theorem foreignTypeUnit_table (e : Endian) (ix : Index) (sigs : List Nat) (j : Nat) (hj : j < sigs.length)
    (hl : ix.foreignTuList = sigs.flatMap fun v => toBytes e 8 v) (hb : ∀ v, v ∈ sigs → v < 2 ^ 64) :
    ix.foreignTypeUnit e j = .ok sigs[j] := by
  rw [Index.foreignTypeUnit, hl, skipTo_cells _ 8 sigs (fun a _ => toBytes_length e 8 a) j hj, Out.bind_ok, readFixed_toBytes e 8 _ _ (hb _ (List.getElem_mem hj))]
  rfl

end Gimli.Names
