import Gimli.Lemmas.OpOk
/-! # C07: decoding returns a suffix of its input (the bytes consumed are a prefix), so `OperationIter` makes
progress; after an error it is empty -/
open Gimli Gimli.Op Gimli.Spec.OpTable

def Suf {α} (x : Out (α × Bytes)) (bs : Bytes) : Prop := ∀ a rest, x = .ok (a, rest) → rest <:+ bs

theorem Gimli.ReadsWithin.suf {α} {bs : Bytes} {x : Out (α × Bytes)} {P : α → Prop} (h : ReadsWithin bs x P) : Suf x bs :=
  fun a rest hx => (h.2 (a, rest) hx).2

theorem unsigned_suf (bs : Bytes) : Suf (Leb.unsigned bs) bs := (unsigned_reads bs).suf

theorem decode_suffix (e : Endian) (enc : Encoding) (b : UInt8) (tl : Bytes) (op : Operation) (rest : Bytes)
    (h : decode e enc (b :: tl) = .ok (op, rest)) : rest <:+ tl :=
  (decode_reads e enc b tl).suf op rest h

theorem iterNext_after_error (e : Endian) (enc : Encoding) (input : Bytes) (x : Err)
    (h : (iterNext e enc input).1 = .err x) :
    (iterNext e enc input).2 = [] ∧ (iterNext e enc (iterNext e enc input).2).1 = .ok none := by
  unfold iterNext at h ⊢
  cases input with
  | nil => simp at h
  | cons b tl =>
    simp only [] at h ⊢
    cases hp : parse e enc (b :: tl) with
    | ok p => rw [hp] at h; simp at h
    | err er => exact ⟨rfl, rfl⟩
    | panic w => rw [hp] at h; simp at h
    | diverge => rw [hp] at h; simp at h

theorem iterNext_progress (e : Endian) (enc : Encoding) (input : Bytes) (op : Operation)
    (h : (iterNext e enc input).1 = .ok (some op)) :
    (iterNext e enc input).2.length < input.length := by
  unfold iterNext at h ⊢
  cases input with
  | nil => simp at h
  | cons b tl =>
    simp only [] at h ⊢
    cases hp : parse e enc (b :: tl) with
    | ok p => exact ((parse_reads e enc (b :: tl)).2 p hp).2.1
    | err er => rw [hp] at h; simp at h
    | panic w => rw [hp] at h; simp at h
    | diverge => rw [hp] at h; simp at h

theorem Gimli.Op.iterAll_cons (e : Endian) (enc : Encoding) (len fuel : Nat) (b : UInt8) (tl : Bytes) :
    (∃ op rest, parse e enc (b :: tl) = .ok (op, rest) ∧ rest.length < (b :: tl).length ∧
      iterAll e enc len (fuel + 1) (b :: tl) =
        ((op, len - rest.length) :: (iterAll e enc len fuel rest).1, (iterAll e enc len fuel rest).2)) ∨
    ∃ er, iterAll e enc len (fuel + 1) (b :: tl) = ([], some er) := by
  cases hp : parse e enc (b :: tl) with
  | ok p => exact .inl ⟨p.1, p.2, rfl, ((parse_reads e enc (b :: tl)).2 p hp).2.1, iterAll_ok hp⟩
  | err er => exact .inr ⟨er, by simp only [iterAll, hp]⟩
  | panic w => exact .inr ⟨.other, by simp only [iterAll, hp]⟩
  | diverge => exact .inr ⟨.other, by simp only [iterAll, hp]⟩
