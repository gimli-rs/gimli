import Gimli.Model.WLine
import Gimli.Lemmas.Line
import Gimli.Lemmas.LineEncode
import Gimli.Lemmas.Out
/-! Helper lemmas for C13: what the reader Model (`Gimli.Line`, C04) does with the instructions the
writer Model (`Gimli.WLine`) emits.

`generate_row` splits a line advance and an operation advance over up to three instructions; each
of the first two leaves a remainder pending for the final special opcode, which carries exactly
that. This is proved on the §6.2 state machine (`Spec.Line.step`: `advanceInstrs_runs`), together with
what the reader needs of each step (`Line.Fits`, collected in `Line.Runs`); `Line.runs_trace` then says
what the reader reports. Special opcodes come from the final step only, hence their range.
`add_file` is a key lookup (its two `assert!`s say NUL-free as `val.contains 0`, the C-string lemmas of
`Lemmas/CStr` as `0 ∉ s`: core's `List.contains_iff_mem` converts); the written instruction bytes are
`Spec.Line.encodeInstr`, which C04's decoder round trip reads back. -/
namespace Gimli.WLine
open Gimli Gimli.Line

/-! ## the writer's row encoder, piece by piece -/

/-- the reader's header has the three parameters by which the writer chooses opcodes (`opcode_base` is the constant
`OPCODE_BASE`); the other parameters the converter copies are `ConvLineRows.Agree` -/
def Agrees (h : Params) (e : Enc) : Prop :=
  h.lineBase = e.lineBase ∧ h.lineRange = e.lineRange ∧ h.opcodeBase = 13

/-- `wrapping_sub` on `i64` bit patterns is subtraction of the integers they stand for -/
theorem ofI64_sub (a b : Int) : (Leb.ofI64 a + 2 ^ 64 - Leb.ofI64 b) % 2 ^ 64 = Leb.ofI64 (a - b) := by
  unfold Leb.ofI64
  have hM : (0 : Int) < 2 ^ 64 := by decide
  have ha := Int.emod_nonneg a (Int.ne_of_gt hM)
  have hb := Int.emod_nonneg b (Int.ne_of_gt hM)
  have hb' := Int.emod_lt_of_pos b hM
  apply Int.ofNat_inj.mp
  rw [Int.toNat_of_nonneg (Int.emod_nonneg _ (Int.ne_of_gt hM)), Int.natCast_emod,
    Int.natCast_sub (by omega), Int.natCast_add, Int.toNat_of_nonneg ha, Int.toNat_of_nonneg hb,
    Int.sub_emod a b, show ((2 ^ 64 : Nat) : Int) = 2 ^ 64 from rfl]
  generalize a % 2 ^ 64 = x
  generalize b % 2 ^ 64 = y
  rw [show x + 2 ^ 64 - y = x - y + 2 ^ 64 by omega, Int.add_emod_right]

theorem ofI64_of_nonneg (i : Int) (h0 : 0 ≤ i) (h : i < 2 ^ 64) : Leb.ofI64 i = i.toNat := by
  unfold Leb.ofI64
  rw [Int.emod_eq_of_lt h0 h]

theorem ofI64_of_neg (i : Int) (h0 : i < 0) (h : -(2 ^ 64) ≤ i) : Leb.ofI64 i = (i + 2 ^ 64).toNat := by
  unfold Leb.ofI64
  rw [← Int.add_emod_right, Int.emod_eq_of_lt (by omega) (by omega)]

theorem specialDefault_eq (e : Enc) (h1 : -128 ≤ e.lineBase) (h2 : e.lineBase ≤ 0) :
    specialDefault e = 13 + (-e.lineBase).toNat := by
  have := ofI64_sub 13 e.lineBase
  rw [show Leb.ofI64 13 = 13 from rfl, ofI64_of_nonneg (13 - e.lineBase) (by omega) (by omega)] at this
  unfold specialDefault opcodeBase
  rw [this]
  omega

/-- `linePart`: the pending line increment `pl` that the final special opcode will carry -/
theorem linePart_spec (e : Enc) (la : Int) (h1 : -128 ≤ e.lineBase) (h2 : e.lineBase ≤ 0)
    (hr : 0 < e.lineBase + e.lineRange) (hlr : e.lineRange ≤ 255)
    (hla : -(2 ^ 63 : Int) ≤ la ∧ la < 2 ^ 63) :
    ∃ (pl : Int) (is : List WInstr),
      linePart e la = (13 + (pl - e.lineBase).toNat, decide (pl ≠ 0), is) ∧
      e.lineBase ≤ pl ∧ pl < e.lineBase + e.lineRange ∧ 13 + (pl - e.lineBase).toNat ≤ 255 ∧
      ((pl = la ∧ is = []) ∨ (pl = 0 ∧ is = [.advanceLine la])) := by
  -- the answer when the advance does not go into the special opcode
  have no : ∀ is, (is = [] ∧ la = 0) ∨ is = [.advanceLine la] →
      ∃ (pl : Int) (is' : List WInstr),
        (specialDefault e, false, is) = (13 + (pl - e.lineBase).toNat, decide (pl ≠ 0), is') ∧
        e.lineBase ≤ pl ∧ pl < e.lineBase + e.lineRange ∧ 13 + (pl - e.lineBase).toNat ≤ 255 ∧
        ((pl = la ∧ is' = []) ∨ (pl = 0 ∧ is' = [.advanceLine la])) := by
    intro is his
    refine ⟨0, is, by rw [specialDefault_eq e h1 h2, Int.zero_sub]; rfl, h2, hr, by omega, ?_⟩
    rcases his with ⟨rfl, rfl⟩ | rfl
    · exact Or.inl ⟨rfl, rfl⟩
    · exact Or.inr ⟨rfl, rfl⟩
  unfold linePart
  simp only [ofI64_sub la e.lineBase]
  by_cases hz : la = 0
  · rw [if_neg (by simpa using hz)]
    exact no [] (Or.inl ⟨rfl, hz⟩)
  rw [if_pos hz]
  by_cases hle : e.lineBase ≤ la
  · rw [ofI64_of_nonneg _ (by omega) (by omega)]
    by_cases hin : (la - e.lineBase).toNat < e.lineRange ∧ opcodeBase + (la - e.lineBase).toNat ≤ 255
    · rw [if_pos hin]
      exact ⟨la, [], by rw [decide_eq_true hz]; rfl, hle, by omega, hin.2, Or.inl ⟨rfl, rfl⟩⟩
    · rw [if_neg hin]
      exact no _ (Or.inr rfl)
  · rw [ofI64_of_neg _ (by omega) (by omega), if_neg (by omega)]
    exact no _ (Or.inr rfl)

theorem specialFor_eq (special lr oa : Nat) :
    specialFor special lr oa = if special + oa * lr ≤ 255 then some (special + oa * lr) else none := by
  unfold specialFor
  by_cases h3 : special + oa * lr ≤ 255
  · rw [if_pos (by omega), if_pos (by omega)]
  · rw [if_neg h3]
    split
    · split <;> rfl
    · rfl

theorem subM_ok (m : Mode) (a b : Nat) (h : b ≤ a) : subM m a b = .ok (a - b) := by
  unfold subM; rw [if_pos h]

theorem addM_ok (m : Mode) (a b : Nat) (h : a + b < 2 ^ 64) : addM m a b = .ok (a + b) := by
  unfold addM; rw [if_pos h]

theorem mulM_ok (m : Mode) (a b : Nat) (h : a * b < 2 ^ 64) : mulM m a b = .ok (a * b) := by
  unfold mulM; rw [if_pos h]

/-- `opPart`: `oa = q + po`, where `q` is advanced by the instruction pushed here (if any) and `po`
is left for the final special opcode -/
theorem opPart_spec (m : Mode) (e : Enc) (x : Nat) (us : Bool) (oa : Nat) (hx : x < e.lineRange)
    (hlr : 13 + x ≤ 255) :
    ∃ (q po : Nat) (us' : Bool) (is : List WInstr), oa = q + po ∧
      opPart m e (13 + x) us oa = .ok (13 + x + po * e.lineRange, us', is) ∧
      13 + x + po * e.lineRange ≤ 255 ∧
      ((is = [] ∧ q = 0 ∧ us' = (us || decide (oa ≠ 0))) ∨
       (is = [.constAddPc] ∧ q = 242 / e.lineRange ∧ us' = true) ∨
       (is = [.advancePc oa] ∧ po = 0 ∧ us' = us)) := by
  unfold opPart
  by_cases hz : oa = 0
  · subst hz
    exact ⟨0, 0, us, [], rfl, by simp, by omega, Or.inl ⟨rfl, rfl, by simp⟩⟩
  · simp only [ne_eq, hz, not_false_eq_true, ↓reduceIte, specialFor_eq, opcodeBase]
    by_cases h1 : 13 + x + oa * e.lineRange ≤ 255
    · refine ⟨0, oa, true, [], (Nat.zero_add _).symm, ?_, h1, Or.inl ⟨rfl, rfl, by simp⟩⟩
      simp [h1]
    · have hlr0 : e.lineRange ≠ 0 := by omega
      -- `oa` is beyond the reach of a special opcode, so at least `const_add_pc`'s advance
      have hge : 242 / e.lineRange ≤ oa := by
        apply Classical.byContradiction
        intro hlt
        have h3 : (oa + 1) * e.lineRange ≤ (242 / e.lineRange) * e.lineRange :=
          Nat.mul_le_mul_right _ (by omega)
        have h4 : (242 / e.lineRange) * e.lineRange ≤ 242 := Nat.div_mul_le_self _ _
        rw [Nat.add_mul, Nat.one_mul] at h3
        omega
      simp only [h1, ↓reduceIte, Option.isSome_none, Bool.false_eq_true, hlr0, Nat.reduceSub]
      rw [subM_ok m _ _ hge]
      simp only [Out.bind_ok, Out.pure_eq]
      by_cases h2 : 13 + x + (oa - 242 / e.lineRange) * e.lineRange ≤ 255
      · refine ⟨242 / e.lineRange, oa - 242 / e.lineRange, true, [.constAddPc], by omega, ?_, h2,
          Or.inr (Or.inl ⟨rfl, rfl, rfl⟩)⟩
        simp [h2]
      · refine ⟨oa, 0, us, [.advancePc oa], rfl, ?_, by omega, Or.inr (Or.inr ⟨rfl, rfl, rfl⟩)⟩
        simp [h2]

/-- a special opcode is `opcode_base + (line increment − line_base) + line_range · operation advance`,
the first summand below `line_range`: the reader gets both back -/
theorem special_div_mod (x po lr : Nat) (hx : x < lr) : (x + po * lr) % lr = x ∧ (x + po * lr) / lr = po := by
  rw [Nat.add_mul_mod_self_right, Nat.mod_eq_of_lt hx, Nat.add_mul_div_right _ _ (by omega),
    Nat.div_eq_of_lt hx, Nat.zero_add]
  exact ⟨rfl, rfl⟩

theorem finalPart_eq (m : Mode) (e : Enc) (s : Nat) (us : Bool) (hlo : 13 ≤ s) (hhi : s ≤ 255) :
    finalPart m e s us = .ok (if us = true ∧ s ≠ specialDefault e then .special s else .copy) := by
  unfold finalPart opcodeBase
  split
  · rw [if_neg (by omega), if_neg (by omega), Nat.mod_eq_of_lt (by omega)]
  · rfl

theorem opAdvance_spec (m : Mode) (e : Enc) (prev row : WRow)
    (hmin : 1 ≤ e.minInstLen)
    (hle : prev.addressOffset ≤ row.addressOffset)
    (hal : row.addressOffset % e.minInstLen = 0)
    (hfit : (row.addressOffset - prev.addressOffset) / e.minInstLen * e.maxOps + row.opIndex < 2 ^ 64)
    (hge : prev.opIndex ≤ (row.addressOffset - prev.addressOffset) / e.minInstLen * e.maxOps + row.opIndex) :
    opAdvance m e prev row =
      .ok ((row.addressOffset - prev.addressOffset) / e.minInstLen * e.maxOps + row.opIndex - prev.opIndex) := by
  unfold opAdvance
  have c1 : ¬ (m = Mode.debug ∧ row.addressOffset < prev.addressOffset) := by omega
  -- the division step: exact by `hal`, and `x / 1 = x` when it is skipped
  have hdiv : ∀ (d : Nat) (P Q : Out Nat),
      (if e.minInstLen ≠ 1 then
        if e.minInstLen = 0 then P
        else if m = .debug ∧ row.addressOffset % e.minInstLen ≠ 0 then Q else .ok (d / e.minInstLen)
      else .ok d) = .ok (d / e.minInstLen) := by
    intro d P Q
    by_cases h1 : e.minInstLen = 1
    · rw [if_neg (fun h => h h1), h1, Nat.div_one]
    · rw [if_pos h1, if_neg (by omega), if_neg (fun h => h.2 hal)]
  rw [if_neg c1, subM_ok m _ _ hle]
  simp only [Out.bind_ok]
  rw [hdiv]
  simp only [Out.bind_ok]
  rw [mulM_ok m _ _ (by omega)]
  simp only [Out.bind_ok]
  rw [addM_ok m _ _ hfit]
  simp only [Out.bind_ok]
  rw [subM_ok m _ _ hge]

theorem lineAdvance_spec (m : Mode) (a b : Nat) (ha : a < 2 ^ 63) (hb : b < 2 ^ 63) :
    lineAdvance m a b = .ok ((b : Int) - a) := by
  unfold lineAdvance
  rw [Leb.toI64_of_lt ha, Leb.toI64_of_lt hb]
  simp only
  rw [if_pos (by omega)]

theorem pointer_arith_of_le (mn mx prevOff off prevOp op : Nat) (hmx : 1 ≤ mx)
    (hd1 : prevOff % mn = 0) (hd2 : off % mn = 0) (hle : prevOff ≤ off) (hop : op < mx)
    (hge : prevOp ≤ (off - prevOff) / mn * mx + op) :
    let oa := (off - prevOff) / mn * mx + op - prevOp
    (prevOp + oa) % mx = op ∧ prevOff + mn * ((prevOp + oa) / mx) = off := by
  intro oa
  have hdvd : mn * ((off - prevOff) / mn) = off - prevOff :=
    Nat.mul_div_cancel' (Nat.dvd_sub (Nat.dvd_of_mod_eq_zero hd2) (Nat.dvd_of_mod_eq_zero hd1))
  have hsum : prevOp + oa = op + mx * ((off - prevOff) / mn) := by
    show prevOp + ((off - prevOff) / mn * mx + op - prevOp) = _
    rw [Nat.mul_comm mx]; omega
  rw [hsum, Nat.add_mul_mod_self_left, Nat.mod_eq_of_lt hop, Nat.add_mul_div_left _ _ (by omega),
    Nat.div_eq_of_lt hop, Nat.zero_add, hdvd]
  exact ⟨rfl, by omega⟩

/-- the operation pointer arithmetic: from `(prevOff, prevOp)` to a pointer `(off, op)` that is not
behind it, the operation advance the writer computes does not underflow and lands exactly there -/
theorem pointer_arith (mn mx prevOff off prevOp op : Nat) (hmx : 1 ≤ mx)
    (hd1 : prevOff % mn = 0) (hd2 : off % mn = 0) (hle : prevOff ≤ off) (hop1 : prevOp < mx) (hop : op < mx)
    (hsame : prevOff = off → prevOp ≤ op) :
    let total := (off - prevOff) / mn * mx + op
    prevOp ≤ total ∧ (prevOp + (total - prevOp)) % mx = op ∧ prevOff + mn * ((prevOp + (total - prevOp)) / mx) = off := by
  intro total
  have hge : prevOp ≤ total := by
    by_cases heq : prevOff = off
    · exact Nat.le_trans (hsame heq) (Nat.le_add_left _ _)
    · -- a different address is at least one instruction further: a whole bundle of operations
      have hdvd : mn * ((off - prevOff) / mn) = off - prevOff :=
        Nat.mul_div_cancel' (Nat.dvd_sub (Nat.dvd_of_mod_eq_zero hd2) (Nat.dvd_of_mod_eq_zero hd1))
      have h1 : 1 ≤ (off - prevOff) / mn := by
        apply Classical.byContradiction
        intro h0
        rw [Nat.lt_one_iff.mp (Nat.lt_of_not_le h0), Nat.mul_zero] at hdvd
        omega
      have h2 : mx ≤ (off - prevOff) / mn * mx := Nat.le_mul_of_pos_left _ h1
      show prevOp ≤ (off - prevOff) / mn * mx + op
      omega
  exact ⟨hge, pointer_arith_of_le mn mx prevOff off prevOp op hmx hd1 hd2 hle hop hge⟩

/-! ## the row encoder on the §6.2 machine (`Spec.Line.step`), and what the reader needs of it (`Line.Runs`) -/

section
open Gimli.Spec.Line

/-- `Spec.Line.advance` on a reader row: `toRow (advance h r n) = advBy h (toRow r) n` -/
def advBy (h : Params) (r : Row) (n : Nat) : Row :=
  { r with opIndex := (r.opIndex + n) % h.maxOps,
           address := r.address + h.minInstLen * ((r.opIndex + n) / h.maxOps) }

theorem advBy_tombstone (h : Params) (r : Row) (n : Nat) : (advBy h r n).tombstone = r.tombstone := rfl
theorem advBy_line (h : Params) (r : Row) (n : Nat) : (advBy h r n).line = r.line := rfl

theorem step_special (h : Params) (hob : h.opcodeBase = 13) (r : Regs) (pl : Int) (po : Nat)
    (hlo : h.lineBase ≤ pl) (hhi : pl < h.lineBase + h.lineRange) :
    (13 + (pl - h.lineBase).toNat + po * h.lineRange - h.opcodeBase) / h.lineRange = po ∧
    step h r (.special (13 + (pl - h.lineBase).toNat + po * h.lineRange)) =
      (advance h { r with line := r.line + pl } po, true) := by
  obtain ⟨hmod, hdiv⟩ := special_div_mod (pl - h.lineBase).toNat po h.lineRange (by omega)
  have hadj : 13 + (pl - h.lineBase).toNat + po * h.lineRange - h.opcodeBase =
      (pl - h.lineBase).toNat + po * h.lineRange := by omega
  have hinc : h.lineBase + (((pl - h.lineBase).toNat : Nat) : Int) = pl := by omega
  refine ⟨by rw [hadj, hdiv], ?_⟩
  simp only [step, hadj, hmod, hdiv, hinc]

/-- `finalPart`: the special opcode (or `copy`, when nothing is pending) appends the row with the line moved by the
pending `pl` and the operation pointer by the pending `po` -/
theorem finalPart_runs (m : Mode) (e : Enc) (h : Params) (ha : Agrees h e) (version : Nat) (r : Regs)
    (pl : Int) (po : Nat) (us : Bool)
    (h1 : -128 ≤ e.lineBase) (h2 : e.lineBase ≤ 0) (hr : 0 < e.lineBase + e.lineRange)
    (hlo : e.lineBase ≤ pl) (hhi : pl < e.lineBase + e.lineRange)
    (hle : 13 + (pl - e.lineBase).toNat + po * e.lineRange ≤ 255)
    (hus : us = false → pl = 0 ∧ po = 0) (hidx : r.opIndex < h.maxOps)
    (hl : 0 ≤ r.line ∧ r.line < 2 ^ 64) (hsum : r.opIndex + po < 2 ^ 64)
    (hT : (advance h { r with line := r.line + pl } po).address < 2 ^ (8 * h.addrSize) ∧
      0 ≤ r.line + pl ∧ r.line + pl < 2 ^ 64) :
    ∃ fin, finalPart m e (13 + (pl - e.lineBase).toNat + po * e.lineRange) us = .ok fin ∧
      Runs h r [fin.toInstr version] [advance h { r with line := r.line + pl } po]
        (afterRow h (advance h { r with line := r.line + pl } po)) := by
  obtain ⟨hlb, hlrg, hob⟩ := ha
  refine ⟨_, finalPart_eq m e _ us (by omega) hle, ?_⟩
  split
  · obtain ⟨hdiv, hst⟩ := step_special h hob r pl po (by omega) (by omega)
    rw [hlb, hlrg] at hdiv hst
    refine .row ?_ hst (.nil _)
    show _ ∧ (0 ≤ (step h r _).1.line ∧ (step h r _).1.line < 2 ^ 64) ∧
      r.opIndex + (_ - h.opcodeBase) / h.lineRange < 2 ^ 64 ∧ (step h r _).1.address < 2 ^ (8 * h.addrSize)
    rw [hst, hlrg, hdiv]
    exact ⟨hl, hT.2, hsum, hT.1⟩
  · rename_i hc
    -- `copy`: nothing is pending
    have hz : pl = 0 ∧ po = 0 := by
      cases hu : us with
      | false => exact hus hu
      | true =>
        -- the opcode is the default one: by uniqueness of quotient and remainder nothing is pending
        have heq : (pl - e.lineBase).toNat + po * e.lineRange = (-e.lineBase).toNat := by
          have := Decidable.not_not.mp (fun hne => hc ⟨hu, hne⟩)
          rw [specialDefault_eq e h1 h2] at this
          omega
        obtain ⟨hmod, hdiv⟩ := special_div_mod (pl - e.lineBase).toNat po e.lineRange (by omega)
        have hy : (-e.lineBase).toNat < e.lineRange := by omega
        rw [heq, Nat.mod_eq_of_lt hy] at hmod
        rw [heq, Nat.div_eq_of_lt hy] at hdiv
        exact ⟨by omega, hdiv.symm⟩
    obtain ⟨rfl, rfl⟩ := hz
    rw [Int.add_zero, advance_zero h r hidx]
    exact .row trivial rfl (.nil _)

/-- **The arithmetic core of `generate_row`.** Whatever mix of `advance_line`, `advance_pc`, `const_add_pc`,
special opcode or `copy` is chosen for a line advance `la` and an operation advance `oa`, the machine appends one
row, line moved by `la`, operation pointer moved by `oa`; and if the line register and the operation advance fit
`u64` before and after and the final address the address size, every step in between fits the reader. -/
theorem advanceInstrs_runs (m : Mode) (e : Enc) (h : Params) (ha : Agrees h e) (version : Nat)
    (r : Regs) (la : Int) (oa : Nat)
    (h1 : -128 ≤ e.lineBase) (h2 : e.lineBase ≤ 0) (hr : 0 < e.lineBase + e.lineRange)
    (hlr : e.lineRange ≤ 255) (hla : -(2 ^ 63 : Int) ≤ la ∧ la < 2 ^ 63) (hidx : r.opIndex < h.maxOps)
    (hl : 0 ≤ r.line ∧ r.line < 2 ^ 64) (hsum : r.opIndex + oa < 2 ^ 64)
    (hT : (advance h { r with line := r.line + la } oa).address < 2 ^ (8 * h.addrSize) ∧
      0 ≤ r.line + la ∧ r.line + la < 2 ^ 64) :
    ∃ is, advanceInstrs m e la oa = .ok is ∧
      Runs h r (is.map (WInstr.toInstr version)) [advance h { r with line := r.line + la } oa]
        (afterRow h (advance h { r with line := r.line + la } oa)) := by
  obtain ⟨pl, lis, hL, hlo, hhi, hp255, hlcase⟩ := linePart_spec e la h1 h2 hr hlr hla
  obtain ⟨q, po, us', ois, rfl, hO, hle, hocase⟩ :=
    opPart_spec m e (pl - e.lineBase).toNat (decide (pl ≠ 0)) oa (by omega) hp255
  obtain ⟨_, hlrg, hob⟩ := id ha
  have hmax : 0 < h.maxOps := Nat.zero_lt_of_lt hidx
  -- the line instruction leaves `pl` of `la` pending: the line register is the old one or already the new one
  have hl1 : 0 ≤ r.line + (la - pl) ∧ r.line + (la - pl) < 2 ^ 64 := by
    rcases hlcase with ⟨rfl, _⟩ | ⟨rfl, _⟩ <;> omega
  have runL : Runs h r (lis.map (WInstr.toInstr version)) [] { r with line := r.line + (la - pl) } := by
    rcases hlcase with ⟨rfl, rfl⟩ | ⟨rfl, rfl⟩
    · rw [Int.sub_self, Int.add_zero]; exact .nil r
    · rw [Int.sub_zero] at hl1 ⊢; exact .quiet ⟨hl, hl1⟩ rfl (.nil _)
  -- the operation-pointer instruction leaves `po` of `q + po` pending: the address is not beyond the final one
  have haddr : (advance h { r with line := r.line + (la - pl) } q).address < 2 ^ (8 * h.addrSize) :=
    Nat.lt_of_le_of_lt (advance_address_mono h _ q (q + po) (Nat.le_add_right _ _)) hT.1
  have runO : Runs h { r with line := r.line + (la - pl) } (ois.map (WInstr.toInstr version)) []
      (advance h { r with line := r.line + (la - pl) } q) := by
    rcases hocase with ⟨rfl, rfl, _⟩ | ⟨rfl, rfl, _⟩ | ⟨rfl, rfl, _⟩
    · rw [advance_zero h { r with line := r.line + (la - pl) } hidx]; exact .nil _
    · refine .quiet ?_ (by simp only [WInstr.toInstr, step, hob, hlrg]) (.nil _)
      show r.opIndex + (255 - h.opcodeBase) / h.lineRange < 2 ^ 64 ∧ _
      rw [hob, hlrg]
      exact ⟨Nat.lt_of_le_of_lt (Nat.add_le_add_left (Nat.le_add_right _ _) _) hsum, haddr⟩
    · exact .quiet ⟨hsum, haddr⟩ rfl (.nil _)
  have hus : us' = false → pl = 0 ∧ po = 0 := by
    intro hu
    rcases hocase with ⟨_, rfl, hu'⟩ | ⟨_, _, hu'⟩ | ⟨_, rfl, hu'⟩ <;> rw [hu] at hu'
    · simp only [Nat.zero_add, ne_eq, Bool.false_eq, Bool.or_eq_false_iff, decide_eq_false_iff_not,
        Decidable.not_not] at hu'
      exact hu'
    · cases hu'
    · exact ⟨by simpa using hu'.symm, rfl⟩
  have hrow : advance h { advance h { r with line := r.line + (la - pl) } q with
        line := (advance h { r with line := r.line + (la - pl) } q).line + pl } po =
      advance h { r with line := r.line + la } (q + po) := by
    show advance h (advance h { r with line := r.line + (la - pl) + pl } q) po = _
    rw [advance_advance h _ q po hmax, Int.add_assoc, Int.sub_add_cancel]
  obtain ⟨fin, hF, runF⟩ := finalPart_runs m e h ha version (advance h { r with line := r.line + (la - pl) } q) pl po us'
    h1 h2 hr hlo hhi hle hus (Nat.mod_lt _ hmax) hl1
    (Nat.lt_of_le_of_lt (Nat.add_le_add_right (Nat.mod_le _ _) _) (Nat.add_assoc _ _ _ ▸ hsum))
    (by rw [hrow]; exact ⟨hT.1, by
      show 0 ≤ r.line + (la - pl) + pl ∧ r.line + (la - pl) + pl < 2 ^ 64
      rw [Int.add_assoc, Int.sub_add_cancel]; exact hT.2⟩)
  rw [hrow] at runF
  refine ⟨lis ++ ois ++ [fin], ?_, ?_⟩
  · unfold advanceInstrs
    rw [hL]
    simp only [hO, hF, Out.bind_ok, Out.pure_eq]
  · rw [List.map_append, List.map_append]
    exact runs_append (runs_append runL runO) runF

/-- the operation advance the writer computes from `prev` to a pointer `row` not behind it lands a machine that
stands at `prev` (addresses relative to `base`) exactly on `row`'s pointer -/
theorem opAdvance_lands (m : Mode) (e : Enc) (h : Params) (base : Nat) (prev row : WRow) (r : Regs)
    (hmn : h.minInstLen = e.minInstLen) (hmx : h.maxOps = e.maxOps)
    (hra : r.address = base + prev.addressOffset) (hro : r.opIndex = prev.opIndex)
    (hmin : 1 ≤ e.minInstLen) (hmax : 1 ≤ e.maxOps)
    (hal1 : prev.addressOffset % e.minInstLen = 0) (hal2 : row.addressOffset % e.minInstLen = 0)
    (hop1 : prev.opIndex < e.maxOps) (hop2 : row.opIndex < e.maxOps)
    (hle : prev.addressOffset ≤ row.addressOffset)
    (hsame : prev.addressOffset = row.addressOffset → prev.opIndex ≤ row.opIndex)
    (hfit : (row.addressOffset - prev.addressOffset) / e.minInstLen * e.maxOps + row.opIndex < 2 ^ 64) :
    ∃ oa, opAdvance m e prev row = .ok oa ∧ r.opIndex + oa < 2 ^ 64 ∧
      advance h r oa = { r with address := base + row.addressOffset, opIndex := row.opIndex } := by
  obtain ⟨hge, hptr1, hptr2⟩ := pointer_arith e.minInstLen e.maxOps prev.addressOffset row.addressOffset
    prev.opIndex row.opIndex hmax hal1 hal2 hle hop1 hop2 hsame
  refine ⟨_, opAdvance_spec m e prev row hmin hle hal2 hfit hge, by rw [hro]; omega, ?_⟩
  unfold advance
  rw [hmn, hmx, hro, hra, hptr1, Nat.add_assoc, hptr2]

end

theorem cleared_cleared (r : WRow) : r.cleared.cleared = r.cleared := rfl

theorem Prog.generateRow_eq_ok {m : Mode} {p : Prog} {is : List WInstr} {row : WRow}
    (h : WLine.generateRow m p.enc p.prevRow p.row = .ok (is, row)) :
    p.generateRow m = .ok { p with inSequence := true, instrs := p.instrs ++ is, prevRow := row, row := row } := by
  unfold Prog.generateRow
  rw [h]
  rfl

theorem Prog.endSequence_ok {m : Mode} {p p' : Prog} {off : Nat} :
    p.endSequence m off = .ok p' ↔ ∃ is, WLine.endSequence m p.enc p.prevRow p.row off = .ok is ∧
      p' = { p with inSequence := false, instrs := p.instrs ++ is,
                    prevRow := WRow.initial p.enc, row := WRow.initial p.enc } := by
  unfold Prog.endSequence
  constructor
  · intro h
    obtain ⟨is, hes, h⟩ := Out.bind_eq_ok h
    cases h
    exact ⟨is, hes, rfl⟩
  · rintro ⟨is, hes, rfl⟩
    rw [hes]
    rfl

/-! ## special opcodes come from the final step only -/

theorem not_mem_optional {c : Prop} [Decidable c] {i x : WInstr} (h : x ≠ i) : x ∉ (if c then [i] else []) := by
  split
  · exact fun hm => h (List.mem_singleton.mp hm)
  · exact List.not_mem_nil

theorem linePart_noSpecial (e : Enc) (la : Int) (op : Nat) : WInstr.special op ∉ (linePart e la).2.2 := by
  unfold linePart
  dsimp only
  split
  · split
    · exact List.not_mem_nil
    · exact fun hm => nomatch List.mem_singleton.mp hm
  · exact List.not_mem_nil

theorem opPart_noSpecial (m : Mode) (e : Enc) (s : Nat) (us : Bool) (oa : Nat) (s' : Nat) (us' : Bool)
    (is : List WInstr) (h : opPart m e s us oa = .ok (s', us', is)) (op : Nat) :
    WInstr.special op ∉ is := by
  unfold opPart at h
  split at h
  · obtain ⟨⟨sop, cap⟩, _, h⟩ := Out.bind_eq_ok h
    dsimp only at h
    split at h <;> cases h
    · exact not_mem_optional nofun
    · exact fun hm => nomatch List.mem_singleton.mp hm
  · cases h
    exact List.not_mem_nil

theorem resetFieldInstrs_noSpecial (row : WRow) (op : Nat) : WInstr.special op ∉ resetFieldInstrs row := by
  simp only [resetFieldInstrs, List.mem_append, not_or]
  exact ⟨⟨⟨not_mem_optional nofun, not_mem_optional nofun⟩, not_mem_optional nofun⟩, not_mem_optional nofun⟩

theorem stickyFieldInstrs_noSpecial (prev row : WRow) (op : Nat) :
    WInstr.special op ∉ stickyFieldInstrs prev row := by
  simp only [stickyFieldInstrs, List.mem_append, not_or]
  exact ⟨⟨⟨not_mem_optional nofun, not_mem_optional nofun⟩, not_mem_optional nofun⟩, not_mem_optional nofun⟩

theorem advanceInstrs_special_mem (m : Mode) (e : Enc) (la : Int) (oa : Nat) (is : List WInstr)
    (h : advanceInstrs m e la oa = .ok is) (op : Nat) (hm : WInstr.special op ∈ is) :
    ∃ s us ois, finalPart m e s us = .ok (.special op) ∧
      opPart m e (linePart e la).1 (linePart e la).2.1 oa = .ok (s, us, ois) := by
  unfold advanceInstrs at h
  obtain ⟨⟨s, us, ois⟩, hO, h⟩ := Out.bind_eq_ok h
  obtain ⟨fin, hF, h⟩ := Out.bind_eq_ok h
  cases h
  simp only [List.append_assoc, List.mem_append, List.mem_singleton] at hm
  rcases hm with hm | hm | rfl
  · exact absurd hm (linePart_noSpecial e la op)
  · exact absurd hm (opPart_noSpecial m e _ _ oa s us ois hO op)
  · exact ⟨s, us, ois, hF, hO⟩

theorem generateRow_special_mem (m : Mode) (e : Enc) (prev row : WRow) (is : List WInstr) (row' : WRow)
    (h : generateRow m e prev row = .ok (is, row')) (op : Nat) (hm : WInstr.special op ∈ is) :
    ∃ la oa ais, lineAdvance m prev.line row.line = .ok la ∧ advanceInstrs m e la oa = .ok ais ∧
      WInstr.special op ∈ ais := by
  unfold generateRow at h
  obtain ⟨la, hla, h⟩ := Out.bind_eq_ok h
  obtain ⟨oa, _, h⟩ := Out.bind_eq_ok h
  obtain ⟨ais, hadv, h⟩ := Out.bind_eq_ok h
  cases h
  simp only [List.mem_append] at hm
  rcases hm with (hm | hm) | hm
  · exact absurd hm (resetFieldInstrs_noSpecial row op)
  · exact absurd hm (stickyFieldInstrs_noSpecial prev row op)
  · exact ⟨la, oa, ais, hla, hadv, hm⟩

/-- the special opcode `finalPart` pushes is `special as u8`; in debug builds the two `debug_assert!`s
have checked that nothing is truncated -/
theorem finalPart_special (m : Mode) (e : Enc) (s : Nat) (us : Bool) (op : Nat)
    (h : finalPart m e s us = .ok (.special op)) :
    op = s % 256 ∧ (m = .debug → opcodeBase ≤ s ∧ s ≤ 255) := by
  unfold finalPart at h
  split at h
  · split at h
    · cases h
    · split at h
      · cases h
      · rename_i h1 h2
        cases h
        exact ⟨rfl, fun hm => ⟨Nat.le_of_not_lt fun hlt => h1 ⟨hm, hlt⟩, Nat.le_of_not_lt fun hgt => h2 ⟨hm, hgt⟩⟩⟩
  · cases h

theorem finalPart_debug_range (e : Enc) (s : Nat) (us : Bool) (op : Nat)
    (h : finalPart .debug e s us = .ok (.special op)) : 13 ≤ op ∧ op ≤ 255 := by
  obtain ⟨rfl, hb⟩ := finalPart_special _ _ _ _ _ h
  obtain ⟨h1, h2⟩ := hb rfl
  rw [Nat.mod_eq_of_lt (by omega)]
  exact ⟨h1, h2⟩

theorem lineAdvance_range (m : Mode) (a b : Nat) (la : Int) (h : lineAdvance m a b = .ok la) :
    -(2 ^ 63 : Int) ≤ la ∧ la < 2 ^ 63 := by
  unfold lineAdvance at h
  simp only at h
  split at h
  · simp only [Out.ok.injEq] at h; subst h; assumption
  · cases m with
    | debug => cases h
    | release =>
      simp only [Out.ok.injEq] at h
      subst h
      unfold wrapI64
      omega

/-- with any `LineEncoding` that `new` accepts, in any build mode, the special opcode pushed is in
13..255 -/
theorem advanceInstrs_special_range (m : Mode) (e : Enc) (la : Int) (oa : Nat) (is : List WInstr)
    (h1 : -128 ≤ e.lineBase) (h2 : e.lineBase ≤ 0) (hr : 0 < e.lineBase + e.lineRange)
    (hlr : e.lineRange ≤ 255) (hla : -(2 ^ 63 : Int) ≤ la ∧ la < 2 ^ 63)
    (h : advanceInstrs m e la oa = .ok is) (op : Nat) (hm : WInstr.special op ∈ is) :
    13 ≤ op ∧ op ≤ 255 := by
  obtain ⟨pl, lis, hL, hlo, hhi, hp255, _⟩ := linePart_spec e la h1 h2 hr hlr hla
  obtain ⟨q, po, us', ois, _, hO, hle, _⟩ :=
    opPart_spec m e (pl - e.lineBase).toNat (decide (pl ≠ 0)) oa (by omega) hp255
  obtain ⟨s, us, ois', hF, hO'⟩ := advanceInstrs_special_mem m e la oa is h op hm
  rw [hL, hO] at hO'
  cases hO'
  obtain ⟨rfl, _⟩ := finalPart_special _ _ _ _ _ hF
  rw [Nat.mod_eq_of_lt (by omega)]
  omega

/-! ## file and directory tables -/

/-- the Model's `findIdx?` is the library's, so its lemmas apply -/
theorem findIdx?_eq {α : Type} (p : α → Bool) (xs : List α) : findIdx? p xs = xs.findIdx? p := by
  induction xs with
  | nil => rfl
  | cons x xs ih => rw [findIdx?, List.findIdx?_cons, ih]

theorem findIdx?_some {α : Type} (p : α → Bool) : ∀ (xs : List α) (i : Nat), findIdx? p xs = some i →
    ∃ x, xs[i]? = some x ∧ p x = true ∧ ∀ j y, j < i → xs[j]? = some y → p y = false := by
  intro xs i h
  rw [findIdx?_eq] at h
  obtain ⟨hi, hp, hmin⟩ := List.findIdx?_eq_some_iff_getElem.mp h
  refine ⟨xs[i], List.getElem?_eq_getElem hi, hp, fun j y hj hy => ?_⟩
  obtain ⟨hjl, rfl⟩ := List.getElem?_eq_some_iff.mp hy
  exact Bool.eq_false_iff.mpr (hmin j hj)

theorem findIdx?_none {α : Type} (p : α → Bool) : ∀ (xs : List α), findIdx? p xs = none →
    ∀ x ∈ xs, p x = false := by
  intro xs h
  rw [findIdx?_eq] at h
  exact List.findIdx?_eq_none_iff.mp h

theorem findIdx?_append_new {α : Type} (p : α → Bool) : ∀ (xs : List α) (y : α), findIdx? p xs = none →
    p y = true → findIdx? p (xs ++ [y]) = some xs.length := by
  intro xs y h hy
  rw [findIdx?_eq] at h ⊢
  rw [List.findIdx?_append, h, List.findIdx?_cons, if_pos hy]
  simp

theorem findIdx?_append_old {α : Type} (p : α → Bool) : ∀ (xs ys : List α) (i : Nat),
    findIdx? p xs = some i → findIdx? p (xs ++ ys) = some i := by
  intro xs ys i h
  rw [findIdx?_eq] at h ⊢
  rw [List.findIdx?_append, h]
  rfl

theorem setInfo_eq (fs : List FileEnt) : ∀ (i : Nat) (info : FileInfo),
    setInfo fs i info = fs.modify i (fun f => { f with info := info }) := by
  induction fs with
  | nil => intro i info; simp [setInfo]
  | cons f fs ih =>
    intro i info
    cases i with
    | zero => rfl
    | succ i => rw [setInfo, ih i info]; rfl

theorem setInfo_get (fs : List FileEnt) : ∀ (i : Nat) (info : FileInfo) (j : Nat),
    (setInfo fs i info)[j]? = (fs[j]?).map (fun f => if j = i then { f with info := info } else f) := by
  intro i info j
  rw [setInfo_eq, List.getElem?_modify]
  simp only [eq_comm (a := i)]
  rfl

theorem setInfo_length (fs : List FileEnt) : ∀ (i : Nat) (info : FileInfo),
    (setInfo fs i info).length = fs.length := by
  intro i info
  rw [setInfo_eq, List.length_modify]

/-- the `IndexMap` key test of `add_file` -/
def fkey (name : LineStr) (dir : Nat) : FileEnt → Bool := fun f => f.name == name && f.dir == dir

theorem fkey_iff (name : LineStr) (dir : Nat) (f : FileEnt) :
    fkey name dir f = true ↔ f.name = name ∧ f.dir = dir := by
  simp [fkey]

theorem findIdx?_setInfo (n : LineStr) (d : Nat) (fs : List FileEnt) : ∀ (i : Nat) (info : FileInfo),
    findIdx? (fkey n d) (setInfo fs i info) = findIdx? (fkey n d) fs := by
  induction fs with
  | nil => intro i info; simp [setInfo]
  | cons f fs ih =>
    intro i info
    cases i with
    | zero => simp [setInfo, findIdx?, fkey]
    | succ i => simp [setInfo, findIdx?, ih i info]

/-- the files after `add_file` found the key at `i` -/
def updInfo (fs : List FileEnt) (i : Nat) : Option FileInfo → List FileEnt
  | some x => setInfo fs i x
  | none => fs

/-- `add_file` returns exactly when its two `assert!`s pass; the key is then found at `i` (and the
info, if one is given, replaced) or appended as entry `i` -/
theorem addFile_ok {p : Prog} {name : LineStr} {dir : Nat} {info : Option FileInfo} {p1 : Prog} {i : Nat} :
    addFile p name dir info = .ok (p1, i) ↔
      ¬ (name.form = .string ∧ p.enc.version ≤ 4 ∧ name.val.isEmpty) ∧
      ¬ (name.form = .string ∧ name.val.contains 0) ∧
      ((findIdx? (fkey name dir) p.files = some i ∧ p1 = { p with files := updInfo p.files i info }) ∨
       (findIdx? (fkey name dir) p.files = none ∧ i = p.files.length ∧
        p1 = { p with files := p.files ++ [{ name, dir, info := info.getD FileInfo.default }] })) := by
  unfold addFile
  by_cases c1 : name.form = .string ∧ p.enc.version ≤ 4 ∧ name.val.isEmpty
  · rw [if_pos c1]; exact ⟨nofun, fun h => absurd c1 h.1⟩
  by_cases c2 : name.form = .string ∧ name.val.contains 0
  · rw [if_neg c1, if_pos c2]; exact ⟨nofun, fun h => absurd c2 h.2.1⟩
  rw [if_neg c1, if_neg c2]
  refine Iff.trans ?_ (and_iff_right c1).symm
  refine Iff.trans ?_ (and_iff_right c2).symm
  rw [show findIdx? (fun f : FileEnt => f.name == name && f.dir == dir) p.files = findIdx? (fkey name dir) p.files
    from rfl]
  cases hf : findIdx? (fkey name dir) p.files with
  | some k =>
    constructor
    · intro h
      exact Or.inl (by cases info <;> cases h <;> exact ⟨rfl, rfl⟩)
    · rintro (⟨hk, rfl⟩ | ⟨hk, _⟩)
      · cases hk; cases info <;> rfl
      · cases hk
  | none =>
    constructor
    · intro h; cases h; exact Or.inr ⟨rfl, rfl, rfl⟩
    · rintro (⟨hk, _⟩ | ⟨_, rfl, rfl⟩)
      · cases hk
      · rfl

theorem addFile_find (p : Prog) (name : LineStr) (dir : Nat) (info : Option FileInfo) (p1 : Prog) (i : Nat)
    (h : addFile p name dir info = .ok (p1, i)) : findIdx? (fkey name dir) p1.files = some i := by
  rcases (addFile_ok.mp h).2.2 with ⟨hf, hp⟩ | ⟨hf, hi, hp⟩
  · subst hp
    cases info with
    | some x => simp only [updInfo]; rw [findIdx?_setInfo]; exact hf
    | none => exact hf
  · subst hp hi
    exact findIdx?_append_new _ _ _ hf (by simp [fkey])

theorem addFile_preserves (p : Prog) (name : LineStr) (dir : Nat) (info : Option FileInfo) (p1 : Prog) (i : Nat)
    (h : addFile p name dir info = .ok (p1, i)) (j : Nat) (f : FileEnt) (hj : p.files[j]? = some f) :
    ∃ f', p1.files[j]? = some f' ∧ f'.name = f.name ∧ f'.dir = f.dir ∧ (j ≠ i → f' = f) := by
  rcases (addFile_ok.mp h).2.2 with ⟨_, hp⟩ | ⟨_, _, hp⟩
  · subst hp
    cases info with
    | some x =>
      simp only [updInfo, setInfo_get, hj, Option.map_some]
      by_cases hji : j = i
      · exact ⟨_, rfl, by simp [hji], by simp [hji], fun hne => absurd hji hne⟩
      · exact ⟨_, rfl, by simp [hji], by simp [hji], fun _ => by simp [hji]⟩
    | none => exact ⟨f, hj, rfl, rfl, fun _ => rfl⟩
  · subst hp
    have hlt : j < p.files.length := by
      rcases Nat.lt_or_ge j p.files.length with h | h
      · exact h
      · rw [List.getElem?_eq_none h] at hj; cases hj
    exact ⟨f, by simp only; rw [List.getElem?_append_left hlt]; exact hj, rfl, rfl, fun _ => rfl⟩

/-- `add_file` returns the id of the key: the entry is there, earlier ids keep their key, the same key again gets
the same id -/
theorem addFile_stable (p p1 : Prog) (name : LineStr) (dir : Nat) (info : Option FileInfo) (i : Nat)
    (h : addFile p name dir info = .ok (p1, i)) :
    (∃ f, p1.files[i]? = some f ∧ f.name = name ∧ f.dir = dir ∧ ∀ x, info = some x → f.info = x) ∧
    (∀ j f, p.files[j]? = some f →
      ∃ f', p1.files[j]? = some f' ∧ f'.name = f.name ∧ f'.dir = f.dir ∧ (j ≠ i → f' = f)) ∧
    (∀ info', ∃ p2, addFile p1 name dir info' = .ok (p2, i) ∧ p2.files.length = p1.files.length) := by
  have hfind := addFile_find p name dir info p1 i h
  refine ⟨?_, fun j f hj => addFile_preserves p name dir info p1 i h j f hj, ?_⟩
  · obtain ⟨f, hf, hk, _⟩ := findIdx?_some _ _ _ hfind
    rw [fkey_iff] at hk
    refine ⟨f, hf, hk.1, hk.2, ?_⟩
    intro x hx
    subst hx
    rcases (addFile_ok.mp h).2.2 with ⟨_, hp⟩ | ⟨_, hi, hp⟩
    · subst hp
      simp only [updInfo, setInfo_get] at hf
      cases hq : p.files[i]? with
      | none => simp [hq] at hf
      | some g => simp [hq] at hf; rw [← hf]
    · subst hp hi
      simp at hf
      rw [← hf]
  · intro info'
    -- the asserts passed for this name once, they pass again; the key is found at the returned id
    obtain ⟨c1, c2, hcase⟩ := addFile_ok.mp h
    have henc : p1.enc = p.enc := by rcases hcase with ⟨_, rfl⟩ | ⟨_, _, rfl⟩ <;> rfl
    refine ⟨_, addFile_ok.mpr ⟨by rw [henc]; exact c1, c2, Or.inl ⟨hfind, rfl⟩⟩, ?_⟩
    cases info' with
    | some x => exact setInfo_length _ _ _
    | none => rfl

/-! ## instruction bytes -/

/-- the header parameters under which written instructions are parsed back -/
def WriterHeader (h : Params) : Prop :=
  h.opcodeBase = 13 ∧ (h.addrSize = 1 ∨ h.addrSize = 2 ∨ h.addrSize = 4 ∨ h.addrSize = 8)

/-- operands that fit the writer's own field types (`u8`, `u64`, `i64`, a constant address) -/
def WInstr.Encodable (version : Nat) : WInstr → Prop
  | .special op => 13 ≤ op ∧ op ≤ 255
  | .advancePc n => n < 2 ^ 64
  | .advanceLine i => -(2 ^ 63 : Int) ≤ i ∧ i < 2 ^ 63
  | .setFile index => fileRaw version index < 2 ^ 64
  | .setColumn n => n < 2 ^ 64
  | .setIsa n => n < 2 ^ 64
  | .setDiscriminator n => n < 2 ^ 64
  | .setAddress (some a) => a < 2 ^ 64
  | _ => True

/-- what `LineInstruction::write` emits is the §6.2.5 encoding (`Spec.Line.encodeInstr`) of the
instruction, and an instruction that fits the writer's field types is one the decoder accepts -/
theorem writeInstr_encode (h : Params) (hh : WriterHeader h) (i : WInstr) (henc : i.Encodable h.version)
    (bs : Bytes) (hw : writeInstr h.endian h.version h.addrSize i = .ok bs) :
    bs = Spec.Line.encodeInstr h (i.toInstr h.version) ∧ Spec.Line.EncOk h (i.toInstr h.version) := by
  have hob : ∀ k, k < 13 → k < h.opcodeBase := fun k hk => by rw [hh.1]; exact hk
  cases i with
  | setAddress a =>
    cases a with
    | none => cases hw
    | some a =>
      obtain ⟨ab, hu, hw⟩ := Out.bind_eq_ok hw
      cases hw
      refine ⟨?_, Ints.writeUdata_fits hu henc⟩
      show _ = Spec.Line.encodeExt 2 (Ints.toBytes h.endian h.addrSize a)
      rw [Spec.Line.encodeExt, ← (Ints.writeUdata_ok hu).1, Ints.writeUdata_length hu, Nat.add_comm]
      rfl
  | setDiscriminator n =>
    cases hw
    refine ⟨?_, henc⟩
    show _ = Spec.Line.encodeExt 4 (Leb.encodeU n)
    rw [Spec.Line.encodeExt, Nat.add_comm]
    rfl
  | endSequence => cases hw; exact ⟨rfl, trivial⟩
  | special op =>
    cases hw
    exact ⟨rfl, by show h.opcodeBase ≤ op ∧ op ≤ 255; rw [hh.1]; exact henc⟩
  | copy | negateStatement | setBasicBlock | constAddPc | setPrologueEnd | setEpilogueBegin =>
    cases hw
    exact ⟨rfl, hob _ (by decide)⟩
  | advancePc n | setColumn n | setIsa n | setFile index | advanceLine v =>
    cases hw
    exact ⟨rfl, hob _ (by decide), henc⟩

theorem writeInstrs_encode (h : Params) (hh : WriterHeader h) (is : List WInstr)
    (henc : ∀ i ∈ is, i.Encodable h.version) :
    ∀ (bs : Bytes), writeInstrs h.endian h.version h.addrSize is = .ok bs →
      bs = Spec.Line.encodeProg h (is.map (WInstr.toInstr h.version)) ∧
      ∀ j ∈ is.map (WInstr.toInstr h.version), Spec.Line.EncOk h j := by
  induction is with
  | nil => intro bs hw; cases hw; exact ⟨rfl, fun _ hj => absurd hj List.not_mem_nil⟩
  | cons i is ih =>
    intro bs hw
    rw [writeInstrs] at hw
    obtain ⟨b, hb, hw⟩ := Out.bind_eq_ok hw
    obtain ⟨bs', hbs, hw⟩ := Out.bind_eq_ok hw
    cases hw
    obtain ⟨e1, hok⟩ := writeInstr_encode h hh i (henc i List.mem_cons_self) b hb
    obtain ⟨e2, hoks⟩ := ih (fun j hj => henc j (List.mem_cons_of_mem _ hj)) bs' hbs
    rw [List.map_cons, Spec.Line.encodeProg, e1, e2]
    exact ⟨rfl, List.forall_mem_cons.mpr ⟨hok, hoks⟩⟩

theorem writeInstrs_decodeAll (h : Params) (hh : WriterHeader h) : ∀ (is : List WInstr)
    (_henc : ∀ i ∈ is, i.Encodable h.version)
    (bs : Bytes) (_hw : writeInstrs h.endian h.version h.addrSize is = .ok bs) (fuel : Nat)
    (_hf : bs.length < fuel),
    decodeAll h fuel bs = .ok (is.map (WInstr.toInstr h.version)) := by
  intro is henc bs hw fuel hf
  obtain ⟨rfl, hoks⟩ := writeInstrs_encode h hh is henc bs hw
  exact decodeAll_encodeProg h (by rw [hh.1]; decide) (by rw [hh.1]; decide) hh.2 _ hoks fuel
    (Nat.lt_of_le_of_lt (encodeProg_length h _) hf)

/-! ## on any reader row, also inside a tombstone

`Line.runs_trace` speaks of rows `toRow r`, which are never tombstoned; the register setters of `generate_row` do not
look at the flag (nor at any width), so they are taken on the row itself. -/

theorem advBy_zero (h : Params) (r : Row) (hidx : r.opIndex < h.maxOps) : advBy h r 0 = r := by
  unfold advBy
  simp only [Nat.add_zero]
  rw [Nat.mod_eq_of_lt hidx, Nat.div_eq_of_lt hidx]
  simp

theorem trace_noEmit (h : Params) (r r' : Row) (b : Bool) (i : Instr) (is : List Instr)
    (hx : execute h r i = (r', .noEmit)) : traceInstrs h r b (i :: is) = traceInstrs h r' b is := by
  rw [traceInstrs, hx]

/-- a register setter that is pushed only when the register does not already hold the value: either
way the reader ends up in `t` -/
theorem trace_setter (h : Params) (version : Nat) (r r' t : Row) (b : Bool) (c : Prop) [Decidable c] (i : WInstr)
    (tail : List Instr) (hx : execute h r (i.toInstr version) = (r', .noEmit)) (h1 : c → r' = t) (h2 : ¬ c → r = t) :
    traceInstrs h r b ((if c then [i] else []).map (WInstr.toInstr version) ++ tail) = traceInstrs h t b tail := by
  split
  · rename_i hc; rw [← h1 hc]; exact trace_noEmit h r r' b _ _ hx
  · rename_i hc; rw [← h2 hc]; rfl

theorem trace_resetFields (h : Params) (version : Nat) (r : Row) (b : Bool) (row : WRow) (tail : List Instr)
    (h0 : r.discriminator = 0 ∧ r.basicBlock = false ∧ r.prologueEnd = false ∧ r.epilogueBegin = false) :
    traceInstrs h r b ((resetFieldInstrs row).map (WInstr.toInstr version) ++ tail) =
      traceInstrs h { r with discriminator := row.discriminator, basicBlock := row.basicBlock,
                             prologueEnd := row.prologueEnd, epilogueBegin := row.epilogueBegin } b tail := by
  obtain ⟨hd, hb, hp, he⟩ := h0
  unfold resetFieldInstrs
  simp only [List.map_append, List.append_assoc]
  rw [trace_setter h version r _ { r with discriminator := row.discriminator } b _
      (.setDiscriminator row.discriminator) _ rfl (fun _ => rfl) (fun hc => by rw [Decidable.not_not.mp hc, ← hd]),
    trace_setter h version _ _
      { r with discriminator := row.discriminator, basicBlock := row.basicBlock }
      b _ .setBasicBlock _ rfl (fun hc => by rw [hc]) (fun hc => by rw [Bool.eq_false_iff.mpr hc, ← hb]),
    trace_setter h version _ _
      { r with discriminator := row.discriminator, basicBlock := row.basicBlock, prologueEnd := row.prologueEnd }
      b _ .setPrologueEnd _ rfl (fun hc => by rw [hc]) (fun hc => by rw [Bool.eq_false_iff.mpr hc, ← hp]),
    trace_setter h version _ _
      { r with discriminator := row.discriminator, basicBlock := row.basicBlock, prologueEnd := row.prologueEnd,
               epilogueBegin := row.epilogueBegin }
      b _ .setEpilogueBegin _ rfl (fun hc => by rw [hc]) (fun hc => by rw [Bool.eq_false_iff.mpr hc, ← he])]

theorem trace_stickyFields (h : Params) (version : Nat) (r : Row) (b : Bool) (prev row : WRow) (tail : List Instr)
    (hs : r.isStmt = prev.isStmt) (hf : r.file = fileRaw version prev.file)
    (hc : r.column = prev.column) (hi : r.isa = prev.isa) :
    traceInstrs h r b ((stickyFieldInstrs prev row).map (WInstr.toInstr version) ++ tail) =
      traceInstrs h { r with isStmt := row.isStmt, file := fileRaw version row.file,
                             column := row.column, isa := row.isa } b tail := by
  unfold stickyFieldInstrs
  simp only [List.map_append, List.append_assoc]
  rw [trace_setter h version r _ { r with isStmt := row.isStmt } b _ .negateStatement _ rfl
      (fun c => by rw [hs, Bool.not_eq.mpr (Ne.symm c)]) (fun c => by rw [Decidable.not_not.mp c, ← hs]),
    trace_setter h version _ _
      { r with isStmt := row.isStmt, file := fileRaw version row.file }
      b _ (.setFile row.file) _ rfl (fun _ => rfl) (fun c => by rw [Decidable.not_not.mp c, ← hf]),
    trace_setter h version _ _
      { r with isStmt := row.isStmt, file := fileRaw version row.file, column := row.column }
      b _ (.setColumn row.column) _ rfl (fun _ => rfl) (fun c => by rw [Decidable.not_not.mp c, ← hc]),
    trace_setter h version _ _
      { r with isStmt := row.isStmt, file := fileRaw version row.file, column := row.column, isa := row.isa }
      b _ (.setIsa row.isa) _ rfl (fun _ => rfl) (fun c => by rw [Decidable.not_not.mp c, ← hi])]

end Gimli.WLine
