import Gimli.Lemmas.LineHeaderRt
import Gimli.Lemmas.LebU16
/-! `parseHeader ∘ encodeHeaderV5 = id` (version 5: entry formats, all forms). -/
namespace Gimli.Line
open Gimli Gimli.Spec Gimli.Spec.Line

theorem readUint3_toBytes (e : Endian) (v : Nat) (hv : v < 2 ^ 24) :
    Reads (Ints.readUint e 3) (Ints.toBytes e 3 v) v := by
  intro rest
  have hl := Ints.toBytes_length e 3 v
  rw [Ints.readUint_eq e 3 _ (by decide), if_pos (by rw [List.length_append, hl]; omega),
    List.take_left' hl, List.drop_left' hl, Ints.fromBytes_toBytes, Nat.mod_eq_of_lt hv]

theorem parseAttribute_encode (e : Endian) (f : Format) (x : FieldV) (hx : x.Ok f) :
    Reads (parseAttribute e f x.form) (x.encode e f) x.value := by
  -- the forms grouped by the reader they use; the width of a fixed-size read is found by unification
  cases x with
  | block1 b | block2 b | block4 b => exact (Ints.reads_fixed e _ hx).bind ((Ints.reads_take b).map fun _ => rfl)
  | block b => exact (Leb.reads_unsigned hx).bind ((Ints.reads_take b).map fun _ => rfl)
  | data1 v | data2 v | data4 v | data8 v | strx1 v | strx2 v | strx4 v =>
    exact (Ints.reads_fixed e _ hx).map fun _ => rfl
  | flag b => exact (Ints.reads_fixed e 1 (by cases b <;> decide)).map fun _ => by cases b <;> rfl
  | strx3 v => exact (readUint3_toBytes e v hx).map fun _ => rfl
  | udata v | strx v | gnuStrIndex v => exact (Leb.reads_unsigned hx).map fun _ => rfl
  | sdata i => exact (Leb.reads_signed hx.1 hx.2).map fun _ => rfl
  | secOffset v | strp v | strpSup v | gnuStrpAlt v | lineStrp v =>
    exact (readWord_encode e f v hx.2 hx.1).map fun _ => rfl
  | data16 b => exact (hx ▸ Ints.reads_take b).map fun _ => rfl
  | string s => exact reads_cstr_bind hx fun _ => rfl

theorem parseFormatLoop_encode (fmt : List EntryFormat)
    (hok : ∀ x ∈ fmt, x.1 ≤ 0xffff ∧ (x.2 < 128 ∨ x.2 = 0x1f02 ∨ x.2 = 0x1f21)) :
    Reads (parseFormatLoop fmt.length) (fmt.flatMap fun x => Leb.encodeU x.1 ++ Leb.encodeU x.2)
      (fmt, (fmt.filter (·.1 = 1)).length) := by
  induction fmt with
  | nil => exact fun _ => rfl
  | cons x xs ih =>
    obtain ⟨ct, form⟩ := x
    obtain ⟨hct, hform⟩ := hok (ct, form) List.mem_cons_self
    rw [List.length_cons, List.flatMap_cons, List.append_assoc]
    refine (Leb.reads_unsigned (by omega)).bind <| (Leb.reads_u16 (by omega)).bind <|
      (ih fun y hy => hok y (List.mem_cons_of_mem _ hy)).map fun _ => ?_
    have hct' : (if ct > 0xffff then 0xffff else ct) = ct := if_neg (by omega)
    simp only [hct', Out.pure_eq, List.filter_cons, decide_eq_true_eq]
    split <;> simp [Nat.add_comm]

theorem parseEntryFormat_encode (fmt : List EntryFormat) (hok : FormatOk fmt) :
    Reads parseEntryFormat (encodeFormat fmt) fmt := by
  obtain ⟨hlen, hall, hpath⟩ := hok
  exact (rf1 _ _ hlen).bind <| (parseFormatLoop_encode fmt hall).map fun _ => if_neg (by simp [hpath])

theorem formatOk_hasPath (fmt : List EntryFormat) (hok : FormatOk fmt) : HasPath fmt := by
  obtain ⟨x, hx⟩ := List.exists_mem_of_length_pos (hok.2.2 ▸ Nat.one_pos)
  exact ⟨x, (List.mem_filter.mp hx).1, by simpa using (List.mem_filter.mp hx).2⟩

theorem parseDirectoryV5_encode (e : Endian) (f : Format) (fmt : List EntryFormat) :
    ∀ (entry : List FieldV) (acc : Option AttrVal), Conforms f fmt entry →
      Reads (parseDirectoryV5 e f fmt acc) (encodeEntry e f entry) (dirOf fmt entry acc) := by
  induction fmt with
  | nil =>
    intro entry acc hc
    cases List.map_eq_nil_iff.mp hc.1
    exact fun _ => rfl
  | cons x fs ih =>
    intro entry acc ⟨hforms, hoks⟩
    obtain ⟨ct, form⟩ := x
    cases entry with
    | nil => cases hforms
    | cons y ys =>
      obtain ⟨rfl, hfs⟩ := List.cons.inj hforms
      exact (parseAttribute_encode e f y (hoks y List.mem_cons_self)).bind
        (ih ys _ ⟨hfs, fun z hz => hoks z (List.mem_cons_of_mem _ hz)⟩)

theorem parseFileV5_encode (e : Endian) (f : Format) (fmt : List EntryFormat) :
    ∀ (entry : List FieldV) (acc : FileAcc), Conforms f fmt entry →
      Reads (parseFileV5 e f fmt acc) (encodeEntry e f entry) (fileAccOf fmt entry acc) := by
  induction fmt with
  | nil =>
    intro entry acc hc
    cases List.map_eq_nil_iff.mp hc.1
    exact fun _ => rfl
  | cons x fs ih =>
    intro entry acc ⟨hforms, hoks⟩
    obtain ⟨ct, form⟩ := x
    cases entry with
    | nil => cases hforms
    | cons y ys =>
      obtain ⟨rfl, hfs⟩ := List.cons.inj hforms
      exact (parseAttribute_encode e f y (hoks y List.mem_cons_self)).bind
        (ih ys _ ⟨hfs, fun z hz => hoks z (List.mem_cons_of_mem _ hz)⟩)

theorem parseDirsV5_encode (e : Endian) (f : Format) (fmt : List EntryFormat) (hp : HasPath fmt)
    (entries : List (List FieldV)) (hc : ∀ d ∈ entries, Conforms f fmt d) :
    Reads (parseDirsV5 e f fmt entries.length) (entries.flatMap (encodeEntry e f))
      (entries.map fun d => (dirOf fmt d none).getD (.string [])) := by
  induction entries with
  | nil => exact fun _ => rfl
  | cons d ds ih =>
    have hd := parseDirectoryV5_encode e f fmt d none (hc d List.mem_cons_self)
    obtain ⟨p, hq⟩ := Option.isSome_iff_exists.mp (parseDirectoryV5_some e f fmt none _ _ _ (hd []) (.inr hp))
    rw [List.map_cons, hq]
    rw [hq] at hd
    exact hd.bind <| (ih fun x hx => hc x (List.mem_cons_of_mem _ hx)).map fun _ => rfl

theorem parseFilesV5_encode (e : Endian) (f : Format) (fmt : List EntryFormat) (hp : HasPath fmt)
    (entries : List (List FieldV)) (hc : ∀ d ∈ entries, Conforms f fmt d) :
    Reads (parseFilesV5 e f fmt entries.length) (entries.flatMap (encodeEntry e f))
      (entries.map (fileOf5 fmt)) := by
  induction entries with
  | nil => exact fun _ => rfl
  | cons d ds ih =>
    have hd := parseFileV5_encode e f fmt d {} (hc d List.mem_cons_self)
    obtain ⟨p, hq⟩ := Option.isSome_iff_exists.mp (parseFileV5_some e f fmt {} _ _ _ (hd []) (.inr hp))
    refine hd.bind ?_
    dsimp only
    rw [hq]
    refine (ih fun x hx => hc x (List.mem_cons_of_mem _ hx)).map fun _ => ?_
    rw [List.map_cons, fileOf5, hq]
    rfl

theorem parseHeader_encodeV5 (hs : HeaderV5) (hwf : hs.WF) (asz : Nat) (cd cn : Option Bytes)
    (bytes trailing : Bytes) (henc : encodeHeaderV5 hs = .ok bytes) :
    parseHeader hs.p.endian asz cd cn (bytes ++ trailing) = .ok hs.expected := by
  obtain ⟨hv, hver5, hdf, hff, hdirs, hfiles, hdl, hfl, hblen, hflen⟩ := hwf
  have hv5 : hs.p.version ≥ 5 := by omega
  have hbody : encodeBodyV5 hs = encodeUnit hs.p (encodeFieldsV5 hs) hs.program := by
    rw [encodeBodyV5, encodeUnit, if_pos hv5, List.append_assoc (Ints.toBytes _ 2 _)]
  have hfields : encodeFieldsV5 hs = encodeParams hs.p ++
      (encodeFormat hs.dirFormat ++ (encodeTable hs.p.endian hs.p.format hs.dirs ++
        (encodeFormat hs.fileFormat ++ encodeTable hs.p.endian hs.p.format hs.files))) := by
    simp only [encodeFieldsV5, encodeParams, if_pos (show hs.p.version ≥ 4 by omega), List.append_assoc]
  obtain ⟨il, hil, h⟩ := Out.bind_eq_ok henc
  cases h
  rw [hbody] at hil hblen
  rw [parseHeader_eq, hbody]
  refine Out.bind_eq_ok_iff.mpr
    ⟨_, parsePrologue_encode hs.p hv asz _ _ il trailing hblen hflen hil, ?_⟩
  dsimp only
  rw [if_pos hv5]
  refine Out.bind_eq_ok_iff.mpr ⟨_, (congrArg _ hfields).trans (parseParams_encode hs.p hv _ _), ?_⟩
  dsimp only [parseTables]
  rw [if_neg (by omega), encodeTable, encodeTable, List.append_assoc]
  refine Out.bind_eq_ok_iff.mpr ⟨_, parseEntryFormat_encode _ hdf _, ?_⟩
  refine Out.bind_eq_ok_iff.mpr ⟨_, Leb.reads_unsigned hdl _, ?_⟩
  refine Out.bind_eq_ok_iff.mpr ⟨_, parseDirsV5_encode _ _ _ (formatOk_hasPath _ hdf) _ hdirs _, ?_⟩
  refine Out.bind_eq_ok_iff.mpr ⟨_, parseEntryFormat_encode _ hff _, ?_⟩
  refine Out.bind_eq_ok_iff.mpr ⟨_, Leb.reads_unsigned hfl _, ?_⟩
  refine Out.bind_eq_ok_iff.mpr ⟨_, List.append_nil _ ▸
    parseFilesV5_encode hs.p.endian hs.p.format _ (formatOk_hasPath _ hff) _ hfiles [], ?_⟩
  rw [HeaderV5.expected, hbody]
  rfl

end Gimli.Line
