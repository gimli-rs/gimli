import Gimli.Spec.Cfi
import Gimli.Lemmas.CfiPointer
import Gimli.Lemmas.Leb
import Gimli.Lemmas.Ints
import Gimli.Lemmas.Out
/-!
# Call-frame instructions: `Cfi.parse` accepts exactly the encodings the Spec describes (C06)

Each operand reader is characterised by `Exact f P` (Lemmas/Exact.lean): `f` accepts exactly the byte strings the Spec
relation `P` describes, and never panics.  `parse_encodes` is completeness; `parse_cons` is the one case analysis of `parse`
(behind every opcode byte no panic, and a value only after operands that complete an encoding), from which
soundness, totality and progress of the instruction iterator are read off.  The pointer operand of
`DW_CFA_set_loc` is C05's Model of `parse_encoded_pointer` (`parseEncodedPointerDirect_eq`), so its meaning
comes from C05's `pep_semantics`.
-/
namespace Gimli.Spec.Cfi
open Gimli Gimli.Cfi Gimli.Spec

theorem exact_uleb : Exact Leb.unsigned ULeb := Leb.exact_unsigned

theorem exact_sleb : Exact Leb.signed SLeb := Leb.exact_signed

theorem exact_fixed (e : Endian) (n : Nat) : Exact (Ints.readFixed e n) (Fixed e n) := Ints.exact_fixed e n

theorem uleb_sound {bs : Bytes} {v : Nat} {rest : Bytes} (h : Leb.unsigned bs = .ok (v, rest)) :
    ∃ pre, bs = pre ++ rest ∧ ULeb v pre := exact_uleb.sound h

theorem sleb_sound {bs : Bytes} {v : Int} {rest : Bytes} (h : Leb.signed bs = .ok (v, rest)) :
    ∃ pre, bs = pre ++ rest ∧ SLeb v pre := exact_sleb.sound h

theorem fixed_sound {e : Endian} {n : Nat} {bs : Bytes} {v : Nat} {rest : Bytes}
    (h : Ints.readFixed e n bs = .ok (v, rest)) : ∃ pre, bs = pre ++ rest ∧ Fixed e n v pre := (exact_fixed e n).sound h

theorem exact_reg : Exact readReg RegEnc where
  read := by
    intro r pre h rest
    have : r.toNat < 2 ^ 16 := r.toNat_lt
    simp [readReg, exact_uleb.read h rest, this]
  sound := by
    intro bs r rest h
    obtain ⟨⟨v, r1⟩, h1, h2⟩ := Out.bind_eq_ok h
    obtain ⟨pre, hp, hu⟩ := uleb_sound h1
    -- `Register::from_u64` accepts `v < 2^16`, where `UInt16.ofNat` loses nothing
    simp only at h2
    split at h2
    · rename_i hv
      cases h2
      refine ⟨pre, hp, ?_⟩
      rwa [RegEnc, UInt16.toNat_ofNat', Nat.mod_eq_of_lt hv]
    · cases h2
  normal := fun bs => .bind (Leb.unsigned_normal bs) fun _ _ => by simp only; split <;> trivial

theorem exact_block : Exact readExpr Block :=
  have h := exact_uleb.bind fun len => Ints.exact_take len
  { read := by rintro ex _ ⟨l, hl, rfl⟩; exact h.read ⟨_, l, ex, rfl, hl, rfl, rfl⟩
    sound := fun hr => by
      obtain ⟨_, hb, a, p, q, rfl, hu, rfl, rfl⟩ := h.sound hr
      exact ⟨_, hb, p, hu, rfl⟩
    normal := h.normal }

theorem sext_eq (n v : Nat) (hn : 1 ≤ n ∧ n ≤ 8) (hv : v < 256 ^ n) :
    Leb.ofI64 (Ints.toSigned n v) = signExtend n v :=
  Twos.pat_sval_widen (w := 64) (k := 8 * n) (by omega) (Ints.pow256 n ▸ hv)

theorem sdata_sound {e : Endian} {n x : Nat} {bs rest : Bytes} (hn : 1 ≤ n ∧ n ≤ 8)
    (h : (Ints.readFixed e n bs >>= fun y => pure (Leb.ofI64 (Ints.toSigned n y.1), y.2)) = .ok (x, rest)) :
    ∃ v pre, bs = pre ++ rest ∧ Fixed e n v pre ∧ x = signExtend n v := by
  obtain ⟨⟨v, r1⟩, h1, h2⟩ := Out.bind_eq_ok h
  cases h2
  obtain ⟨pre, hp, hx⟩ := fixed_sound h1
  exact ⟨v, pre, hp, hx, sext_eq n v hn hx.2⟩

theorem operand_read {e : Endian} {asz enc x : Nat} {bx : Bytes} (h : Operand e asz enc x bx) :
    Reads (Cfi.parseEncodedValue e enc asz) bx x := by
  intro rest
  unfold Cfi.parseEncodedValue
  cases h with
  | absptr x bs hf hsz hx => simp [hf, (Ints.exact_address e asz).read ⟨hsz, hx⟩ rest]
  | uleb128 x bs hf hx => simp [hf, exact_uleb.read hx rest]
  | udata2 x bs hf hx => simp [hf, (exact_fixed e 2).read hx rest]
  | udata4 x bs hf hx => simp [hf, (exact_fixed e 4).read hx rest]
  | udata8 x bs hf hx => simp [hf, (exact_fixed e 8).read hx rest]
  | sleb128 v bs hf hx => simp [hf, exact_sleb.read hx rest, Leb.ofI64, pattern64]
  | sdata2 v bs hf hx => simp [hf, (exact_fixed e 2).read hx rest, sext_eq 2 v (by decide) hx.2]
  | sdata4 v bs hf hx => simp [hf, (exact_fixed e 4).read hx rest, sext_eq 4 v (by decide) hx.2]
  | sdata8 v bs hf hx => simp [hf, (exact_fixed e 8).read hx rest, sext_eq 8 v (by decide) hx.2]

theorem operand_sound {e : Endian} {asz enc x : Nat} {bs rest : Bytes}
    (h : Cfi.parseEncodedValue e enc asz bs = .ok (x, rest)) :
    ∃ bx, bs = bx ++ rest ∧ Operand e asz enc x bx := by
  unfold Cfi.parseEncodedValue at h
  simp only at h
  split at h
  all_goals try rename_i hf
  · exact ((Ints.exact_address e asz).sound h).imp fun pre hp => ⟨hp.1, .absptr x pre hf hp.2.1 hp.2.2⟩
  · exact (uleb_sound h).imp fun pre hp => ⟨hp.1, .uleb128 x pre hf hp.2⟩
  · exact (fixed_sound h).imp fun pre hp => ⟨hp.1, .udata2 x pre hf hp.2⟩
  · exact (fixed_sound h).imp fun pre hp => ⟨hp.1, .udata4 x pre hf hp.2⟩
  · exact (fixed_sound h).imp fun pre hp => ⟨hp.1, .udata8 x pre hf hp.2⟩
  · obtain ⟨⟨v, r1⟩, h1, h2⟩ := Out.bind_eq_ok h
    cases h2
    exact (sleb_sound h1).imp fun pre hp => ⟨hp.1, .sleb128 v pre hf hp.2⟩
  · obtain ⟨v, pre, hp, hx, rfl⟩ := sdata_sound (by decide) h
    exact ⟨pre, hp, .sdata2 v pre hf hx⟩
  · obtain ⟨v, pre, hp, hx, rfl⟩ := sdata_sound (by decide) h
    exact ⟨pre, hp, .sdata4 v pre hf hx⟩
  · obtain ⟨v, pre, hp, hx, rfl⟩ := sdata_sound (by decide) h
    exact ⟨pre, hp, .sdata8 v pre hf hx⟩
  · cases h

/-- ten bytes: the longest LEB128 of a `u64` -/
theorem Operand.length_le {e : Endian} {asz enc x : Nat} {bs : Bytes} (h : Operand e asz enc x bs) :
    bs.length ≤ 10 := by
  have fixed : ∀ {n v : Nat}, n ≤ 8 → Fixed e n v bs → bs.length ≤ 10 := fun hn hx => by
    rw [hx.1, Ints.toBytes_length]
    exact Nat.le_trans hn (by decide)
  cases h with
  | absptr _ _ _ hsz hx => exact fixed (by omega) hx
  | uleb128 _ _ _ hx => exact hx.2.1
  | sleb128 _ _ _ hx => exact hx.2.1
  | udata2 _ _ _ hx | udata4 _ _ _ hx | udata8 _ _ _ hx | sdata2 _ _ _ hx | sdata4 _ _ _ hx | sdata8 _ _ _ hx =>
    exact fixed (by decide) hx

theorem Operand.format {e : Endian} {asz enc x : Nat} {bs : Bytes} (h : Operand e asz enc x bs) :
    Frame.formatDefined (enc % 16) := by
  cases h <;> simp only [*] <;> decide

theorem ehPeValid_iff (b : Nat) : ehPeValid b = true ↔ Frame.validEncoding b := by
  unfold ehPeValid Frame.validEncoding Frame.formatDefined Frame.applicationDefined
  by_cases h : b = 0xff
  · simp [h]
  · simp only [h, if_false, false_or, decide_eq_true_eq]
    exact and_congr_right fun _ => by omega

theorem shr_ones (n s : Nat) (h : s ≤ n) : (2 ^ n - 1) >>> s = 2 ^ (n - s) - 1 := by
  refine Nat.eq_of_testBit_eq fun i => ?_
  rw [Nat.testBit_shiftRight, Nat.testBit_two_pow_sub_one, Nat.testBit_two_pow_sub_one]
  exact decide_eq_decide.mpr (by omega)

theorem wrappingAddSized_ok (m : Mode) (a l s : Nat) (hs : 1 ≤ s ∧ s ≤ 8) :
    Cfi.wrappingAddSized m a l s = .ok ((a + l) % 2 ^ 64 % 2 ^ (8 * s)) := by
  unfold Cfi.wrappingAddSized Cfi.onesSized
  rw [if_pos hs, Out.bind_ok, Nat.sub_add_cancel (Nat.pow_pos (by decide))]
  rfl

theorem wrappingAddSized_eq (m : Mode) (a l s : Nat) :
    Cfi.wrappingAddSized m a l s = CfiEntry.wrappingAddSized m a l s := by
  by_cases hs : 1 ≤ s ∧ s ≤ 8
  · rw [wrappingAddSized_ok m a l s hs, CfiEntry.wrappingAddSized_ok m a l s hs.1 hs.2]
  · unfold Cfi.wrappingAddSized Cfi.onesSized CfiEntry.wrappingAddSized
    simp only [hs, if_false]
    cases m with
    | debug =>
      simp only
      by_cases h0 : s = 0
      · simp [h0]
      · by_cases h1 : s * 8 > 255
        · simp [h0, h1]
        · have h2 : s * 8 > 64 := by omega
          simp [h0, h1, h2]
    | release =>
      simp only [Out.bind_ok, Out.pure_eq]
      have hlt : ((64 + 256 - (s * 8) % 256) % 256) % 64 < 64 := Nat.mod_lt _ (by decide)
      rw [shr_ones 64 _ (Nat.le_of_lt hlt)]
      have hpos : 0 < 2 ^ (64 - ((64 + 256 - (s * 8) % 256) % 256) % 64) := Nat.pow_pos (by decide)
      rw [Nat.sub_add_cancel hpos, Nat.and_two_pow_sub_one_eq_mod]

/-- write-then-read on Model/Cfi's own `parseEncodedPointer` (the `_eq` lemmas below identify it with `CfiEntry`'s, which has
`pep_roundtrip`); Lemmas/WCfiHeader uses this one.
`happ`: the application is absptr (0) or pcrel (1), the two the writer supports -/
theorem parseEncodedPointer_operand (m : Mode) (e : Endian) (enc pos base w : Nat) (p : PtrParams)
    (bs rest : Bytes) (hs : 1 ≤ p.addressSize ∧ p.addressSize ≤ 8) (happ : enc / 16 % 8 ≤ 1)
    (hbase : pointerBase m enc p pos = .ok base) (hop : Operand e p.addressSize enc w bs) :
    parseEncodedPointer m e enc p pos (bs ++ rest) =
      .ok (((base + w) % 2 ^ 64 % 2 ^ (8 * p.addressSize), enc / 128 % 2 = 1), rest) := by
  have hne : enc ≠ 0xff := by
    rintro rfl
    exact absurd happ (by decide)
  have hvalid : ehPeValid enc = true := by
    unfold ehPeValid
    rw [if_neg hne]
    simp only [decide_eq_true_eq]
    exact ⟨hop.format, Nat.le_trans happ (by decide)⟩
  unfold parseEncodedPointer
  rw [hvalid, if_neg (by decide), if_neg hne, hbase, Out.bind_ok, operand_read hop rest, Out.bind_ok]
  simp only [wrappingAddSized_ok m _ _ _ hs, Out.bind_ok, Out.pure_eq]

theorem lift_map {α β : Type} (f : Bytes → Out (α × Bytes)) (g : α → β) (r : CfiEntry.Rd) :
    (r.lift f >>= fun x => pure (g x.1, x.2)) = r.lift fun bs => f bs >>= fun x => pure (g x.1, x.2) := by
  simp only [CfiEntry.Rd.lift]
  cases f r.bs <;> rfl

theorem parseEncodedValue_eq (e : Endian) (enc asz : Nat) (r : CfiEntry.Rd) :
    CfiEntry.parseEncodedValue e enc asz r = r.lift (Cfi.parseEncodedValue e enc asz) := by
  unfold CfiEntry.parseEncodedValue CfiEntry.peFormat CfiEntry.sext
  show _ = r.lift fun bs => Cfi.parseEncodedValue e enc asz bs
  unfold Cfi.parseEncodedValue
  generalize enc % 16 = f
  simp only
  by_cases h0 : f = 0
  · subst h0; rfl
  by_cases h1 : f = 1
  · subst h1; rfl
  by_cases h2 : f = 2
  · subst h2; rfl
  by_cases h3 : f = 3
  · subst h3; rfl
  by_cases h4 : f = 4
  · subst h4; rfl
  by_cases h9 : f = 9
  · subst h9; exact lift_map _ _ r
  by_cases h10 : f = 10
  · subst h10; exact lift_map _ (fun v => Leb.ofI64 (Ints.toSigned 2 v)) r
  by_cases h11 : f = 11
  · subst h11; exact lift_map _ (fun v => Leb.ofI64 (Ints.toSigned 4 v)) r
  by_cases h12 : f = 12
  · subst h12; exact lift_map _ (fun v => Leb.ofI64 (Ints.toSigned 8 v)) r
  rw [if_neg h0, if_neg h1, if_neg h2, if_neg h3, if_neg h4, if_neg h9, if_neg h10, if_neg h11, if_neg h12]
  split <;> first | contradiction | rfl

/-- no converse: `Operand` also covers padded LEB128 operands, which `Frame.encodeOperand` never produces -/
theorem operand_of_encodeOperand {e : Endian} {enc asz x : Nat} {bytes : Bytes}
    (h : Frame.encodeOperand e enc asz x = some bytes) : Operand e asz enc x bytes := by
  -- C05's reader decodes `bytes` to `x` and leaves nothing (`pev_roundtrip`); it is the reader here,
  -- and that accepts only operands
  have hrt := CfiEntry.pev_roundtrip e enc asz x 0 bytes [] h
  rw [parseEncodedValue_eq] at hrt
  obtain ⟨bx, hbx, hop⟩ := operand_sound (CfiEntry.lift_ok_inv hrt)
  simp only [List.append_nil] at hbx
  exact hbx ▸ hop

theorem peParams_asz (c : DecodeCfg) : (peParams c).asz = c.params.addressSize := rfl

theorem pointerBase_eq (m : Mode) (enc : Nat) (c : DecodeCfg) (off : Nat) :
    Cfi.pointerBase m enc c.params off = CfiEntry.pointerBase m enc (peParams c) off := by
  unfold Cfi.pointerBase CfiEntry.pointerBase CfiEntry.peApplication peParams
  rw [show enc % 128 / 16 = enc / 16 % 8 by omega]
  have hk : enc / 16 % 8 < 8 := Nat.mod_lt _ (by decide)
  generalize enc / 16 % 8 = k at hk
  match k, hk with
  | 0, _ => rfl
  | 1, _ => cases c.params.sectionBase <;> simp [wrappingAddSized_eq]
  | 2, _ => cases c.params.textBase <;> rfl
  | 3, _ => cases c.params.dataBase <;> rfl
  | 4, _ => rfl
  | 5, _ => rfl
  | 6, _ => rfl
  | 7, _ => rfl

theorem indirect_iff (enc : Nat) : CfiEntry.peIndirect enc = true ↔ enc / 128 % 2 = 1 := by
  simp only [CfiEntry.peIndirect, decide_eq_true_eq]; omega

theorem parseEncodedPointerDirect_eq (m : Mode) (e : Endian) (enc : Nat) (c : DecodeCfg) (pos : Nat) (bs : Bytes) :
    Cfi.parseEncodedPointerDirect m e enc c.params pos bs =
      (CfiEntry.parseEncodedPointer m e enc (peParams c) ⟨pos, bs⟩ >>= fun x =>
        x.1.toDirect >>= fun a => pure (a, x.2.bs)) := by
  unfold Cfi.parseEncodedPointerDirect Cfi.parseEncodedPointer CfiEntry.parseEncodedPointer
  rw [Bool.eq_iff_iff.mpr ((ehPeValid_iff enc).trans (CfiEntry.isValidEncoding_iff enc).symm), pointerBase_eq, parseEncodedValue_eq]
  simp only [CfiEntry.Rd.lift, wrappingAddSized_eq, peParams_asz]
  by_cases hv : CfiEntry.isValidEncoding enc = true
  case neg => simp [hv]
  by_cases ho : enc = 0xff
  · subst ho; simp [hv]
  simp only [hv, ho, Bool.not_true, Bool.false_eq_true, if_false, not_true_eq_false]
  cases CfiEntry.pointerBase m enc (peParams c) pos <;> try rfl
  rename_i base
  cases Cfi.parseEncodedValue e enc c.params.addressSize bs <;> try rfl
  rename_i x
  simp only [Out.bind_ok, Out.pure_eq]
  cases CfiEntry.wrappingAddSized m base x.1 c.params.addressSize <;> try rfl
  -- `Pointer::new(enc, v).direct()` against the flag `enc / 128 % 2 = 1`
  simp only [Out.bind_ok, CfiEntry.ptr_new_toDirect]
  by_cases hi : enc / 128 % 2 = 1
  · simp [hi, (indirect_iff enc).mpr hi]
  · simp [hi, mt (indirect_iff enc).mp hi]

theorem parseEncodedPointerDirect_normal (m : Mode) (e : Endian) (enc : Nat) (c : DecodeCfg) (pos : Nat)
    (bs : Bytes) (hsz : 1 ≤ c.params.addressSize ∧ c.params.addressSize ≤ 8) :
    (Cfi.parseEncodedPointerDirect m e enc c.params pos bs).Normal := by
  rw [parseEncodedPointerDirect_eq]
  refine .bind (CfiEntry.pep_normal m e enc _ _ (.inl hsz)) fun x _ => .bind ?_ fun _ _ => trivial
  cases x.1 <;> trivial

theorem parseEncodedPointerDirect_suffix {m : Mode} {e : Endian} {enc : Nat} {p : PtrParams} {pos a : Nat}
    {bs rest : Bytes} (h : Cfi.parseEncodedPointerDirect m e enc p pos bs = .ok (a, rest)) :
    ∃ pre, bs = pre ++ rest := by
  obtain ⟨⟨⟨a', ind⟩, r1⟩, h1, h2⟩ := Out.bind_eq_ok h
  have hr : r1 = rest := by
    simp only at h2
    split at h2 <;> cases h2
    rfl
  unfold Cfi.parseEncodedPointer at h1
  split at h1
  · cases h1
  split at h1
  · cases h1
  obtain ⟨base, _, h3⟩ := Out.bind_eq_ok h1
  obtain ⟨⟨off, r2⟩, h4, h5⟩ := Out.bind_eq_ok h3
  obtain ⟨addr, _, h6⟩ := Out.bind_eq_ok h5
  cases h6
  obtain ⟨pre, hp, _⟩ := operand_sound h4
  exact ⟨pre, hr ▸ hp⟩

theorem setloc_ptr_read {c : DecodeCfg} {pos enc b x : Nat} {bx rest : Bytes}
    (hvalid : Frame.validEncoding enc) (ho : enc ≠ 0xff) (hal : CfiEntry.peApplication enc ≠ 0x50)
    (hind : CfiEntry.peIndirect enc = false) (hsz : 1 ≤ c.params.addressSize ∧ c.params.addressSize ≤ 8)
    (hb : Frame.neededBase enc (peParams c) (pos + 1) = some b)
    (hop : Operand c.endian c.params.addressSize enc x bx) :
    Cfi.parseEncodedPointerDirect c.mode c.endian enc c.params (pos + 1) (bx ++ rest) =
      .ok ((b + x) % 2 ^ 64 % 2 ^ (8 * c.params.addressSize), rest) := by
  rw [parseEncodedPointerDirect_eq, CfiEntry.pep_semantics _ _ _ _ _ ((CfiEntry.isValidEncoding_iff enc).mpr hvalid) ho hal hsz.1 hsz.2,
    parseEncodedValue_eq]
  simp only [hb, peParams_asz, (operand_read hop).lift, Out.bind_ok, Out.pure_eq, CfiEntry.ptr_new_toDirect, hind,
    Bool.false_eq_true, if_false]

theorem setloc_ptr_sound {c : DecodeCfg} {pos enc a : Nat} {tl rest : Bytes}
    (hsz : 1 ≤ c.params.addressSize ∧ c.params.addressSize ≤ 8)
    (h : Cfi.parseEncodedPointerDirect c.mode c.endian enc c.params (pos + 1) tl = .ok (a, rest)) :
    ∃ b x bx, tl = bx ++ rest ∧ Frame.validEncoding enc ∧ enc ≠ 0xff ∧ CfiEntry.peApplication enc ≠ 0x50 ∧
      CfiEntry.peIndirect enc = false ∧ Frame.neededBase enc (peParams c) (pos + 1) = some b ∧
      Operand c.endian c.params.addressSize enc x bx ∧
      a = (b + x) % 2 ^ 64 % 2 ^ (8 * c.params.addressSize) := by
  rw [parseEncodedPointerDirect_eq] at h
  obtain ⟨⟨p, r⟩, h1, h2⟩ := Out.bind_eq_ok h
  obtain ⟨hv, ho⟩ := CfiEntry.valid_of_pep_ok h1
  by_cases hal : CfiEntry.peApplication enc = 0x50
  · simp [CfiEntry.parseEncodedPointer, CfiEntry.pointerBase, hv, ho, hal] at h1
  rw [CfiEntry.pep_semantics _ _ _ _ _ hv ho hal hsz.1 hsz.2, parseEncodedValue_eq, CfiEntry.Rd.lift] at h1
  cases hb : Frame.neededBase enc (peParams c) (pos + 1) with
  | none => rw [hb] at h1; cases h1
  | some b =>
    rw [hb] at h1
    obtain ⟨⟨x, r'⟩, h3, h4⟩ := Out.bind_eq_ok h1
    obtain ⟨⟨x', rest'⟩, h5, h6⟩ := Out.bind_eq_ok h3
    cases h6; cases h4
    obtain ⟨bx, hbx, hop⟩ := operand_sound h5
    -- `Pointer::direct` succeeded, so the pointer is not indirect
    rw [CfiEntry.ptr_new_toDirect] at h2
    cases hi : CfiEntry.peIndirect enc with
    | true => simp [hi] at h2
    | false =>
      simp only [hi, Bool.false_eq_true, if_false, Out.bind_ok, Out.pure_eq, Out.ok.injEq, Prod.mk.injEq] at h2
      exact ⟨b, x, bx, h2.2 ▸ hbx, (CfiEntry.isValidEncoding_iff enc).mp hv, ho, hal, rfl, rfl, hop, h2.1.symm⟩

section arms
variable {α β γ : Type} {f : Bytes → Out (α × Bytes)} {P : α → Bytes → Prop}
  {g : Bytes → Out (β × Bytes)} {Q : β → Bytes → Prop} {c : DecodeCfg} {pos : Nat}

/-- what `parse` owes for the arm `x` it takes behind the opcode byte `op`, under the side condition
`H` of the configuration: no panic, and a value only after operand bytes `pre` such that `op :: pre`
encodes the instruction returned -/
def Arm (H : Prop) (c : DecodeCfg) (pos : Nat) (op : UInt8) (tl : Bytes) (x : Out (Instr × Bytes)) : Prop :=
  (H → x.Normal) ∧ ∀ i rest, x = .ok (i, rest) → ∃ pre, tl = pre ++ rest ∧ (H → Encodes c pos i (op :: pre))

variable {H : Prop} {op : UInt8} {tl : Bytes}

theorem Arm.ok {i : Instr} (h : Encodes c pos i [op]) : Arm H c pos op tl (.ok (i, tl)) :=
  ⟨fun _ => trivial, fun _ _ e => by cases e; exact ⟨[], rfl, fun _ => h⟩⟩

theorem Arm.err (e : Err) : Arm H c pos op tl (.err e) :=
  ⟨fun _ => trivial, fun _ _ h => by cases h⟩

theorem _root_.Gimli.Exact.arm1 (hf : Exact f P) {k : α → Instr} (enc : ∀ a pa, P a pa → Encodes c pos (k a) (op :: pa)) :
    Arm H c pos op tl (f tl >>= fun x => pure (k x.1, x.2)) := by
  refine ⟨fun _ => .bind (hf.normal tl) fun _ _ => trivial, fun i rest h => ?_⟩
  obtain ⟨⟨a, r1⟩, h1, h2⟩ := Out.bind_eq_ok h
  cases h2
  obtain ⟨pa, rfl, ha⟩ := hf.sound h1
  exact ⟨pa, rfl, fun _ => enc a pa ha⟩

theorem _root_.Gimli.Exact.arm2 (hf : Exact f P) (hg : Exact g Q) {k : α → β → Instr}
    (enc : ∀ a b pa pb, P a pa → Q b pb → Encodes c pos (k a b) (op :: (pa ++ pb))) :
    Arm H c pos op tl (f tl >>= fun x => g x.2 >>= fun y => pure (k x.1 y.1, y.2)) := by
  refine ⟨fun _ => .bind (hf.normal tl) fun x _ => .bind (hg.normal x.2) fun _ _ => trivial, fun i rest h => ?_⟩
  obtain ⟨⟨a, r1⟩, h1, h2⟩ := Out.bind_eq_ok h
  obtain ⟨⟨b, r2⟩, h3, h4⟩ := Out.bind_eq_ok h2
  cases h4
  obtain ⟨pa, rfl, ha⟩ := hf.sound h1
  obtain ⟨pb, rfl, hb⟩ := hg.sound h3
  exact ⟨pa ++ pb, by simp, fun _ => enc a b pa pb ha hb⟩

end arms

theorem byte_eq {b : UInt8} {k : Nat} (h : b.toNat = k) : b = UInt8.ofNat k := by
  rw [← h]; simp

theorem parse_encodes {c : DecodeCfg} {pos : Nat} {i : Instr} {bs : Bytes}
    (h : Encodes c pos i bs) (rest : Bytes) :
    parse c pos (bs ++ rest) = .ok (i, rest) := by
  -- on a literal opcode byte `parse` evaluates to the operand readers of its arm
  cases h with
  | advanceLoc d hd =>
    show (if (UInt8.ofNat (0x40 + d)).toNat / 64 = 1 then _ else _) = _
    rw [UInt8.toNat_ofNat_of_lt' (show 0x40 + d < 256 by omega), if_pos (by omega), show (0x40 + d) % 64 = d by omega]
    rfl
  | offset r o bo hr ho =>
    show (if (UInt8.ofNat (0x80 + r.toNat)).toNat / 64 = 1 then _
      else if (UInt8.ofNat (0x80 + r.toNat)).toNat / 64 = 2 then _ else _) = _
    rw [UInt8.toNat_ofNat_of_lt' (show 0x80 + r.toNat < 256 by omega), if_neg (by omega), if_pos (by omega),
      show (0x80 + r.toNat) % 64 = r.toNat by omega, UInt16.ofNat_toNat]
    exact exact_uleb.read1 ho rest
  | restore r hr =>
    show (if (UInt8.ofNat (0xc0 + r.toNat)).toNat / 64 = 1 then _
      else if (UInt8.ofNat (0xc0 + r.toNat)).toNat / 64 = 2 then _
      else if (UInt8.ofNat (0xc0 + r.toNat)).toNat / 64 = 3 then _ else _) = _
    rw [UInt8.toNat_ofNat_of_lt' (show 0xc0 + r.toNat < 256 by omega), if_neg (by omega), if_neg (by omega), if_pos (by omega),
      show (0xc0 + r.toNat) % 64 = r.toNat by omega, UInt16.ofNat_toNat]
    rfl
  | nop => rfl
  | setLoc a ba hnone hsz ha =>
    show (match c.addressEncoding with | some enc => _ | none => _) = _
    rw [hnone]
    exact (Ints.exact_address _ _).read1 ⟨hsz, ha⟩ rest
  | setLocEncoded enc b x bx henc hvalid ho hal hind hsz hb hop =>
    show (match c.addressEncoding with | some enc => _ | none => _) = _
    rw [henc]
    show (Cfi.parseEncodedPointerDirect c.mode c.endian enc c.params (pos + 1) (bx ++ rest) >>= _) = _
    rw [setloc_ptr_read hvalid ho hal hind hsz hb hop]
    rfl
  | advanceLoc1 d bd hd => exact (exact_fixed _ 1).read1 hd rest
  | advanceLoc2 d bd hd => exact (exact_fixed _ 2).read1 hd rest
  | advanceLoc4 d bd hd => exact (exact_fixed _ 4).read1 hd rest
  | offsetExtended r o br bo hr ho => exact exact_reg.read2 exact_uleb hr ho rest
  | restoreExtended r br hr => exact exact_reg.read1 hr rest
  | undefined r br hr => exact exact_reg.read1 hr rest
  | sameValue r br hr => exact exact_reg.read1 hr rest
  | register d s bd bs hd hs => exact exact_reg.read2 exact_reg hd hs rest
  | rememberState => rfl
  | restoreState => rfl
  | defCfa r o br bo hr ho => exact exact_reg.read2 exact_uleb hr ho rest
  | defCfaRegister r br hr => exact exact_reg.read1 hr rest
  | defCfaOffset o bo ho => exact exact_uleb.read1 ho rest
  | defCfaExpression ex bx hx => exact exact_block.read1 hx rest
  | expression r ex br bx hr hx => exact exact_reg.read2 exact_block hr hx rest
  | valOffset r o br bo hr ho => exact exact_reg.read2 exact_uleb hr ho rest
  | offsetExtendedSf r o br bo hr ho => exact exact_reg.read2 exact_sleb hr ho rest
  | defCfaSf r o br bo hr ho => exact exact_reg.read2 exact_sleb hr ho rest
  | defCfaOffsetSf o bo ho => exact exact_sleb.read1 ho rest
  | valOffsetSf r o br bo hr ho => exact exact_reg.read2 exact_sleb hr ho rest
  | valExpression r ex br bx hr hx => exact exact_reg.read2 exact_block hr hx rest
  | argsSize n bn hn => exact exact_uleb.read1 hn rest
  | negateRaState ha => exact if_pos ha

/-- The side condition: outside the address sizes 1..8 `onesSized` overflows in the `set_loc` operand
under a pointer encoding (a panic with overflow checks, an address that is not the Spec's without).
Without it a successful `parse` has still consumed the opcode byte and a prefix of what follows. -/
theorem parse_cons (c : DecodeCfg) (pos : Nat) (b : UInt8) (tl : Bytes) :
    Arm (c.addressEncoding ≠ none → 1 ≤ c.params.addressSize ∧ c.params.addressSize ≤ 8) c pos b tl
      (parse c pos (b :: tl)) := by
  rw [parse]
  have hlow : (UInt16.ofNat (b.toNat % 64)).toNat = b.toNat % 64 := by
    rw [UInt16.toNat_ofNat']; omega
  by_cases h1 : b.toNat / 64 = 1
  · rw [if_pos h1]
    have := Encodes.advanceLoc (c := c) (pos := pos) (b.toNat % 64) (by omega)
    rw [← byte_eq (b := b) (by omega)] at this
    exact .ok this
  rw [if_neg h1]
  by_cases h2 : b.toNat / 64 = 2
  · rw [if_pos h2]
    refine exact_uleb.arm1 fun o po ho => ?_
    have := Encodes.offset (c := c) (pos := pos) (UInt16.ofNat (b.toNat % 64)) o po (by omega) ho
    rwa [hlow, ← byte_eq (b := b) (by omega)] at this
  rw [if_neg h2]
  by_cases h3 : b.toNat / 64 = 3
  · rw [if_pos h3]
    have := Encodes.restore (c := c) (pos := pos) (UInt16.ofNat (b.toNat % 64)) (by omega)
    rw [hlow, ← byte_eq (b := b) (by omega)] at this
    exact .ok this
  rw [if_neg h3]
  -- the extended opcodes, in the order of `parse`: the operand readers and the row of the encoding table
  split
  all_goals try (rename_i heq; cases byte_eq heq)
  · exact .ok .nop
  · split
    · rename_i enc henc
      refine ⟨fun hsz => .bind (parseEncodedPointerDirect_normal _ _ _ _ _ _ (hsz (by simp [henc])))
        fun _ _ => trivial, fun i rest h => ?_⟩
      obtain ⟨⟨a, r1⟩, h1, h2⟩ := Out.bind_eq_ok h
      cases h2
      obtain ⟨pre, rfl⟩ := parseEncodedPointerDirect_suffix h1
      refine ⟨pre, rfl, fun hsz => ?_⟩
      have hsz' := hsz (by simp [henc])
      obtain ⟨b', x, bx, hbx, hvalid, ho, hal, hind, hb, hop, rfl⟩ := setloc_ptr_sound hsz' h1
      rw [List.append_cancel_right hbx]
      exact .setLocEncoded enc b' x bx henc hvalid ho hal hind hsz' hb hop
    · rename_i hnone
      exact (Ints.exact_address _ _).arm1 fun a pa ha => .setLoc a pa hnone ha.1 ha.2
  · exact (exact_fixed _ 1).arm1 Encodes.advanceLoc1
  · exact (exact_fixed _ 2).arm1 Encodes.advanceLoc2
  · exact (exact_fixed _ 4).arm1 Encodes.advanceLoc4
  · exact exact_reg.arm2 exact_uleb Encodes.offsetExtended
  · exact exact_reg.arm1 Encodes.restoreExtended
  · exact exact_reg.arm1 Encodes.undefined
  · exact exact_reg.arm1 Encodes.sameValue
  · exact exact_reg.arm2 exact_reg Encodes.register
  · exact .ok .rememberState
  · exact .ok .restoreState
  · exact exact_reg.arm2 exact_uleb Encodes.defCfa
  · exact exact_reg.arm1 Encodes.defCfaRegister
  · exact exact_uleb.arm1 Encodes.defCfaOffset
  · exact exact_block.arm1 Encodes.defCfaExpression
  · exact exact_reg.arm2 exact_block Encodes.expression
  · exact exact_reg.arm2 exact_sleb Encodes.offsetExtendedSf
  · exact exact_reg.arm2 exact_sleb Encodes.defCfaSf
  · exact exact_sleb.arm1 Encodes.defCfaOffsetSf
  · exact exact_reg.arm2 exact_uleb Encodes.valOffset
  · exact exact_reg.arm2 exact_sleb Encodes.valOffsetSf
  · exact exact_reg.arm2 exact_block Encodes.valExpression
  · exact exact_uleb.arm1 Encodes.argsSize
  · -- DW_CFA_AARCH64_negate_ra_state: only for the AArch64 vendor
    split
    · rename_i hv
      exact .ok (.negateRaState hv)
    · exact .err _
  · exact .err _

theorem parse_sound {c : DecodeCfg} {pos : Nat} {bs : Bytes} {i : Instr} {rest : Bytes}
    (hsz : c.addressEncoding ≠ none → 1 ≤ c.params.addressSize ∧ c.params.addressSize ≤ 8)
    (h : parse c pos bs = .ok (i, rest)) :
    ∃ pre, bs = pre ++ rest ∧ Encodes c pos i pre := by
  cases bs with
  | nil => cases h
  | cons b tl =>
    obtain ⟨pre, rfl, henc⟩ := (parse_cons c pos b tl).2 i rest h
    exact ⟨b :: pre, rfl, henc hsz⟩

end Gimli.Spec.Cfi

namespace Gimli.Cfi
open Gimli

theorem addSized_eq (m : Mode) (a len size : Nat) (hsz : 1 ≤ size ∧ size ≤ 8) :
    addSized m a len size = if a + len < 2 ^ (8 * size) then .ok (a + len) else .err .rAddressOverflow := by
  have hpow : 2 ^ (8 * size) ≤ 2 ^ 64 := Nat.pow_le_pow_right (by omega) (by omega)
  have hpos : 0 < 2 ^ (8 * size) := Nat.pow_pos (by omega)
  unfold addSized onesSized
  simp only [hsz, and_self, if_true]
  by_cases h1 : a + len ≥ 2 ^ 64
  · have : ¬ (a + len < 2 ^ (8 * size)) := by omega
    simp [h1, this]
  · simp only [h1, if_false, Out.bind_ok]
    by_cases h2 : a + len < 2 ^ (8 * size)
    · have : ¬ (a + len > 2 ^ (8 * size) - 1) := by omega
      simp [h2, this]
    · have : a + len > 2 ^ (8 * size) - 1 := by omega
      simp [h2, this]


theorem parse_normal (c : DecodeCfg) (pos : Nat) (bs : Bytes)
    (hsz : 1 ≤ c.params.addressSize ∧ c.params.addressSize ≤ 8) : (parse c pos bs).Normal := by
  cases bs with
  | nil => trivial
  | cons b tl => exact (Spec.Cfi.parse_cons c pos b tl).1 fun _ => hsz

theorem parse_lt {c : DecodeCfg} {pos : Nat} {bs : Bytes} {i : Instr} {rest : Bytes}
    (h : parse c pos bs = .ok (i, rest)) : rest.length < bs.length := by
  cases bs with
  | nil => cases h
  | cons b tl =>
    obtain ⟨pre, rfl, _⟩ := (Spec.Cfi.parse_cons c pos b tl).2 i rest h
    simp only [List.length_cons, List.length_append]
    omega

theorem decodeFuel_normal (c : DecodeCfg) (base total : Nat)
    (hsz : 1 ≤ c.params.addressSize ∧ c.params.addressSize ≤ 8) :
    ∀ (fuel : Nat) (bs : Bytes), bs.length ≤ fuel → (decodeFuel c base total fuel bs).2.Normal := by
  intro fuel
  induction fuel with
  | zero =>
    intro bs hlen
    cases bs with
    | nil => trivial
    | cons b tl => cases hlen
  | succ fuel ih =>
    intro bs hlen
    cases bs with
    | nil => trivial
    | cons b tl =>
      rw [decodeFuel]
      rcases (parse_normal c _ (b :: tl) hsz).ok_or_err with ⟨⟨i, rest⟩, hp⟩ | ⟨e, hp⟩ <;> rw [hp]
      · have := parse_lt hp
        exact ih rest (by simp only [List.length_cons] at this hlen; omega)
      · trivial

theorem decodeAll_normal (c : DecodeCfg) (base : Nat) (bs : Bytes)
    (hsz : 1 ≤ c.params.addressSize ∧ c.params.addressSize ≤ 8) : (decodeAll c base bs).2.Normal :=
  decodeFuel_normal c base bs.length hsz bs.length bs (Nat.le_refl _)

theorem decodeFuel_length (c : DecodeCfg) (base total : Nat) :
    ∀ (fuel : Nat) (bs : Bytes), (decodeFuel c base total fuel bs).1.length ≤ bs.length := by
  intro fuel
  induction fuel with
  | zero => intro bs; cases bs <;> simp [decodeFuel]
  | succ fuel ih =>
    intro bs
    cases bs with
    | nil => simp [decodeFuel]
    | cons b tl =>
      rw [decodeFuel]
      cases hp : parse c (base + (total - (b :: tl).length)) (b :: tl) with
      | ok p =>
        obtain ⟨i, rest⟩ := p
        have := parse_lt hp
        have := ih rest
        simp only [List.length_cons] at *
        omega
      | err e => simp
      | panic w => simp
      | diverge => simp

end Gimli.Cfi
