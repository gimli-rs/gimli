import Gimli.Lemmas.Die
import Gimli.Lemmas.AttrSkip
import Gimli.Spec.Forest
/-! Lemmas for C02: reading the encoding of a forest (`Spec.Forest.encode`) entry by
entry. `NodeOK`/`ForestOK` say when a forest is readable in a context (abbreviations + encoding);
they are the hypotheses of the theorems in `Props/C02.lean`. `At`/`PosAt` and their moves are what
the inductions over the forest here, in `DieSibling` and in `DieTree` are made of. The last part (`StartsAt`, `Heads`,
`listing_position`, `rangeFrom_*`) puts a reader started at a listed offset, away from the root, in front of a forest again. -/
namespace Gimli.Die
open Gimli Gimli.Attr Gimli.Abbrev Gimli.Ints Gimli.Spec Gimli.Spec.Forest

/-- what a reader reports about an entry -/
def Entry.item (e : Entry) : Item := ⟨e.offset, e.depth, e.tag, e.hasChildren⟩

/-- the entry `d` can be read in context `ctx`: its code is a proper abbreviation code that the
abbreviation table resolves to a declaration with `d`'s tag and children flag, and `d.attrBytes`
is an encoding of that declaration's attributes (reading them consumes exactly these bytes,
whatever follows — `node_ok_of_encoded` obtains this from C03's `read_attributes_roundtrip`) -/
def NodeOK (ctx : Ctx) (d : Node) : Prop :=
  d.code ≠ 0 ∧ d.code < 2 ^ 64 ∧ d.tag ≠ 0 ∧
    ∃ a, ctx.abbrevs.get d.code = some a ∧ a.tag = d.tag ∧ a.hasChildren = d.children ∧
      ∃ vs, ∀ rest, readAttributes ctx.enc a.attrs (d.attrBytes ++ rest) = .ok (vs, rest)

def ForestOK (ctx : Ctx) : Forest → Prop
  | .nil => True
  | .node d kids sibs => NodeOK ctx d ∧ ForestOK ctx kids ∧ ForestOK ctx sibs

theorem headBytes_ne_nil (d : Node) : headBytes d ≠ [] := fun h =>
  Leb.encodeU_ne_nil d.code (List.append_eq_nil_iff.mp h).1

theorem head_append_ne_nil (d : Node) (bs : Bytes) : headBytes d ++ bs ≠ [] := fun h =>
  headBytes_ne_nil d (List.append_eq_nil_iff.mp h).1

theorem isEmpty_false_of_ne_nil {bs : Bytes} (h : bs ≠ []) : bs.isEmpty = false := by
  cases bs with
  | nil => exact absurd rfl h
  | cons b t => rfl

/-- what follows the head of entry `d` in `encode (node d kids sibs) ++ tail` -/
def afterHead (d : Node) (kids sibs : Forest) (tail : Bytes) : Bytes :=
  (if d.children then encode kids ++ [0] else []) ++ (encode sibs ++ tail)

theorem encode_node_append (d : Node) (kids sibs : Forest) (tail : Bytes) :
    encode (.node d kids sibs) ++ tail = headBytes d ++ afterHead d kids sibs tail := by
  simp [encode, afterHead]

theorem afterHead_leaf {d : Node} (h : d.children = false) (kids sibs : Forest) (tail : Bytes) :
    afterHead d kids sibs tail = encode sibs ++ tail := by
  simp [afterHead, h]

theorem afterHead_children {d : Node} (h : d.children = true) (kids sibs : Forest) (tail : Bytes) :
    afterHead d kids sibs tail = encode kids ++ 0 :: (encode sibs ++ tail) := by
  simp [afterHead, h]

/-- the entry that `read_entry` produces for `d` (declaration `a`, values `vs`) at `off`, `D` -/
abbrev entryOf (a : Abbreviation) (vs : List Value) (off : Nat) (D : Int) : Entry :=
  ⟨off, D, a.tag, a.hasChildren, a.attrs.zip vs⟩

/-- `e` is the entry that `read_entry` produces for `d` at unit offset `off` and depth `D` -/
def EntryFor (ctx : Ctx) (d : Node) (off : Nat) (D : Int) (e : Entry) : Prop :=
  ∃ a vs, ctx.abbrevs.get d.code = some a ∧ a.tag = d.tag ∧ a.hasChildren = d.children ∧
    Reads (readAttributes ctx.enc a.attrs) d.attrBytes vs ∧ e = entryOf a vs off D

namespace EntryFor
variable {ctx : Ctx} {d : Node} {off : Nat} {D : Int} {e : Entry}

theorem item (h : EntryFor ctx d off D e) : e.item = ⟨off, D, d.tag, d.children⟩ := by
  obtain ⟨a, vs, _, htag, hch, _, rfl⟩ := h
  simp only [Entry.item, htag, hch]

theorem depth (h : EntryFor ctx d off D e) : e.depth = D := congrArg Item.depth h.item

theorem hasChildren (h : EntryFor ctx d off D e) : e.hasChildren = d.children := congrArg Item.children h.item

theorem isNull (h : EntryFor ctx d off D e) (hd : NodeOK ctx d) : e.isNull = false := by
  have : e.tag = d.tag := congrArg Item.tag h.item
  simp [Entry.isNull, this, hd.2.2.1]
end EntryFor

theorem readEntry_node {ctx : Ctx} {d : Node} (hd : NodeOK ctx d) (rest : Bytes) (endOff : Nat) (depth : Int) :
    ∃ e, EntryFor ctx d (endOff - (headBytes d ++ rest).length) depth e ∧
      (Raw.mk (headBytes d ++ rest) endOff depth).readEntry ctx
        = .ok (e, ⟨rest, endOff, if d.children then depth + 1 else depth⟩) := by
  obtain ⟨h0, h64, _, a, hget, htag, hch, vs, hattrs⟩ := hd
  refine ⟨_, ⟨a, vs, hget, htag, hch, hattrs, rfl⟩, ?_⟩
  unfold Raw.readEntry Raw.readAbbreviation
  simp only [headBytes, List.append_assoc]
  rw [Leb.unsigned_roundtrip d.code h64]
  simp only [Out.bind_ok, h0, if_false, hget, Out.pure_eq, hattrs, Raw.nextOffset, hch, List.length_append,
    entryOf]

theorem readEntry_null (ctx : Ctx) (rest : Bytes) (endOff : Nat) (depth : Int) :
    (Raw.mk (0 :: rest) endOff depth).readEntry ctx
      = .ok (⟨endOff - (rest.length + 1), depth, 0, false, []⟩, ⟨rest, endOff, depth - 1⟩) := by
  unfold Raw.readEntry Raw.readAbbreviation
  simp [Leb.unsigned_zero, Raw.nextOffset]

theorem encode_leaf_length {d : Node} (hc : d.children = false) (off : Nat) (kids sibs : Forest) :
    off + (encode (.node d kids sibs)).length = off + (headBytes d).length + (encode sibs).length := by
  rw [← List.append_nil (encode _), encode_node_append, afterHead_leaf hc, List.append_nil, List.length_append, Nat.add_assoc]

theorem encode_parent_length {d : Node} (hc : d.children = true) (off : Nat) (kids sibs : Forest) :
    off + (encode (.node d kids sibs)).length =
      off + (headBytes d).length + (encode kids).length + 1 + (encode sibs).length := by
  rw [← List.append_nil (encode _), encode_node_append, afterHead_children hc, List.append_nil, List.length_append, List.length_append,
    List.length_cons]
  omega

theorem listing_leaf {d : Node} (hc : d.children = false) (off : Nat) (D : Int) (kids sibs : Forest) :
    listing off D (.node d kids sibs) =
      ⟨off, D, d.tag, d.children⟩ :: listing (off + (headBytes d).length) D sibs := by
  simp [listing, hc]

theorem listing_parent {d : Node} (hc : d.children = true) (off : Nat) (D : Int) (kids sibs : Forest) :
    listing off D (.node d kids sibs) =
      ⟨off, D, d.tag, d.children⟩ :: (listing (off + (headBytes d).length) (D + 1) kids ++
        ⟨off + (headBytes d).length + (encode kids).length, D + 1, 0, false⟩ ::
          listing (off + (headBytes d).length + (encode kids).length + 1) D sibs) := by
  simp [listing, hc]

/-! ### positions in an encoded forest

A reader is *in front of* a forest (`At`), a cursor is *on* its first entry (`PosAt`). Reading an
entry leads from the first to the second (`At.read`), or up a level (`At.read_null`); being on an
entry puts the reader in front of its children or its siblings (`PosAt.next`); `seek_forward`
leads from in front of the children to in front of the siblings (`At.seek`, in `DieSibling`). Every
traversal theorem is an induction over the forest that makes these moves; none looks at bytes or
offsets again. -/

/-- the reader stands in front of the encoding of `g`, whose first byte has unit offset `off`,
at depth `D`; `tail` is what follows `g` -/
structure At (r : Raw) (off : Nat) (D : Int) (g : Forest) (tail : Bytes) : Prop where
  input : r.input = encode g ++ tail
  depth : r.depth = D
  offset : off + r.input.length = r.endOffset

/-- the cursor sits on the first entry of the forest `g` (which starts at unit offset `off`, depth
`D`, and is followed by `tail`), or — for the empty forest — on no entry. The node case is `EntryFor ctx d off D c.cur`
together with `c.raw` standing directly behind `d`'s head (`afterHead`). -/
def PosAt (ctx : Ctx) (c : Cursor) (off : Nat) (D : Int) (tail : Bytes) : Forest → Prop
  | .nil => c.current = none
  | .node d kids sibs =>
    ∃ a vs, ctx.abbrevs.get d.code = some a ∧ a.tag = d.tag ∧ a.hasChildren = d.children ∧
      (∀ rest, readAttributes ctx.enc a.attrs (d.attrBytes ++ rest) = .ok (vs, rest)) ∧
      c = ⟨⟨afterHead d kids sibs tail, off + (encode (.node d kids sibs) ++ tail).length,
            if d.children then D + 1 else D⟩, entryOf a vs off D⟩

namespace At
variable {ctx : Ctx} {r : Raw} {off : Nat} {D : Int} {d : Node} {g kids sibs : Forest} {tail : Bytes}

theorem mk' {E : Nat} (hE : off + (encode g ++ tail).length = E) : At ⟨encode g ++ tail, E, D⟩ off D g tail :=
  ⟨rfl, rfl, hE⟩

theorem eq (h : At r off D g tail) : r = ⟨encode g ++ tail, off + (encode g ++ tail).length, D⟩ := by
  obtain ⟨inp, E, dep⟩ := r
  obtain ⟨hin, hdep, ho⟩ := h
  dsimp only at hin hdep ho
  subst hin hdep ho
  rfl

theorem retarget (h : At r off D .nil (encode g ++ tail)) : At r off D g tail := ⟨h.input, h.depth, h.offset⟩

theorem eq_end (h : At r (off + (encode g).length) D .nil tail) : r = ⟨tail, off + (encode g ++ tail).length, D⟩ := by
  rw [h.eq, List.length_append (as := encode g), ← Nat.add_assoc]; rfl

theorem ne_nil (h : At r off D (.node d kids sibs) tail) : r.input ≠ [] := by
  rw [h.input, encode_node_append]; exact head_append_ne_nil d _

theorem read (h : At r off D (.node d kids sibs) tail) (hd : NodeOK ctx d) :
    ∃ e r', r.readEntry ctx = .ok (e, r') ∧ PosAt ctx ⟨r', e⟩ off D tail (.node d kids sibs) := by
  obtain rfl := h.eq
  obtain ⟨e, he, hre⟩ := readEntry_node hd (afterHead d kids sibs tail)
    (off + (encode (.node d kids sibs) ++ tail).length) D
  rw [← encode_node_append] at he hre
  rw [Nat.add_sub_cancel] at he
  obtain ⟨a, vs, h1, h2, h3, h4, rfl⟩ := he
  exact ⟨_, _, hre, a, vs, h1, h2, h3, h4, rfl⟩

/-- the null entry that ends a list of children is read one level up -/
theorem read_null (ctx : Ctx) {t : Bytes} (h : At r off D .nil (0 :: t)) :
    ∃ r', r.readEntry ctx = .ok (⟨off, D, 0, false, []⟩, r') ∧ At r' (off + 1) (D - 1) .nil t := by
  obtain ⟨inp, E, dep⟩ := r
  obtain ⟨hin, hdep, ho⟩ := h
  dsimp only [encode, List.nil_append] at hin hdep ho
  subst hin hdep
  rw [List.length_cons] at ho
  refine ⟨⟨t, E, dep - 1⟩, ?_, rfl, rfl, by dsimp only [encode, List.nil_append]; omega⟩
  rw [readEntry_null, show E - (t.length + 1) = off by omega]
end At

theorem PosAt.next {ctx : Ctx} {c : Cursor} {off : Nat} {D : Int} {tail : Bytes} {d : Node} {kids sibs : Forest}
    (h : PosAt ctx c off D tail (.node d kids sibs)) :
    EntryFor ctx d off D c.cur ∧
      (d.children = false → At c.raw (off + (headBytes d).length) D sibs tail) ∧
      (d.children = true → At c.raw (off + (headBytes d).length) (D + 1) kids (0 :: (encode sibs ++ tail))) := by
  obtain ⟨a, vs, h1, h2, h3, h4, rfl⟩ := h
  refine ⟨⟨a, vs, h1, h2, h3, h4, rfl⟩, fun hc => ⟨afterHead_leaf hc .., if_neg (by simp [hc]), ?_⟩,
    fun hc => ⟨afterHead_children hc .., if_pos hc, ?_⟩⟩
  · dsimp only; rw [encode_node_append, afterHead_leaf hc, List.length_append (as := headBytes d), Nat.add_assoc]
  · dsimp only; rw [encode_node_append, afterHead_children hc, List.length_append (as := headBytes d), Nat.add_assoc]

def ReadsEntries (ctx : Ctx) : Raw → List Entry → Raw → Prop
  | r, [], r' => r = r'
  | r, e :: es, r' => r.input ≠ [] ∧ ∃ r₁, r.readEntry ctx = .ok (e, r₁) ∧ ReadsEntries ctx r₁ es r'

namespace ReadsEntries
theorem append {ctx : Ctx} {es es' : List Entry} {r r₁ r₂ : Raw} (h : ReadsEntries ctx r es r₁)
    (h' : ReadsEntries ctx r₁ es' r₂) : ReadsEntries ctx r (es ++ es') r₂ := by
  induction es generalizing r with
  | nil => cases h; exact h'
  | cons e es ih =>
    obtain ⟨hne, r', hr, h⟩ := h
    exact ⟨hne, r', hr, ih h⟩

theorem length_le {ctx : Ctx} {es : List Entry} {r r' : Raw} (h : ReadsEntries ctx r es r') :
    es.length + r'.input.length ≤ r.input.length := by
  induction es generalizing r with
  | nil => cases h; exact Nat.le_of_eq (Nat.zero_add _)
  | cons e es ih =>
    obtain ⟨_, r₁, hr, h⟩ := h
    have := (readEntry_shrinks hr).1
    have := ih h
    rw [List.length_cons]
    omega
end ReadsEntries

theorem rawAll_reads {ctx : Ctx} {es : List Entry} {r r' : Raw} (h : ReadsEntries ctx r es r') (k : Nat) :
    rawAll ctx (es.length + k) r = (es ++ (rawAll ctx k r').1, (rawAll ctx k r').2) := by
  induction es generalizing r with
  | nil => cases h; simp
  | cons e es ih =>
    obtain ⟨hne, r₁, hr, h⟩ := h
    rw [List.length_cons, Nat.add_right_comm, rawAll_read _ (isEmpty_false_of_ne_nil hne), hr]
    dsimp only
    rw [ih h]
    rfl

theorem rawAll_complete {ctx : Ctx} {es : List Entry} {r r' : Raw} (h : ReadsEntries ctx r es r') (he : r'.input = [])
    {fuel : Nat} (hf : es.length < fuel) : rawAll ctx fuel r = (es, .ok ()) := by
  obtain ⟨k, rfl⟩ := Nat.exists_eq_add_of_lt hf
  rw [Nat.add_assoc, rawAll_reads h (k + 1), rawAll_empty k (by rw [he]; rfl), List.append_nil]

theorem reads_forest (ctx : Ctx) : ∀ (g : Forest), ForestOK ctx g → ∀ {r : Raw} {off : Nat} {D : Int} {tail : Bytes},
    At r off D g tail → ∃ es r', es.map Entry.item = listing off D g ∧ ReadsEntries ctx r es r' ∧
      At r' (off + (encode g).length) D .nil tail := by
  intro g
  induction g with
  | nil => intro _ r off D tail h; exact ⟨[], r, rfl, rfl, h⟩
  | node d kids sibs ihk ihs =>
    intro ⟨hd, hk, hs⟩ r off D tail h
    obtain ⟨e, r₁, hre, hp⟩ := h.read hd
    obtain ⟨he, hleaf, hpar⟩ := hp.next
    cases hc : d.children with
    | false =>
      obtain ⟨es, r', hl, hr, h'⟩ := ihs hs (hleaf hc)
      refine ⟨e :: es, r', ?_, ⟨h.ne_nil, r₁, hre, hr⟩, by rwa [encode_leaf_length hc]⟩
      rw [List.map_cons, he.item, hl, listing_leaf hc]
    | true =>
      obtain ⟨es₁, r₂, hl₁, hr₁, h₂⟩ := ihk hk (hpar hc)
      obtain ⟨r₃, hnull, h₃⟩ := h₂.read_null ctx
      rw [Int.add_sub_cancel] at h₃
      obtain ⟨es₂, r', hl₂, hr₂, h'⟩ := ihs hs h₃.retarget
      refine ⟨e :: (es₁ ++ _ :: es₂), r', ?_,
        ⟨h.ne_nil, r₁, hre, hr₁.append ⟨h₂.input ▸ List.cons_ne_nil _ _, r₃, hnull, hr₂⟩⟩,
        by rwa [encode_parent_length hc]⟩
      rw [List.map_cons, List.map_append, List.map_cons, he.item, hl₁, hl₂, listing_parent hc]; rfl

theorem listing_length (off : Nat) (depth : Int) (f : Forest) : (listing off depth f).length = count f := by
  induction f generalizing off depth with
  | nil => rfl
  | node d kids sibs ihk ihs =>
    simp only [listing, count, List.length_cons, List.length_append, ihs]
    split <;> simp [ihk] <;> omega

theorem rawAll_mono (ctx : Ctx) : ∀ (n : Nat) (r : Raw) (m : Nat), (rawAll ctx n r).2 ≠ .diverge → n ≤ m →
    rawAll ctx m r = rawAll ctx n r := by
  intro n
  induction n with
  | zero => intro r m h; simp [rawAll] at h
  | succ n ih =>
    intro r m h hm
    obtain ⟨m, rfl⟩ := Nat.exists_eq_add_one_of_ne_zero (Nat.ne_zero_of_lt hm)
    cases he : r.input.isEmpty with
    | true => rw [rawAll_empty _ he, rawAll_empty _ he]
    | false =>
      rw [rawAll_read _ he] at h
      rw [rawAll_read m he, rawAll_read n he]
      cases hr : r.readEntry ctx with
      | ok p =>
        obtain ⟨e, r'⟩ := p
        rw [hr] at h
        exact congrArg (Trace.cons e) (ih r' m h (Nat.le_of_succ_le_succ hm))
      | _ => rfl

theorem padding_length (off : Nat) (depth : Int) (pad : Nat) : (padding off depth pad).length = pad := by
  induction pad generalizing off depth with
  | zero => rfl
  | succ n ih => rw [padding, List.length_cons, ih]

theorem reads_padding (ctx : Ctx) : ∀ (pad : Nat) {r : Raw} {off : Nat} {D : Int},
    At r off D .nil (List.replicate pad 0) →
    ∃ es r', es.map Entry.item = padding off D pad ∧ ReadsEntries ctx r es r' ∧ r'.input = [] := by
  intro pad
  induction pad with
  | zero => intro r off D h; exact ⟨[], r, rfl, rfl, h.input⟩
  | succ pad ih =>
    intro r off D h
    obtain ⟨r₁, hnull, h₁⟩ := h.read_null ctx
    obtain ⟨es, r', hl, hr, hr'⟩ := ih h₁
    exact ⟨_ :: es, r', by rw [List.map_cons, hl]; rfl, ⟨h.input ▸ List.cons_ne_nil _ _, r₁, hnull, hr⟩, hr'⟩

-- relates the two fuel bounds of Props/C02: `count f < fuel` follows from `(encodeUnit f pad).length + 1 ≤ fuel`
theorem count_le_length : ∀ (f : Forest), count f ≤ (encode f).length := by
  intro f
  induction f with
  | nil => simp [count]
  | node d kids sibs ihk ihs =>
    have : 1 ≤ (headBytes d).length := by
      cases h : headBytes d with
      | nil => exact absurd h (headBytes_ne_nil d)
      | cons b t => simp
    simp only [count, encode, List.length_append]
    split <;> simp <;> omega

theorem count_node_lt {d : Node} {kids sibs : Forest} {fuel : Nat} (hf : count (.node d kids sibs) < fuel + 1) :
    count sibs < fuel ∧ (d.children = true → count kids < fuel) := by
  rw [count] at hf
  refine ⟨by omega, fun hc => ?_⟩
  rw [hc, if_pos rfl] at hf
  omega

/-- what the bytes at an item's offset begin with: a null byte for a null entry, otherwise the
abbreviation code and attribute values of a readable entry with the item's tag and flag -/
def StartsAt (ctx : Ctx) (i : Item) (tl : Bytes) : Prop :=
  (i.tag = 0 ∧ i.children = false ∧ ∃ t, tl = 0 :: t) ∨
    (∃ d t, NodeOK ctx d ∧ d.tag = i.tag ∧ d.children = i.children ∧ tl = headBytes d ++ t)

theorem StartsAt.ne_nil {ctx : Ctx} {i : Item} {tl : Bytes} (h : StartsAt ctx i tl) : tl ≠ [] := by
  rcases h with ⟨_, _, t, rfl⟩ | ⟨d, t, _, _, _, rfl⟩
  · simp
  · simp [headBytes_ne_nil]

/-- the listed item `i` heads the forest `g`, which `c` follows: `g` begins with the entry that `i`
lists; for a null entry (the end of a list of children, or padding) `g` is empty and `c` begins
with the null byte. A reader at `i.offset` whose input is `encode g ++ c` stands in front of `g`
(`At`), so every move and every traversal theorem applies from there. -/
def Heads (ctx : Ctx) (i : Item) (g : Forest) (c : Bytes) : Prop :=
  ForestOK ctx g ∧
    ((∃ d kids sibs, g = .node d kids sibs ∧ d.tag = i.tag ∧ d.children = i.children) ∨
      (g = .nil ∧ i.tag = 0 ∧ i.children = false ∧ ∃ t, c = 0 :: t))

namespace Heads
variable {ctx : Ctx} {i : Item} {g : Forest} {c : Bytes}

theorem append (h : Heads ctx i g c) (x : Bytes) : Heads ctx i g (c ++ x) :=
  ⟨h.1, h.2.imp id fun ⟨hg, h1, h2, t, hc⟩ => ⟨hg, h1, h2, t ++ x, hc ▸ rfl⟩⟩

theorem startsAt (h : Heads ctx i g c) : StartsAt ctx i (encode g ++ c) := by
  obtain ⟨hg, ⟨d, kids, sibs, rfl, h2, h3⟩ | ⟨rfl, h1, h2, t, rfl⟩⟩ := h
  · exact .inr ⟨d, afterHead d kids sibs c, hg.1, h2, h3, encode_node_append ..⟩
  · exact .inl ⟨h1, h2, t, rfl⟩

/-- `read_entry` on the bytes from `i.offset` on reports `i` (at the depth the reader counts) -/
theorem read (h : Heads ctx i g c) {r : Raw} {off : Nat} {D : Int} (hr : At r off D g c) :
    ∃ e r', r.readEntry ctx = .ok (e, r') ∧ e.item = ⟨off, D, i.tag, i.children⟩ := by
  obtain ⟨hg, ⟨d, kids, sibs, rfl, h2, h3⟩ | ⟨rfl, h1, h2, t, rfl⟩⟩ := h
  · obtain ⟨e, r', hre, hp⟩ := hr.read hg.1
    exact ⟨e, r', hre, by rw [hp.next.1.item, h2, h3]⟩
  · obtain ⟨r', hre, -⟩ := hr.read_null ctx
    exact ⟨_, r', hre, by rw [h1, h2]; rfl⟩
end Heads

theorem listing_position (ctx : Ctx) : ∀ (f : Forest), ForestOK ctx f → ∀ (off : Nat) (depth : Int) (i : Item),
    i ∈ listing off depth f →
    ∃ pre g c, encode f = pre ++ (encode g ++ c) ∧ off + pre.length = i.offset ∧ Heads ctx i g c := by
  intro f
  induction f with
  | nil => intro _ off depth i hi; simp [listing] at hi
  | node d kids sibs ihk ihs =>
    intro hok off depth i hi
    simp only [listing, List.mem_cons, List.mem_append] at hi
    rcases hi with rfl | hi | hi
    · exact ⟨[], .node d kids sibs, [], by simp, rfl, hok, .inl ⟨d, kids, sibs, rfl, rfl, rfl⟩⟩
    · cases hc : d.children with
      | false => simp [hc] at hi
      | true =>
        simp only [hc, if_true, List.mem_append, List.mem_singleton] at hi
        rcases hi with hi | rfl
        · obtain ⟨pre, g, c, he, ho, hh⟩ := ihk hok.2.1 _ _ i hi
          exact ⟨headBytes d ++ pre, g, c ++ 0 :: encode sibs, by simp [encode, hc, he],
            by rw [List.length_append, ← Nat.add_assoc]; exact ho, hh.append _⟩
        · exact ⟨headBytes d ++ encode kids, .nil, 0 :: encode sibs, by simp [encode, hc],
            by rw [List.length_append, ← Nat.add_assoc], trivial, .inr ⟨rfl, rfl, rfl, _, rfl⟩⟩
    · obtain ⟨pre, g, c, he, ho, hh⟩ := ihs hok.2.2 _ _ i hi
      cases hc : d.children with
      | false =>
        refine ⟨headBytes d ++ pre, g, c, by simp [encode, hc, he], ?_, hh⟩
        simp only [hc, Bool.false_eq_true, if_false] at ho
        rw [List.length_append, ← Nat.add_assoc]; exact ho
      | true =>
        refine ⟨headBytes d ++ (encode kids ++ 0 :: pre), g, c, by simp [encode, hc, he], ?_, hh⟩
        simp only [hc, if_true] at ho
        simp only [List.length_append, List.length_cons]; omega

theorem padding_suffix : ∀ (pad off : Nat) (depth : Int) (i : Item), i ∈ padding off depth pad →
    ∃ pre t, List.replicate pad (0 : UInt8) = pre ++ 0 :: t ∧ off + pre.length = i.offset ∧ i.tag = 0 ∧
      i.children = false := by
  intro pad
  induction pad with
  | zero => intro off depth i hi; simp [padding] at hi
  | succ pad ih =>
    intro off depth i hi
    simp only [padding, List.mem_cons] at hi
    rcases hi with rfl | hi
    · exact ⟨[], List.replicate pad 0, by simp [List.replicate_succ], rfl, rfl, rfl⟩
    · obtain ⟨pre, t, he, ho, h1, h2⟩ := ih _ _ i hi
      refine ⟨0 :: pre, t, by simp [List.replicate_succ, he], ?_, h1, h2⟩
      simp only [List.length_cons]; omega

theorem unit_position (ctx : Ctx) (f : Forest) (hok : ForestOK ctx f) (pad off : Nat) (i : Item)
    (hi : i ∈ listingUnit off f pad) :
    ∃ pre g c, encodeUnit f pad = pre ++ (encode g ++ c) ∧ off + pre.length = i.offset ∧ Heads ctx i g c := by
  simp only [listingUnit, List.mem_append] at hi
  rcases hi with hi | hi
  · obtain ⟨pre, g, c, he, ho, hh⟩ := listing_position ctx f hok off 0 i hi
    exact ⟨pre, g, c ++ List.replicate pad 0, by simp [encodeUnit, he], ho, hh.append _⟩
  · obtain ⟨pre, t, he, ho, h1, h2⟩ := padding_suffix pad _ 0 i hi
    refine ⟨encode f ++ pre, .nil, 0 :: t, by simp [encodeUnit, he, encode], ?_, trivial, .inr ⟨rfl, h1, h2, t, rfl⟩⟩
    rw [List.length_append, ← Nat.add_assoc]; exact ho

theorem rangeFrom_append {h : UnitHeader} {pre tl : Bytes} (hbuf : h.entriesBuf = pre ++ tl) (hne : tl ≠ []) :
    h.rangeFrom (h.headerSize + pre.length) = .ok tl := by
  have hlen : pre.length < h.entriesBuf.length := by
    rw [hbuf, List.length_append]; exact Nat.lt_add_of_pos_right (List.length_pos_iff.mpr hne)
  unfold UnitHeader.rangeFrom UnitHeader.isInBounds
  simp only [show ¬ (h.headerSize + pre.length < h.headerSize) by omega, if_false,
    show h.headerSize + pre.length - h.headerSize = pre.length by omega, hlen, decide_true,
    Bool.not_true, Bool.false_eq_true]
  unfold skipN
  rw [if_pos (Nat.le_of_lt hlen), hbuf]
  simp

/-- `range_from(offset..)` at the offset of a listed item yields the unit body from that item on: the
forest the item heads and what follows it -/
theorem rangeFrom_position (ctx : Ctx) (h : UnitHeader) (f : Forest) (pad : Nat) (hok : ForestOK ctx f)
    (hbuf : h.entriesBuf = encodeUnit f pad) (i : Item) (hi : i ∈ listingUnit h.headerSize f pad) :
    ∃ g c, h.rangeFrom i.offset = .ok (encode g ++ c) ∧ Heads ctx i g c := by
  obtain ⟨pre, g, c, he, ho, hh⟩ := unit_position ctx f hok pad h.headerSize i hi
  exact ⟨g, c, ho ▸ rangeFrom_append (hbuf.trans he) hh.startsAt.ne_nil, hh⟩

theorem rangeFrom_item (ctx : Ctx) (h : UnitHeader) (f : Forest) (pad : Nat) (hok : ForestOK ctx f)
    (hbuf : h.entriesBuf = encodeUnit f pad) (i : Item) (hi : i ∈ listingUnit h.headerSize f pad) :
    ∃ tl, h.rangeFrom i.offset = .ok tl ∧ StartsAt ctx i tl := by
  obtain ⟨g, c, hr, hh⟩ := rangeFrom_position ctx h f pad hok hbuf i hi
  exact ⟨_, hr, hh.startsAt⟩

theorem readEntry_at_item (ctx : Ctx) (h : UnitHeader) (f : Forest) (pad : Nat) (hok : ForestOK ctx f)
    (hbuf : h.entriesBuf = encodeUnit f pad) (i : Item) (hi : i ∈ listingUnit h.headerSize f pad) :
    ∃ tl e r, h.rangeFrom i.offset = .ok tl ∧ (Raw.new tl i.offset).readEntry ctx = .ok (e, r) ∧
      e.item = ⟨i.offset, 0, i.tag, i.children⟩ ∧ e.isNull = decide (i.tag = 0) := by
  obtain ⟨g, c, hr, hh⟩ := rangeFrom_position ctx h f pad hok hbuf i hi
  obtain ⟨e, r, hre, hit⟩ := hh.read (r := Raw.new (encode g ++ c) i.offset) ⟨rfl, rfl, rfl⟩
  have ht : e.tag = i.tag := congrArg Item.tag hit
  exact ⟨_, e, r, hr, hre, hit, by simp [Entry.isNull, ht]⟩

def Entry.strip (e : Entry) : Entry := { e with attrs := [] }

theorem skipEntry_of_readEntry {ctx : Ctx} {r r' : Raw} {e : Entry} (h : r.readEntry ctx = .ok (e, r')) :
    r.skipEntry ctx = .ok (e.strip, r') := by
  obtain ⟨⟨a, r1⟩, h1, h⟩ := Out.bind_eq_ok h
  unfold Raw.skipEntry
  rw [h1, Out.bind_ok]
  cases a with
  | none => cases h; rfl
  | some a =>
    obtain ⟨⟨vs, rest⟩, h3, h⟩ := Out.bind_eq_ok (x := readAttributes ctx.enc a.attrs r1.input) h
    cases h
    simp only [skipAttributes, skipLoop_of_readAttributes ctx.enc a.attrs 0 r1.input vs rest (Nat.zero_le _) h3]
    rfl

end Gimli.Die
