import Gimli.Lemmas.Ints
/-!
# What the reader primitives leave of their input

`Took bs r n`: `n` bytes were taken off the front of `bs`, leaving `r`.  For `take`, `readFixed`, `readWord`,
`readInitialLength`, `readAddress` and `readAddressSize` one `Out.Ensures` statement: it never panics, and a result comes
with `Took` (`take_ensures` keeps the bytes taken, so it states `Took` with its witness written out; the LEB128 readers'
stand in `Lemmas/Leb`, with `<` on the lengths).  A parser is then walked once,
`Out.Ensures.bind` after `Out.Ensures.bind` (`Took.trans` along the way), and the walk gives both that the parser never
panics and what an input it accepts looks like.  `Took` says how many bytes went, `Exact.sound` which: the first is the
second with the value forgotten (`readFixed_ensures`).
-/
namespace Gimli

def Took (bs r : Bytes) (n : Nat) : Prop := ∃ a, bs = a ++ r ∧ a.length = n

namespace Took
variable {bs r r' : Bytes} {n m : Nat}

theorem length (h : Took bs r n) : bs.length = n + r.length := by
  obtain ⟨a, rfl, rfl⟩ := h; exact List.length_append

theorem le (h : Took bs r n) : r.length ≤ bs.length := h.length ▸ Nat.le_add_left ..

theorem trans (h1 : Took bs r n) (h2 : Took r r' m) : Took bs r' (n + m) := by
  obtain ⟨a, rfl, rfl⟩ := h1
  obtain ⟨b, rfl, rfl⟩ := h2
  exact ⟨a ++ b, (List.append_assoc ..).symm, List.length_append⟩

theorem drop_iff : Took bs r n ↔ n ≤ bs.length ∧ r = bs.drop n :=
  ⟨fun ⟨_, hb, hl⟩ => hl ▸ hb ▸ ⟨List.length_append ▸ Nat.le_add_right .., List.drop_left.symm⟩,
   fun ⟨hn, hr⟩ => ⟨bs.take n, hr ▸ (List.take_append_drop n bs).symm, List.length_take_of_le hn⟩⟩

end Took

namespace Ints

theorem take_ensures (n : Nat) (bs : Bytes) :
    (take n bs).Ensures fun p => bs = p.1 ++ p.2 ∧ p.1.length = n :=
  ⟨Ints.take_normal n bs, fun _ h => take_eq_ok.mp h⟩

theorem readFixed_ensures (e : Endian) (n : Nat) (bs : Bytes) :
    (readFixed e n bs).Ensures fun p => Took bs p.2 n :=
  ((exact_fixed e n).ensures bs).mono fun _ ⟨pre, hb, hp, _⟩ => ⟨pre, hb, hp ▸ toBytes_length e n _⟩

theorem readWord_ensures (e : Endian) (f : Format) (bs : Bytes) :
    (readWord e 64 f bs).Ensures fun p => Took bs p.2 f.wordSize :=
  readWord_eq_fixed e f bs ▸ readFixed_ensures e f.wordSize bs

/-- 4 or 12 bytes: `Format::initial_length_size` -/
theorem readInitialLength_ensures (e : Endian) (bs : Bytes) :
    (readInitialLength e 64 bs).Ensures fun p => Took bs p.2 (match p.1.2 with | .dwarf32 => 4 | .dwarf64 => 12) := by
  refine (readFixed_ensures e 4 bs).bind ?_
  rintro ⟨v, r⟩ - t1
  dsimp only
  split
  · exact .pure t1
  · split
    · exact (readFixed_ensures e 8 r).bind fun (v', r') _ t2 =>
        (Ints.offsetFromU64_normal 64 v').ensures.bind fun _ _ _ => .pure (t1.trans t2)
    · exact Out.ensures_err _ _

theorem readAddress_ensures (e : Endian) (n : Nat) (bs : Bytes) :
    (readAddress e n bs).Ensures fun p => (n = 1 ∨ n = 2 ∨ n = 4 ∨ n = 8) ∧ Took bs p.2 n :=
  .ite_cases (fun hn => (readFixed_ensures e n bs).mono fun _ h => ⟨hn, h⟩) fun _ => Out.ensures_err _ _

theorem readAddressSize_ensures (bs : Bytes) :
    (readAddressSize bs).Ensures fun p => Took bs p.2 1 ∧ (p.1 = 1 ∨ p.1 = 2 ∨ p.1 = 4 ∨ p.1 = 8) :=
  ⟨Ints.readAddressSize_normal bs, fun _ h =>
    have ⟨b, hb, _, hv⟩ := (readAddressSize_ok_iff _ _ _).mp h
    ⟨⟨[b], hb, rfl⟩, hv⟩⟩

end Ints
end Gimli
