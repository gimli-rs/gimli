import Gimli.Lemmas.OpOk
import Gimli.Lemmas.ExecInv
/-!
# Helper lemmas for C07 about the evaluator loop (`Model/Eval.lean`)

branch targets (`computePc_spec`), the iteration counter (`evalInternal_bound`), totality of the loop body
(of one operation: `Lemmas/ExecInv`), and termination under an iteration limit (`evalInternal_terminates`).
-/
open Gimli Gimli.Op Gimli.Eval

/-- A branch by an `i64` offset lands where integer arithmetic says, or nowhere: the wrapping `u64` addition
of `compute_pc` agrees with it because lengths are below `2^63`. -/
theorem computePc_spec_i64 (pc bc : Bytes) (off : Int) (hoff : -2 ^ 63 ≤ off ∧ off < 2 ^ 63)
    (hlen : bc.length < 2 ^ 63) (hpc : pc.length ≤ bc.length) :
    computePc pc bc off =
      (let t : Int := ((bc.length - pc.length : Nat) : Int) + off
       if 0 ≤ t ∧ t ≤ bc.length then .ok (bc.drop t.toNat) else .err .rBadBranchTarget) := by
  rw [computePc_eq]
  have h := ConvOp.wrapOff_cast (bc.length - pc.length) off
  generalize ConvOp.wrapOff (bc.length - pc.length) off = w at h ⊢
  by_cases ht : 0 ≤ ((bc.length - pc.length : Nat) : Int) + off
  · rw [Int.emod_eq_of_lt ht (by omega)] at h
    split
    · rw [if_neg (by omega)]
    · rw [if_pos (by omega)]; congr 2; omega
  · rw [← Int.add_emod_right, Int.emod_eq_of_lt (by omega) (by omega)] at h
    rw [if_pos (by omega), if_neg (by omega)]

theorem computePc_spec (pc bc : Bytes) (off : Int) (hoff : -2 ^ 15 ≤ off ∧ off < 2 ^ 15)
    (hlen : bc.length < 2 ^ 63) (hpc : pc.length ≤ bc.length) :
    computePc pc bc off =
      (let t : Int := ((bc.length - pc.length : Nat) : Int) + off
       if 0 ≤ t ∧ t ≤ bc.length then .ok (bc.drop t.toNat) else .err .rBadBranchTarget) :=
  computePc_spec_i64 pc bc off ⟨by omega, by omega⟩ hlen hpc

theorem saturatingInc_lt (it m : Nat) (hm : m < 2 ^ 32) (hit : it < m) : saturatingInc it = it + 1 := by
  unfold saturatingInc
  rw [if_pos (by omega)]

theorem saturatingInc_le (it : Nat) : saturatingInc it ≤ it + 1 := by
  unfold saturatingInc; split <;> omega

theorem overLimit_false (m it : Nat) (h : overLimit (some m) it = false) : it < m := by
  simp [overLimit] at h; exact h

/-- Progress from `s` to `s'` under the limit `m`. At most two decodes per iteration: the operation itself and the
look-ahead for a `DW_OP_piece` after a location (`afterComplete`); `d` more for `afterOp` (`d = 1`), which makes
the look-ahead after the iteration was counted. -/
def Advance (m d : Nat) (s s' : Eval) : Prop :=
  s'.cfg = s.cfg ∧ s.iteration ≤ s'.iteration ∧ s'.iteration ≤ m ∧
    s'.decodes + 2 * s.iteration ≤ s.decodes + d + 2 * s'.iteration

theorem Advance.refl {m : Nat} {s : Eval} (hit : s.iteration ≤ m) : Advance m 0 s s :=
  ⟨rfl, Nat.le_refl _, hit, Nat.le_refl _⟩

theorem Advance.trans {m d : Nat} {s s1 s' : Eval} (h : Advance m d s s1) (h' : Advance m 0 s1 s') :
    Advance m d s s' := by
  obtain ⟨a1, a2, _, a4⟩ := h
  obtain ⟨b1, b2, b3, b4⟩ := h'
  exact ⟨b1.trans a1, Nat.le_trans a2 b2, b3, by omega⟩

def Bounded (m : Nat) (k : Eval → Out (Request × Eval)) : Prop :=
  ∀ (s : Eval) (r : Request) (s' : Eval), s.cfg.maxIterations = some m → s.iteration ≤ m →
    k s = .ok (r, s') → Advance m 0 s s'

theorem afterOp_bound (m : Nat) (k) (hk : Bounded m k) (s : Eval) (res : OpResult) (mm : Mach)
    (r : Request) (s' : Eval) (hmax : s.cfg.maxIterations = some m) (hit : s.iteration ≤ m)
    (h : afterOp k s res mm = .ok (r, s')) : Advance m 1 s s' := by
  -- `k` is entered from a state that differs from `s` in the machine and by at most one decode
  have step (s1 : Eval) (h1 : k s1 = .ok (r, s')) (hc : s1.cfg = s.cfg) (hi : s1.iteration = s.iteration)
      (hd : s1.decodes ≤ s.decodes + 1) : Advance m 1 s s' := by
    obtain ⟨b1, b2, b3, b4⟩ := hk s1 r s' (hc ▸ hmax) (hi ▸ hit) h1
    exact ⟨b1.trans hc, by omega, b3, by omega⟩
  cases res with
  | piece => exact step _ h rfl rfl (Nat.le_succ _)
  | incomplete =>
    simp only [afterOp] at h
    split at h
    · cases h
    · exact step _ h rfl rfl (Nat.le_succ _)
  | complete loc =>
    obtain ⟨⟨m3, extra⟩, _, h⟩ := Out.bind_eq_ok h
    exact step _ h rfl rfl (by simp only []; split <;> omega)
  | waiting w rq => cases h; exact ⟨rfl, Nat.le_refl _, hit, by simp only []; omega⟩

theorem loopBody_bound (m : Nat) (hm : m < 2 ^ 32) (k) (hk : Bounded m k) : Bounded m (loopBody k) := by
  intro s r s' hmax hit h
  unfold loopBody at h
  split at h
  · obtain ⟨m1, _, h2⟩ := Out.bind_eq_ok h
    cases h2
    exact .refl hit
  · next mm heq =>
    split at h
    · cases h
    · next hol =>
      rw [hmax] at hol
      have hlt : s.iteration < m := overLimit_false m _ hol
      have hinc := saturatingInc_lt s.iteration m hm hlt
      obtain ⟨⟨res, m2⟩, _, h⟩ := Out.bind_eq_ok h
      obtain ⟨b1, b2, b3, b4⟩ := afterOp_bound m k hk _ res m2 r s' (by simpa using hmax) (by simp only [hinc]; omega) h
      simp only [hinc] at b2 b4
      exact ⟨b1, by omega, b3, by omega⟩

theorem evalInternal_bound (m : Nat) (hm : m < 2 ^ 32) (fuel : Nat) : Bounded m (evaluateInternal fuel) := by
  induction fuel with
  | zero => intro s r s' _ _ h; simp [evaluateInternal] at h
  | succ fuel ih => exact loopBody_bound m hm _ ih

namespace Gimli.Value

theorem parse_normal (e : Endian) (t : ValueType) (bs : Bytes) : (Value.parse e t bs).Normal := by
  unfold Value.parse
  split
  · trivial
  · exact (Ints.readFixed_normal e _ bs).bind fun _ _ => trivial
end Gimli.Value

namespace Gimli.Eval
open Gimli.Value

theorem execute_normal (c : Config) (op : Operation) (m : Mach) : (execute c op m).Normal :=
  (execute_inv (I := fun _ => True) ⟨fun _ _ _ => trivial, fun _ _ _ _ => trivial, fun _ _ _ _ => trivial⟩ trivial op
    fun _ _ _ _ => trivial).1

theorem evaluateOneOperation_normal (c : Config) (m : Mach) : (evaluateOneOperation c m).Normal :=
  (_root_.parse_normal _ _ _).bind fun _ _ => execute_normal _ _ _

theorem finish_normal (c : Config) (m : Mach) : (finish c m).Normal := by
  unfold finish; split
  · exact (pop_normal _).bind fun _ _ => (toU64_normal _ _).bind fun _ _ => pushPiece_normal _ _ _
  · trivial

theorem afterComplete_normal (c : Config) (l : Location) (m : Mach) : (afterComplete c l m).Normal := by
  unfold afterComplete
  split
  · split
    · exact (pushPiece_normal _ _ _).bind fun _ _ => trivial
    · trivial
  · refine (_root_.parse_normal _ _ _).bind fun p _ => ?_
    obtain ⟨op, rest⟩ := p
    cases op
    case piece => exact (pushPiece_normal _ _ _).bind fun _ _ => trivial
    all_goals trivial

theorem evalInternal_terminates (m : Nat) (hm : m < 2 ^ 32) :
    ∀ (fuel : Nat) (s : Eval), s.cfg.maxIterations = some m → s.iteration ≤ m →
      m + 1 ≤ fuel + s.iteration → (evaluateInternal fuel s).Normal := by
  intro fuel
  induction fuel with
  | zero => intro s _ h1 h2; omega
  | succ fuel ih =>
    intro s hmax hit hf
    rw [evaluateInternal]
    unfold loopBody
    split
    · exact (finish_normal _ _).bind fun _ _ => trivial
    · next mm heq =>
      split
      · trivial
      · next hol =>
        rw [hmax] at hol
        have hlt : s.iteration < m := overLimit_false m _ hol
        have hinc := saturatingInc_lt s.iteration m hm hlt
        -- wherever `afterOp` goes round the loop again it is from a state with the counter incremented
        have again (s1 : Eval) (hc : s1.cfg = s.cfg) (hi : s1.iteration = s.iteration + 1) :
            (evaluateInternal fuel s1).Normal :=
          ih s1 (hc ▸ hmax) (by omega) (by omega)
        refine (evaluateOneOperation_normal _ _).bind fun ⟨res, m2⟩ _ => ?_
        cases res with
        | piece => exact again _ rfl hinc
        | incomplete =>
          simp only [afterOp]
          split
          · trivial
          · exact again _ rfl hinc
        | complete loc => exact (afterComplete_normal _ _ _).bind fun ⟨m3, extra⟩ _ => again _ rfl hinc
        | waiting w rq => trivial

end Gimli.Eval
