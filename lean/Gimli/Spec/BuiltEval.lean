import Gimli.Model.Eval
/-!
# "Evaluating the operations as built" (C15)

The evaluator of C07's Model (`Gimli/Model/Eval.lean`) decodes the next operation from the bytes at
`pc` in two places (`evaluate_one_operation` and the look-ahead after a location-completing
operation). Here the same control loop is written once more with the decoder as a parameter `dec`
(every definition below is its C07 namesake with `Op.parse c.endian c.encoding m.pc` replaced by
`dec c m`; `evaluateD_parse` … `runD_parse` in `Lemmas/WOpRun.lean` show that with the byte decoder they
*are* the C07 functions).

The *as-built* evaluator is this loop with `builtDec`: inside the bytecode of the written
expression it does not look at the bytes at all — it looks the current offset up in the *listing*
of the expression as built (start offset ↦ operation, end offset), like stepping through an
assembler listing; other bytecode (the target of a `DW_OP_call*`, answered by the caller) is
decoded from its bytes as usual.
-/
namespace Gimli.BuiltEval
open Gimli.Op Gimli.Eval

abbrev Dec := Config → Mach → Out (Operation × Bytes)

/-- the decoder of the real evaluator -/
def parseDec : Dec := fun c m => parse c.endian c.encoding m.pc

def evaluateOneOperationD (dec : Dec) (c : Config) (m : Mach) : Out (OpResult × Mach) := do
  let (op, rest) ← dec c m
  execute c op { m with pc := rest }

def afterCompleteD (dec : Dec) (c : Config) (location : Location) (m : Mach) : Out (Mach × Bool) :=
  match endOfExpression m with
  | (true, m) =>
    match m.result with
    | [] => do
      let m ← pushPiece c ⟨none, none, location⟩ m
      pure (m, false)
    | _ => .err .rInvalidPiece
  | (false, m) => do
    let (op, rest) ← dec c m
    let m := { m with pc := rest }
    match op with
    | .piece sizeInBits bitOffset => do
      let m ← pushPiece c ⟨some sizeInBits, bitOffset, location⟩ m
      pure (m, true)
    | _ => .err .rInvalidExpressionTerminator

def afterOpD (dec : Dec) (k : Eval → Out (Request × Eval)) (s : Eval) (r : OpResult) (m : Mach) : Out (Request × Eval) :=
  match r with
  | .piece => k { s with m := m }
  | .incomplete =>
    match endOfExpression m with
    | (eoe, m) =>
      match eoe && !m.result.isEmpty with
      | true => .err .rInvalidPiece
      | false => k { s with m := m }
  | .complete location => do
    let (m, extra) ← afterCompleteD dec s.cfg location m
    k { s with m := m, decodes := s.decodes + (if extra then 1 else 0) }
  | .waiting w r => pure (r, { s with m := m, state := .waiting w })

def loopBodyD (dec : Dec) (k : Eval → Out (Request × Eval)) (s : Eval) : Out (Request × Eval) :=
  match endOfExpression s.m with
  | (true, m) => do
    let m ← finish s.cfg m
    pure (.complete, { s with m := m, state := .complete })
  | (false, m) =>
    match overLimit s.cfg.maxIterations s.iteration with
    | true => .err .rTooManyIterations
    | false => do
      let (r, m') ← evaluateOneOperationD dec s.cfg m
      afterOpD dec k { s with m := m, iteration := saturatingInc s.iteration, decodes := s.decodes + 1 } r m'

def evaluateInternalD (dec : Dec) : Nat → Eval → Out (Request × Eval)
  | 0, _ => .diverge
  | fuel + 1, s => loopBodyD dec (evaluateInternalD dec fuel) s

def evaluateD (dec : Dec) (fuel : Nat) (s : Eval) : Out (Request × Eval) × Eval :=
  let start (s : Eval) : Out (Request × Eval) × Eval :=
    match evaluateInternalD dec fuel s with
    | .ok (r, s') => (.ok (r, s'), s')
    | .err e => (.err e, { s with state := .error e })
    | .panic w => (.panic w, s)
    | .diverge => (.diverge, s)
  match s.state with
  | .start initial =>
    match initial with
    | some value =>
      match push s.cfg (.generic value) s.m with
      | .ok m => start { s with m := m, state := .ready }
      | .err e => (.err e, s)
      | .panic w => (.panic w, s)
      | .diverge => (.diverge, s)
    | none => start { s with state := .ready }
  | .ready => start s
  | .error e => (.err e, s)
  | .complete => (.ok (.complete, s), s)
  | .waiting _ => (.panic "evaluate() while waiting", s)

def resumeD (dec : Dec) (fuel : Nat) (a : Answer) (s : Eval) : Out (Request × Eval) :=
  match s.state with
  | .error e => .err e
  | .waiting w => do
    let m ← applyAnswer s.cfg w a s.m
    evaluateInternalD dec fuel { s with m := m }
  | _ => .panic "resume_with_* without the matching Requires*"

def runFromD (dec : Dec) (fuel : Nat) : List Tok → Request → Eval → List Request × Final × Option Eval
  | _, .complete, s => ([.complete], .done s.m.result s.m.valueResult, some s)
  | [], r, s => ([r], .scriptEnd, some s)
  | t :: toks, r, s =>
    match resumeD dec fuel (answerFor r t) s with
    | .ok (r', s') =>
      match runFromD dec fuel toks r' s' with
      | (tr, f, e) => (r :: tr, f, e)
    | o => ([r], finalOf o, none)

/-- a whole run: `evaluate()`, then one `resume_with_*` per request, answers from the script -/
def runD (dec : Dec) (fuel : Nat) (toks : List Tok) (s : Eval) : List Request × Final × Option Eval :=
  match evaluateD dec fuel s with
  | (.ok (r, s'), _) => runFromD dec fuel toks r s'
  | (o, _) => ([], finalOf o, none)

/-! ## the expression as built: a listing -/

/-- look an offset up in a listing `[(operation, end offset)]` whose first operation starts at
`start` and each next one where the previous ended -/
def listingLookup : List (Operation × Nat) → Nat → Nat → Option (Operation × Nat)
  | [], _, _ => none
  | (op, e) :: rest, start, off => if off = start then some (op, e) else listingLookup rest e off

/-- the as-built decoder for the expression whose emitted bytecode is `bs` and whose listing is
`listing`: inside `bs`, the operation as built that starts at the current offset (the reader moves
to its end offset); a position that is not the start of an operation as built is an error (it
cannot arise, `Props.C15.eval_same`); any other bytecode is decoded from its bytes -/
def builtDec (bs : Bytes) (listing : List (Operation × Nat)) : Dec := fun c m =>
  if m.bytecode = bs then
    match listingLookup listing 0 (bs.length - m.pc.length) with
    | some (op, e) => .ok (op, bs.drop e)
    | none => .err .rUnexpectedEof
  else parse c.endian c.encoding m.pc

end Gimli.BuiltEval
