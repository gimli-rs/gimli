/-!
# Spec: reachability in a dependency graph (property C19)

`Reach valid edge req` is the least set of nodes that

* contains every *valid* node marked as required, and
* is closed under edges into *valid* nodes.

Invalid nodes (offsets for which `add_entry` was never called: out-of-bounds references, offsets in
the middle of a DIE, the unit's root DIE) are never members and are never traversed.

`Gimli.Props.C19.Closure recs roots` is this least fixed point for the dependency relation of the
abstract forest (`Dep recs x y` = "if `x` is kept then `y` must be kept"); it is what the property
text calls "connected to a required entry by a chain of parent, child and reference relations".
-/
namespace Gimli.Spec

inductive Reach {α : Type} (valid : α → Prop) (edge : α → α → Prop) (req : α → Prop) : α → Prop where
  | req {x : α} : req x → valid x → Reach valid edge req x
  | step {x y : α} : Reach valid edge req x → edge x y → valid y → Reach valid edge req y

theorem Reach.valid' {α : Type} {valid : α → Prop} {edge : α → α → Prop} {req : α → Prop} {x : α}
    (h : Reach valid edge req x) : valid x := by
  cases h <;> assumption

theorem Reach.imp {α : Type} {v1 v2 : α → Prop} {e1 e2 : α → α → Prop} {r1 r2 : α → Prop}
    (hv : ∀ x, v1 x → v2 x) (he : ∀ x y, e1 x y → e2 x y) (hr : ∀ x, r1 x → r2 x) {x : α}
    (h : Reach v1 e1 r1 x) : Reach v2 e2 r2 x := by
  induction h with
  | req hr' hv' => exact .req (hr _ hr') (hv _ hv')
  | step _ he' hv' ih => exact .step ih (he _ _ he') (hv _ hv')

/-- monotone in the edge relation and the required set -/
theorem Reach.mono {α : Type} {valid : α → Prop} {e1 e2 : α → α → Prop} {r1 r2 : α → Prop}
    (he : ∀ x y, e1 x y → e2 x y) (hr : ∀ x, r1 x → r2 x) {x : α}
    (h : Reach valid e1 r1 x) : Reach valid e2 r2 x :=
  h.imp (fun _ => id) he hr

end Gimli.Spec
